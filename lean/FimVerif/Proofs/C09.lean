import FimVerif.Proofs.Lemmas.TopoAtomicRollback
import FimVerif.Proofs.Lemmas.TopoAtomicDetach
import FimVerif.Proofs.Lemmas.TopoAtomicPeer
import FimVerif.Proofs.Lemmas.TopoAtomicCompRb
import FimVerif.Proofs.Lemmas.TopoAtomicOrder
/-!
# C09 — a topology-building call that raises leaves the model unchanged

The state `Topo` is the whole model (all nodes with all their properties, all edges); handle caches are *results* of the
calls, so a call that raises returns none and the caller's cache is untouched by construction; the uuid supply is an argument.

The full statement would be `Atomic op` for every building call.  `atomic_op` (22 request kinds, `Topo.TopoOp`) and `atomic_xop`
(6 more, `Topo.XOp`: sub-interfaces, peer/unpeer, port mirror, `model_type=` components) prove it under explicit hypotheses on the
state and the arguments (`Covered` / `CoveredX`), `atomic_yop` (`Topo.YOp`: label / capacity updates) under none; `atomic_any` is the
three together.  The one call of the alphabets left outside is `prune` (`CoveredX` is `False` on it): a sequence of removals, each covered on its own, modelled and checked differentially only.
Several proofs rest on repairs of the library (rollback on any exception, validate-before-create, composite try/except, peer clean-up,
component clean-up, disconnect loop skipping removed interfaces): each repaired idiom is a generated flag (`Gen.Rules.*`), so reverting
the repair flips the model and breaks the proof.
-/
namespace FimVerif.C09
open FimVerif FimVerif.M FimVerif.Topo

/-! ## validate-before-mutate calls -/

theorem atomic_addGNode (n : GNode) : Atomic (addGNode n) := by
  constructor; intro s h; unfold addGNode at *; split at h <;> simp_all

theorem atomic_nodeNew (fl : Flavour) (c : Nat) (a : NodeArgs) : Atomic (nodeNew fl c a) :=
  ⟨fun s => (nodeNew_spec fl c a s).fs⟩

theorem atomic_addNode (fl : Flavour) (c : Nat) (a : NodeArgs) : Atomic (addNode fl c a) :=
  ⟨fun s => (addNode_spec fl c a s).fs⟩

/-- `set_property` / `set_properties`: the keywords are validated as a whole before the one graph write -/
theorem atomic_setProps (nid : Nid) (props : List PropArg) : Atomic (setProps nid props) := by
  unfold setProps
  exact Atomic.bind_readOnly (by ro) (fun _ => atomic_updateProps _ _)

theorem atomic_unsetProp (nid : Nid) (g : Option String) : Atomic (unsetProp nid g) := by
  unfold unsetProp
  split
  · exact (readOnly_pure _).atomic
  · refine Atomic.bind_readOnly (by ro) (fun _ => ?_)
    refine Atomic.bind_readOnly (by ro) (fun _ => ?_)
    refine Atomic.bind_readOnly (by ro) (fun _ => ?_)
    exact (total_modify _).atomic

theorem atomic_rename (cls : Cls) (nid : Nid) (n : String) : Atomic (rename cls nid n) := by
  unfold rename
  refine Atomic.bind_readOnly (by ro) (fun _ => ?_)
  refine Atomic.bind_readOnly (by ro) (fun _ => ?_)
  exact (total_modify _).atomic

/-- an interface created without a parent (`add_interface_sliver(parent_node_id=None)`) -/
theorem atomic_ifaceNew_orphan (fl : Flavour) (c : Nat) (name : String) (nid : Option Nid) (t : Option String)
    (props : List PropArg) : Atomic (ifaceNew fl c name nid none t props) :=
  ⟨fun s => (ifaceNew_spec fl c name nid none t props s).fs⟩

/-- `Interface(..., etype=NEW)` under a parent: the parent is looked up before the ConnectionPoint is created
(commit 28b8d37), so nothing is left behind when it is gone -/
theorem atomic_ifaceNew (fl : Flavour) (c : Nat) (name : String) (nid : Option Nid) (p : Nid) (t : Option String)
    (props : List PropArg) : Atomic (ifaceNew fl c name nid (some p) t props) :=
  ⟨fun s => (ifaceNew_spec fl c name nid (some p) t props s).fs⟩

/-- `NetworkService.add_interface`, a removed service included -/
theorem atomic_addInterface (fl : Flavour) (c : Nat) (svc : Nid) (cache : Cache) (name : String) (nid : Option Nid)
    (t : Option String) (props : List PropArg) : Atomic (nsAddInterface fl c svc cache name nid t props) := by
  unfold nsAddInterface
  exact Atomic.bind_readOnly (by ro) (fun _ => atomic_ifaceNew ..)

/-- `Link(..., etype=NEW)`: a bad k-th interface (not an Interface, stale, not a ConnectionPoint) is found before the
Link node is created (commit 28b8d37) -/
theorem atomic_linkNew (fl : Flavour) (c : Nat) (name : String) (nid : Option Nid) (lt : Option String)
    (ifs : Option (List IfArg)) (tech : Option String) (props : List PropArg) (s : Topo) (hd : IdsDistinct s)
    (hf : failed (linkNew fl c name nid lt ifs tech props s)) : (linkNew fl c name nid lt ifs tech props s).2 = s :=
  (linkNew_spec fl c name nid lt ifs tech props s hd).fs hf

theorem atomic_addLink (fl : Flavour) (c : Nat) (name : String) (nid : Option Nid) (lt : Option String)
    (ifs : Option (List IfArg)) (tech : Option String) (props : List PropArg) (s : Topo) (hd : IdsDistinct s)
    (hf : failed (addLink fl c name nid lt ifs tech props s)) : (addLink fl c name nid lt ifs tech props s).2 = s := by
  unfold addLink at hf ⊢
  revert hf
  refine ro_step (Q := FS s) (by ro) FS.err (fun _ _ => ?_)
  refine ro_step (Q := FS s) (by ro) FS.err (fun _ _ => ?_)
  exact atomic_linkNew fl c name nid lt ifs tech props s hd

/-- `NetworkService.connect_interface`: both derived names are validated before the ServicePort is created (commit d747e04).
`hfr`: the two uuids drawn are new -/
theorem atomic_connectInterface (fl : Flavour) (c : Nat) (svc iid : Nid) (iname : String) (cache : Cache) (s : Topo)
    (hd : IdsDistinct s) (hc : Closed s) (hcp : ∀ n ∈ s.nodes, n.nid = iid → n.cls = .connectionPoint)
    (hfr : ∀ m ∈ s.nodes, m.nid ≠ .gen c ∧ m.nid ≠ .gen (c + 1))
    (hf : failed (connectInterface fl c svc cache (.iface iid iname) s)) :
    (connectInterface fl c svc cache (.iface iid iname) s).2 = s :=
  (connect_spec fl c svc iid iname cache s hd hc hcp hfr).fs hf

/-- a non-Interface object is rejected by the `isinstance` assertion before anything is written -/
theorem atomic_connectInterface_bogus (fl : Flavour) (c : Nat) (svc : Nid) (cache : Cache) :
    Atomic (connectInterface fl c svc cache .bogus) := by
  unfold connectInterface; exact (readOnly_raise _).atomic


/-! ## service creation with the rollback handler (any exception kind, commit 34d4dbd), any number of interfaces

Whichever interface is the bad one - the k-th - and whatever it makes the constructor raise (not an Interface, a stale
handle, already connected, no owner, shared port on L2PTP, an invalid derived name ...), the handler disconnects the
interfaces connected so far (oldest first: `disconnect_head`), removes the service (`removeNs_base`) and the model is
exactly what it was (`svcLoop_spec`, induction over the interface list; `svcNew_spec` puts the service node in front). -/

theorem atomic_addNetworkService (fl : Flavour) (c : Nat) (a : SvcArgs) (s : Topo)
    (hd : IdsDistinct s) (hc : Closed s) (hfresh : ∀ m ∈ s.nodes, ∀ k, c ≤ k → m.nid ≠ .gen k)
    (hnid : ∀ k, c ≤ k → a.nid ≠ some (.gen k)) (hifs : IfsAll s (pick a.nid c).1 c a.ifs)
    (hf : failed (addService fl c a s)) : (addService fl c a s).2 = s :=
  svcNew_atomic fl c none a s hd hc hfresh hnid (fun _ h => by cases h) hifs hf

theorem atomic_nodeAddService (fl : Flavour) (c : Nat) (parent : Nid) (a : SvcArgs) (s : Topo)
    (hd : IdsDistinct s) (hc : Closed s) (hfresh : ∀ m ∈ s.nodes, ∀ k, c ≤ k → m.nid ≠ .gen k)
    (hnid : ∀ k, c ≤ k → a.nid ≠ some (.gen k)) (hifs : IfsAll s (pick a.nid c).1 c a.ifs)
    (hf : failed (nodeAddService fl c parent a s)) : (nodeAddService fl c parent a s).2 = s := by
  unfold nodeAddService at hf ⊢
  revert hf
  refine ro_step (Q := FS s) (by ro) FS.err (fun nss hn => ?_)
  refine ro_step (Q := FS s) (by ro) FS.err (fun _ _ => ?_)
  obtain ⟨pn, hpn, _⟩ := childrenOf_parent hn
  exact svcNew_atomic fl c (some parent) a s hd hc hfresh hnid (fun p h => by cases h; exact ⟨pn, hpn⟩) hifs

/-- non-vacuity: a model with two interfaces and a service over [good, bogus] satisfy the hypotheses -/
example : let s : Topo := ⟨[⟨.connectionPoint, .user "i1", "i1", "DedicatedPort", []⟩, ⟨.connectionPoint, .user "i2", "i2", "DedicatedPort", []⟩], []⟩
    IdsDistinct s ∧ Closed s ∧ IfsAll s (.gen 0) 0 [.iface (.user "i1") "i1", .bogus] := by
  refine ⟨by decide, by decide, ?_⟩
  intro i hi
  simp only [List.mem_cons, List.mem_nil_iff, or_false] at hi
  rcases hi with rfl | rfl
  · refine ⟨by decide, ?_, fun k _ => by simp⟩
    intro n hn hni
    simp only [List.mem_cons, List.mem_nil_iff, or_false] at hn
    rcases hn with rfl | rfl
    · rfl
    · rfl
  · trivial


/-! ## components: the Component node, then the catalogue's network service and its interfaces, the latter inside the
`try … except Exception: remove the component with everything under it; raise` of `add_component_sliver` (commit e285d22).
Whichever `add_node` of the expansion finds its id taken - the service's, the k-th interface's, one repeated inside the call,
caller-supplied or not - the partial construct is `comp0` / `comp1` and the clean-up returns exactly `s`
(`removeCompGraph_comp0`, `removeCompGraph_comp1`). -/

theorem atomic_addComponent (fl : Flavour) (c : Nat) (parent : Nid) (a : CompArgs) (s : Topo)
    (hd : IdsDistinct s) (hc : Closed s)
    (hf : failed (addComponent fl c parent a s)) : (addComponent fl c parent a s).2 = s := by
  unfold addComponent at hf ⊢
  revert hf
  refine ro_step (Q := FS s) (by ro) FS.err (fun _ hch => ?_)
  refine ro_step (Q := FS s) (by ro) FS.err (fun _ _ => ?_)
  refine compNew_fs_rb flag_componentRollback fl c parent a s hd hc (fun m hm hmi e => ?_)
  have := childrenOf_parent_cls hd hch m hm hmi
  rw [e] at this; cases this

/-- when the library generates the ids of the component's service and interfaces and the uuids drawn are new, nothing after
the Component node can fail: no invariant on the state is needed -/
theorem atomic_addComponent_gen (fl : Flavour) (c : Nat) (parent : Nid) (a : CompArgs) (s : Topo)
    (hfresh : ∀ m ∈ s.nodes, ∀ k, c ≤ k → m.nid ≠ .gen k) (hnid : ∀ k, c ≤ k → a.nid ≠ some (.gen k))
    (hgen : a.ifNids = none ∧ a.nsNid = none)
    (hf : failed (addComponent fl c parent a s)) : (addComponent fl c parent a s).2 = s := by
  unfold addComponent at hf ⊢
  revert hf
  refine ro_step (Q := FS s) (by ro) FS.err (fun _ _ => ?_)
  refine ro_step (Q := FS s) (by ro) FS.err (fun _ _ => ?_)
  exact compNew_atomic fl c parent a s hfresh hnid hgen

/-- non-vacuity of `atomic_addComponent`: a substrate node, and a second SmartNIC whose second interface id is taken
(the systematic case `add_component/dup-iface-id@1` of harness/props/c09.py) -/
example : let s : Topo := ⟨[⟨.networkNode, .user "n1", "n1", "Server", []⟩, ⟨.connectionPoint, .user "x1", "old", "TrunkPort", []⟩], []⟩
    IdsDistinct s ∧ Closed s ∧ failed (addComponent .substrate 0 (.user "n1")
      ⟨"nic", some (.user "c1"), some "SmartNIC", some "ConnectX-6", some (.user "ns1"), some [.user "i1", .user "x1"], some 2, []⟩ s) := by
  decide +kernel

theorem atomic_addStorage (fl : Flavour) (c : Nat) (parent : Nid) (name : String) (nid : Option Nid) (props : List PropArg)
    (s : Topo) (hfresh : ∀ m ∈ s.nodes, ∀ k, c ≤ k → m.nid ≠ .gen k) (hnid : ∀ k, c ≤ k → nid ≠ some (.gen k))
    (hf : failed (addStorage fl c parent name nid props s)) : (addStorage fl c parent name nid props s).2 = s := by
  unfold addStorage at hf ⊢
  revert hf
  refine ro_step (Q := FS s) (by ro) FS.err (fun _ _ => ?_)
  refine ro_step (Q := FS s) (by ro) FS.err (fun _ _ => ?_)
  refine ro_step (Q := FS s) (by ro) FS.err (fun _ _ => ?_)
  exact compNew_atomic fl c parent _ s hfresh hnid ⟨rfl, rfl⟩

/-! ## disconnect_interface / remove_interface: everything before `remove_cp_and_links` only reads, and
`remove_cp_and_links` itself deletes distinct, existing nodes after its last read -/

theorem atomic_disconnectInterface (cache : Cache) (i : IfArg) (s : Topo) (hd : IdsDistinct s)
    (hf : failed (disconnectInterface cache i s)) : (disconnectInterface cache i s).2 = s := by
  revert hf
  unfold disconnectInterface
  cases i with
  | bogus => exact FS.err _
  | iface iid nm =>
    simp only []
    refine ro_step (Q := FS s) (by ro) FS.err (fun all _ => ?_)
    refine ro_step (Q := FS s) (by ro) FS.err (fun pn _ => ?_)
    cases List.map (fun x => x.nid) (List.filter (fun n => n.typ == "ServicePort") pn) with
    | nil => intro hf; simp at hf
    | cons p rest =>
      simp only []
      refine ro_step (Q := FS s) (by ro) FS.err (fun _ _ => ?_)
      exact FS_bind_pure (removeCpAndLinks_fs _ true s hd)

theorem atomic_removeInterface (fl : Flavour) (svc : Nid) (name : String) (s : Topo) (hd : IdsDistinct s)
    (hf : failed (nsRemoveInterface fl svc name s)) : (nsRemoveInterface fl svc name s).2 = s := by
  revert hf
  unfold nsRemoveInterface
  refine ro_step (Q := FS s) (by ro) FS.err (fun _ _ => ?_)
  refine ro_step (Q := FS s) (by ro) FS.err (fun _ _ => ?_)
  refine ro_step (Q := FS s) (by ro) FS.err (fun _ _ => ?_)
  exact removeCpAndLinks_fs _ true s hd

/-! ## the composites: node, then its service, then its interfaces, inside `try … except Exception: remove the node with
everything under it; raise` (commit 3676b54).  Whatever step raises - a taken derived id, a rejected interface keyword at the
k-th interface, a duplicate name - the partial construct is `fac s fn sn cps` (or just the node) and
`remove_network_node_with_components_nss_cps_and_links` on it returns exactly `s` (`removeNodeGraph_fac`). -/

theorem atomic_addFacility (fl : Flavour) (c : Nat) (name : String) (nid : Option Nid) (site : Option String)
    (nstype : Option String) (nsprops : List PropArg) (ifs : Option (List (String × List PropArg))) (kw : List PropArg)
    (s : Topo) (hd : IdsDistinct s) (hc : Closed s) (hf : failed (addFacility fl c name nid site nstype nsprops ifs kw s)) :
    (addFacility fl c name nid site nstype nsprops ifs kw s).2 = s :=
  addFacility_fs fl c name nid site nstype nsprops ifs kw s hc hd hf

theorem atomic_addSwitch (fl : Flavour) (c : Nat) (name : String) (nid : Option Nid) (site : Option String)
    (nstype : Option String) (nsprops : List PropArg) (ports : List (String × String × List PropArg))
    (s : Topo) (hd : IdsDistinct s) (hc : Closed s) (hf : failed (addSwitch fl c name nid site nstype nsprops ports s)) :
    (addSwitch fl c name nid site nstype nsprops ports s).2 = s :=
  addSwitch_fs fl c name nid site nstype nsprops ports s hc hd hf

/-! ## removals that delete in several passes: once the look-ups by name succeeded, every later pass finds what it
looks for (`Rm`: the passes only ever restrict the state, Proofs/Lemmas/TopoAtomicDrop.lean) -/

theorem atomic_removeLink (name : String) (s : Topo) (hd : IdsDistinct s) (hsl : SpLeaf s)
    (hf : failed (removeLink name s)) : (removeLink name s).2 = s := removeLink_fs name s hd hsl hf

/-- the state hypotheses of the removals that first disconnect (`Topology._disconnect_interfaces`): distinct ids, every
ServicePort owned by exactly one service, at most one ServicePort peer per interface, nothing hanging off a ServicePort
(`DetachHyp`), no edge between two interfaces that are both attached to services (`CpEdgeOk`) -/
def RemoveHyp (s : Topo) : Prop := DetachHyp s ∧ CpEdgeOk s
instance (s : Topo) : Decidable (RemoveHyp s) := by unfold RemoveHyp; infer_instance

/-- `Topology.remove_node`: after the look-ups by name, the disconnect loop (which skips an interface an earlier pass
already removed: commit c460287), the second look-up and the graph-level removal all return -/
theorem atomic_removeNode (name : String) (s : Topo) (h : RemoveHyp s) (hf : failed (removeNode name s)) :
    (removeNode name s).2 = s := removeNode_fs name s h.1 h.2 hf

theorem atomic_removeFacility (name : String) (s : Topo) (h : RemoveHyp s) (hf : failed (removeFacility name s)) :
    (removeFacility name s).2 = s := removeFacility_fs name s h.1 h.2 hf

theorem atomic_removeSwitch (name : String) (s : Topo) (h : RemoveHyp s) (hf : failed (removeSwitch name s)) :
    (removeSwitch name s).2 = s := removeSwitch_fs name s h.1 h.2 hf

theorem atomic_removeService (name : String) (s : Topo) (h : RemoveHyp s) (hf : failed (removeService name s)) :
    (removeService name s).2 = s := removeService_fs name s h.1 h.2 hf

theorem atomic_nodeRemoveService (parent : Nid) (name : String) (s : Topo) (h : RemoveHyp s)
    (hf : failed (nodeRemoveService parent name s)) : (nodeRemoveService parent name s).2 = s :=
  nodeRemoveService_fs parent name s h.1 h.2 hf

theorem atomic_removeComponent (parent : Nid) (name : String) (s : Topo) (h : RemoveHyp s)
    (hf : failed (removeComponent parent name s)) : (removeComponent parent name s).2 = s :=
  removeComponent_fs parent name s h.1 h.2 hf

/-- non-vacuity: a node with a component, a service with one connected interface: the hypotheses hold -/
example : RemoveHyp ⟨[⟨.networkNode, .user "n", "n", "VM", []⟩, ⟨.component, .user "c", "c", "SmartNIC", []⟩,
      ⟨.networkService, .user "cs", "cs", "OVS", []⟩, ⟨.connectionPoint, .user "i", "i", "DedicatedPort", []⟩,
      ⟨.networkService, .user "s", "s", "L2Bridge", []⟩, ⟨.connectionPoint, .user "p", "p", "ServicePort", []⟩,
      ⟨.link, .user "l", "l", "Patch", []⟩],
     [⟨⟨.networkNode, .user "n"⟩, ⟨.component, .user "c"⟩, .has⟩, ⟨⟨.component, .user "c"⟩, ⟨.networkService, .user "cs"⟩, .has⟩,
      ⟨⟨.networkService, .user "cs"⟩, ⟨.connectionPoint, .user "i"⟩, .connects⟩,
      ⟨⟨.networkService, .user "s"⟩, ⟨.connectionPoint, .user "p"⟩, .connects⟩,
      ⟨⟨.link, .user "l"⟩, ⟨.connectionPoint, .user "i"⟩, .connects⟩, ⟨⟨.link, .user "l"⟩, ⟨.connectionPoint, .user "p"⟩, .connects⟩]⟩ := by
  decide +kernel

/-! ## one theorem over the op alphabet

`Covered op s`: per call, the hypotheses on the state and the arguments its proof uses.  The C09 driver evaluates the state-only
ones on every call of a run (`IdsDistinct`, `Closed`, `SpLeaf`, `RemoveHyp` and its parts); those that speak of the arguments
are not evaluated: `FreshArgs` and `IfsAll` (over all later uuids, not decidable as stated), the conditions on the handle and the
two uuids of `connect`, and in `CoveredX` `PeerOk` and the condition on the name of `removeChildInterface`. -/

def FreshArgs (c : Nat) (s : Topo) (nid : Option Nid) : Prop :=
  (∀ m ∈ s.nodes, ∀ k, c ≤ k → m.nid ≠ .gen k) ∧ (∀ k, c ≤ k → nid ≠ some (.gen k))

def Covered : TopoOp → Topo → Prop
  | .addNode _ _ _, _ => True
  | .setProps _ _, _ => True
  | .unsetProp _ _, _ => True
  | .rename _ _ _, _ => True
  | .nsAddInterface _ _ _ _ _ _ _ _, _ => True
  | .addLink _ _ _ _ _ _ _ _, s => IdsDistinct s
  | .connect _ _ _ _ .bogus, _ => True
  | .connect _ c _ _ (.iface iid iname), s =>
      IdsDistinct s ∧ Closed s ∧ (∀ n ∈ s.nodes, n.nid = iid → n.cls = .connectionPoint) ∧
      (∀ m ∈ s.nodes, m.nid ≠ .gen c ∧ m.nid ≠ .gen (c + 1))
  | .disconnect _ _, s => IdsDistinct s
  | .nsRemoveInterface _ _ _, s => IdsDistinct s
  | .addComponent _ _ _ _, s => IdsDistinct s ∧ Closed s
  | .addStorage _ c _ _ nid _, s => FreshArgs c s nid
  | .addService _ c a, s => IdsDistinct s ∧ Closed s ∧ FreshArgs c s a.nid ∧ IfsAll s (pick a.nid c).1 c a.ifs
  | .nodeAddService _ c _ a, s => IdsDistinct s ∧ Closed s ∧ FreshArgs c s a.nid ∧ IfsAll s (pick a.nid c).1 c a.ifs
  | .addFacility _ _ _ _ _ _ _ _ _, s => IdsDistinct s ∧ Closed s
  | .addSwitch _ _ _ _ _ _ _ _, s => IdsDistinct s ∧ Closed s
  | .removeLink _, s => IdsDistinct s ∧ SpLeaf s
  | .removeNode _, s => RemoveHyp s
  | .removeFacility _, s => RemoveHyp s
  | .removeSwitch _, s => RemoveHyp s
  | .removeService _, s => RemoveHyp s
  | .nodeRemoveService _ _, s => RemoveHyp s
  | .removeComponent _ _, s => RemoveHyp s

theorem atomic_op (op : TopoOp) (s : Topo) (hcov : Covered op s) (hf : failed (step op s)) : (step op s).2 = s := by
  revert hf
  cases op with
  | addNode fl c a => exact FS_bind_pure ((atomic_addNode fl c a).fs s)
  | setProps i p => exact FS_bind_pure ((atomic_setProps i p).fs s)
  | unsetProp i g => exact FS_bind_pure ((atomic_unsetProp i g).fs s)
  | rename c i n => exact FS_bind_pure ((atomic_rename c i n).fs s)
  | nsAddInterface fl c svc ca n i t p => exact FS_bind_pure ((atomic_addInterface fl c svc ca n i t p).fs s)
  | addLink fl c n i lt ifs t p => exact FS_bind_pure (atomic_addLink fl c n i lt ifs t p s hcov)
  | connect fl c svc ca i =>
    cases i with
    | bogus => exact FS_bind_pure ((atomic_connectInterface_bogus fl c svc ca).fs s)
    | iface iid iname =>
      obtain ⟨h1, h2, h3, h4⟩ := hcov
      exact FS_bind_pure (atomic_connectInterface fl c svc iid iname ca s h1 h2 h3 h4)
  | addService fl c a =>
    obtain ⟨h1, h2, ⟨h3, h4⟩, h5⟩ := hcov
    exact FS_bind_pure (atomic_addNetworkService fl c a s h1 h2 h3 h4 h5)
  | nodeAddService fl c p a =>
    obtain ⟨h1, h2, ⟨h3, h4⟩, h5⟩ := hcov
    exact FS_bind_pure (atomic_nodeAddService fl c p a s h1 h2 h3 h4 h5)
  | addComponent fl c p a => exact FS_bind_pure (atomic_addComponent fl c p a s hcov.1 hcov.2)
  | addStorage fl c p n i pr =>
    obtain ⟨h1, h2⟩ := hcov
    exact FS_bind_pure (atomic_addStorage fl c p n i pr s h1 h2)
  | nsRemoveInterface fl svc n => exact FS_bind_pure (atomic_removeInterface fl svc n s hcov)
  | disconnect ca i => exact FS_bind_pure (atomic_disconnectInterface ca i s hcov)
  | addFacility fl c n i st t np ifs kw => exact FS_bind_pure (atomic_addFacility fl c n i st t np ifs kw s hcov.1 hcov.2)
  | addSwitch fl c n i st t np ports => exact FS_bind_pure (atomic_addSwitch fl c n i st t np ports s hcov.1 hcov.2)
  | removeNode n => exact FS_bind_pure (atomic_removeNode n s hcov)
  | removeFacility n => exact FS_bind_pure (atomic_removeFacility n s hcov)
  | removeSwitch n => exact FS_bind_pure (atomic_removeSwitch n s hcov)
  | removeLink n => exact FS_bind_pure (atomic_removeLink n s hcov.1 hcov.2)
  | removeService n => exact FS_bind_pure (atomic_removeService n s hcov)
  | nodeRemoveService p n => exact FS_bind_pure (atomic_nodeRemoveService p n s hcov)
  | removeComponent p n => exact FS_bind_pure (atomic_removeComponent p n s hcov)

/-- non-vacuity of the guard: `add_link` over an interface of a small model with distinct ids is covered -/
example : Covered (.addLink .experiment 0 "l1" none (some "Patch") (some [.iface (.user "i1") "i1"]) none [])
    ⟨[⟨.connectionPoint, .user "i1", "i1", "TrunkPort", []⟩], []⟩ := by
  show IdsDistinct _; decide

/-- `Interface.add_child_interface`: the type assertion, the name / vlan checks against the handle's child list (a stale
child handle included) and the parent's labels are all read before the SubInterface is created -/
theorem atomic_addChildInterface (fl : Flavour) (c : Nat) (port : Nid) (cache : Cache) (name : String) (nid : Option Nid)
    (vlan : Option String) (tbl : List (String × String)) (props : List PropArg) :
    Atomic (addChildInterface fl c port cache name nid vlan tbl props) :=
  ⟨fun s => (addChildInterface_spec fl c port cache name nid vlan tbl props s).fs⟩

theorem atomic_addPortMirror (fl : Flavour) (c : Nat) (a : SvcArgs) (toOk fromOk : Bool) (s : Topo)
    (hd : IdsDistinct s) (hc : Closed s) (hfresh : ∀ m ∈ s.nodes, ∀ k, c ≤ k → m.nid ≠ .gen k)
    (hnid : ∀ k, c ≤ k → a.nid ≠ some (.gen k)) (hifs : IfsAll s (pick a.nid c).1 c a.ifs)
    (hf : failed (addPortMirror fl c a toOk fromOk s)) : (addPortMirror fl c a toOk fromOk s).2 = s := by
  unfold addPortMirror at hf ⊢
  revert hf
  refine ro_step (Q := FS s) (by ro) FS.err (fun _ _ => ?_)
  refine ro_step (Q := FS s) (by ro) FS.err (fun _ _ => ?_)
  exact svcNew_atomic fl c none a s hd hc hfresh hnid (fun _ h => by cases h) hifs

theorem atomic_addComponentMT (fl : Flavour) (c : Nat) (parent : Nid) (a : CompArgs) (mt : String × String) (s : Topo)
    (hd : IdsDistinct s) (hc : Closed s)
    (hf : failed (addComponentMT fl c parent a mt s)) : (addComponentMT fl c parent a mt s).2 = s := by
  unfold addComponentMT at hf ⊢
  revert hf
  refine ro_step (Q := FS s) (by ro) FS.err (fun _ hch => ?_)
  refine ro_step (Q := FS s) (by ro) FS.err (fun _ _ => ?_)
  refine compNewMT_fs_rb flag_componentRollback fl c parent a mt s hd hc (fun m hm hmi e => ?_)
  have := childrenOf_parent_cls hd hch m hm hmi
  rw [e] at this; cases this

/-- `Interface.remove_child_interface` (the child is not itself a ServicePort): disconnect, then `remove_cp_and_links` -/
theorem atomic_removeChildInterface (port : Nid) (cache : Cache) (name : String) (s : Topo) (h : DetachHyp s)
    (hnsp : ∀ m ∈ s.nodes, m.name = name → m.cls = .connectionPoint → m.typ ≠ "ServicePort")
    (hf : failed (removeChildInterface port cache name s)) : (removeChildInterface port cache name s).2 = s :=
  removeChildInterface_fs port cache name s h hnsp hf

/-- what `peer` asks of the other handle: it refers to a NetworkService (when the node is there at all) and its id is not
the uuid about to be drawn -/
def PeerOk (s : Topo) (c : Nat) (svc : Nid) : Option SvcHandle → Prop
  | none => True
  | some o => (∀ m ∈ s.nodes, m.nid = o.nid → m.cls = .networkService) ∧ o.nid ≠ .gen c

/-- `NetworkService.peer` with the clean-up of commit 277fd8f: whichever of the three creations is rejected (the other
service is gone, its handle already lists the derived name, the link name is too long ...), the ServicePort(s) made so far
are removed again and the model is what it was -/
theorem atomic_peer (fl : Flavour) (c : Nat) (svc : Nid) (sname : String) (cache : Cache) (other : Option SvcHandle)
    (props : List PropArg) (s : Topo) (hd : IdsDistinct s) (hc : Closed s)
    (hsvc : ∀ m ∈ s.nodes, m.nid = svc → m.cls = .networkService) (hoth : PeerOk s c svc other)
    (hf : failed (peer fl c svc sname cache other props s)) : (peer fl c svc sname cache other props s).2 = s := by
  revert hf
  cases other with
  | none => exact FS.err _
  | some o =>
    exact peer_cases hd hc hoth.2 (fun e t h => by rw [h hsvc hoth.1]; exact FS.err e) fun _ _ _ _ _ _ hf => absurd hf (failed_ok _ _)

theorem atomic_unpeer (cache : Cache) (other : Option SvcHandle) (s : Topo) (hd : IdsDistinct s) (hsl : SpLeaf s)
    (hf : failed (unpeer cache other s)) : (unpeer cache other s).2 = s := unpeer_fs cache other s hd hsl hf

def CoveredX : XOp → Topo → Prop
  | .addChildInterface _ _ _ _ _ _ _ _ _, _ => True
  | .addPortMirror _ c a _ _, s => IdsDistinct s ∧ Closed s ∧ FreshArgs c s a.nid ∧ IfsAll s (pick a.nid c).1 c a.ifs
  | .addComponentMT _ _ _ _ _, s => IdsDistinct s ∧ Closed s
  | .removeChildInterface _ _ name, s =>
      DetachHyp s ∧ ∀ m ∈ s.nodes, m.name = name → m.cls = .connectionPoint → m.typ ≠ "ServicePort"
  | .peer _ c svc _ _ other _, s =>
      IdsDistinct s ∧ Closed s ∧ (∀ m ∈ s.nodes, m.nid = svc → m.cls = .networkService) ∧ PeerOk s c svc other
  | .unpeer _ _, s => IdsDistinct s ∧ SpLeaf s
  | .prune _ _ _ _, _ => False      -- modelled and checked differentially only (a sequence of removals: not one atomic call)

theorem atomic_xop (op : XOp) (s : Topo) (hcov : CoveredX op s) (hf : failed (stepX op s)) : (stepX op s).2 = s := by
  revert hf
  cases op with
  | addChildInterface fl c p ca n i v tb pr => exact FS_bind_pure ((atomic_addChildInterface fl c p ca n i v tb pr).fs s)
  | addPortMirror fl c a t f =>
    obtain ⟨h1, h2, ⟨h3, h4⟩, h5⟩ := hcov
    exact FS_bind_pure (atomic_addPortMirror fl c a t f s h1 h2 h3 h4 h5)
  | addComponentMT fl c p a mt => exact FS_bind_pure (atomic_addComponentMT fl c p a mt s hcov.1 hcov.2)
  | removeChildInterface p ca n => exact FS_bind_pure (atomic_removeChildInterface p ca n s hcov.1 hcov.2)
  | peer fl c svc sn ca o pr => exact FS_bind_pure (atomic_peer fl c svc sn ca o pr s hcov.1 hcov.2.1 hcov.2.2.1 hcov.2.2.2)
  | unpeer ca o => exact FS_bind_pure (atomic_unpeer ca o s hcov.1 hcov.2)
  | prune _ _ _ _ => exact hcov.elim


/-- `update_labels` / `update_capacities`: the read, the merge (a bad field among good ones, at any position) and the sliver's
validation all come before the one graph write -/
theorem atomic_updateCaplab (nid : Nid) (arg : PropArg) : Atomic (updateCaplab nid arg) := by
  unfold updateCaplab
  exact Atomic.bind_readOnly (by ro) (fun _ => atomic_setProps _ _)

theorem atomic_yop (op : YOp) (s : Topo) (hf : failed (stepY op s)) : (stepY op s).2 = s := by
  revert hf
  cases op with
  | updateCaplab n a => exact FS_bind_pure ((atomic_updateCaplab n a).fs s)


/-! ## histories over the three alphabets: every call runs in the state the previous one left, whether it returned or raised

`history_erasure`: a history builds the same model as the history with the failing calls erased - injected faults, at any
positions and in any number, are invisible in the result. -/

def CoveredAny : AnyOp → Topo → Prop
  | .t o, s => Covered o s
  | .x o, s => CoveredX o s
  | .y _, _ => True

theorem errB_iff {α : Type} (r : Except Err α × Topo) : errB r = true ↔ failed r := by
  unfold errB failed
  rcases r with ⟨a | b, t⟩ <;> simp

theorem atomic_any (op : AnyOp) (s : Topo) (hc : CoveredAny op s) (hf : (stepAny op s).1 = true) : (stepAny op s).2 = s := by
  cases op with
  | t o => exact atomic_op o s hc ((errB_iff _).mp hf)
  | x o => exact atomic_xop o s hc ((errB_iff _).mp hf)
  | y o => exact atomic_yop o s ((errB_iff _).mp hf)

/-- the guards of exactly the calls that raise, each in the state its call is made in -/
def CoveredAll : List AnyOp → Topo → Prop
  | [], _ => True
  | op :: rest, s => ((stepAny op s).1 = true → CoveredAny op s) ∧ CoveredAll rest (stepAny op s).2

theorem history_atomic (ops : List AnyOp) : ∀ (s : Topo), CoveredAll ops s →
    ∀ (i : Nat) (op : AnyOp) (t : Topo), ops[i]? = some op → (statesAny ops s)[i]? = some t →
      (stepAny op t).1 = true → (stepAny op t).2 = t := by
  induction ops with
  | nil => intro s _ i op t h; simp at h
  | cons o rest ih =>
    intro s hc i op t hop hst hf
    cases i with
    | zero =>
      simp only [List.getElem?_cons_zero, Option.some.injEq, statesAny] at hop hst
      subst hop; subst hst
      exact atomic_any _ _ (hc.1 hf) hf
    | succ j =>
      simp only [List.getElem?_cons_succ, statesAny] at hop hst
      exact ih _ hc.2 j op t hop hst hf

theorem history_erasure (ops : List AnyOp) : ∀ (s : Topo), CoveredAll ops s → runAny ops s = runAny (okOps ops s) s := by
  induction ops with
  | nil => intro s _; rfl
  | cons o rest ih =>
    intro s hc
    by_cases hf : (stepAny o s).1 = true
    · have hs := atomic_any o s (hc.1 hf) hf
      simp only [runAny, okOps, hf, if_true]
      have := ih _ hc.2
      rw [hs] at this ⊢
      exact this
    · simp only [runAny, okOps, hf]
      exact ih _ hc.2

/-- what is left of a history after erasure are calls that return, each in the state the erased history reaches -/
theorem okOps_all_ok (ops : List AnyOp) : ∀ (s : Topo), CoveredAll ops s →
    ∀ (i : Nat) (op : AnyOp) (t : Topo), (okOps ops s)[i]? = some op → (statesAny (okOps ops s) s)[i]? = some t →
      (stepAny op t).1 = false := by
  induction ops with
  | nil => intro s _ i op t h; simp [okOps] at h
  | cons o rest ih =>
    intro s hc i op t hop hst
    by_cases hf : (stepAny o s).1 = true
    · have hs := atomic_any o s (hc.1 hf) hf
      simp only [okOps, hf, if_true] at hop hst
      rw [hs] at hop hst
      have hc2 := hc.2
      rw [hs] at hc2
      exact ih s hc2 i op t hop hst
    · have hfb : (stepAny o s).1 = false := by simpa using hf
      simp only [okOps, hfb, Bool.false_eq_true, if_false] at hop hst
      cases i with
      | zero =>
        simp only [List.getElem?_cons_zero, Option.some.injEq, statesAny] at hop hst
        subst hop; subst hst
        exact hfb
      | succ j =>
        simp only [List.getElem?_cons_succ, statesAny] at hop hst
        exact ih _ hc.2 j op t hop hst

theorem history_all_failed (ops : List AnyOp) : ∀ (s : Topo), CoveredAll ops s →
    (∀ (i : Nat) (op : AnyOp) (t : Topo), ops[i]? = some op → (statesAny ops s)[i]? = some t → (stepAny op t).1 = true) →
    runAny ops s = s := by
  induction ops with
  | nil => intro s _ _; rfl
  | cons o rest ih =>
    intro s hc hall
    have hf : (stepAny o s).1 = true := hall 0 o s (by simp) (by simp [statesAny])
    have hs := atomic_any o s (hc.1 hf) hf
    simp only [runAny]
    have hc2 := hc.2
    rw [hs] at hc2 ⊢
    refine ih s hc2 (fun i op t hop hst => ?_)
    refine hall (i + 1) op t (by simpa using hop) ?_
    simp only [statesAny, List.getElem?_cons_succ]
    rw [hs]; exact hst

/-- non-vacuity: a history of two calls, the second of which raises (duplicate node name), satisfies `CoveredAll` -/
example : CoveredAll [.t (.addNode .experiment 0 ⟨"n1", none, some "RENC", some "VM", []⟩),
                      .t (.addNode .experiment 1 ⟨"n1", none, some "RENC", some "VM", []⟩)] Topo.empty ∧
    (stepAny (.t (.addNode .experiment 1 ⟨"n1", none, some "RENC", some "VM", []⟩))
      (stepAny (.t (.addNode .experiment 0 ⟨"n1", none, some "RENC", some "VM", []⟩)) Topo.empty).2).1 = true := by
  refine ⟨⟨fun _ => trivial, fun _ => trivial, trivial⟩, by decide⟩

/-! ## write order of the building functions, read off the source (`Gen.TopoOrder.funcs`, gen/topoorder.py)

Every building function of the user layer and every sliver-level add_*/remove_* function of the graph layer is either
*single-write* - on no path does a step that can raise follow a write, so whatever raises, raises before the model is touched
(`OrderTok.singleWrite`, Model/TopoC09.lean) - or it is listed here with its exact shape and the theorem its
atomicity rests on: the five rollback handlers (the position of every write, of the bookkeeping append `r` and of the
handler's removals included) and the removals that delete in several passes.  A validation moved behind a creation step, a
write added after another, an `except` narrowed, a handler that no longer re-raises or no longer removes changes the entry
of a function that is not single-write: gen/topoorder.py then refuses to regenerate, naming the function and its new shape. -/

def pinnedOrder : List (String × String × String) := [
  ("Topology._disconnect_interfaces", "loop{loop{v if{if{v w(disconnect_interface)|v}|}}}",
    "detachAll_spec (under DetachHyp); outside it: removeNode_multipeer_counterexample"),
  ("Topology.remove_node", "if{v|} v w(_disconnect_interfaces) w(remove_network_node_with_components_nss_cps_and_links)",
    "atomic_removeNode"),
  ("Topology.add_facility", "w(add_node) guarded{w(add_network_service) if{w(add_interface)|loop{w(add_interface)}}|w(remove_network_node_with_components_nss_cps_and_links) v} ret",
    "atomic_addFacility (removeNodeGraph_fac)"),
  ("Topology.remove_facility", "v if{v|} w(_disconnect_interfaces) v w(remove_network_node_with_components_nss_cps_and_links)",
    "atomic_removeFacility"),
  ("Topology.add_switch", "w(add_node) guarded{w(add_network_service) loop{v w(add_interface)}|w(remove_network_node_with_components_nss_cps_and_links) v} ret",
    "atomic_addSwitch (removeNodeGraph_fac)"),
  ("Topology.remove_link", "v w(remove_network_link) loop{w(remove_cp_and_links)}",
    "atomic_removeLink"),
  ("Topology.remove_network_service", "v w(_disconnect_interfaces) w(remove_ns_with_cps_and_links)",
    "atomic_removeService"),
  ("ExperimentTopology._prune_ns", "v w(_disconnect_interfaces) w(remove_ns_with_cps_and_links)",
    "prune: differential only (a removeService without the look-up by name)"),
  ("ExperimentTopology._prune_interface", "v w(_disconnect_interfaces) w(remove_cp_and_links)",
    "prune: differential only"),
  ("Node.remove_component", "v w(_disconnect_interfaces) w(remove_component_with_nss_cps_and_links)",
    "atomic_removeComponent"),
  ("Node.remove_network_service", "v w(_disconnect_interfaces) w(remove_ns_with_cps_and_links)",
    "atomic_nodeRemoveService"),
  ("Interface.remove_child_interface", "v w(_disconnect_interfaces) w(remove_cp_and_links) c",
    "atomic_removeChildInterface"),
  ("NetworkService.__init__", "v if{v if{v|} v w(add_network_service_sliver) c if{loop{guarded{v w(connect_interface) r|loop{w(disconnect_interface)} w(remove_ns_with_cps_and_links) if{v|} v}}|}|v if{v if{v|}|} v loop{v r} c}",
    "atomic_addNetworkService (svcLoop_atomic: the handler undoes the service and what was connected)"),
  ("NetworkService.connect_interface", "v if{v|} v if{v|} v w(new Interface) w(new Link) c",
    "atomic_connectInterface (both derived names are validated before the port is created)"),
  ("NetworkService.peer", "v guarded{w(add_interface) r w(add_interface) r w(new Link)|loop{w(remove_cp_and_links)} v} c c",
    "atomic_peer"),
  ("NetworkService.unpeer", "v loop{v} if{v|} w(remove_cp_and_links) w(remove_cp_and_links) c c",
    "atomic_unpeer"),
  ("ModelElement.rename", "v w(self.name =) w(update_node_property)",
    "atomic_rename (the name setter validates; the second write repeats the first)"),
  ("ABCPropertyGraph.add_network_node_sliver", "v if{v|} v w(add_node) if{loop{w(add_component_sliver)}|} if{loop{w(add_network_service_sliver)}|}",
    "atomic_nodeNew for ns_info=None; with nested services: known finding add_node(ns_info=)"),
  ("ABCPropertyGraph.add_network_link_sliver", "v loop{v if{v|}} v w(add_node) loop{w(add_link)}",
    "atomic_linkNew (every endpoint is checked before the Link node is created)"),
  ("ABCPropertyGraph.add_component_sliver", "v w(add_node) guarded{w(add_link) if{loop{w(add_network_service_sliver)}|}|w(remove_component_with_nss_cps_and_links) v}",
    "atomic_addComponent (removeCompGraph_comp0 / removeCompGraph_comp1)"),
  ("ABCPropertyGraph.add_network_service_sliver", "v if{v|} v w(add_node) if{w(add_link)|} if{loop{w(add_interface_sliver)}|}",
    "atomic_addNetworkService / atomic_nodeAddService (the parent is listed by the caller first)"),
  ("ABCPropertyGraph.add_interface_sliver", "v if{v|} v w(add_node) if{w(add_link)|} if{loop{w(add_interface_sliver)}|}",
    "atomic_ifaceNew (the parent is looked up before the ConnectionPoint is created)"),
  ("ABCPropertyGraph.remove_network_node_with_components_nss_cps_and_links", "v if{v|} v loop{w(remove_component_with_nss_cps_and_links)} v w(delete_node) loop{w(remove_ns_with_cps_and_links)}",
    "removeNodeGraph_spec"),
  ("ABCPropertyGraph.remove_component_with_nss_cps_and_links", "v if{v|} v w(delete_node) loop{w(remove_ns_with_cps_and_links)}",
    "removeCompGraph_spec"),
  ("ABCPropertyGraph.remove_ns_with_cps_and_links", "v if{v|} v w(delete_node) loop{w(remove_cp_and_links)}",
    "removeNs_spec"),
  ("ABCPropertyGraph.remove_cp_and_links", "v loop{v} loop{v loop{v}} loop{w(delete_node)}",
    "removeCpAndLinks_spec"),
  ("ExperimentTopology.prune", "loop{v loop{v loop{v loop{v}}}} loop{if{v loop{v}|}} loop{w(_prune_node)} loop{v if{w(_prune_components)|}} loop{v if{w(_prune_ns)|}} loop{v if{w(_prune_interface)|}}",
    "differential only: a sequence of removals, each covered on its own")]

/-- 400 is the fuel `OrderTok.singleWrite` scans with (Model/TopoC09.lean), one unit per token and per level of nesting.  Running
out rejects on both sides: `scan` answers `none`, and `render` ends in "…", which no shape in `pinnedOrder` does. -/
def fnOk (fn : Gen.TopoOrder.Fn) : Bool :=
  OrderTok.singleWrite fn.toks || ((pinnedOrder.lookup fn.name).map (·.1) == some (OrderTok.render 400 fn.toks))

/-- the whole table is in order, and nothing is listed that the shape alone would settle.  Evaluated by the C09 driver on
the table of every run (`{"op":"order"}`), so `order_discipline` speaks of what the run used: a mismatch is reported with the
offending functions, and the rest of the check still runs (a `decide` here would fail the build instead, and with it the driver). -/
def orderOk : Bool :=
  Gen.TopoOrder.funcs.all fnOk &&
    pinnedOrder.all (fun p => Gen.TopoOrder.funcs.any (fun fn => fn.name == p.1 && !OrderTok.singleWrite fn.toks))

/-- the entries that are not in order: (function, its shape in the table) -/
def orderBad : List (String × String) :=
  (Gen.TopoOrder.funcs.filter (fun fn => !fnOk fn)).map (fun fn => (fn.name, OrderTok.render 400 fn.toks)) ++
    (pinnedOrder.filter (fun p => !Gen.TopoOrder.funcs.any (fun fn => fn.name == p.1 && !OrderTok.singleWrite fn.toks))).map
      (fun p => (p.1, "pinned, but single-write (or gone) in the source"))

theorem order_discipline (h : orderOk = true) : ∀ fn ∈ Gen.TopoOrder.funcs,
    OrderTok.singleWrite fn.toks = true ∨ (pinnedOrder.lookup fn.name).map (·.1) = some (OrderTok.render 400 fn.toks) := by
  intro fn hfn
  unfold orderOk at h
  rw [Bool.and_eq_true] at h
  have := List.all_eq_true.mp h.1 fn hfn
  unfold fnOk at this
  rw [Bool.or_eq_true] at this
  rcases this with h1 | h2
  · exact .inl h1
  · exact .inr (by simpa using h2)

theorem order_pinned_minimal (h : orderOk = true) : ∀ p ∈ pinnedOrder,
    ∃ fn ∈ Gen.TopoOrder.funcs, fn.name = p.1 ∧ OrderTok.singleWrite fn.toks = false := by
  intro p hp
  unfold orderOk at h
  rw [Bool.and_eq_true] at h
  have := List.all_eq_true.mp h.2 p hp
  rw [List.any_eq_true] at this
  obtain ⟨fn, hfn, hc⟩ := this
  rw [Bool.and_eq_true] at hc
  exact ⟨fn, hfn, by simpa using hc.1, by simpa using hc.2⟩

/-- what "single-write" means, for every function of the table that is not in `pinnedOrder`: along every path through the function
(either branch of every `if`, any number of passes of every loop), a write is the last step that can fail.  This is a statement
about the token paths `OrderTok.Run` of the table (`OrderTok.scan_sound`); read on the function it says that whichever step raises,
no write came before it (the write itself is the callee's entry, down to `atomic_addGNode`) -/
theorem order_single_write_sound (h : orderOk = true) : ∀ fn ∈ Gen.TopoOrder.funcs, pinnedOrder.lookup fn.name = none →
    ∀ σ e, OrderTok.Run fn.toks σ e → ∀ pre post, σ = pre ++ OrderTok.Ev.w :: post → post = [] := by
  intro fn hfn hnp σ e hrun
  rcases order_discipline h fn hfn with hs | hp
  · exact OrderTok.okSeq_last_write (OrderTok.singleWrite_sound fn.toks hs σ e hrun)
  · rw [hnp] at hp; simp at hp

/-! ## the known finding behind the hypothesis `SpPeer1` of the removals

`Topology.add_link` accepts a ServicePort of another service next to an interface that is already connected; the interface
then has two ServicePort peers, which `Topology._disconnect_interfaces` reports as a model error - after it has already
disconnected the interfaces it visited before.  Witness: node `n1` with a SmartNIC whose two ports are connected to service
`sA`; port `i2` is also linked to the ServicePort `bx` of service `sB`.  `remove_node('n1')` disconnects `i1` (its
ServicePort and link are gone) and raises at `i2`.  The same holds for every caller of `_disconnect_interfaces`
(remove_facility / remove_switch / remove_component / remove_network_service / prune); replayed on the implementation by the
oracle's `multi-sp-peer/*` cases. -/

def mpState : Topo :=
  ⟨[⟨.networkNode, .user "n1", "n1", "VM", []⟩, ⟨.component, .user "c1", "nic1", "SmartNIC", []⟩,
    ⟨.networkService, .user "cs", "n1-nic1-l2ovs", "OVS", []⟩,
    ⟨.connectionPoint, .user "i1", "nic1-p1", "DedicatedPort", []⟩, ⟨.connectionPoint, .user "i2", "nic1-p2", "DedicatedPort", []⟩,
    ⟨.networkService, .user "sA", "sa", "L2Bridge", []⟩,
    ⟨.connectionPoint, .user "a1", "n1-nic1-p1", "ServicePort", []⟩, ⟨.link, .user "la1", "n1-nic1-p1-link", "Patch", []⟩,
    ⟨.connectionPoint, .user "a2", "n1-nic1-p2", "ServicePort", []⟩, ⟨.link, .user "la2", "n1-nic1-p2-link", "Patch", []⟩,
    ⟨.networkService, .user "sB", "sb", "L2Bridge", []⟩, ⟨.connectionPoint, .user "bx", "bx", "ServicePort", []⟩,
    ⟨.link, .user "lx", "lx", "L2Path", []⟩],
   [⟨⟨.networkNode, .user "n1"⟩, ⟨.component, .user "c1"⟩, .has⟩, ⟨⟨.component, .user "c1"⟩, ⟨.networkService, .user "cs"⟩, .has⟩,
    ⟨⟨.networkService, .user "cs"⟩, ⟨.connectionPoint, .user "i1"⟩, .connects⟩,
    ⟨⟨.networkService, .user "cs"⟩, ⟨.connectionPoint, .user "i2"⟩, .connects⟩,
    ⟨⟨.networkService, .user "sA"⟩, ⟨.connectionPoint, .user "a1"⟩, .connects⟩,
    ⟨⟨.link, .user "la1"⟩, ⟨.connectionPoint, .user "i1"⟩, .connects⟩, ⟨⟨.link, .user "la1"⟩, ⟨.connectionPoint, .user "a1"⟩, .connects⟩,
    ⟨⟨.networkService, .user "sA"⟩, ⟨.connectionPoint, .user "a2"⟩, .connects⟩,
    ⟨⟨.link, .user "la2"⟩, ⟨.connectionPoint, .user "i2"⟩, .connects⟩, ⟨⟨.link, .user "la2"⟩, ⟨.connectionPoint, .user "a2"⟩, .connects⟩,
    ⟨⟨.networkService, .user "sB"⟩, ⟨.connectionPoint, .user "bx"⟩, .connects⟩,
    ⟨⟨.link, .user "lx"⟩, ⟨.connectionPoint, .user "i2"⟩, .connects⟩, ⟨⟨.link, .user "lx"⟩, ⟨.connectionPoint, .user "bx"⟩, .connects⟩]⟩

/-- without `RemoveHyp`, `failed (removeNode n s) → (removeNode n s).2 = s` fails: the state is well formed, `i2` has two
ServicePort peers, the call raises and two of the 13 nodes (the ServicePort of `i1` and its link) are gone -/
theorem removeNode_multipeer_counterexample :
    IdsDistinct mpState ∧ Closed mpState ∧ ¬ RemoveHyp mpState ∧ failed (step (.removeNode "n1") mpState) ∧
      (step (.removeNode "n1") mpState).2 ≠ mpState ∧ (step (.removeNode "n1") mpState).2.nodes.length = 11 := by decide +kernel

/-! ## what the model takes from the store primitives

`updateProps` is ONE write of the whole keyword dictionary, for any values (a property value is opaque text to the model; a value
that is not a string - the setters of details / site / controller_url / mirror_port / mirror_vlan / allocation_constraints have no
type check - travels as a tagged text), and every lookup (`findNode`, `existsAs`, the endpoint check of `linkNew`) sees the nodes of
this model only, although the default store keeps every graph of the process in one structure (a copy of the topology kept in the
process holds the same node ids).  Both facts are probed on both in-memory stores in every run (gen/rules.py).  No definition of
the model reads the two flags (the behaviour is built into `updateProps` and the lookups): the theorem below records what the
probes found, and stops the build when a probe finds otherwise. -/

theorem store_primitives_as_modelled : Gen.Rules.updateWhole = true ∧ Gen.Rules.lookupOwnGraph = true := by decide

/-- bulk setter, whatever the values (tagged non-strings included) and wherever a rejected keyword sits: when it raises,
nothing was written -/
theorem setProps_rejected_whole (nid : Nid) (props : List PropArg) (s : Topo) (h : failed (setProps nid props s)) :
    (setProps nid props s).2 = s := (atomic_setProps nid props).h s h

end FimVerif.C09
