import FimVerif.Proofs.Lemmas.StoreIdent
import FimVerif.Proofs.Lemmas.StoreMerge
import FimVerif.Proofs.Lemmas.StoreRefine
import FimVerif.Proofs.Lemmas.StoreHomed
/-!
# C05 — in-memory graph backends agree with each other and with the documented semantics

Models: `Model/Store.lean` (shared store), `Model/DStore.lean` (one graph per id; every inherited
property-graph method *is* the shared-store method run on the sub-store of that id), `Model/AGraph.lean`
(per-graph reference model of the documented interface), `Model/ARef.lean` (store-level reference model:
node dictionaries and links between (GraphID, NodeID) keys; `merge_nodes`, `GraphID`/`NodeID` rewrites,
imports, clones and `delete_all_graphs` are steps of it).
-/
namespace FimVerif.C05
open FimVerif FimVerif.Store FimVerif.Gen.StoreConsts

/-- `C04.flow_is_modelled` again: the backends' agreement rests on the allocator and lookup facts `gen/storeflow.py` observes -/
theorem flow_is_modelled :
    Gen.StoreFlow.flow = Store.modelFlow ∧ Gen.StoreFlow.gidFiltered = Store.modelFiltered ∧
    Gen.StoreFlow.dgidFiltered = DStore.modelFiltered := Store.flow_is_modelled

/-- unsetting an identity property (every name in the *generated* `NO_UNSET_PROPERTIES`, and the
    label attribute) is refused with a query error and leaves the store unchanged -/
theorem identity_unset_refused (g nid k : String) (s : Store) (hk : k ∈ noUnset ∨ k = nxLabel) :
    unsetNodeProperty g nid k s = (.error .query, s) := by
  unfold unsetNodeProperty
  rcases hk with hk | hk
  · by_cases h : k = nxLabel <;> simp [h, hk]
  · simp [hk]

/-- the five names the property lists are in the generated list -/
theorem identity_names_listed :
    graphId ∈ noUnset ∧ nodeId ∈ noUnset ∧ propClass ∈ noUnset ∧ propType ∈ noUnset ∧ propName ∈ noUnset := by decide +kernel

theorem updateNodesProperty_class (g : String) (v : Val) (s : Store) : updateNodesProperty g nxLabel v s = (.error .query, s) :=
  ite_ind (P := fun r => r = (Except.error Err.query, s)) (fun _ => rfl) fun _ => if_pos rfl

/-- every way of writing the class through the API (single, bulk and whole-graph node updates, single and bulk link
    updates, link unset) is refused with a query error; the single-value updates answer an assertion error when the value
    is `None`, see `none_value_refused` -/
theorem class_update_refused (g nid a b kind : String) (v : Val) (p : Props) (hp : AMap.has nxLabel p = true) (s : Store) :
    updateNodeProperty g nid nxLabel v s = (.error .query, s) ∧
    (updateNodesProperty g nxLabel v s).1 = .error .query ∧ (updateNodesProperty g nxLabel v s).2 = s ∧
    updateNodeProperties g nid p s = (.error .query, s) ∧
    updateLinkProperty g a b kind nxLabel v s = (.error .query, s) ∧
    unsetLinkProperty g a b kind nxLabel s = (.error .query, s) ∧
    updateLinkProperties g a b kind p s = (.error .query, s) := by
  have nodes := updateNodesProperty_class g v s
  exact ⟨if_pos rfl, congrArg Prod.fst nodes, congrArg Prod.snd nodes, if_pos hp, if_pos rfl, if_pos rfl, if_pos hp⟩

/-- … nor through `step`, whatever the value (including `None`) -/
theorem class_update_refused_step (g nid a b kind : String) (v : Val) (s : Store) :
    (∃ e, (Store.step (.updateNodeProperty g nid nxLabel v) s) = (.error e, s)) ∧
    (∃ e, (Store.step (.updateLinkProperty g a b kind nxLabel v) s) = (.error e, s)) ∧
    (∃ e, (Store.step (.updateNodesProperty g nxLabel v) s).1 = .error e) ∧ (Store.step (.updateNodesProperty g nxLabel v) s).2 = s := by
  -- refused by the `None` assertion or, after it, by the class check
  have refused : ∀ {r : R}, r = (.error .query, s) → ∃ e, assertVal v s r = (.error e, s) :=
    fun h => h ▸ ite_ind (P := fun r : R => ∃ e : Err, r = (Except.error e, s)) (fun _ => ⟨_, rfl⟩) fun _ => ⟨_, rfl⟩
  have nodes := updateNodesProperty_class g v s
  obtain ⟨e, he⟩ := refused nodes
  exact ⟨refused (if_pos rfl), refused (if_pos rfl), ⟨e, congrArg Prod.fst he⟩, congrArg Prod.snd he⟩

/-- a single-value update (node, whole graph, link) handed `None` is refused (`assert prop_val is not None`)
    and leaves the store unchanged: `None` cannot be used to blank a property one at a time -/
theorem none_value_refused (g nid a b kind k : String) (s : Store) :
    Store.step (.updateNodeProperty g nid k .none) s = (.error .assertion, s) ∧
    Store.step (.updateNodesProperty g k .none) s = (.error .assertion, s) ∧
    Store.step (.updateLinkProperty g a b kind k .none) s = (.error .assertion, s) := by
  simp [Store.step, assertVal]

/-- a bulk update (`update_node_properties`, `update_link_properties`, initial properties of `add_node` / `add_link`) is
    `d.update(props)`: it *stores* every value it is handed, so a `None` value is a stored `None`, never a removal -/
theorem bulk_update_stores_every_value (a p : Props) (k : String) (h : AMap.has k a = true ∨ k ∈ AMap.keys p) :
    AMap.has k (AMap.update a p) = true := by
  rcases h with h | h
  · exact AMap.has_update_of_has k a p h
  · exact AMap.has_update_of_mem k a p h

example : AMap.get "Name" (AMap.update [("NodeID", Val.str "n"), ("Name", Val.str "x")] [("Site", .str "UKY"), ("Name", .none)])
    = some Val.none := by decide

/-- **unset_asks_presence_not_value.**  `unset_node_property` of a name outside the protected ones, on a node that is found:
    the outcome depends on whether the name is *bound* in the node's dictionary, never on the value bound to it (`None`,
    `''`, `0`, `False`, `[]`, `{}` like any other); only an unbound name raises ("Unable to unset property"). -/
theorem unset_asks_presence_not_value (g nid k : String) (s : Store) (i : Nat) (a : Props)
    (hk : k ≠ nxLabel) (hn : k ∉ noUnset) (hf : findNode s g nid = .ok i) (ha : nodeAttrs s i = some a) :
    (∀ v : Val, AMap.get k a = some v →
      Store.step (.unsetNodeProperty g nid k) s = (.ok .unit, updNode i (AMap.erase k) s)) ∧
    (AMap.get k a = none → Store.step (.unsetNodeProperty g nid k) s = (.error .query, s)) := by
  constructor
  · intro v hv
    simp [Store.step, unsetNodeProperty, hk, hn, withNode, hf, ha, AMap.has, hv]
  · intro hv
    simp [Store.step, unsetNodeProperty, hk, hn, withNode, hf, ha, AMap.has, hv]

example : findNode ⟨[⟨1, [("GraphID", .str "g"), ("NodeID", .str "n"), ("Class", .str "Link"), ("Site", .none)]⟩], [], 2⟩ "g" "n" = .ok 1 ∧
    AMap.get "Site" [("GraphID", Val.str "g"), ("NodeID", .str "n"), ("Class", .str "Link"), ("Site", .none)] = some Val.none ∧
    "Site" ≠ nxLabel ∧ "Site" ∉ noUnset := by
  refine ⟨rfl, rfl, by decide, by decide⟩

/-- **stored_value_is_present_until_unset**, as a two-call history: a bulk update that names `k` with whatever value
    (`update_node_properties(props={k: None})` is how a `None` gets stored; the single-value setter refuses it,
    `none_value_refused`) succeeds, and so does the `unset_node_property(k)` that follows.  `hgp`, `hnp`: an update that
    rewrites `GraphID` / `NodeID` makes the node a different node for the second call. -/
theorem stored_value_is_present_until_unset (g nid k : String) (p : Props) (s : Store) (i : Nat) (a : Props)
    (hk : k ≠ nxLabel) (hn : k ∉ noUnset) (hp : AMap.has nxLabel p = false)
    (hkp : k ∈ AMap.keys p) (hgp : graphId ∉ AMap.keys p) (hnp : nodeId ∉ AMap.keys p)
    (hf : findNode s g nid = .ok i) (ha : nodeAttrs s i = some a) :
    let s1 := updNode i (fun a => AMap.update a p) s
    Store.step (.updateNodeProperties g nid p) s = (.ok .unit, s1) ∧
    Store.step (.unsetNodeProperty g nid k) s1 = (.ok .unit, updNode i (AMap.erase k) s1) := by
  intro s1
  have hf1 : findNode s1 g nid = .ok i :=
    findNode_updNode_keepsKeys s g nid i i _ (fun a => AMap.get_update_of_not_has graphId a p ((AMap.has_eq_false_iff _ _).2 hgp))
      (fun a => AMap.get_update_of_not_has nodeId a p ((AMap.has_eq_false_iff _ _).2 hnp)) hf
  have ha1 : nodeAttrs s1 i = some (AMap.update a p) := by
    simp [s1, nodeAttrs_updNode_self, ha]
  have hhas : AMap.has k (AMap.update a p) = true := AMap.has_update_of_mem k a p hkp
  constructor
  · simp [Store.step, updateNodeProperties, hp, withNode, hf, s1]
  · simp [Store.step, unsetNodeProperty, hk, hn, withNode, hf1, ha1, hhas]

example : Store.step (.unsetNodeProperty "g" "n" "Site")
    (Store.step (.updateNodeProperties "g" "n" [("Site", .none)]) ⟨[⟨1, [("GraphID", .str "g"), ("NodeID", .str "n"), ("Class", .str "Link")]⟩], [], 2⟩).2
    = (.ok .unit, ⟨[⟨1, [("GraphID", .str "g"), ("NodeID", .str "n"), ("Class", .str "Link")]⟩], [], 2⟩) := by rfl

/-- **identity_props_protected.**  Whatever operation is executed with whatever values, failing calls included (`hc` only
    excludes merges whose policy names `Class` with `overwrite`/`combine`), a node that is stored before and after keeps
    its class and still has every identity property (`NO_UNSET_PROPERTIES`) it had before. -/
theorem identity_props_protected (op : Op) (s : Store) (h : Store.Inv s) (hc : op.keepsClass = true)
    (n : SNode) (hn : n ∈ s.nodes) (m : SNode) (hm : m ∈ (Store.step op s).2.nodes) (e : m.iid = n.iid) :
    AMap.get propClass m.attrs = AMap.get propClass n.attrs ∧
    ∀ k ∈ noUnset, AMap.has k n.attrs = true → AMap.has k m.attrs = true := by
  rcases ((Store.step_effect op s).evolves h hc).2 m hm with hlt | ⟨n', hn', e', r⟩
  · have := h.2.1 n hn; omega
  · exact List.eq_of_nodup_map (·.iid) h.1 hn' hn (e'.trans e) ▸ r

example : (Op.mergeNodes "g1" "n" "g2" (some [("Name", .combine), ("Class", .discard)])).keepsClass = true := by decide

/-- Full statement ("the class can never be changed through the API") fails for a merge whose policy
    names the class: `merge_nodes(n, other, {"Class": "overwrite"})` gives the surviving node the other
    node's class.  Known finding `C05:identity:merge_nodes:class-changed`. -/
theorem identity_merge_class_counterexample :
    ∃ (s : Store) (op : Op), Store.Inv s ∧
      ∃ n ∈ s.nodes, ∃ m ∈ (Store.step op s).2.nodes, m.iid = n.iid ∧
        AMap.get propClass m.attrs ≠ AMap.get propClass n.attrs := by
  refine ⟨⟨[⟨1, [("GraphID", .str "g1"), ("Class", .str "NetworkNode"), ("NodeID", .str "n")]⟩,
            ⟨2, [("GraphID", .str "g2"), ("Class", .str "Link"), ("NodeID", .str "n")]⟩], [], 3⟩,
          .mergeNodes "g1" "n" "g2" (some [("Class", .overwrite)]), ?_, ?_⟩
  · refine ⟨by decide +kernel, by decide +kernel, nofun⟩
  · refine ⟨⟨1, [("GraphID", .str "g1"), ("Class", .str "NetworkNode"), ("NodeID", .str "n")]⟩, by simp,
      ⟨1, [("GraphID", .str "g1"), ("Class", .str "Link"), ("NodeID", .str "n")]⟩, ?_, rfl, by decide +kernel⟩
    decide +kernel

/-- `add_node` refuses an id that some node of the graph already carries — under *any* class (the label
    argument plays no part in the check) — and leaves the store unchanged -/
theorem add_node_existing_id_refused (s : Store) (g nid label : String) (props : Option Props)
    (n : SNode) (hn : n ∈ s.nodes) (hg : inG g n = true) (hid : hasNid nid n = true) :
    addNode g nid label props s = (.error .query, s) := by
  have : addNodeGuard g nid s = true := by
    rw [Store.addNodeGuard_eq_any]
    exact List.any_eq_true.2 ⟨n, hn, by rw [hg, hid]; rfl⟩
  exact if_pos this

/-- **nid_unique.**  Every operation that writes neither `GraphID` nor `NodeID` of a stored node (and, for
    imports, brings pairwise distinct NodeIDs) keeps NodeIDs unique within every graph. -/
theorem nid_unique (op : Op) (s : Store) (h : Store.Inv s) (hk : op.keepsKeys = true) (hall : ∀ g, UniqueNid s g) :
    ∀ g, UniqueNid (Store.step op s).2 g := ((Store.step_effect op s).keysKept h hk hall).uniqueNid hall

theorem nid_unique_reachable (ops : List Op) (hops : ∀ o ∈ ops, o.keepsKeys = true) :
    ∀ g, UniqueNid (Store.run ops Store.init) g := by
  exact (Store.run_induction (P := fun t => ∀ g, UniqueNid t g) ops _ Store.inv_init (fun g => List.nodup_nil)
    fun o ho t ht hall => nid_unique o t ht (hops o ho) hall).2

example : (Op.addNode "g" "n" "Link" (some [("Name", .str "x")])).keepsKeys = true := by decide
example : (Op.addGraph "g" ⟨[[("NodeID", .str "a")], [("NodeID", .str "b")]], []⟩).keepsKeys = true := by decide
example : (Op.mergeNodes "g" "n" "h" (some [("Name", .combine)])).keepsKeys = true := by decide

/-- **merge_keeps_edges.**  After a successful `merge_nodes` every edge of the store is still there with the absorbed node
    `v` replaced by the surviving node `u`, and every edge afterwards carries, unchanged, the property dictionary of one
    edge from before (no foreign key such as networkx's `contraction`, no mixture of two dictionaries). -/
theorem merge_keeps_edges (s : Store) (g nid g2 : String)
    (pol : Option (List (String × Policy))) (hok : (mergeNodes g nid g2 pol s).1 = .ok .unit) :
    ∃ u v, findNode s g nid = .ok u ∧ findNode s g2 nid = .ok v ∧
      (∀ e ∈ s.edges, (mergeNodes g nid g2 pol s).2.edges.any (edgeMatch (rm u v e.a) (rm u v e.b)) = true) ∧
      (∀ e' ∈ (mergeNodes g nid g2 pol s).2.edges, ∃ e ∈ s.edges, e'.attrs = e.attrs ∧ e'.a = rm u v e.a ∧ e'.b = rm u v e.b) := by
  obtain ⟨u, v, mine, theirs, np, hu, hv, _, _, _, hs', _, _⟩ := (Store.step_effect (.mergeNodes g nid g2 pol) s).mergeNodes_ok hok
  have hs' : (mergeNodes g nid g2 pol s).2 = _ := hs'
  refine ⟨u, v, hu, hv, ?_, ?_⟩
  · intro e he; rw [hs']; exact contract_keeps_edges s u v e he
  · intro e' he'; rw [hs'] at he'; exact contract_edge_attrs s u v e' he'

/-- **merge_policy.**  After a successful `merge_nodes` the surviving node has exactly the property names
    it had, and each property follows the policy: keep (`discard` or not mentioned), the other node's value
    (`overwrite`), the pair (`combine`), `None` for an unknown policy word. -/
theorem merge_policy (s : Store) (g nid g2 : String)
    (pol : Option (List (String × Policy))) (hok : (mergeNodes g nid g2 pol s).1 = .ok .unit) :
    ∃ u v mine theirs, findNode s g nid = .ok u ∧ findNode s g2 nid = .ok v ∧
      nodeAttrs s u = some mine ∧ nodeAttrs s v = some theirs ∧
      ∃ m ∈ (mergeNodes g nid g2 pol s).2.nodes, m.iid = u ∧ AMap.keys m.attrs = AMap.keys mine ∧
        ∀ k v0, AMap.get k mine = some v0 → AMap.get k m.attrs = some (policyVal pol theirs k v0) := by
  obtain ⟨u, v, mine, theirs, np, hu, hv, huv, hm, ht, hs', hkeys, hpol⟩ := (Store.step_effect (.mergeNodes g nid g2 pol) s).mergeNodes_ok hok
  refine ⟨u, v, mine, theirs, hu, hv, hm, ht, ⟨u, np⟩, ?_, rfl, hkeys, hpol⟩
  rw [show (mergeNodes g nid g2 pol s).2 = _ from hs']
  obtain ⟨nu, hnu, eu⟩ := Store.findNode_isNode hu
  have hin : nu ∈ (contract u v s).nodes := Store.mem_contract_nodes.2 ⟨hnu.mem, eu ▸ huv⟩
  simp only [updNode, List.mem_map]
  exact ⟨nu, hin, by simp [eu]⟩

/-- a failing `merge_nodes` (unknown node, empty other graph, a policy naming a property the other node
    lacks) leaves the store unchanged -/
theorem merge_failure_atomic (s : Store) (g nid g2 : String) (pol : Option (List (String × Policy)))
    (hf : (mergeNodes g nid g2 pol s).1 ≠ .ok .unit) : (mergeNodes g nid g2 pol s).2 = s := by
  have key : ∀ {r : R}, Effect s (.mergeNodes g nid g2 pol) r → r.1 ≠ .ok .unit → r.2 = s := by
    intro r ef h
    cases ef with
    | refused => rfl
    | answered => rfl
    | mergeNodes => exact absurd rfl h
  exact key (Store.step_effect _ s) hf

/-- **merge_frame.**  `merge_nodes` touches only the two graphs it names, whether it succeeds or fails.  `hk` is not
    used: the frame holds for every policy (`C04.frame_general`). -/
theorem merge_frame (s : Store) (h : Store.Inv s) (g nid g2 g' : String) (pol : Option (List (String × Policy)))
    (hk : (Op.mergeNodes g nid g2 pol).keepsKeys = true) (h1 : g' ≠ g) (h2 : g' ≠ g2) :
    Store.abs (mergeNodes g nid g2 pol s).2 g' = Store.abs s g' := by
  have := Store.frame_affects (.mergeNodes g nid g2 pol) s g' h (by simp [Op.affects, Op.target, Op.gidWrites, h1, h2])
  simp only [Store.abs, Store.step] at this ⊢
  rw [this.1, this.2]

/-! ## both backends refine the reference model of the documented interface

`AGraph.covers op`: `op` is part of the reference interface (every operation of C05's alphabet except
`merge_nodes`, treated above; imports and clones are C04's).  `op.keepsKeys`: the operation writes neither
`GraphID` nor `NodeID` of a stored node (the per-graph reference cannot follow such writes: for them see
`store_refines_reference`, `backends_agree_rekey` and the two counterexamples below).  `outAbs` removes the `GraphID` entry
from a returned node dictionary (the reference model has no graph id inside a graph). -/

/-- **shared_refines_spec.**  One call on the shared store returns what the reference model returns on the addressed
    graph's content (same value, same error kind) and leaves that graph with the content the reference model computes. -/
theorem shared_refines_spec (op : Op) (s : Store) (h : Store.Inv s) (hc : AGraph.covers op = true) (hk : op.keepsKeys = true) :
    outAbs (Store.step op s).1 = (AGraph.step op (Store.abs s op.other) (Store.abs s op.target)).1 ∧
    Store.abs (Store.step op s).2 op.target = (AGraph.step op (Store.abs s op.other) (Store.abs s op.target)).2 :=
  Store.refines_step op s h hc hk

/-- … for every graph id over a history: refinement on the addressed graph, frame on all others -/
theorem shared_refines_history (ops : List Op) (s : Store) (h : Store.Inv s)
    (hops : ∀ o ∈ ops, AGraph.covers o = true ∧ o.keepsKeys = true) :
    (fun g => Store.abs (Store.run ops s) g) = AGraph.runAll ops (fun g => Store.abs s g) :=
  List.foldl_simulation _ _ (fun s g => Store.abs s g) Store.Inv ops s h (fun o _ t ht => Store.inv_step o t ht)
    fun o ho t ht => Store.refines_stepAll o t ht (hops o ho).1 (hops o ho).2

/-- **disjoint_refines_spec.**  The one-graph-per-id backend refines the same reference model on every
    single-graph operation (its property-graph methods are the shared-store methods run on the graph stored
    under the id; `delete_graph` is its own storage method). -/
theorem disjoint_refines_spec (op : Op) (d : DStore.DStore) (h : DStore.Inv d) (hs : DStore.single op = true)
    (hk : op.keepsKeys = true) :
    outAbs (DStore.step op d).1 = (AGraph.step op AGraph.empty (DStore.abs d op.target)).1 ∧
    DStore.abs (DStore.step op d).2 op.target = (AGraph.step op AGraph.empty (DStore.abs d op.target)).2 := by
  have lifted : DStore.step op d = DStore.lift op.target (Store.step op) d →
      outAbs (DStore.step op d).1 = (AGraph.step op AGraph.empty (DStore.abs d op.target)).1 ∧
      DStore.abs (DStore.step op d).2 op.target = (AGraph.step op AGraph.empty (DStore.abs d op.target)).2 := by
    intro e
    have := shared_refines_spec op (DStore.sub d op.target) (h _) (DStore.covers_of_single hs) hk
    rw [DStore.step_other_of_single hs _ AGraph.empty] at this
    rw [e]
    simp only [DStore.lift, DStore.abs, DStore.sub_put_eq]
    exact this
  cases op with
  | deleteGraph g =>
    refine ⟨rfl, ?_⟩
    simp only [DStore.step, DStore.delGraph, DStore.abs, Op.target, DStore.sub_put_eq, AGraph.step]
    rfl
  | findMatchingNodes g o => cases hs
  | addGraph g ig => cases hs
  | addGraphDirect g ig => cases hs
  | clone g g2 => cases hs
  | mergeNodes g nid g2 pol => cases hs
  | delAllGraphs => cases hs
  | _ => exact lifted rfl

/-- … and over histories of single-graph operations, for every graph id at once (the graph stored under
    another id is untouched: `C04.dframe`) -/
theorem disjoint_refines_history (ops : List Op) (d : DStore.DStore) (h : DStore.Inv d)
    (hops : ∀ o ∈ ops, DStore.single o = true ∧ o.keepsKeys = true) :
    (fun g => DStore.abs (DStore.run ops d) g) =
      ops.foldl (fun σ o => fun g => if g = o.target then (AGraph.step o AGraph.empty (σ o.target)).2 else σ g)
        (fun g => DStore.abs d g) := by
  refine List.foldl_simulation _ _ (fun d g => DStore.abs d g) DStore.Inv ops d h (fun o _ t ht => DStore.inv_step o t ht)
    fun o ho t ht => funext fun g => ?_
  by_cases e : g = o.target
  · simp only [e, if_true]; exact (disjoint_refines_spec o t ht (hops o ho).1 (hops o ho).2).2
  · simp only [e, if_false, DStore.abs, DStore.frame_step o t g e (DStore.not_delAll_of_single (hops o ho).1)]

/-- **backends_agree.**  If the addressed graph has the same content in both stores, one call returns the
    same result (value or error kind) on both and leaves the graph with the same content on both. -/
theorem backends_agree (op : Op) (s : Store) (d : DStore.DStore) (hs : Store.Inv s) (hd : DStore.Inv d)
    (hsingle : DStore.single op = true) (hk : op.keepsKeys = true)
    (heq : Store.abs s op.target = DStore.abs d op.target) :
    outAbs (Store.step op s).1 = outAbs (DStore.step op d).1 ∧
    Store.abs (Store.step op s).2 op.target = DStore.abs (DStore.step op d).2 op.target := by
  have h1 := shared_refines_spec op s hs (DStore.covers_of_single hsingle) hk
  have h2 := disjoint_refines_spec op d hd hsingle hk
  rw [DStore.step_other_of_single hsingle _ AGraph.empty, heq] at h1
  exact ⟨h1.1.trans h2.1.symm, h1.2.trans h2.2.symm⟩

/-- **backends agree after any two histories.**  Whatever each backend has been through (`GraphID` rewrites the
    one-graph-per-id store cannot follow, merges only the shared store performs), a single-graph call that writes no key,
    addressed to a graph that both stores show with the same content, is answered alike on both.  No `Homed` hypothesis: the
    container of the disjoint store may hold nodes carrying other graph ids.  (What the oracle checks after the backends
    have parted company.) -/
theorem backends_agree_after_any_histories (ops₁ ops₂ : List Op) (op : Op)
    (hsingle : DStore.single op = true) (hk : op.keepsKeys = true)
    (heq : Store.abs (Store.run ops₁ Store.init) op.target = DStore.abs (DStore.run ops₂ DStore.init) op.target) :
    outAbs (Store.step op (Store.run ops₁ Store.init)).1 = outAbs (DStore.step op (DStore.run ops₂ DStore.init)).1 ∧
    Store.abs (Store.step op (Store.run ops₁ Store.init)).2 op.target =
      DStore.abs (DStore.step op (DStore.run ops₂ DStore.init)).2 op.target := by
  exact backends_agree op _ _ (Store.inv_run ops₁ _ Store.inv_init) (DStore.inv_run ops₂ _ DStore.inv_init) hsingle hk heq

/-- a node of g1 re-homed to g2 by a whole-graph `GraphID` update on both stores (the disjoint one keeps it in
    g1's container); `graph_exists` on g1 is such a call, and both stores show g1 empty -/
example :
    DStore.single (Op.graphExists "g1") = true ∧ (Op.graphExists "g1").keepsKeys = true ∧
    Store.abs (Store.run [Op.addNode "g1" "n1" "Link" none, Op.updateNodesProperty "g1" "GraphID" (.str "g2")] Store.init) "g1" =
      DStore.abs (DStore.run [Op.addNode "g1" "n1" "Link" none, Op.updateNodesProperty "g1" "GraphID" (.str "g2")] DStore.init) "g1" ∧
    (DStore.sub (DStore.run [Op.addNode "g1" "n1" "Link" none, Op.updateNodesProperty "g1" "GraphID" (.str "g2")] DStore.init)
      "g1").nodes.length = 1 ∧
    (DStore.step (Op.graphExists "g1")
      (DStore.run [Op.addNode "g1" "n1" "Link" none, Op.updateNodesProperty "g1" "GraphID" (.str "g2")] DStore.init)).1 =
      .ok (.bool false) := ⟨by decide, by decide, by rfl, by decide, by rfl⟩

example : AGraph.covers (.addLink "g" "a" "has" "b" none) = true ∧ DStore.single (.unsetNodeProperty "g" "a" "p") = true := by decide

/-! ## the shared store refines the store-level reference model — merges and key rewrites are steps of it

`ARef` (Model/ARef.lean): the whole store as the interface shows it — node dictionaries and links between
(GraphID, NodeID) keys; no internal ids, no allocator, no relabelling.  `Store.absS` forgets the internal
ids of a store. -/

/-- **store_refines_reference.**  One call on the shared store is one call of the reference model, for *every* operation:
    writes of `GraphID` and `NodeID` included (re-homing, re-keying: the links follow the node), imports of any graph,
    clones (also onto an existing id or onto itself), `delete_all_graphs`, `merge_nodes` with any policy.  Same reply
    (value or error kind) and the same nodes and links afterwards, whether the call succeeds or fails.  Only `merge_nodes`
    needs the (GraphID, NodeID) keys of the stored nodes to be pairwise distinct (`UniqueKeys`: otherwise "the neighbour
    with key k" is not one node). -/
theorem store_refines_reference (op : Op) (s : Store) (h : Store.Inv s) (hu : op.isMerge = true → UniqueKeys s) :
    (Store.step op s).1 = (ARef.step op (absS s)).1 ∧ absS (Store.step op s).2 = (ARef.step op (absS s)).2 :=
  Store.refines_store_step op s h hu

theorem unique_keys_reachable (ops : List Op) (hk : ∀ o ∈ ops, o.keepsKeys = true) : UniqueKeys (Store.run ops Store.init) :=
  (Store.run_induction ops _ Store.inv_init Store.uniqueKeys_init fun o ho t ht hu => Store.uniqueKeys_step o t ht (hk o ho) hu).2

/-- **store_refines_reference_history.**  After any history of key-keeping operations (merges included) the shared store
    is the state the reference model reaches, and *whatever* operation comes next (a key rewrite, a merge, an import with
    repeated ids) is answered and executed as the reference model does. -/
theorem store_refines_reference_history (ops : List Op) (hk : ∀ o ∈ ops, o.keepsKeys = true) :
    absS (Store.run ops Store.init) = ARef.run ops ARef.init ∧
    ∀ op, (Store.step op (Store.run ops Store.init)).1 = (ARef.step op (ARef.run ops ARef.init)).1 ∧
          absS (Store.step op (Store.run ops Store.init)).2 = (ARef.step op (ARef.run ops ARef.init)).2 := by
  have h1 := Store.refines_store_run ops Store.init Store.inv_init Store.uniqueKeys_init hk
  rw [Store.absS_init] at h1
  refine ⟨h1, fun op => ?_⟩
  rw [← h1]
  exact store_refines_reference op _ (Store.inv_run ops _ Store.inv_init) (fun _ => unique_keys_reachable ops hk)

-- a history with a merge whose policy combines a property, and the hypothesis of the step theorem
example : ∀ o ∈ [Op.addNode "g1" "n" "Link" (some [("Name", .str "x")]), Op.addNode "g2" "n" "Link" none,
    Op.addLink "g2" "n" "has" "n" none, Op.mergeNodes "g1" "n" "g2" (some [("Name", .combine)])], o.keepsKeys = true := by decide
example : UniqueKeys ⟨[⟨1, [("GraphID", .str "g1"), ("NodeID", .str "n")]⟩, ⟨2, [("GraphID", .str "g2"), ("NodeID", .str "n")]⟩], [], 3⟩ := by
  unfold UniqueKeys; decide

/-- the two reference models speak of the same thing -/
theorem view_absS (s : Store) (h : Store.Inv s) (g : String) : ARef.view (absS s) g = Store.abs s g :=
  Store.view_absS s h g

theorem content_after_history (ops : List Op) (hk : ∀ o ∈ ops, o.keepsKeys = true) (g : String) :
    Store.abs (Store.run ops Store.init) g = ARef.view (ARef.run ops ARef.init) g := by
  rw [← (store_refines_reference_history ops hk).1]
  exact (view_absS _ (Store.inv_run ops _ Store.inv_init) g).symm

/-- Full statement ("a node id is unique within its graph", for every operation) fails: `NodeID` is an ordinary
    writable property.  Known findings `C05:nid_unique:<op>:NodeID-rewritten` / `…:GraphID-rewritten`. -/
theorem nid_unique_rewrite_counterexample :
    ∃ (ops : List Op) (op : Op) (g : String), (∀ o ∈ ops, o.keepsKeys = true) ∧
      (∀ g', UniqueNid (Store.run ops Store.init) g') ∧ ¬ UniqueNid (Store.step op (Store.run ops Store.init)).2 g := by
  refine ⟨[.addNode "g" "a" "Link" none, .addNode "g" "b" "Link" none], .updateNodeProperty "g" "a" "NodeID" (.str "b"), "g",
    by decide, nid_unique_reachable _ (by decide), ?_⟩
  have : (nodesOf (Store.step (.updateNodeProperty "g" "a" "NodeID" (.str "b"))
      (Store.run [.addNode "g" "a" "Link" none, .addNode "g" "b" "Link" none] Store.init)).2 "g").map nidA =
      [some (.str "b"), some (.str "b")] := by rfl
  unfold UniqueNid
  rw [this]
  simp

/-- the guarded form of "a node id is unique within its graph whatever the node's class" that the code satisfies
    (= `nid_unique`; the unguarded statement fails: `nid_unique_rewrite_counterexample`) -/
theorem nid_unique_partial (op : Op) (s : Store) (h : Store.Inv s) (hk : op.keepsKeys = true) (hall : ∀ g, UniqueNid s g) :
    ∀ g, UniqueNid (Store.step op s).2 g := nid_unique op s h hk hall

/-- Full statement ("the two backends return the same results for every operation sequence") fails once a node is
    re-homed by writing `GraphID`: the shared store shows it in the named graph, the one-graph-per-id store keeps it in
    its old container where no lookup finds it.  Known findings `C05:backends:<op>:GraphID-rewritten`. -/
theorem backends_diverge_on_rehoming_counterexample :
    ∃ (ops : List Op) (q : Op),
      (Store.step q (Store.run ops Store.init)).1 = .ok (.vals [some (.str "a")]) ∧
      (DStore.step q (DStore.run ops DStore.init)).1 = .error .query := by
  refine ⟨[.addNode "g1" "a" "Link" none, .updateNodeProperty "g1" "a" "GraphID" (.str "g2")], .listAllNodeIds "g2", ?_, ?_⟩
  · rfl
  · rfl

/-- backend agreement under the guard `keepsKeys` (= `backends_agree`; with a `GraphID` write the backends part:
    `backends_diverge_on_rehoming_counterexample`; the `NodeID` half of the guard can go: `backends_agree_rekey`) -/
theorem backends_agree_partial (op : Op) (s : Store) (d : DStore.DStore) (hs : Store.Inv s) (hd : DStore.Inv d)
    (hsingle : DStore.single op = true) (hk : op.keepsKeys = true)
    (heq : Store.abs s op.target = DStore.abs d op.target) :
    outAbs (Store.step op s).1 = outAbs (DStore.step op d).1 ∧
    Store.abs (Store.step op s).2 op.target = DStore.abs (DStore.step op d).2 op.target :=
  backends_agree op s d hs hd hsingle hk heq

/-- on the one-graph-per-id store every container behaves as a reference store of its own, for every inherited
    property-graph method, key rewrites included (a re-homed node stays in its container): no `keepsKeys` hypothesis -/
theorem disjoint_container_refines_reference (op : Op) (d : DStore.DStore) (h : DStore.Inv d)
    (hl : DStore.step op d = DStore.lift op.target (Store.step op) d) (hm : op.isMerge = false) :
    (DStore.step op d).1 = (ARef.step op (absS (DStore.sub d op.target))).1 ∧
    absS (DStore.sub (DStore.step op d).2 op.target) = (ARef.step op (absS (DStore.sub d op.target))).2 := by
  have := store_refines_reference op (DStore.sub d op.target) (h _) (by simp [hm])
  rw [hl]
  simp only [DStore.lift, DStore.sub_put_eq]
  exact this

/-- the reference model is local: the reply and the effect on graph `g` of a single-graph operation that writes no
    `GraphID` depend only on the part of the store that belongs to `g` (its nodes and the links among them) -/
theorem reference_is_local (op : Op) (R : ARef) (hs : DStore.single op = true) (hk : op.keepsGraphId = true) :
    (ARef.step op R).1 = (ARef.step op (R.restrict op.target)).1 ∧
    (ARef.step op R).2.restrict op.target = (ARef.step op (R.restrict op.target)).2 := by
  suffices h : ARef.proj op.target (ARef.step op R) = ARef.step op (R.restrict op.target) from Prod.ext_iff.1 h
  open ARef in
  cases op <;> simp only [ARef.step, Op.target, ARef.deleteNode, ARef.addLink, ARef.updateNodeProperty, ARef.unsetNodeProperty,
    ARef.updateNodesProperty, ARef.updateNodeProperties, ARef.updateLinkProperty, ARef.unsetLinkProperty, ARef.updateLinkProperties,
    ARef.delGraph, ARef.getNodeProperties, ARef.getLinkProperties, ARef.listAllNodeIds, ARef.nodesByClass, ARef.nodesByClassAndType,
    ARef.graphExists, ARef.checkNodeUnique, proj_assertVal, proj_ite, proj_withN, proj_withL, proj_mk, proj_nidList,
    nodesOf_restrict, findEdge_restrict, restrict_removeK, restrict_updEdgeK, restrict_delGraphK]
  -- left: the operations outside `single`, and those whose primitive commutes under a condition on what is written
  case addGraph | addGraphDirect | clone | mergeNodes | delAllGraphs | findMatchingNodes => cases hs
  case addNode g nid label props =>
    have hp : AMap.has graphId (props.getD []) = false := by simpa [Op.keepsGraphId_addNode] using hk
    unfold ARef.addNode
    rw [filter_restrict R g _ (fun a h => (Bool.and_eq_true _ _ ▸ h).1), proj_ite, proj_mk, proj_mk,
      restrict_addNode g _ R (by rw [inGP_update g _ _ hp]; simp [inGP, AMap.get])]
  case addLink g a rel b props => cases props <;> simp only [proj_ite, proj_mk, restrict_addEdgeK]
  case updateNodeProperty g nid k v =>
    have hk : k ≠ graphId := bne_iff_ne.1 hk
    rw [restrict_updK g nid _ _ R (fun a => inGP_set g k v a hk) (kIn_setKey g k v _ hk)]
  case unsetNodeProperty g nid k =>
    split
    · rfl
    · split
      · rfl
      · next _ hn =>
        have hk : k ≠ graphId := fun e => hn (e ▸ graphId_mem_noUnset)
        rw [restrict_updK g nid _ _ R (fun a => inGP_erase g k a hk) rfl]
  case updateNodesProperty g k v =>
    have hk : k ≠ graphId := bne_iff_ne.1 hk
    rw [restrict_updGraphK g _ _ R (fun a => inGP_set g k v a hk) fun key => kIn_setKey g k v key hk]
  case updateNodeProperties g nid props =>
    have hp : AMap.has graphId props = false := Bool.not_eq_true' _ ▸ hk
    rw [restrict_updK g nid _ _ R (fun a => inGP_update g a props hp) (kIn_updKey g props _ hp)]
  case getNodeProperties g nid =>
    congr; funext a
    split <;> rfl
  case getLinkProperties g a b =>
    congr; funext _; congr; funext _
    split
    · rfl
    · split <;> rfl
  case nodeExists g nid label =>
    unfold ARef.nodeExists
    rw [filter_restrict R g _ (fun a h => (Bool.and_eq_true _ _ ▸ (Bool.and_eq_true _ _ ▸ h).1).1)]
    split <;> rfl

/-- **backends_agree_rekey.**  Agreement of the two backends *without* the `NodeID` half of `keepsKeys`: on every inherited
    single-graph method that writes no `GraphID` (`NodeID` rewrites included) both stores give the same reply and leave
    the addressed graph the same, whenever that graph (its node dictionaries and the links among them, by key) is the same
    in both before the call.  Both refine the store-level reference, which is local (`reference_is_local`). -/
theorem backends_agree_rekey (op : Op) (s : Store) (d : DStore.DStore) (hs : Store.Inv s) (hd : DStore.Inv d)
    (hsingle : DStore.single op = true) (hk : op.keepsGraphId = true)
    (hl : DStore.step op d = DStore.lift op.target (Store.step op) d)
    (heq : (absS s).restrict op.target = (absS (DStore.sub d op.target)).restrict op.target) :
    (Store.step op s).1 = (DStore.step op d).1 ∧
    (absS (Store.step op s).2).restrict op.target = (absS (DStore.sub (DStore.step op d).2 op.target)).restrict op.target := by
  have hm := Op.not_merge_of_covers (DStore.covers_of_single hsingle)
  have a := store_refines_reference op s hs (by simp [hm])
  have b := disjoint_container_refines_reference op d hd hl hm
  have la := reference_is_local op (absS s) hsingle hk
  have lb := reference_is_local op (absS (DStore.sub d op.target)) hsingle hk
  refine ⟨?_, ?_⟩
  · rw [a.1, b.1, la.1, lb.1, heq]
  · rw [a.2, b.2, la.2, lb.2, heq]

example : DStore.single (.updateNodeProperty "g" "n" "NodeID" (.str "m")) = true ∧
    (Op.updateNodeProperty "g" "n" "NodeID" (.str "m")).keepsGraphId = true ∧
    ∀ d, DStore.step (.updateNodeProperty "g" "n" "NodeID" (.str "m")) d =
      DStore.lift "g" (Store.step (.updateNodeProperty "g" "n" "NodeID" (.str "m"))) d :=
  ⟨by decide, by decide, fun _ => rfl⟩

example (d : DStore.DStore) : DStore.step (.updateNodeProperty "g" "n" "GraphID" (.str "h")) d =
    DStore.lift "g" (Store.step (.updateNodeProperty "g" "n" "GraphID" (.str "h"))) d := rfl

/-- `find_matching_nodes` on the one-graph-per-id store answers what the reference interface says, given the content of
    both graphs (`Homed d other`: every node in the other container carries that graph's id — true in every state reached
    without `GraphID` writes, `C04.dhomed_reachable`), and changes nothing -/
theorem disjoint_find_matching_refines (d : DStore.DStore) (g other : String) (hh : DStore.Homed d other) :
    (DStore.step (.findMatchingNodes g other) d).1 =
      (AGraph.step (.findMatchingNodes g other) (DStore.abs d other) (DStore.abs d g)).1 ∧
    (DStore.step (.findMatchingNodes g other) d).2 = d := by
  refine ⟨?_, DStore.findMatchingNodes_snd g other d⟩
  simp only [DStore.step, AGraph.step, DStore.abs]
  rw [DStore.findMatchingNodes_eq, AGraph.findMatchingNodes_eq, Store.listAll_fst, Store.abs_nodes, Store.nodesOf_allIn _ other hh]
  simp only [List.map_map, Function.comp_def, AMap.get_erase_ne _ _ _ Store.nodeId_ne_graphId]

/-- … hence both backends answer `find_matching_nodes` alike when they show both graphs with the same content -/
theorem backends_agree_find_matching (s : Store) (d : DStore.DStore) (g other : String) (hh : DStore.Homed d other)
    (h1 : Store.abs s g = DStore.abs d g) (h2 : Store.abs s other = DStore.abs d other) :
    outAbs (Store.step (.findMatchingNodes g other) s).1 = (DStore.step (.findMatchingNodes g other) d).1 := by
  have b := (disjoint_find_matching_refines d g other hh).1
  simp only [AGraph.step] at b
  rw [b, ← h1, ← h2]
  exact Store.findMatchingNodes_fst s g other

end FimVerif.C05
