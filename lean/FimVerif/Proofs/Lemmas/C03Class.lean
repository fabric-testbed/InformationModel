import FimVerif.Model.CodecFail
import FimVerif.Generated.Fields
import FimVerif.Proofs.Lemmas.ListAux
/-! JSONField for C03: `_set_fields` returns exactly on the keyword lists it accepts and then is a fold of assignments
(`setFields_ok_iff`); on an existing instance it leaves the assignments before the first rejected keyword (`setFieldsIP_eq`).
`from_json(to_json(x))` is `readBack c x` (`decode_encode`): on a field the default where the drop rule drops, the value elsewhere
(`readBack_field`), so it is `x` exactly when nothing is lost (`readBack_eq_iff`). -/
namespace FimVerif.Codec
open FimVerif JVal

@[simp] theorem setF_same (x : Fields) (k : String) (v : JVal) : setF x k v k = v := if_pos rfl

theorem setF_other {x : Fields} {v : JVal} {k k' : String} (h : k' ≠ k) : setF x k v k' = x k' := if_neg h

theorem setF_self (x : Fields) (k : String) : setF x k (x k) = x :=
  funext fun k' => by unfold setF; split <;> simp [*]

def applyAll (l : List (String × JVal)) (x : Fields) : Fields := l.foldl (fun x p => setF x p.1 p.2) x

@[simp] theorem applyAll_nil (x : Fields) : applyAll [] x = x := rfl
@[simp] theorem applyAll_cons (p) (l) (x : Fields) : applyAll (p :: l) x = applyAll l (setF x p.1 p.2) := rfl

theorem applyAll_not_mem {l : List (String × JVal)} (x : Fields) {k : String} (h : k ∉ l.map (·.1)) :
    applyAll l x k = x k := by
  induction l generalizing x with
  | nil => rfl
  | cons p t ih =>
    simp only [List.map_cons, List.mem_cons, not_or] at h
    rw [applyAll_cons, ih _ h.2, setF_other h.1]

theorem applyAll_mem {l : List (String × JVal)} (x : Fields) {k : String} {v : JVal}
    (hn : (l.map (·.1)).Nodup) (h : (k, v) ∈ l) : applyAll l x k = v := by
  induction l generalizing x with
  | nil => cases h
  | cons p t ih =>
    simp only [List.map_cons, List.nodup_cons] at hn
    rw [applyAll_cons]
    rcases List.mem_cons.1 h with h | h
    · subst h
      rw [applyAll_not_mem _ hn.1, setF_same]
    · exact ih _ hn.2 h

theorem applyAll_knownOnly_append (c : ClassSpec) (a b : List (String × JVal)) (x : Fields) :
    applyAll (knownOnly c (a ++ b)) x = applyAll (knownOnly c b) (applyAll (knownOnly c a) x) := by
  rw [knownOnly, List.filter_append]; exact List.foldl_append ..

/-- the exception the loop body of `_set_fields` raises on one keyword, if any.  A keyword that raises none is assigned when it names
a field and passed over otherwise (forgiving mode): what `knownOnly` keeps. -/
def kwErr (c : ClassSpec) (valid : String → JVal → Bool) (fg : Bool) (p : String × JVal) : Option Err :=
  match guardCheck c.guard p.2 with
  | .error e => some e
  | .ok () =>
    if (names c).contains p.1 then (if valid p.1 p.2 then none else some "label")
    else if !c.strictFields && c.attrs.contains p.1 then some "unmodelled"
    else if fg then none
    else some c.unknownErr

theorem setFields_cons (c : ClassSpec) (valid) (fg : Bool) (p : String × JVal) (rest : List (String × JVal)) (x : Fields) :
    setFields c valid fg (p :: rest) x =
      (match kwErr c valid fg p with
      | some e => .error e
      | none => setFields c valid fg rest (applyAll (knownOnly c [p]) x)) ∧
    setFieldsIP c valid fg (p :: rest) x =
      (match kwErr c valid fg p with
      | some e => (x, some e)
      | none => setFieldsIP c valid fg rest (applyAll (knownOnly c [p]) x)) := by
  obtain ⟨k, v⟩ := p
  rw [setFields, setFieldsIP]; unfold kwErr
  cases guardCheck c.guard v with
  | error e => exact ⟨rfl, rfl⟩
  | ok u =>
    simp only [knownOnly, List.filter_cons, List.filter_nil]
    by_cases hk : (names c).contains k = true
    · simp only [if_pos hk]
      by_cases hv : valid k v = true
      · simp only [if_pos hv]; exact ⟨rfl, rfl⟩
      · simp only [if_neg hv, and_self]
    · simp only [if_neg hk]
      by_cases ha : (!c.strictFields && c.attrs.contains k) = true
      · simp only [if_pos ha, and_self]
      · simp only [if_neg ha]
        cases fg <;> exact ⟨rfl, rfl⟩

def Accepts (c : ClassSpec) (valid : String → JVal → Bool) (fg : Bool) (l : List (String × JVal)) : Prop :=
  ∀ p ∈ l, kwErr c valid fg p = none

theorem setFields_ok_iff (c : ClassSpec) (valid) (fg : Bool) (l : List (String × JVal)) (x y : Fields) :
    setFields c valid fg l x = .ok y ↔ Accepts c valid fg l ∧ y = applyAll (knownOnly c l) x := by
  induction l generalizing x with
  | nil => exact ⟨fun h => ⟨nofun, (Except.ok.inj h).symm⟩, fun h => by rw [h.2]; rfl⟩
  | cons p t ih =>
    rw [(setFields_cons ..).1, Accepts, List.forall_mem_cons]
    cases hp : kwErr c valid fg p with
    | some e => exact ⟨nofun, fun h => nomatch h.1.1⟩
    | none =>
      rw [ih, ← applyAll_knownOnly_append]
      exact ⟨fun h => ⟨⟨rfl, h.1⟩, h.2⟩, fun h => ⟨h.1.2, h.2⟩⟩

theorem setFieldsIP_eq (c : ClassSpec) (valid) (fg : Bool) (l : List (String × JVal)) (x : Fields) :
    (Accepts c valid fg l ∧ setFieldsIP c valid fg l x = (applyAll (knownOnly c l) x, none)) ∨
    ∃ pre bad post e, l = pre ++ bad :: post ∧ Accepts c valid fg pre ∧ kwErr c valid fg bad = some e ∧
      setFieldsIP c valid fg l x = (applyAll (knownOnly c pre) x, some e) := by
  induction l generalizing x with
  | nil => exact .inl ⟨nofun, rfl⟩
  | cons p t ih =>
    rw [(setFields_cons ..).2]
    cases hp : kwErr c valid fg p with
    | some e => exact .inr ⟨[], p, t, e, rfl, nofun, hp, rfl⟩
    | none =>
      rcases ih (applyAll (knownOnly c [p]) x) with ⟨h, hs⟩ | ⟨pre, bad, post, e, rfl, h, hb, hs⟩
      · exact .inl ⟨List.forall_mem_cons.2 ⟨hp, h⟩, by rw [hs, ← applyAll_knownOnly_append]; rfl⟩
      · exact .inr ⟨p :: pre, bad, post, e, rfl, List.forall_mem_cons.2 ⟨hp, h⟩, hb,
          by rw [hs, ← applyAll_knownOnly_append]; rfl⟩

theorem setFields_ok_get (c : ClassSpec) (valid) (fg : Bool) (l : List (String × JVal)) (x y : Fields)
    (h : setFields c valid fg l x = .ok y) :
    (∀ k, k ∉ l.map (·.1) → y k = x k) ∧
    ((l.map (·.1)).Nodup → ∀ k v, (k, v) ∈ l → k ∈ names c → y k = v) := by
  rw [((setFields_ok_iff c valid fg l x y).1 h).2]
  constructor
  · intro k hk
    exact applyAll_not_mem _ fun hm => hk ((List.filter_sublist.map _).subset hm)
  · intro hn k v hkv hk
    exact applyAll_mem _ (hn.sublist (List.filter_sublist.map _)) (List.mem_filter.2 ⟨hkv, by simpa using hk⟩)

/-- values of the documented domain of each guard.  Narrower than `guardCheck`, which also lets through what the setter merely
tolerates and no round trip is claimed for: `None` or a bool in a non-negative-int field, a list with an element that is not a
str in a str-or-list field, and the floats `nan`, `inf`, `-inf` (`json.dumps` writes them as `NaN` / `Infinity`, which is not JSON
and not what `render` writes; `nan` is not even equal to itself) -/
def inDomain (g : Guard) (v : JVal) : Bool :=
  match g, v with
  | .natOrNone, .int i => decide (0 ≤ i)
  | .str, .str _ => true
  | .strOrList, .str _ => true
  | .strOrList, .arr xs => xs.all isStr
  | .strOrStrList, .str _ => true
  | .strOrStrList, .arr xs => xs.all isStr
  | .strOrFloat, .str _ => true
  | .strOrFloat, .float r => !(["nan", "inf", "-inf"].contains r)
  | .bool, .bool _ => true
  | _, _ => false

theorem guard_of_inDomain {g : Guard} {v : JVal} (h : inDomain g v = true) : guardCheck g v = .ok () := by
  cases g <;> cases v <;> simp_all [inDomain, guardCheck]

theorem notNull_of_inDomain (g : Guard) (v : JVal) (h : inDomain g v = true) : v.isNull = false := by
  cases v with
  | null => cases g <;> cases h
  | _ => rfl

theorem construct_pair (c : ClassSpec) (valid : String → JVal → Bool) (a b : String) (va vb : JVal)
    (ha : a ∈ names c) (hb : b ∈ names c)
    (hva : inDomain c.guard va = true ∧ valid a va = true) (hvb : inDomain c.guard vb = true ∧ valid b vb = true) :
    construct c valid [(a, va), (b, vb)] = .ok (setF (setF (defaults c) a va) b vb) := by
  have ga := guard_of_inDomain hva.1
  have gb := guard_of_inDomain hvb.1
  have ca : (names c).contains a = true := by simpa using ha
  have cb : (names c).contains b = true := by simpa using hb
  simp only [construct, setFields, ga, gb, ca, cb, hva.2, hvb.2, if_true]

/-- a value of class `c`: every field holds its (dropped) default or a valid value of the documented domain;
nothing else is an instance attribute.  A default may lie outside the domain (`None` in most classes) because `to_json` never writes
it; under a rule that drops nothing (`keepAll`, Flags) it is written and must pass the guard on the way back, so there only the
second alternative is open -/
def WellTyped (c : ClassSpec) (valid : String → JVal → Bool) (x : Fields) : Prop :=
  (∀ f ∈ c.fields, (x f.name = f.dflt ∧ dropped c.drop f.dflt f.dflt = true) ∨
      (inDomain c.guard (x f.name) = true ∧ valid f.name (x f.name) = true)) ∧
  ∀ k, k ∉ names c → x k = .null

/-- lossless: empty text only for the all-default value, and otherwise the text reads back as `x` -/
def RoundTrips (c : ClassSpec) (valid : String → JVal → Bool) (x : Fields) : Prop :=
  (encode c x = none → x = defaults c) ∧
  (∀ j, encode c x = some j → decode c valid (some j) = .ok (some x))

theorem dfltOf_field (c : ClassSpec) (hn : (names c).Nodup) (f : FieldSpec) (hf : f ∈ c.fields) :
    dfltOf c f.name = f.dflt := by
  unfold dfltOf
  rw [List.find?_key_of_nodup FieldSpec.name hn hf]

theorem dfltOf_not_mem (c : ClassSpec) (k : String) (h : k ∉ names c) : dfltOf c k = .null := by
  unfold dfltOf names at *
  have : c.fields.find? (fun f => f.name == k) = none := by
    simp only [List.find?_eq_none]
    intro f hf e
    exact h (by simp at e; exact e ▸ List.mem_map_of_mem hf)
  simp [this]

theorem kept_keys_sublist (r : DropRule) (c : ClassSpec) (x : Fields) :
    ((keptBy r c x).map (·.1)).Sublist (names c) := by
  unfold keptBy names
  rw [List.map_map]
  exact (List.filter_sublist).map _

theorem kept_mem (r : DropRule) (c : ClassSpec) (x : Fields) (k : String) (v : JVal) :
    (k, v) ∈ keptBy r c x ↔ ∃ f ∈ c.fields, dropped r f.dflt (x f.name) = false ∧ k = f.name ∧ v = x f.name := by
  unfold keptBy
  simp only [List.mem_map, List.mem_filter, Bool.not_eq_true', Prod.mk.injEq]
  constructor
  · rintro ⟨f, ⟨hf, hd⟩, rfl, rfl⟩; exact ⟨f, hf, hd, rfl, rfl⟩
  · rintro ⟨f, hf, hd, rfl, rfl⟩; exact ⟨f, ⟨hf, hd⟩, rfl, rfl⟩

theorem keyLe_trans (a b c : String × JVal) : keyLe a b = true → keyLe b c = true → keyLe a c = true := by
  simp only [keyLe, decide_eq_true_eq]; exact String.le_trans

theorem keyLe_total (a b : String × JVal) : (keyLe a b || keyLe b a) = true := by
  simp only [keyLe, Bool.or_eq_true, decide_eq_true_eq]; exact String.le_total _ _

theorem sortKvs_mem (l : List (String × JVal)) (p) : p ∈ sortKvs l ↔ p ∈ l :=
  (List.mergeSort_perm l keyLe).mem_iff

theorem sortKvs_keys_nodup (l : List (String × JVal)) (h : (l.map (·.1)).Nodup) : ((sortKvs l).map (·.1)).Nodup :=
  ((List.mergeSort_perm l keyLe).map _).nodup_iff.2 h

/-- what `from_json` reads back from the encoding of `x` (`decode_encode`) -/
def readBack (c : ClassSpec) (x : Fields) : Fields := fun k =>
  if (keptBy c.drop c x).any (fun p => p.1 == k) then x k else dfltOf c k

theorem readBack_mem {c : ClassSpec} {x : Fields} {k : String} {v : JVal} (h : (k, v) ∈ keptBy c.drop c x) :
    readBack c x k = v := by
  obtain ⟨f, _, _, rfl, rfl⟩ := (kept_mem _ c x _ _).1 h
  exact if_pos (List.any_eq_true.2 ⟨_, h, beq_self_eq_true f.name⟩)

theorem readBack_not_mem {c : ClassSpec} {x : Fields} {k : String} (h : k ∉ (keptBy c.drop c x).map (·.1)) :
    readBack c x k = defaults c k :=
  if_neg fun hk => by
    obtain ⟨p, hp, e⟩ := List.any_eq_true.1 hk
    exact h (List.mem_map.2 ⟨p, hp, by simpa using e⟩)

theorem readBack_field (c : ClassSpec) (hn : (names c).Nodup) (x : Fields) (f : FieldSpec) (hf : f ∈ c.fields) :
    readBack c x f.name = if dropped c.drop f.dflt (x f.name) = true then f.dflt else x f.name := by
  cases hd : dropped c.drop f.dflt (x f.name)
  · exact readBack_mem ((kept_mem _ c x _ _).2 ⟨f, hf, hd, rfl, rfl⟩)
  · refine (readBack_not_mem fun h => ?_).trans (dfltOf_field c hn f hf)
    -- a kept item with this key would be the item of `f`
    obtain ⟨⟨k, v⟩, hp, hk⟩ := List.mem_map.1 h
    obtain ⟨g, hg, hgd, rfl, rfl⟩ := (kept_mem _ c x _ _).1 hp
    obtain rfl : g = f := List.eq_of_nodup_map FieldSpec.name hn hg hf hk
    rw [hd] at hgd; cases hgd

theorem readBack_other (c : ClassSpec) (x : Fields) (k : String) (hk : k ∉ names c) : readBack c x k = .null :=
  (readBack_not_mem fun h => hk ((kept_keys_sublist _ c x).subset h)).trans (dfltOf_not_mem c k hk)

theorem readBack_kept_nil (c : ClassSpec) (x : Fields) (h : keptBy c.drop c x = []) : readBack c x = defaults c :=
  funext fun k => readBack_not_mem (by simp [h])

/-- the kept items of `x` in any order: `from_json` gets them sorted, `Cls(**x.to_dict())` in field order -/
theorem setFields_kept (c : ClassSpec) (valid) (fg : Bool) (x : Fields) (hx : WellTyped c valid x) (l : List (String × JVal))
    (hl : ∀ p, p ∈ l ↔ p ∈ keptBy c.drop c x) (hnd : (l.map (·.1)).Nodup) :
    setFields c valid fg l (defaults c) = .ok (readBack c x) := by
  have hfield : ∀ p ∈ l, (names c).contains p.1 = true ∧ kwErr c valid fg p = none := by
    rintro ⟨k, v⟩ hp
    obtain ⟨f, hf, hd, rfl, rfl⟩ := (kept_mem _ c x _ _).1 ((hl _).1 hp)
    have hk : (names c).contains f.name = true := by simpa [names] using List.mem_map_of_mem hf
    rcases hx.1 f hf with ⟨he, hdd⟩ | ⟨hdom, hv⟩
    · rw [he, hdd] at hd; cases hd
    · exact ⟨hk, by simp only [kwErr, guard_of_inDomain hdom, hk, hv, if_true]⟩
  rw [setFields_ok_iff, knownOnly, List.filter_eq_self.2 fun p hp => (hfield p hp).1]
  refine ⟨fun p hp => (hfield p hp).2, funext fun k => ?_⟩
  by_cases hk : k ∈ l.map (·.1)
  · obtain ⟨⟨k', v⟩, hp, rfl⟩ := List.mem_map.1 hk
    rw [applyAll_mem _ hnd hp, readBack_mem ((hl _).1 hp)]
  · rw [applyAll_not_mem _ hk, readBack_not_mem fun h => hk ?_]
    obtain ⟨p, hp, e⟩ := List.mem_map.1 h
    exact List.mem_map.2 ⟨p, (hl _).2 hp, e⟩

end FimVerif.Codec

namespace FimVerif.C03
open FimVerif FimVerif.Codec JVal

/-- no field holds a value that `to_json` drops although it differs from the default -/
def NoLoss (c : ClassSpec) (x : Fields) : Prop :=
  ∀ f ∈ c.fields, dropped c.drop f.dflt (x f.name) = true → x f.name = f.dflt

theorem encode_none_iff (c : ClassSpec) (x : Fields) :
    encode c x = none ↔ keptBy c.drop c x = [] ∧ c.drop ≠ .keepAll := by
  unfold encode
  cases hk : keptBy c.drop c x <;> cases hd : c.drop <;> simp

theorem encode_some (c : ClassSpec) (x : Fields) (j : JVal) (h : encode c x = some j) :
    j = .obj (sortKvs (keptBy c.drop c x)) := by
  simp only [encode] at h
  split at h
  · cases h
  · exact (Option.some.inj h).symm

theorem decode_encode (c : ClassSpec) (valid) (hn : (names c).Nodup) (x : Fields) (hx : WellTyped c valid x) (j : JVal)
    (he : encode c x = some j) : decode c valid (some j) = .ok (some (readBack c x)) := by
  have hl : ∀ p, p ∈ knownOnly c (sortKvs (keptBy c.drop c x)) ↔ p ∈ keptBy c.drop c x := by
    intro p
    rw [knownOnly, List.mem_filter, sortKvs_mem]
    exact ⟨fun h => h.1, fun h => ⟨h, by simpa using (kept_keys_sublist _ c x).subset (List.mem_map_of_mem h)⟩⟩
  simp only [encode_some c x j he, decode, setFields_kept c valid true x hx _ hl
    ((sortKvs_keys_nodup _ ((kept_keys_sublist _ c x).nodup hn)).sublist (List.filter_sublist.map _))]

theorem readBack_eq_iff (c : ClassSpec) (valid) (hn : (names c).Nodup) (x : Fields) (hx : WellTyped c valid x) :
    readBack c x = x ↔ NoLoss c x := by
  constructor
  · intro h f hf hd
    have := congrFun h f.name
    rw [readBack_field c hn x f hf, if_pos hd] at this
    exact this.symm
  · intro h
    funext k
    by_cases hk : k ∈ names c
    · obtain ⟨f, hf, rfl⟩ := List.mem_map.1 hk
      rw [readBack_field c hn x f hf]
      split
      · rename_i hd; exact (h f hf hd).symm
      · rfl
    · rw [readBack_other c x k hk, hx.2 k hk]

/-- what the translator must have emitted for the per-class corollaries (decided on the generated specs): every
default is `None` (and then the class does not combine the `== 0` drop rule with int, bool or float fields),
or `0` in an int class, or `False` in a bool class -/
def SpecSane (c : ClassSpec) : Bool :=
  c.fields.all fun f =>
    (f.dflt == .null && (c.drop != .noneOrZero || c.guard == .str || c.guard == .strOrList || c.guard == .strOrStrList)) ||
    (f.dflt == .int 0 && c.guard == .natOrNone) || (f.dflt == .bool false && c.guard == .bool)

/-- `hs` is what `SpecSane` says of one field -/
theorem noLoss_field (g : Guard) (r : DropRule) (d v : JVal)
    (hs : ((d == .null && (r != .noneOrZero || g == .str || g == .strOrList || g == .strOrStrList)) ||
      (d == .int 0 && g == .natOrNone) || (d == .bool false && g == .bool)) = true)
    (hv : inDomain g v = true) (hd : dropped r d v = true) : v = d := by
  have hnn := notNull_of_inDomain g v hv
  simp only [Bool.or_eq_true, Bool.and_eq_true, beq_iff_eq, bne_iff_ne] at hs
  rcases hs with (⟨rfl, h⟩ | ⟨rfl, rfl⟩) | ⟨rfl, rfl⟩
  · -- default `None`: a value of the domain is not `None`, so only the `== 0` rule can drop it, and no str or list is `== 0`
    cases r <;> simp [dropped, pyEqDflt, hnn] at hd
    rcases h with ((h | rfl) | rfl) | rfl
    · exact absurd rfl h
    all_goals cases v <;> simp_all [inDomain, pyEqZero]
  -- default `0` / `False`: the only domain value that is `== 0` is the default
  all_goals
    cases v <;> simp_all [inDomain]
    cases r <;> simp_all [dropped, pyEqDflt, pyEqZero, isNull]

def DefaultsDropped (c : ClassSpec) : Bool :=
  c.drop == .keepAll || c.fields.all fun f => dropped c.drop f.dflt f.dflt

theorem keptBy_readBack (c : ClassSpec) (hn : (names c).Nodup) (hdd : DefaultsDropped c = true) (x : Fields) :
    keptBy c.drop c (readBack c x) = keptBy c.drop c x := by
  -- a dropped field reads back as its default, which is dropped again; a kept field reads back as itself
  have hdrop : ∀ f ∈ c.fields, dropped c.drop f.dflt (readBack c x f.name) = dropped c.drop f.dflt (x f.name) := by
    intro f hf
    rw [readBack_field c hn x f hf]
    split
    · rename_i hd
      simp only [DefaultsDropped, Bool.or_eq_true, beq_iff_eq, List.all_eq_true] at hdd
      rcases hdd with h | h
      · rw [h] at hd; cases hd
      · rw [hd]; exact h f hf
    · rfl
  unfold keptBy
  rw [List.filter_congr fun f hf => by rw [hdrop f hf]]
  apply List.map_congr_left
  intro f hf
  obtain ⟨hf, hd⟩ := List.mem_filter.1 hf
  rw [readBack_field c hn x f hf, if_neg (by simpa using hd)]

theorem wellTyped_defaults (c : ClassSpec) (valid) (hn : (names c).Nodup)
    (hd : ∀ f ∈ c.fields, dropped c.drop f.dflt f.dflt = true) : WellTyped c valid (defaults c) :=
  ⟨fun f hf => Or.inl ⟨dfltOf_field c hn f hf, hd f hf⟩, fun k hk => dfltOf_not_mem c k hk⟩

theorem wellTyped_setF (c : ClassSpec) (valid) (x : Fields) (hx : WellTyped c valid x) (k : String) (v : JVal)
    (hk : k ∈ names c) (hv : inDomain c.guard v = true ∧ valid k v = true) : WellTyped c valid (setF x k v) := by
  constructor
  · intro f hf
    by_cases h : f.name = k
    · rw [h, setF_same]; exact .inr hv
    · rw [setF_other h]; exact hx.1 f hf
  · intro k' hk'
    rw [setF_other (by rintro rfl; exact hk' hk)]; exact hx.2 k' hk'

/-- every generated class spec satisfies the side conditions of the generic theorems -/
theorem specs_sane : ∀ c ∈ Gen.Fields.all, (names c).Nodup ∧ SpecSane c = true ∧ DefaultsDropped c = true := by decide +kernel

end FimVerif.C03
