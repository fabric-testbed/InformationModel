import FimVerif.Proofs.Lemmas.C19Hom
/-!
C19, data-independence up to leaks (the guarded, `_partial` form of the property): rendering ANY template looks at no stored value
other than the ones its `leaks` name (`render_eraseExcept`).  A value-free template leaks nothing and `eraseExcept []` is `erase`:
`render_erase`, the full form.
-/
namespace FimVerif.Cypher

/-- `Env.eraseExcept L` blanks every stored value whose name is not in `L`, pair by pair; the field `f` of a mapping row goes by the
name `row.<f>` (`pre`) -/
def keepOne (L : List Text) (pre : Text) (p : Text × Text) : Text × Text :=
  if L.contains (pre ++ p.1) then p else (p.1, [])
def keepVals (L : List Text) (pre : Text) (l : List (Text × Text)) : List (Text × Text) := l.map (keepOne L pre)
def Row.eraseExcept (L : List Text) (r : Row) : Row := ⟨r.idents, keepVals L t!"row." r.values⟩
def Env.eraseExcept (L : List Text) (e : Env) : Env :=
  ⟨e.idents, keepVals L [] e.values, e.maps.map (fun p => (p.1, p.2.map (Row.eraseExcept L)))⟩

variable (L : List Text)

theorem keepOne_fst (pre : Text) (p : Text × Text) : (keepOne L pre p).1 = p.1 := by
  unfold keepOne; split <;> rfl

theorem get_keepVals (pre : Text) (l : List (Text × Text)) {x : Text} (hx : L.contains (pre ++ x) = true) :
    get (keepVals L pre l) x = get l x := by
  unfold get keepVals
  induction l with
  | nil => rfl
  | cons p ps ih =>
    simp only [List.map_cons, List.find?_cons, keepOne_fst]
    cases hp : (p.1 == x) with
    | true =>
      have hpx : p.1 = x := by simpa using hp
      have : keepOne L pre p = p := by unfold keepOne; rw [hpx, hx]; rfl
      simp only [this]
    | false => simpa using ih

theorem keepVals_fst (pre : Text) (l : List (Text × Text)) :
    (keepVals L pre l).map Prod.fst = l.map Prod.fst := by
  unfold keepVals
  rw [List.map_map]
  apply List.map_congr_left
  intro p _
  exact keepOne_fst L pre p

/-- rows (environments) that rendering cannot tell apart when it reads no stored value outside `L` -/
def RowSimL (L : List Text) (r1 r2 : Row) : Prop :=
  r1.idents = r2.idents ∧ r1.values.map Prod.fst = r2.values.map Prod.fst ∧
  ∀ f, L.contains (t!"row." ++ f) = true → get r1.values f = get r2.values f

def EnvSimL (L : List Text) (e1 e2 : Env) : Prop :=
  e1.idents = e2.idents ∧ ∀ x, L.contains x = true → get e1.values x = get e2.values x

theorem getMap_eraseExcept (e : Env) (m : Text) : getMap (e.eraseExcept L) m = (getMap e m).map (Row.eraseExcept L) :=
  getMap_mapRows rfl m

theorem argRows_eraseExcept (e : Env) (src : MapSrc) :
    argRows (e.eraseExcept L) src = (argRows e src).map (Row.eraseExcept L) :=
  argRows_mapRows rfl src

variable {L}

theorem Row.has_simL {r1 r2 : Row} (h : RowSimL L r1 r2) (f : Text) : r1.has f = r2.has f := by
  have any_fst : ∀ l : List (Text × Text), l.any (fun p => p.1 == f) = (l.map Prod.fst).any (fun x => x == f) := by
    simp [List.any_map, Function.comp_def]
  unfold Row.has
  rw [any_fst r1.values, any_fst r2.values, h.1, h.2.1]

theorem RowSimL.refl (r : Row) : RowSimL L r r := ⟨rfl, rfl, fun _ _ => rfl⟩

theorem RowSimL.eraseExcept (L : List Text) (r : Row) : RowSimL L r (r.eraseExcept L) :=
  ⟨rfl, (keepVals_fst L _ r.values).symm, fun _ hf => (get_keepVals L _ _ hf).symm⟩

theorem EnvSimL.eraseExcept (L : List Text) (e : Env) : EnvSimL L e (e.eraseExcept L) :=
  ⟨rfl, fun _ hx => (get_keepVals L [] _ hx).symm⟩

theorem Atom.render_simL {a : Atom} (ha : ∀ x ∈ a.leaks, L.contains x = true) {e1 e2 : Env} (he : EnvSimL L e1 e2)
    {r1 r2 : Row} (hr : RowSimL L r1 r2) : a.render e1 r1 = a.render e2 r2 := by
  cases a with
  | lit s => rfl
  | param x => rfl
  | ident x => simp [Atom.render, he.1]
  | value x => exact he.2 x (ha x (by simp [Atom.leaks]))
  | rowIdent f => simp [Atom.render, hr.1]
  | rowValue f => exact hr.2.2 f (ha _ (by simp [Atom.leaks]))

theorem renderAtoms_simL {as : List Atom} (ha : ∀ x ∈ as.flatMap Atom.leaks, L.contains x = true)
    {e1 e2 : Env} (he : EnvSimL L e1 e2) {r1 r2 : Row} (hr : RowSimL L r1 r2) :
    renderAtoms e1 r1 as = renderAtoms e2 r2 as :=
  renderAtoms_hom flatten_id fun a hmem => Atom.render_simL (fun x hx => ha x (List.mem_flatMap.mpr ⟨a, hmem, hx⟩)) he hr

theorem renderInner_simL {body : List Inner} (hb : ∀ x ∈ body.flatMap Inner.leaks, L.contains x = true)
    {e1 e2 : Env} (he : EnvSimL L e1 e2) {r1 r2 : Row} (hr : RowSimL L r1 r2) :
    renderInner e1 r1 body = renderInner e2 r2 body :=
  renderInner_hom flatten_id (Row.has_simL hr) fun i hi a ha =>
    Atom.render_simL (fun x hx => hb x (List.mem_flatMap.mpr ⟨i, hi, Inner.mem_leaks.mpr ⟨a, ha, hx⟩⟩)) he hr

theorem Piece.render_eraseExcept {p : Piece} (hp : ∀ x ∈ p.leaks, L.contains x = true) (e : Env) :
    p.render e = p.render (e.eraseExcept L) := by
  have he := EnvSimL.eraseExcept L e
  cases p with
  | atom a => exact Atom.render_simL hp he (.refl emptyRow)
  | rep src mode body =>
    have hb : ∀ x ∈ body.flatMap Inner.leaks, L.contains x = true := fun x hx => hp x (List.mem_append_right _ hx)
    -- `eraseExcept` keeps the identifiers of a row, so the same caller rows override / follow the literal's entries
    have hk : ∀ r : Row, (r.eraseExcept L).idents = r.idents := fun _ => rfl
    simp only [Piece.render, rows, argRows_eraseExcept, List.map_append, List.map_map, List.find?_map, List.filter_map,
      Function.comp_def, hk]
    congr 2
    · refine List.map_congr_left fun kv hkv => ?_
      cases List.find? (fun r : Row => get r.idents t!"k" == kv.1) (argRows e src) with
      | none =>
        rw [Option.map_none, ← renderAtoms_simL (fun x hx => hp x (List.mem_append_left _ (List.mem_flatMap.mpr ⟨kv, hkv, hx⟩))) he
          (.refl emptyRow)]
        exact renderInner_simL hb he (.refl _)
      | some r => exact renderInner_simL hb he (RowSimL.eraseExcept L r)
    · exact List.map_congr_left fun r _ => renderInner_simL hb he (RowSimL.eraseExcept L r)

theorem render_eraseExcept (t : List Piece) (e : Env) : render e t = render (e.eraseExcept (leaks t)) t :=
  congrArg List.flatten (List.map_congr_left fun p hmem => Piece.render_eraseExcept (fun _ hx =>
    List.contains_iff_mem.mpr (List.mem_eraseDups.2 (List.mem_flatMap.mpr ⟨p, hmem, hx⟩))) e)

theorem keepVals_nil (pre : Text) (l : List (Text × Text)) : keepVals [] pre l = l.map (fun p => (p.1, [])) := rfl

theorem Row.eraseExcept_nil (r : Row) : r.eraseExcept [] = r.erase := rfl

theorem Env.eraseExcept_nil (e : Env) : e.eraseExcept [] = e.erase := rfl

theorem Atom.leaks_nil {a : Atom} (h : a.vf = true) : a.leaks = [] := by
  cases a <;> simp_all [Atom.vf, Atom.leaks]

theorem atoms_leaks_nil {as : List Atom} (h : as.all Atom.vf = true) : as.flatMap Atom.leaks = [] :=
  List.flatMap_eq_nil_iff.mpr fun a ha => Atom.leaks_nil (List.all_eq_true.mp h a ha)

theorem Inner.leaks_nil {i : Inner} (h : i.vf = true) : i.leaks = [] := by
  cases i with
  | atom a => exact Atom.leaks_nil h
  | opt fs body => exact atoms_leaks_nil h

theorem Piece.leaks_nil {p : Piece} (h : p.vf = true) : p.leaks = [] := by
  cases p with
  | atom a => exact Atom.leaks_nil h
  | rep src mode body =>
    simp only [Piece.vf, Bool.and_eq_true] at h
    simp only [Piece.leaks, List.append_eq_nil_iff, List.flatMap_eq_nil_iff]
    exact ⟨fun kv hkv a ha => Atom.leaks_nil (List.all_eq_true.mp (List.all_eq_true.mp h.2 kv hkv) a ha),
      fun i hi => Inner.leaks_nil (List.all_eq_true.mp h.1 i hi)⟩

theorem leaks_nil {t : List Piece} (h : valueFree t = true) : leaks t = [] := by
  have : t.flatMap Piece.leaks = [] :=
    List.flatMap_eq_nil_iff.mpr fun p hp => Piece.leaks_nil (List.all_eq_true.mp h p hp)
  rw [leaks, this]; rfl

theorem render_erase {t : List Piece} (ht : valueFree t = true) (e : Env) : render e t = render e.erase t := by
  rw [render_eraseExcept t e, leaks_nil ht, Env.eraseExcept_nil]

end FimVerif.Cypher
