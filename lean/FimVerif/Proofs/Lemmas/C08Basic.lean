import FimVerif.Model.Remove
import FimVerif.Proofs.Lemmas.ListAux
import FimVerif.Proofs.Lemmas.ExceptAux
/-! Shared by both exactness developments of C08 (under separation hypotheses `Sep*`; under the invariant `WF` / `InvA`): `G.minus`, and
the frame: every removal operation of the model only takes elements away (`Shrinks`). -/
namespace FimVerif.Remove

theorem contains_false {A : List Nat} {x : Nat} (h : x ∉ A) : A.contains x = false := by
  simpa [List.contains_eq_mem] using h

theorem not_contains {A : List Nat} {x : Nat} (h : x ∉ A) : (!A.contains x) = true := by
  rw [contains_false h]; rfl

theorem bind_eq {α β : Type} (m : Except Err α) (f : α → Except Err β) : (m >>= f) = m.bind f := rfl

theorem ok_of_ite {α : Type} {c : Prop} [Decidable c] {m : Except Err α} {e : Err} {a : α}
    (h : (if c then m else .error e) = .ok a) : m = .ok a := by
  split at h
  · exact h
  · cases h

theorem minus_minus (g : G) (A B : List Nat) : (g.minus A).minus B = g.minus (A ++ B) := by
  simp only [G.minus, List.filter_filter, G.mk.injEq]
  constructor
  · apply List.filter_congr; intro n _; simp [List.contains_eq_mem, Bool.and_comm]
  · apply List.filter_congr; intro e _; simp [List.contains_eq_mem]; grind

theorem minus_nil (g : G) : g.minus [] = g := by
  cases g; simp [G.minus]

theorem minus_congr {g : G} {A B : List Nat} (h : ∀ y, y ∈ A ↔ y ∈ B) : g.minus A = g.minus B := by
  have : ∀ y, A.contains y = B.contains y := fun y => by simp only [List.contains_eq_mem, h y]
  simp only [G.minus, this]

theorem find_minus (g : G) (D : List Nat) (x : Nat) :
    (g.minus D).find x = if D.contains x then none else g.find x := by
  simp only [G.find, G.minus, List.find?_filter]
  split
  · rename_i h
    rw [List.find?_eq_none]; intro n _; simp; intro hn hx; subst hx; simp_all
  · rename_i h
    apply List.find?_congr'; intro n _
    by_cases hx : n.id = x
    · subst hx; simp_all
    · simp [hx]

theorem has_minus (g : G) (D : List Nat) (x : Nat) : (g.minus D).has x = (!D.contains x && g.has x) := by
  simp only [G.has, find_minus]; split <;> simp_all

theorem cls_has {g : G} {x : Nat} {c : Cls} (h : g.cls? x = some c) : g.has x = true := by
  simp only [G.cls?, G.has] at h ⊢; cases hf : g.find x <;> simp_all

theorem cls_ne_link {g : G} {x : Nat} {k : Cls} (h : g.cls? x = some k) (hk : k ≠ .link := by decide) :
    g.cls? x ≠ some .link := by
  rw [h]
  exact fun e => hk (Option.some.inj e)

theorem deleteAll_minus (g : G) (L : List Nat) (hp : ∀ x ∈ L, g.has x = true) (hn : L.Nodup) :
    deleteAll g L = .ok (g.minus L) := by
  induction L generalizing g with
  | nil => simp [deleteAll, minus_nil]; rfl
  | cons x xs ih =>
    have hx : g.has x = true := hp x (by simp)
    simp only [deleteAll, List.foldlM_cons, delNode, hx, ite_true]
    have := ih (g.minus [x]) (by
      intro y hy; rw [has_minus]; simp
      constructor
      · intro h; subst h; exact (List.nodup_cons.mp hn).1 hy
      · exact hp y (by simp [hy])) (List.nodup_cons.mp hn).2
    simp only [deleteAll] at this
    simp only [bind, Except.bind]
    rw [this, minus_minus]; rfl

/-- `g'` is `g` with some elements, and exactly the edges touching them, taken away: survivors and the edges between them are
literally the old ones -/
def Shrinks (g g' : G) : Prop := ∃ D, g' = g.minus D

theorem Shrinks.refl (g : G) : Shrinks g g := ⟨[], (minus_nil g).symm⟩

theorem Shrinks.trans {a b c : G} (h1 : Shrinks a b) (h2 : Shrinks b c) : Shrinks a c := by
  obtain ⟨D1, rfl⟩ := h1; obtain ⟨D2, rfl⟩ := h2
  exact ⟨D1 ++ D2, minus_minus a D1 D2⟩

theorem Shrinks.minus (g : G) (D : List Nat) : Shrinks g (g.minus D) := ⟨D, rfl⟩

theorem Shrinks.find_eq {g g' : G} (h : Shrinks g g') {x : Nat} (hx : g'.has x = true) : g'.find x = g.find x := by
  obtain ⟨D, rfl⟩ := h
  rw [has_minus] at hx
  rw [find_minus]
  cases hD : D.contains x
  · rfl
  · rw [hD] at hx; cases hx

theorem foldlM_shrinks {α : Type} {f : G → α → Except Err G} (hf : ∀ {g a g'}, f g a = .ok g' → Shrinks g g') :
    ∀ {l : List α} {g g' : G}, l.foldlM f g = .ok g' → Shrinks g g' := by
  intro l
  induction l with
  | nil => intro g g' h; cases h; exact Shrinks.refl g
  | cons a l ih =>
    intro g g' h
    obtain ⟨g1, h1, h2⟩ := Except.bind_eq_ok_iff.1 h
    exact (hf h1).trans (ih h2)

theorem delNode_shrinks {g g' : G} {x : Nat} (h : delNode g x = .ok g') : Shrinks g g' := by
  cases ok_of_ite h; exact Shrinks.minus g [x]

theorem deleteAll_shrinks {g g' : G} {L : List Nat} (h : deleteAll g L = .ok g') : Shrinks g g' :=
  foldlM_shrinks delNode_shrinks h

theorem removeCp_shrinks {g g' : G} {x : Nat} {dp : Bool} (h : removeCp g x dp = .ok g') : Shrinks g g' :=
  deleteAll_shrinks (ok_of_ite h)

theorem removeNs_shrinks {g g' : G} {x : Nat} (h : removeNs g x = .ok g') : Shrinks g g' :=
  (Shrinks.minus g [x]).trans (foldlM_shrinks removeCp_shrinks (ok_of_ite h))

theorem removeComp_shrinks {g g' : G} {x : Nat} (h : removeComp g x = .ok g') : Shrinks g g' :=
  (Shrinks.minus g [x]).trans (foldlM_shrinks removeNs_shrinks (ok_of_ite h))

theorem removeNodeG_shrinks {g g' : G} {x : Nat} (h : removeNodeG g x = .ok g') : Shrinks g g' := by
  obtain ⟨g1, h1, h2⟩ := Except.bind_eq_ok_iff.1 (ok_of_ite h)
  exact (foldlM_shrinks removeComp_shrinks h1).trans
    ((Shrinks.minus g1 [x]).trans (foldlM_shrinks removeNs_shrinks h2))

theorem removeLinkG_shrinks {g g' : G} {x : Nat} (h : removeLinkG g x = .ok g') : Shrinks g g' := by
  cases ok_of_ite h; exact Shrinks.minus g [x]

theorem disconnectG_shrinks {g : G} {i : Nat} {r : G × Option Nat} (h : disconnectG g i = .ok r) : Shrinks g r.1 := by
  have h := ok_of_ite h
  split at h
  · cases h; exact Shrinks.refl g
  · obtain ⟨a, ha, rfl⟩ := Except.map_eq_ok_iff.1 h; exact removeCp_shrinks ha
  · cases h

theorem disconnectStep_shrinks {g g' : G} {i : Nat} (h : disconnectStep g i = .ok g') : Shrinks g g' := by
  unfold disconnectStep at h
  split at h
  · cases h; exact Shrinks.refl g
  · obtain ⟨a, ha, rfl⟩ := Except.map_eq_ok_iff.1 (ok_of_ite h); exact disconnectG_shrinks ha
  · cases h

theorem disconnectDeep_shrinks {g g' : G} {ifs : List Nat} (h : disconnectDeep g ifs = .ok g') : Shrinks g g' :=
  foldlM_shrinks disconnectStep_shrinks h

/-- a user-level call: `_disconnect_interfaces`, then a removal -/
theorem api_shrinks {g g' : G} {ifs : List Nat} {rem : G → Except Err G} (hrem : ∀ {g1 g'}, rem g1 = .ok g' → Shrinks g1 g')
    (h : (disconnectDeep g ifs >>= rem) = .ok g') : Shrinks g g' := by
  obtain ⟨g1, h1, h2⟩ := Except.bind_eq_ok_iff.1 h
  exact (disconnectDeep_shrinks h1).trans (hrem h2)

theorem removeNsApi_shrinks {g g' : G} {s : Nat} (h : removeNsApi g s = .ok g') : Shrinks g g' :=
  api_shrinks removeNs_shrinks (ok_of_ite h)

theorem removeLinkApi_shrinks {g g' : G} {l : Nat} (h : removeLinkApi g l = .ok g') : Shrinks g g' :=
  (Shrinks.minus g [l]).trans (foldlM_shrinks removeCp_shrinks (ok_of_ite h))

theorem removeNodeApi_shrinks {g g' : G} {n : Nat} (h : removeNodeApi g n = .ok g') : Shrinks g g' :=
  api_shrinks removeNodeG_shrinks (ok_of_ite h)

theorem removeFacilityApi_shrinks {g g' : G} {n : Nat} (h : removeFacilityApi g n = .ok g') : Shrinks g g' :=
  api_shrinks removeNodeG_shrinks (ok_of_ite h)

theorem removeSwitchApi_shrinks {g g' : G} {n : Nat} (h : removeSwitchApi g n = .ok g') : Shrinks g g' :=
  removeNodeApi_shrinks (ok_of_ite h)

theorem removeComponentApi_shrinks {g g' : G} {c : Nat} (h : removeComponentApi g c = .ok g') : Shrinks g g' :=
  api_shrinks removeComp_shrinks (ok_of_ite h)

theorem removeChild_shrinks {g : G} {hl : List IfH} {p c : Nat} {r : G × List IfH} (h : removeChild g hl p c = .ok r) :
    Shrinks g r.1 := by
  obtain ⟨g1, h1, h2⟩ := Except.bind_eq_ok_iff.1 (ok_of_ite h)
  obtain ⟨a, ha, rfl⟩ := Except.map_eq_ok_iff.1 h2
  exact (disconnectDeep_shrinks h1).trans (removeCp_shrinks ha)

theorem unpeer_shrinks {g : G} {ha hb : List IfH} {r : G × List IfH × List IfH} (h : unpeer g ha hb = .ok r) : Shrinks g r.1 := by
  unfold unpeer at h; split at h
  · cases h
  · obtain ⟨g1, h1, h2⟩ := Except.bind_eq_ok_iff.1 h
    obtain ⟨g2, h3, h4⟩ := Except.bind_eq_ok_iff.1 h2
    cases h4
    exact (removeCp_shrinks h1).trans (removeCp_shrinks h3)

theorem guarded_shrinks {f : G → Nat → Except Err G} (hf : ∀ {g a g'}, f g a = .ok g' → Shrinks g g') {g g' : G} {a : Nat}
    (h : (if g.has a then f g a else .ok g) = .ok g') : Shrinks g g' := by
  split at h
  · exact hf h
  · cases h; exact Shrinks.refl g

theorem prune_shrinks {g g' : G} {ns cs ss is : List Nat} (h : prune g ns cs ss is = .ok g') : Shrinks g g' := by
  unfold prune at h
  obtain ⟨g1, h1, h⟩ := Except.bind_eq_ok_iff.1 h
  obtain ⟨g2, h2, h⟩ := Except.bind_eq_ok_iff.1 h
  obtain ⟨g3, h3, h⟩ := Except.bind_eq_ok_iff.1 h
  exact (foldlM_shrinks removeNodeApi_shrinks h1).trans
    ((foldlM_shrinks (guarded_shrinks removeComponentApi_shrinks) h2).trans
    ((foldlM_shrinks (guarded_shrinks removeNsApi_shrinks) h3).trans
     (foldlM_shrinks (guarded_shrinks (api_shrinks removeCp_shrinks)) h)))

end FimVerif.Remove
