import FimVerif.Proofs.Lemmas.C08Full
import FimVerif.Proofs.Lemmas.C08Handle
/-! `WF` development.  The calls that are not instances of `api_res` (`remove_link`, `remove_child_interface`, `disconnect_interface`,
`unpeer`), under `WF` alone; those that go through a handle, with the cache they leave. -/
namespace FimVerif.Remove

/-- the loop of `remove_link` over the ServicePorts `ps` of the link `l`, which is gone already: each port goes alone -/
theorem seqSp (g : G) (hP : InvPeer g = true) (l : Nat) (ps A : List Nat) (hl : l ∈ A) (hnd : ps.Nodup)
    (hps : ∀ p ∈ ps, g.cls? p = some .cp ∧ g.kind? p = some kServicePort ∧ l ∈ g.nbrs p .connects .link ∧ p ∉ A) :
    ps.foldlM (fun g p => removeCp g p true) (g.minus A) = .ok (g.minus (A ++ ps)) := by
  induction ps generalizing A with
  | nil => simp [List.foldlM_nil, pure, Except.pure]
  | cons p ps ih =>
    obtain ⟨hpc, hpk, hlp, hpA⟩ := hps p (by simp)
    have hcpn := sp_cps hP hpc hpk
    have hlk := link_eq hP hpc hlp
    have hsep : SepFam g A p = true := sepFam_iff.mpr ⟨hpA, fun q hq => by rw [hcpn] at hq; cases hq⟩
    have hdel : cpDelA g A p true = [p] := by
      simp [cpDelA, cpFamily, hcpn, cpLinksA, hlk, List.contains_eq_mem, hl, dedup]
    have hnd' := List.nodup_cons.mp hnd
    simp only [List.foldlM_cons, removeCp_after' (cls_has hpc) hsep, hdel, bind, Except.bind]
    rw [ih (A ++ [p]) (List.mem_append_left _ hl) hnd'.2 (by
      intro q hq
      obtain ⟨h1, h2, h3, h4⟩ := hps q (List.mem_cons_of_mem _ hq)
      refine ⟨h1, h2, h3, ?_⟩
      simp only [List.mem_append, List.mem_singleton, not_or]
      exact ⟨h4, fun h => hnd'.1 (h ▸ hq)⟩)]
    simp [List.append_assoc]

theorem removeLinkApi_wf (g : G) (hW : WF g = true) (l : Nat) (hc : g.cls? l = some .link) :
    removeLinkApi g l = .ok (g.minus (l :: spEnds g l)) := by
  simp only [removeLinkApi, hc, beq_self_eq_true, ite_true]
  have := seqSp g (wf_peer hW) l (spEnds g l) [l] (by simp) ((wf_nodup hW hc).filter _) (by
    intro p hp
    rw [mem_spEnds] at hp
    refine ⟨mem_nbrs_cls hp.1, hp.2, nbrs_symm hp.1 hc, ?_⟩
    simp only [List.mem_singleton]; rintro rfl
    have := mem_nbrs_cls hp.1; rw [hc] at this; cases this)
  simpa [spEnds] using this

theorem removeChild_wf (g : G) (hW : WF g = true) (h : List IfH) (p c : Nat) (hk : g.kind? p = some kDedicatedPort)
    (hpc : g.cls? p = some .cp) (hps : isSub g p = false) (hcp : c ∈ g.nbrs p .connects .cp) :
    ∃ D, removeChild g h p c = .ok (g.minus D, hDrop h c) ∧ (∀ y, y ∈ D ↔ OwnedS g [c] y) ∧ p ∉ D ∧
      ∀ y ∈ g.nbrs p .connects .cp, (y ∈ D ↔ y = c) := by
  have hI := wf_cp hW
  have hcn := child_nbrs hI hpc hps hcp
  have hcs := child_sub hI hpc hps hcp
  have hcc := mem_nbrs_cls hcp
  have hws := withSubs_of_ne (wf_sub hW hcc hcs)
  -- the port removed for `c` is a ServicePort on a service: neither a sub-interface (`c`, its siblings) nor a DedicatedPort (`p`)
  have hnp : ∀ q, isSub g q = true ∨ g.kind? q = some kDedicatedPort → ¬ PortOf g c q := by
    intro q hsub h
    rcases hsub with hsub | hsub
    · rw [sp_not_sub hW h.port_cls h.port_kind] at hsub; cases hsub
    · rw [h.port_kind] at hsub; cases hsub
  -- the disconnect step, then `c` alone
  obtain ⟨D, hr, _, hnl, hOK⟩ := Res.bind (k := fun g1 => removeCp g1 c false)
    (disconnectStep_res g hW c hcc [] ⟨invC_nil g, downC_nil g⟩ (by simp)) fun A1 hA1 hmem1 =>
      have hout : ∀ q, g.cls? q = some .cp → isSub g q = true ∨ g.kind? q = some kDedicatedPort → q ∉ A1 := fun q hq hsub h =>
        ((hmem1 q (cls_ne_link hq)).mp h).elim (fun h => nomatch h) (hnp q hsub)
      removeCpSub_res g hW A1 hA1.1.1 c p hcc hcn (hout c hcc (Or.inl hcs)) (hout p hpc (Or.inr hk))
        fun q hq => hout q (mem_nbrs_cls hq) (Or.inl (child_sub hI hpc hps hq))
  rw [minus_nil] at hr
  obtain ⟨g1, hr1, hr2⟩ := Except.bind_eq_ok_iff.1 hr
  have hnl' : ∀ y, NL g y → (y ∈ D ↔ y = c ∨ PortOf g c y) := fun y hy => by rw [hnl y hy]; simp [or_comm]
  refine ⟨D, ?_, ?_, fun h => ?_, fun y hy => ?_⟩
  · simp only [removeChild, hk, beq_self_eq_true, ite_true, disconnectDeep, List.flatMap_cons, List.flatMap_nil,
      List.append_nil, hws, disconnectAll, List.foldlM_cons, List.foldlM_nil, hr1, bind, Except.bind, pure, Except.pure, hr2,
      Except.map]
  · exact mem_iff_ownedS_one g hW hOK (cls_ne_link hcc) fun y hy => by
      rw [hnl' y hy, own_leaf (children_cp_sub hcc hcs)]
  · rcases (hnl' p (cls_ne_link hpc)).mp h with h | h
    · rw [h, hcs] at hps; cases hps
    · exact hnp p (Or.inr hk) h
  · rw [hnl' y (cls_ne_link (mem_nbrs_cls hy))]
    exact or_iff_left (hnp y (Or.inl (child_sub hI hpc hps hy)))

theorem disconnect_wf (g : G) (hW : WF g = true) (h : List IfH) (i : Nat) (hc : g.cls? i = some .cp) :
    ((∀ p, ¬ PortOf g i p) ∧ disconnect g h i = .ok (g, h)) ∨
    ∃ p, PortOf g i p ∧ disconnect g h i = .ok (g.minus (cpDel g p true), hDrop h p) ∧
      ∀ y, y ∈ cpDel g p true ↔ y = p ∨ LinkOf g i y := by
  have hP := wf_peer hW
  rcases spPeers_cases hP hc with ⟨h0, hno⟩ | ⟨p, hp, hport⟩
  · exact Or.inl ⟨hno, by simp [disconnect, disconnectG, cls_has hc, h0, Except.map]⟩
  · refine Or.inr ⟨p, hport, ?_, mem_cpDel_port hP hport⟩
    simp [disconnect, disconnectG, cls_has hc, hp, removeCp_minus (cls_has hport.port_cls), Except.map]

theorem findPeering_some {g : G} {ha hb : List IfH} {i p : Nat} (h : findPeering g ha hb = some (i, p)) :
    i ∈ hIds ha ∧ g.kind? i = some kServicePort ∧ p ∈ spPeers g i ∧ p ∈ hIds hb := by
  unfold findPeering at h
  obtain ⟨i', hi', h'⟩ := List.exists_of_findSome?_eq_some h
  split at h'
  · rename_i hk
    simp only [Option.map_eq_some_iff] at h'
    obtain ⟨p', hf, heq⟩ := h'
    simp only [Prod.mk.injEq] at heq
    obtain ⟨rfl, rfl⟩ := heq
    have h1 := List.mem_of_find?_eq_some hf
    have h2 := List.find?_some hf
    exact ⟨hi', by simpa using hk, h1, by simpa using h2⟩
  · cases h'

theorem sp_one_service {g : G} (hW : WF g = true) {q s t : Nat} (hk : g.kind? q = some kServicePort) (hs : g.cls? s = some .ns)
    (ht : g.cls? t = some .ns) (h1 : q ∈ g.nbrs s .connects .cp) (h2 : q ∈ g.nbrs t .connects .cp) : s = t := by
  have h := nbrs_symm h2 ht
  rw [eq_singleton_of_mem_of_length_le_one (nbrs_symm h1 hs) (Nat.le_of_eq (wf_port hW (mem_nbrs_cls h1) hk))] at h
  exact (List.mem_singleton.mp h).symm

theorem unpeer_wf (g : G) (hW : WF g = true) (ha hb : List IfH) (a b i p : Nat)
    (hac : g.cls? a = some .ns) (hbc : g.cls? b = some .ns) (hab : a ≠ b)
    (hha : ∀ y, y ∈ hIds ha ↔ y ∈ freshIfs g a) (hhb : ∀ y, y ∈ hIds hb ↔ y ∈ freshIfs g b)
    (hfind : findPeering g ha hb = some (i, p)) :
    ∃ D, unpeer g ha hb = .ok (g.minus D, hDrop ha i, hDrop hb p) ∧ (∀ y, y ∈ D ↔ OwnedS g [i] y) ∧
      (∀ y, y ∈ hIds (hDrop ha i) ↔ y ∈ freshIfs (g.minus D) a) ∧
      (∀ y, y ∈ hIds (hDrop hb p) ↔ y ∈ freshIfs (g.minus D) b) := by
  have hP := wf_peer hW
  have hI := wf_cp hW
  obtain ⟨hia, hik, hpsp, hpb⟩ := findPeering_some hfind
  have hia' : i ∈ g.nbrs a .connects .cp := (hha i).mp hia
  have hpb' : p ∈ g.nbrs b .connects .cp := (hhb p).mp hpb
  have hic := mem_nbrs_cls hia'
  have hpc := mem_nbrs_cls hpb'
  have his := port_not_sub hac hia'
  have hport := portOf_of_mem_spPeers hP hic hpsp
  have hpk := hport.port_kind
  have hicpn := sp_cps hP hic hik
  have hpa : p ∉ g.nbrs a .connects .cp := fun h => hab (sp_one_service hW hpk hac hbc h hpb')
  have hib : i ∉ g.nbrs b .connects .cp := fun h => hab (sp_one_service hW hik hac hbc hia' h)
  -- the two ports go one after the other, each alone
  obtain ⟨A2, hr, _, hnl, hInv2⟩ := Res.bind (k := fun g1 => removeCp g1 p true)
    (removeSp_res g hW [] (invC_nil g) i hic hik (by simp)) fun A1 hA1 hmem1 =>
      removeSp_res g hW A1 hA1 p hpc hpk fun h => ((hmem1 p (cls_ne_link hpc)).mp h).elim (fun h => nomatch h) hport.ne
  rw [minus_nil] at hr
  simp only [List.not_mem_nil, false_or] at hnl
  have hfresh : ∀ (s x : Nat) (hl : List IfH), g.cls? s = some .ns → (∀ y, y ∈ hIds hl ↔ y ∈ freshIfs g s) →
      (∀ y ∈ g.nbrs s .connects .cp, y = i ∨ y = p ↔ y = x) →
      ∀ y, y ∈ hIds (hDrop hl x) ↔ y ∈ freshIfs (g.minus A2) s := by
    intro s x hl hsc hh hx
    refine fresh_after_minus (contains_false fun h => ?_)
      (fun y hy => by rw [hnl y (cls_ne_link (mem_nbrs_cls hy))]; exact hx y hy) hh
    rcases (hnl s (cls_ne_link hsc)).mp h with rfl | rfl
    · rw [hsc] at hic; cases hic
    · rw [hsc] at hpc; cases hpc
  refine ⟨A2, ?_, ?_, ?_, ?_⟩
  · obtain ⟨g1, h1, h2⟩ := Except.bind_eq_ok_iff.1 hr
    simp only [unpeer, hfind, h1, h2, bind, Except.bind]
  · refine mem_iff_ownedS_one g hW hInv2.1 (cls_ne_link hic) fun y hy => ?_
    rw [hnl y hy, own_leaf (show children g i = [] by rw [children_cp_top hI hic his, hicpn])]
    exact or_congr_right ⟨fun e => e ▸ hport, hport.unique hP⟩
  · exact hfresh a i ha hac hha fun y hy => ⟨fun h => h.elim id fun e => absurd (e ▸ hy) hpa, Or.inl⟩
  · exact hfresh b p hb hbc hhb fun y hy => ⟨fun h => h.elim (fun e => absurd (e ▸ hy) hib) id, Or.inr⟩

end FimVerif.Remove
