import FimVerif.Proofs.Lemmas.C06Basic
import FimVerif.Proofs.Lemmas.C06Path
/-!
# The breadth-first search returns a shortest path, or `[]` when there is none (C06)

Adjacency here is the model's `adjB … = true` on the graph the search is given; `C06Sp` puts the restricted graph in and
states the result with `Adj`.
-/
namespace FimVerif.Query

section bfs
variable (g : TGraph) (a z : String)

local notation "R" => fun (u v : String) => adjB g u v = true

/-- The search after `k` layers: the frontier holds chains of `k` steps to `z`, with one in front of every node that is
    `k` steps away and not nearer; `a` is not nearer than `k`; a node of the view that has left `unv` is within `k` steps. -/
structure Inv (k : Nat) (fr : List (List String)) (unv : List String) : Prop where
  paths : ∀ p ∈ fr, ∃ v rest, p = v :: rest ∧ IsChain R p ∧ p.getLast? = some z ∧ rest.length = k
  front : ∀ v, Walk R z v k → (∃ p ∈ fr, hd p = v) ∨ ∃ n, n < k ∧ Walk R z v n
  notyet : ∀ n, n < k → ¬ Walk R z a n
  seen : ∀ v, v ∈ verts g → v ∉ unv → ∃ n, n ≤ k ∧ Walk R z v n

def layer (fr : List (List String)) (unv : List String) : List (List String) :=
  unv.filterMap (fun v => (fr.find? (fun p => adjB g v (hd p))).map (v :: ·))

def beyond (fr : List (List String)) (unv : List String) : List String :=
  unv.filter (fun v => !(fr.any (fun p => adjB g v (hd p))))

variable {g a z}

theorem bfs_succ (fuel : Nat) (fr : List (List String)) (unv : List String) : bfs g a (fuel + 1) fr unv =
    match fr.find? (fun p => hd p == a) with
    | some p => p
    | none => if (layer g fr unv).isEmpty then [] else bfs g a fuel (layer g fr unv) (beyond g fr unv) := rfl

variable {k : Nat} {fr : List (List String)} {unv : List String} {v : String}

theorem mem_layer {q : List String} (h : q ∈ layer g fr unv) :
    ∃ v p, q = v :: p ∧ v ∈ unv ∧ p ∈ fr ∧ adjB g v (hd p) = true := by
  obtain ⟨v, hv, hq⟩ := List.mem_filterMap.1 h
  obtain ⟨p, hf, rfl⟩ := Option.map_eq_some_iff.1 hq
  exact ⟨v, p, rfl, hv, List.mem_of_find?_eq_some hf, List.find?_some (p := fun p => adjB g v (hd p)) hf⟩

theorem layer_of_adj {p : List String} (hv : v ∈ unv) (hp : p ∈ fr) (hadj : adjB g v (hd p) = true) :
    ∃ q ∈ layer g fr unv, hd q = v := by
  obtain ⟨p', hp'⟩ := Option.isSome_iff_exists.1
    (List.find?_isSome (p := fun p => adjB g v (hd p)) |>.2 ⟨p, hp, hadj⟩)
  exact ⟨v :: p', List.mem_filterMap.2 ⟨v, hv, by rw [hp']; rfl⟩, rfl⟩

theorem Inv.next (hI : Inv g a z k fr unv) (hends : EndsIn g)
    (hnot : ∀ p ∈ fr, hd p ≠ a) : Inv g a z (k + 1) (layer g fr unv) (beyond g fr unv) where
  paths q hq := by
    obtain ⟨v, p, rfl, _, hp, hadj⟩ := mem_layer hq
    obtain ⟨u, rest, rfl, hc, hlast, hlen⟩ := hI.paths p hp
    exact ⟨v, u :: rest, rfl, ⟨hadj, hc⟩, (List.getLast?_cons_cons ..).trans hlast, congrArg (· + 1) hlen⟩
  front v hw := by
    match hw with
    | .cons (u := u) hr hu =>
      rcases hI.front u hu with ⟨p, hp, hpu⟩ | ⟨n, hn, hwn⟩
      · by_cases hv : v ∈ unv
        · exact Or.inl (layer_of_adj hv hp (hpu ▸ hr))
        · obtain ⟨_, he⟩ := adjB_iff.1 hr
          obtain ⟨n, hn, hwn⟩ := hI.seen v (he.ends hends).1 hv
          exact Or.inr ⟨n, by omega, hwn⟩
      · exact Or.inr ⟨n + 1, by omega, Walk.cons hr hwn⟩
  notyet n hn hw := by
    by_cases hnk : n < k
    · exact hI.notyet n hnk hw
    · obtain rfl : n = k := by omega
      rcases hI.front a hw with ⟨p, hp, hpa⟩ | ⟨m, hm, hwm⟩
      · exact hnot p hp hpa
      · exact hI.notyet m hm hwm
  seen v hv hvn := by
    by_cases hvu : v ∈ unv
    · obtain ⟨p, hp, hadj⟩ : ∃ p ∈ fr, adjB g v (hd p) = true := by simpa [beyond, hvu] using hvn
      obtain ⟨u, rest, rfl, hc, hlast, hlen⟩ := hI.paths p hp
      exact ⟨k + 1, Nat.le_refl _, Walk.cons hadj (hlen ▸ Path.walk ⟨rfl, hlast, hc⟩)⟩
    · obtain ⟨n, hn, hwn⟩ := hI.seen v hv hvu
      exact ⟨n, by omega, hwn⟩

theorem Inv.closed (hI : Inv g a z k [] unv) : ∀ {m : Nat} {v : String}, Walk R z v m → ∃ n, n < k ∧ Walk R z v n := by
  -- with nothing in the frontier, `front` says that `k` steps can be done in fewer
  have short : ∀ {v : String} {n : Nat}, n = k → Walk R z v n → ∃ n, n < k ∧ Walk R z v n := fun e hw =>
    (hI.front _ (e ▸ hw)).resolve_left fun ⟨_, hp, _⟩ => nomatch hp
  intro m v hw
  induction hw with
  | nil => exact (Nat.eq_zero_or_pos k).elim (fun e => short e.symm .nil) fun h => ⟨0, h, .nil⟩
  | cons hr _ ih =>
    obtain ⟨n, hn, hwn⟩ := ih
    by_cases hnk : n + 1 < k
    · exact ⟨n + 1, hnk, .cons hr hwn⟩
    · exact short (by omega) (.cons hr hwn)

/-- the fuel only has to outlast `unv`: a round that recurses has a new chain, whose head leaves `unv` -/
theorem bfs_spec (hends : EndsIn g) :
    ∀ {fuel k : Nat} {fr : List (List String)} {unv : List String},
      Inv g a z k fr unv → unv.length < fuel → Shortest (Path R a z) (bfs g a fuel fr unv)
  | 0, _, _, _, _, hl => by omega
  | fuel + 1, k, fr, unv, hI, hl => by
    rw [bfs_succ]
    split
    · rename_i p hf
      obtain ⟨v, rest, rfl, hc, hlast, hlen⟩ := hI.paths p (List.mem_of_find?_eq_some hf)
      obtain rfl : v = a := by simpa [hd] using List.find?_some hf
      refine .inr ⟨⟨rfl, hlast, hc⟩, fun q hq => ?_⟩
      obtain ⟨t, rfl⟩ := List.head?_eq_some_iff.1 hq.1
      have := hI.notyet t.length
      simp only [List.length_cons]
      exact Nat.succ_le_succ (Nat.le_of_not_lt fun h => this (hlen ▸ h) hq.walk)
    · rename_i hnone
      have hnot : ∀ p ∈ fr, hd p ≠ a := fun p hp h => by simpa [h] using List.find?_eq_none.1 hnone p hp
      have hI' := hI.next hends hnot
      split
      · rename_i hemp
        refine .inl ⟨rfl, fun ⟨q, hq⟩ => ?_⟩
        obtain ⟨t, rfl⟩ := List.head?_eq_some_iff.1 hq.1
        obtain ⟨n, hn, hwn⟩ := (List.isEmpty_iff.1 hemp ▸ hI').closed hq.walk
        exact hI'.notyet n hn hwn
      · rename_i hne
        refine bfs_spec hends hI' ?_
        obtain ⟨q, hq⟩ := List.exists_mem_of_ne_nil _ (mt List.isEmpty_iff.2 hne)
        obtain ⟨v, p, _, hv, hp, hadj⟩ := mem_layer hq
        have : (beyond g fr unv).length < unv.length :=
          List.length_filter_lt_length_iff_exists.2 ⟨v, hv, by simpa using ⟨p, hp, hadj⟩⟩
        omega

theorem inv_init : Inv g a z 0 [[z]] ((verts g).filter (fun v => v != z)) where
  paths p hp := List.mem_singleton.1 hp ▸ ⟨z, [], rfl, trivial, rfl, rfl⟩
  front v hw := by
    cases hw
    exact .inl ⟨[z], List.mem_singleton_self _, rfl⟩
  notyet n hn := absurd hn (Nat.not_lt_zero n)
  seen v hv hvn := by
    obtain rfl : v = z := Decidable.not_not.1 fun h => hvn (List.mem_filter.2 ⟨hv, bne_iff_ne.2 h⟩)
    exact ⟨0, Nat.le_refl 0, .nil⟩

theorem shortest_spec (hends : EndsIn g) :
    Shortest (Path R a z) (shortest g a z) := by
  refine bfs_spec hends inv_init ?_
  have := List.length_filter_le (fun v => v != z) (verts g)
  omega

end bfs
end FimVerif.Query
