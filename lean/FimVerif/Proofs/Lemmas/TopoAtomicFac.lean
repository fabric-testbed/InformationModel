import FimVerif.Proofs.Lemmas.TopoAtomicSvc
/-! The composites `add_facility` / `add_switch`: the states they pass through (`fac`: a fresh node, its fresh service,
fresh interfaces under it) and what the `except` clause's `remove_network_node_with_components_nss_cps_and_links`
does to such a state: it gives back exactly the state the call started from.  Hence the post-state of both calls
(`addFacility_spec`, `addSwitch_spec`). -/
namespace FimVerif.Topo
open FimVerif FimVerif.M

def fac (s : Topo) (fn sn : GNode) (cps : List GNode) : Topo := hung s fn [] (some (sn, cps))

structure FacOk (s : Topo) (fn sn : GNode) (cps : List GNode) : Prop where
  closed : Closed s
  ds : IdsDistinct s
  fcls : fn.cls = .networkNode
  scls : sn.cls = .networkService
  ccls : ∀ c ∈ cps, c.cls = .connectionPoint
  ffn : ∀ m ∈ s.nodes, m.nid ≠ fn.nid
  fsn : ∀ m ∈ s.nodes, m.nid ≠ sn.nid
  fcp : ∀ c ∈ cps, ∀ m ∈ s.nodes, m.nid ≠ c.nid
  nfs : fn.nid ≠ sn.nid
  ncf : ∀ c ∈ cps, c.nid ≠ fn.nid ∧ c.nid ≠ sn.nid
  ncc : (cps.map (·.nid)).Nodup

section
variable {s : Topo} {fn sn : GNode} {cps : List GNode}

theorem fac_eq (s : Topo) (fn sn : GNode) (cps : List GNode) :
    fac s fn sn cps = grow s (fn :: sn :: cps) (⟨fn.ref, sn.ref, .has⟩ :: ports sn cps) := rfl

theorem FacOk.dist (h : FacOk s fn sn cps) : IdsDistinct (fac s fn sn cps) := by
  rw [fac_eq]
  refine idsDistinct_grow h.ds ?_ fun n hn => ?_
  · simp only [List.map_cons, List.nodup_cons, List.mem_cons, List.mem_map, not_or, not_exists, not_and]
    exact ⟨⟨h.nfs, fun c hc => (h.ncf c hc).1⟩, fun c hc => (h.ncf c hc).2, h.ncc⟩
  · simp only [List.mem_cons] at hn
    rcases hn with rfl | rfl | hn
    · exact h.ffn
    · exact h.fsn
    · exact h.fcp n hn

/-- the seven fields of `FacOk` about ids (`ds`, `ffn` … `ncc`) say one thing: the ids of `fac s fn sn cps` are distinct -/
theorem FacOk.of_dist (hc : Closed s) (hd : IdsDistinct (fac s fn sn cps))
    (hf : fn.cls = .networkNode) (hs : sn.cls = .networkService) (hcc : ∀ c ∈ cps, c.cls = .connectionPoint) : FacOk s fn sn cps := by
  rw [fac_eq] at hd
  obtain ⟨hds, hnd, hfr⟩ := hd.of_grow
  simp only [List.map_cons, List.nodup_cons, List.mem_cons, List.mem_map, not_or, not_exists, not_and] at hnd
  exact ⟨hc, hds, hf, hs, hcc, hfr fn (by simp), hfr sn (by simp), fun c hc' => hfr c (by simp [hc']), hnd.1.1,
    fun c hc' => ⟨hnd.1.2 c hc', hnd.2.1 c hc'⟩, hnd.2.2⟩

theorem closed_fac (h : FacOk s fn sn cps) : Closed (fac s fn sn cps) := closed_hung h.closed fun _ he => nomatch he

theorem removeNodeGraph_fac (h : FacOk s fn sn cps) : removeNodeGraph fn.nid (fac s fn sn cps) = (.ok (), s) :=
  removeNodeGraph_new (o := some (sn, cps)) h.closed h.dist h.fcls fun _ _ e => by cases e; exact ⟨h.scls, h.ccls⟩

end

structure NodeNew (s : Topo) (fn : GNode) : Prop where
  closed : Closed s
  ds : IdsDistinct s
  fcls : fn.cls = .networkNode
  ffn : ∀ m ∈ s.nodes, m.nid ≠ fn.nid

theorem removeNodeGraph_node {s : Topo} {fn : GNode} (h : NodeNew s fn) : removeNodeGraph fn.nid (pushNode fn s) = (.ok (), s) := by
  rw [pushNode_eq_grow]
  exact removeNodeGraph_new (o := none) h.closed (idsDistinct_push h.ds h.ffn) h.fcls fun _ _ e => nomatch e

theorem FacOk.snoc {s : Topo} {fn sn : GNode} {cps : List GNode} (h : FacOk s fn sn cps) {n : GNode}
    (hcls : n.cls = .connectionPoint) (hfr : ∀ m ∈ (fac s fn sn cps).nodes, m.nid ≠ n.nid) : FacOk s fn sn (cps ++ [n]) :=
  have hd : IdsDistinct (grow (fac s fn sn cps) [n] [⟨sn.ref, n.ref, .connects⟩]) := idsDistinct_push h.dist hfr
  .of_dist h.closed ((congrArg IdsDistinct (grow_port [fn, sn] [⟨fn.ref, sn.ref, .has⟩] sn n cps)).mp hd) h.fcls h.scls fun c hc' =>
    (List.mem_append.mp hc').elim (h.ccls c) fun e => List.mem_singleton.mp e ▸ hcls

/-- where the body of a composite can stop, `fn` being the node it works under: a raise before the service exists leaves `fn`
alone; from then on there are the service `sn` of the requested type and interfaces of type `ity` under it -/
def FacAt (s : Topo) (fn : GNode) (nstype : Option String) (ity : String) (r : Except Err Unit × Topo) : Prop :=
  (∃ e, r = (.error e, pushNode fn s)) ∨
  ∃ sn cps, FacOk s fn sn cps ∧ nstype = some sn.typ ∧ (∀ c ∈ cps, c.typ = ity) ∧ r.2 = fac s fn sn cps

theorem FacAt.err {s fn nstype ity} (e : Err) : FacAt s fn nstype ity (.error e, pushNode fn s) := .inl ⟨e, rfl⟩

/-- the `try … except Exception: remove the node …; raise` of the composites, when the body only ever stops in a partial construct:
a raise gives back the start state (`removeNodeGraph_node`, `removeNodeGraph_fac`) -/
theorem composite_spec {s B0 : Topo} {fn : GNode} {nstype : Option String} {ity : String} {body : M Topo Unit} (hn : NodeNew s fn)
    (hbody : FacAt s fn nstype ity (body B0)) :
    Outcome s (fun _ t => ∃ sn cps, FacOk s fn sn cps ∧ nstype = some sn.typ ∧ (∀ c ∈ cps, c.typ = ity) ∧ t = fac s fn sn cps)
      (composite fn.nid body B0) := by
  simp only [composite, flag_compositeRollback, if_true]
  rcases cases_run body B0 with ⟨u, B, hb⟩ | ⟨e, B, hb⟩
  · rw [tryCatch_ok hb]; rw [hb] at hbody
    rcases hbody with ⟨_, h⟩ | h
    · cases h
    · exact .ok h
  · rw [hb] at hbody
    have hrm : removeNodeGraph fn.nid B = (.ok (), s) := by
      rcases hbody with ⟨_, h⟩ | ⟨sn, cps, hok, _, _, h⟩
      · cases h; exact removeNodeGraph_node hn
      · cases h; exact removeNodeGraph_fac hok
    rw [tryCatch_err hb rfl, bind_ok hrm]; exact .err e

theorem nodeAddService_node {s : Topo} {fn : GNode} (hn : NodeNew s fn) (fl : Flavour) (c : Nat) (a : SvcArgs) (ha : a.ifs = []) :
    Outcome (pushNode fn s) (fun v t => ∃ sn, FacOk s fn sn [] ∧ a.nstype = some sn.typ ∧ v.1 = sn.nid ∧ t = fac s fn sn [])
      (nodeAddService fl c fn.nid a (pushNode fn s)) := by
  have hdB : IdsDistinct (pushNode fn s) := idsDistinct_push hn.ds hn.ffn
  have hmB : fn ∈ (pushNode fn s).nodes := by simp [pushNode]
  have hcB : Closed (pushNode fn s) := pushNode_eq_grow fn s ▸ closed_grow hn.closed fun _ he => nomatch he
  unfold nodeAddService
  refine ro_step (readOnly_childrenOf ..) Outcome.err (fun _ _ => ?_)
  refine ro_step (readOnly_guard ..) Outcome.err (fun _ _ => ?_)
  refine svcNew_cases (fun _ _ => hcB) (fun p hp => ⟨fn, by cases hp; exact findNode_of_mem hdB hmB⟩) Outcome.err
    fun sn pn f => ?_
  obtain ⟨pn, rfl⟩ : ∃ x, pn = some x := by cases pn with | none => exact f.par.elim | some x => exact ⟨x, rfl⟩
  have hpn' : fn = pn := by simpa using (findNode_of_mem hdB hmB).symm.trans f.par
  subst hpn'
  rw [ha]
  have hst : svcBase (pushNode fn s) sn (some fn) = fac s fn sn [] := by
    simp [svcBase, fac_eq, pushNode, grow, ports]
  rw [hst]
  exact .ok ⟨sn, .of_dist hn.closed (hst ▸ (idsDistinct_push hdB f.fresh : IdsDistinct (svcBase (pushNode fn s) sn (some fn)))) hn.fcls f.cls
    (fun _ hc' => nomatch hc'), f.typ, rfl, rfl⟩

theorem nsAddInterface_fac {s : Topo} {fn sn : GNode} {cps : List GNode} (h : FacOk s fn sn cps) (fl : Flavour) (c : Nat)
    (name : String) (nid : Option Nid) (ty : Option String) (props : List PropArg) :
    Outcome (fac s fn sn cps) (fun _ t => ∃ n, FacOk s fn sn (cps ++ [n]) ∧ ty = some n.typ ∧ t = fac s fn sn (cps ++ [n]))
      (nsAddInterface fl c sn.nid [] name nid ty props (fac s fn sn cps)) := by
  unfold nsAddInterface
  rw [bind_ok (guard_run (by simp))]
  refine (ifaceNew_spec fl c name nid (some sn.nid) ty props (fac s fn sn cps)).mono
    fun _ _ ⟨n, hfr, hcls, _, _, hty, _, _, pn, hpn, ht⟩ => ?_
  · have hpn' : sn = pn := by
      simpa [findNode_of_mem h.dist (show sn ∈ (fac s fn sn cps).nodes by simp [fac_eq])] using hpn
    subst hpn'
    rw [setEdge_pushNew (closed_fac h) hfr] at ht
    exact ⟨n, h.snoc hcls hfr, hty, ht.trans (grow_port [fn, sn] [⟨fn.ref, sn.ref, .has⟩] sn n cps)⟩

theorem facAt_step {s : Topo} {fn sn : GNode} {cps : List GNode} {nstype : Option String} {ity : String} {α : Type}
    {m : M Topo α} {rest : α → M Topo Unit} (h : FacOk s fn sn cps) (hst : nstype = some sn.typ) (hct : ∀ c ∈ cps, c.typ = ity)
    (hm : Outcome (fac s fn sn cps) (fun _ t => ∃ n, FacOk s fn sn (cps ++ [n]) ∧ some ity = some n.typ ∧ t = fac s fn sn (cps ++ [n]))
      (m (fac s fn sn cps)))
    (hrest : ∀ a n, FacOk s fn sn (cps ++ [n]) → (∀ c ∈ cps ++ [n], c.typ = ity) →
      FacAt s fn nstype ity (rest a (fac s fn sn (cps ++ [n])))) :
    FacAt s fn nstype ity ((m >>= rest) (fac s fn sn cps)) := by
  refine hm.step (fun e => .inr ⟨sn, cps, h, hst, hct, rfl⟩) fun a t ⟨n, hok, hty, ht⟩ => ?_
  subst ht
  refine hrest a n hok fun c hc => ?_
  rcases List.mem_append.mp hc with hc | hc
  · exact hct c hc
  · rw [List.mem_singleton.mp hc]; exact (Option.some.inj hty).symm

theorem facGo_state {s : Topo} {fn sn : GNode} {nstype : Option String} (fl : Flavour) (nid : Option Nid) (hst : nstype = some sn.typ) :
    ∀ (l : List (String × List PropArg)) (k cc : Nat) (cps : List GNode), FacOk s fn sn cps → (∀ c ∈ cps, c.typ = "FacilityPort") →
      FacAt s fn nstype "FacilityPort" (addFacility.go fl nid sn.nid l k cc (fac s fn sn cps)) := by
  intro l
  induction l with
  | nil => intro k cc cps h hct; exact .inr ⟨sn, cps, h, hst, hct, rfl⟩
  | cons x rest ih =>
    intro k cc cps h hct
    obtain ⟨iname, ip⟩ := x
    unfold addFacility.go
    exact facAt_step h hst hct (nsAddInterface_fac h ..) fun _ _ hok hct' => ih _ _ _ hok hct'

theorem swGo_state {s : Topo} {fn sn : GNode} {nstype : Option String} (fl : Flavour) (nid : Option Nid) (hst : nstype = some sn.typ) :
    ∀ (l : List (String × String × List PropArg)) (cc : Nat) (cps : List GNode), FacOk s fn sn cps → (∀ c ∈ cps, c.typ = "DedicatedPort") →
      FacAt s fn nstype "DedicatedPort" (addSwitch.go fl nid sn.nid l cc (fac s fn sn cps)) := by
  intro l
  induction l with
  | nil => intro cc cps h hct; exact .inr ⟨sn, cps, h, hst, hct, rfl⟩
  | cons x rest ih =>
    intro cc cps h hct
    obtain ⟨pname, suf, pp⟩ := x
    unfold addSwitch.go
    exact facAt_step h hst hct (nsAddInterface_fac h ..) fun _ _ hok hct' => ih _ _ hok hct'

/-- what a composite has built when it returns -/
def FacBuilt (s : Topo) (ntype name : String) (nstype : Option String) (ity : String) (id : Nid) (t : Topo) : Prop :=
  ∃ fn sn cps, FacOk s fn sn cps ∧ fn.typ = ntype ∧ fn.name = name ∧ (∀ m ∈ s.nodes, m.cls = .networkNode → m.name ≠ name) ∧
    nstype = some sn.typ ∧ (∀ c ∈ cps, c.typ = ity) ∧ id = fn.nid ∧ t = fac s fn sn cps

theorem compositeCall_spec {s t : Topo} {c c1 : Nat} {name ntype ity : String} {nid : Option Nid} {site nstype : Option String}
    {id : Nid} {body : M Topo Unit} (hc : Closed s) (hd : IdsDistinct s)
    (hadd : NodeAdded s c ⟨name, nid, site, some ntype, []⟩ (id, c1) t)
    (hbody : ∀ fn, NodeNew s fn → id = fn.nid → t = pushNode fn s → FacAt s fn nstype ity (body t)) :
    Outcome s (FacBuilt s ntype name nstype ity) ((composite id body >>= fun _ => Pure.pure id) t) := by
  obtain ⟨fn, hfr, hcls, hty, hnm, hun, hid, hv, ht⟩ := hadd
  have hn : NodeNew s fn := ⟨hc, hd, hcls, hfr⟩
  have hv1 : id = fn.nid := by rw [hid, ← hv]
  rw [hv1]
  refine (composite_spec hn (hbody fn hn hv1 ht)).step Outcome.err fun _ t ⟨sn, cps, hok, hst, hct, ht⟩ => ?_
  exact .ok ⟨fn, sn, cps, hok, (Option.some.inj hty).symm, hnm, hun, hst, hct, rfl, ht⟩

theorem addFacility_spec (fl : Flavour) (c : Nat) (name : String) (nid : Option Nid) (site : Option String)
    (nstype : Option String) (nsprops : List PropArg) (ifs : Option (List (String × List PropArg))) (kw : List PropArg)
    (s : Topo) (hc : Closed s) (hd : IdsDistinct s) :
    Outcome s (FacBuilt s "Facility" name nstype "FacilityPort") (addFacility fl c name nid site nstype nsprops ifs kw s) := by
  unfold addFacility
  refine (addNode_spec fl c _ s).step Outcome.err fun v t hadd => ?_
  obtain ⟨facn, c1⟩ := v
  refine compositeCall_spec hc hd hadd fun fn hn hv ht => ?_
  subst hv ht
  refine (nodeAddService_node hn fl _ ⟨name ++ "-ns", suffixId nid "-ns", nstype, none, none, nsprops, []⟩ rfl).step FacAt.err
    fun v t ⟨sn, hfo, hst, hv, ht⟩ => ?_
  obtain ⟨facs, ca⟩ := v
  subst hv ht
  have hnil : ∀ c ∈ ([] : List GNode), c.typ = "FacilityPort" := fun _ hc' => nomatch hc'
  cases ifs with
  | none =>
    exact facAt_step hfo hst hnil (nsAddInterface_fac hfo ..) fun _ n hok hct => .inr ⟨sn, _, hok, hst, hct, rfl⟩
  | some l => exact facGo_state fl nid hst l 0 _ [] hfo hnil

theorem addSwitch_spec (fl : Flavour) (c : Nat) (name : String) (nid : Option Nid) (site : Option String)
    (nstype : Option String) (nsprops : List PropArg) (ports : List (String × String × List PropArg))
    (s : Topo) (hc : Closed s) (hd : IdsDistinct s) :
    Outcome s (FacBuilt s "Switch" name nstype "DedicatedPort") (addSwitch fl c name nid site nstype nsprops ports s) := by
  unfold addSwitch
  refine (addNode_spec fl c _ s).step Outcome.err fun v t hadd => ?_
  obtain ⟨sw, c1⟩ := v
  refine compositeCall_spec hc hd hadd fun fn hn hv ht => ?_
  subst hv ht
  refine (nodeAddService_node hn fl _ ⟨name ++ "-ns", suffixId nid "-ns", nstype, none, none, nsprops, []⟩ rfl).step FacAt.err
    fun v t ⟨sn, hfo, hst, hv, ht⟩ => ?_
  obtain ⟨sns, ca⟩ := v
  subst hv ht
  exact swGo_state fl nid hst ports _ [] hfo fun _ hc' => nomatch hc'

theorem addFacility_fs (fl : Flavour) (c : Nat) (name : String) (nid : Option Nid) (site : Option String)
    (nstype : Option String) (nsprops : List PropArg) (ifs : Option (List (String × List PropArg))) (kw : List PropArg)
    (s : Topo) (hc : Closed s) (hd : IdsDistinct s) : FS s (addFacility fl c name nid site nstype nsprops ifs kw s) :=
  (addFacility_spec fl c name nid site nstype nsprops ifs kw s hc hd).fs

theorem addSwitch_fs (fl : Flavour) (c : Nat) (name : String) (nid : Option Nid) (site : Option String)
    (nstype : Option String) (nsprops : List PropArg) (ports : List (String × String × List PropArg))
    (s : Topo) (hc : Closed s) (hd : IdsDistinct s) : FS s (addSwitch fl c name nid site nstype nsprops ports s) :=
  (addSwitch_spec fl c name nid site nstype nsprops ports s hc hd).fs

end FimVerif.Topo
