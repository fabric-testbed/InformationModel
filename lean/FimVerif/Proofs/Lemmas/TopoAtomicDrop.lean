import FimVerif.Proofs.Lemmas.TopoAtomicGraph
/-! Removing calls as restrictions of the state: `restrict keep s` keeps the nodes whose key passes `keep` and the edges
between kept nodes.  Every graph-level removal, once its look-ups succeeded, returns in such a restriction (`Rm`); the
facts the later passes need (ids distinct, presence of kept nodes, adjacency only shrinks) carry over to any restriction,
which is what makes "raises ⇒ unchanged" provable for the calls that delete in several passes.  At the end `remove_link` and
`unpeer`, user-level removals that do not disconnect interfaces first. -/
namespace FimVerif.Topo
open FimVerif FimVerif.M

def restrict (keep : Ref → Bool) (s : Topo) : Topo :=
  { nodes := s.nodes.filter (fun n => keep n.ref), edges := s.edges.filter (fun e => keep e.a && keep e.b) }

theorem dropNode_eq_restrict (r : Ref) (s : Topo) : dropNode r s = restrict (fun x => x != r) s := rfl

theorem restrict_restrict (k1 k2 : Ref → Bool) (s : Topo) :
    restrict k2 (restrict k1 s) = restrict (fun x => k1 x && k2 x) s := by
  unfold restrict
  simp only [List.filter_filter]
  congr 1
  · apply List.filter_congr; intro n _; exact Bool.and_comm _ _
  · apply List.filter_congr; intro e _
    cases k1 e.a <;> cases k1 e.b <;> cases k2 e.a <;> cases k2 e.b <;> rfl

theorem restrict_true (s : Topo) : restrict (fun _ => true) s = s := by
  cases s with
  | mk n e =>
    unfold restrict
    congr 1
    · exact List.filter_eq_self.mpr (fun _ _ => rfl)
    · exact List.filter_eq_self.mpr (fun _ _ => rfl)

theorem idsDistinct_restrict {s : Topo} (h : IdsDistinct s) (k : Ref → Bool) : IdsDistinct (restrict k s) :=
  List.Nodup.sublist (List.Sublist.map _ List.filter_sublist) h

theorem mem_restrict_nodes {s : Topo} {k : Ref → Bool} {n : GNode} :
    n ∈ (restrict k s).nodes ↔ n ∈ s.nodes ∧ k n.ref = true := by simp [restrict]

theorem mem_restrict_edges {s : Topo} {k : Ref → Bool} {e : GEdge} :
    e ∈ (restrict k s).edges ↔ e ∈ s.edges ∧ k e.a = true ∧ k e.b = true := by simp [restrict]

theorem adjacent_restrict {s : Topo} {k : Ref → Bool} {a b : Ref} {rel : Rel}
    (h : adjacent (restrict k s) a b rel = true) : adjacent s a b rel = true := by
  rw [adjacent_iff] at h ⊢
  obtain ⟨e, he, h1, h2⟩ := h
  exact ⟨e, (mem_restrict_edges.mp he).1, h1, h2⟩

theorem adjacentAny_restrict {s : Topo} {k : Ref → Bool} {a b : Ref} (h : adjacentAny (restrict k s) a b = true) :
    adjacentAny s a b = true := by
  rw [adjacentAny_iff] at h ⊢
  obtain ⟨e, he, h1⟩ := h
  exact ⟨e, (mem_restrict_edges.mp he).1, h1⟩

theorem neighbors_restrict_sublist (s : Topo) (k : Ref → Bool) (r : Ref) (rel : Rel) (L : Cls) :
    (neighbors (restrict k s) r rel L).Sublist (neighbors s r rel L) := by
  unfold neighbors
  refine sublist_filter_of_all ((List.filter_sublist).trans (List.filter_sublist)) ?_
  intro x hx
  have := (List.mem_filter.mp hx).2
  simp only [Bool.and_eq_true, beq_iff_eq] at this ⊢
  exact ⟨this.1, adjacent_restrict this.2⟩

theorem peerNodes_restrict_sublist (s : Topo) (k : Ref → Bool) (r : Ref) : (peerNodes (restrict k s) r).Sublist (peerNodes s r) := by
  unfold peerNodes
  refine sublist_flatMap (neighbors_restrict_sublist s k r _ _) (fun f _ => ?_)
  refine sublist_filter_of_all ((List.filter_sublist).trans (List.filter_sublist)) ?_
  intro x hx
  have := (List.mem_filter.mp hx).2
  simp only [Bool.and_eq_true, beq_iff_eq, bne_iff_ne, ne_eq] at this ⊢
  exact ⟨⟨this.1.1, adjacentAny_restrict this.1.2⟩, this.2⟩

theorem filter_restrict_cls {s : Topo} {k : Ref → Bool} {L : Cls} (hk : ∀ x : Ref, x.cls = L → k x = true) (q : GNode → Bool) :
    (restrict k s).nodes.filter (fun n => n.cls == L && q n) = s.nodes.filter (fun n => n.cls == L && q n) := by
  show ((s.nodes.filter (fun n => k n.ref)).filter _) = _
  rw [List.filter_filter]
  refine List.filter_congr fun n _ => ?_
  by_cases hc : n.cls = L
  · rw [hk n.ref hc, Bool.and_true]
  · rw [beq_eq_false_iff_ne.mpr hc, Bool.false_and, Bool.false_and]

theorem neighbors_restrict_eq {s : Topo} {k : Ref → Bool} {r : Ref} {rel : Rel} {L : Cls} (hr : k r = true)
    (hk : ∀ x, x.cls = L → k x = true) : neighbors (restrict k s) r rel L = neighbors s r rel L := by
  unfold neighbors
  rw [filter_restrict_cls hk]
  refine List.filter_congr fun n _ => ?_
  by_cases hc : n.cls = L
  · -- an edge between two kept keys is kept
    have hkn : k n.ref = true := hk _ hc
    congr 1
    cases h1 : adjacent s r n.ref rel
    · exact Bool.eq_false_iff.mpr fun h2 => by rw [adjacent_restrict h2] at h1; cases h1
    · obtain ⟨e, he, h3, h4⟩ := adjacent_iff.mp h1
      refine adjacent_iff.mpr ⟨e, mem_restrict_edges.mpr ⟨he, ?_⟩, h3, h4⟩
      rcases sameEnds_iff.mp h4 with ⟨a, b⟩ | ⟨a, b⟩
      · rw [a, b]; exact ⟨hr, hkn⟩
      · rw [a, b]; exact ⟨hkn, hr⟩
  · rw [beq_eq_false_iff_ne.mpr hc, Bool.false_and, Bool.false_and]

theorem findByName_restrict {s : Topo} {k : Ref → Bool} {cls : Cls} {name : String} {n : GNode}
    (h : findByName cls name s = (.ok n, s)) (hk : ∀ x : Ref, x.cls = cls → k x = true) :
    findByName cls name (restrict k s) = (.ok n, restrict k s) := by
  unfold findByName at h ⊢
  rw [filter_restrict_cls hk]
  split at h
  · rename_i m hm
    simp only [Prod.mk.injEq, Except.ok.injEq, and_true] at h
    rw [h]
  · simp at h

def Rm (Q : Ref → Prop) (s : Topo) (r : Except Err Unit × Topo) : Prop :=
  ∃ keep : Ref → Bool, r = (.ok (), restrict keep s) ∧ ∀ x, keep x = false → Q x

theorem Rm.mono {Q Q' : Ref → Prop} {s : Topo} {r : Except Err Unit × Topo} (h : ∀ x, Q x → Q' x) : Rm Q s r → Rm Q' s r :=
  fun ⟨k, hk, hq⟩ => ⟨k, hk, fun x hx => h x (hq x hx)⟩

theorem Rm.nil {Q : Ref → Prop} {s : Topo} : Rm Q s (.ok (), s) :=
  ⟨fun _ => true, by rw [restrict_true], fun x hx => by cases hx⟩

theorem Rm.not_failed {Q : Ref → Prop} {u : Topo} {r : Except Err Unit × Topo} (h : Rm Q u r) : ¬ failed r := by
  obtain ⟨k, hk, _⟩ := h
  rw [hk]; simp

theorem Rm.fs {Q : Ref → Prop} {u s : Topo} {r : Except Err Unit × Topo} (h : Rm Q u r) : FS s r := by
  obtain ⟨k, hk, _⟩ := h
  rw [hk]; intro hf; simp at hf

theorem Rm.lift {Q Q0 : Ref → Prop} {s : Topo} {k0 : Ref → Bool} {r : Except Err Unit × Topo}
    (h0 : ∀ x, k0 x = false → Q0 x) (h : Rm Q (restrict k0 s) r) : Rm (fun x => Q0 x ∨ Q x) s r := by
  obtain ⟨k, hk, hq⟩ := h
  refine ⟨fun x => k0 x && k x, by rw [hk, restrict_restrict], fun x hx => ?_⟩
  cases h1 : k0 x
  · exact .inl (h0 x h1)
  · simp only [h1, Bool.true_and] at hx; exact .inr (hq x hx)

def Present (t : Topo) (x : Nid) : Prop := ∃ n ∈ t.nodes, n.nid = x

theorem forEach_deleteNode_spec (L : List Nid) : ∀ (u : Topo), IdsDistinct u → L.Nodup → (∀ x ∈ L, Present u x) →
    Rm (fun r => ∃ n ∈ u.nodes, n.ref = r ∧ n.nid ∈ L) u (M.forEach L deleteNode u) := by
  induction L with
  | nil => intro u _ _ _; exact Rm.nil
  | cons x L ih =>
    intro u hd hnd hp
    obtain ⟨n, hn, hnx⟩ := hp x (List.mem_cons_self ..)
    subst hnx
    rw [forEach_cons_ok (deleteNode_run hd hn)]
    rw [List.nodup_cons] at hnd
    have hp' : ∀ y ∈ L, Present (dropNode n.ref u) y := by
      intro y hy
      obtain ⟨m, hm, hmy⟩ := hp y (List.mem_cons_of_mem _ hy)
      refine ⟨m, List.mem_filter.mpr ⟨hm, ?_⟩, hmy⟩
      simp only [bne_iff_ne, ne_eq]
      intro e
      exact hnd.1 (by rw [← nid_of_ref_eq e, hmy]; exact hy)
    have h1 := ih _ (idsDistinct_drop hd _) hnd.2 hp'
    rw [dropNode_eq_restrict] at h1 ⊢
    have h2 := Rm.lift (Q0 := fun r => r = n.ref) (fun x hx => by simpa using hx) h1
    refine h2.mono ?_
    intro r hr
    rcases hr with rfl | ⟨m, hm, hmr, hml⟩
    · exact ⟨n, hn, rfl, List.mem_cons_self ..⟩
    · exact ⟨m, (mem_restrict_nodes.mp hm).1, hmr, List.mem_cons_of_mem _ hml⟩

/-- what `remove_cp_and_links` on the node `n` may delete -/
def DelCp (s : Topo) (n : GNode) (x : Ref) : Prop :=
  x = n.ref ∨ (x.cls = .connectionPoint ∧ adjacent s n.ref x .connects = true) ∨ x.cls = .link

/-- `remove_cp_and_links` on a node of the model always returns (every look-up it makes is of a node it just listed) -/
theorem removeCpAndLinks_spec {s : Topo} (hd : IdsDistinct s) {n : GNode} (hn : n ∈ s.nodes) (dp : Bool) :
    Rm (DelCp s n) s (removeCpAndLinks n.nid dp s) := by
  unfold removeCpAndLinks
  rw [bind_ok (firstNeighbor_run hd hn .connects .connectionPoint)]
  refine filterMapM'_step
    (P := fun r => ∃ m ∈ s.nodes, m.nid = r ∧ m.cls = .connectionPoint ∧ adjacent s n.ref m.ref .connects = true) _ (fun p hp => ?_)
    (fun extra hPextra => ?_)
  · obtain ⟨m, hm, rfl⟩ := List.mem_map.mp hp
    obtain ⟨hm1, hm2, hm3⟩ := mem_neighbors hm
    refine ⟨_, by rw [bind_ok (firstNeighbor_run hd hm1 .connects .connectionPoint)]; rfl, fun r hr => ?_⟩
    split at hr
    · cases hr; exact ⟨m, hm1, rfl, hm2, hm3⟩
    · cases hr
  have htoDel : ∀ i ∈ (n.nid :: extra).eraseDups, ∃ m ∈ s.nodes, m.nid = i ∧
      (m = n ∨ (m.cls = .connectionPoint ∧ adjacent s n.ref m.ref .connects = true)) := by
    intro i hi
    rcases List.mem_cons.mp (List.mem_eraseDups.mp hi) with rfl | hi
    · exact ⟨n, hn, rfl, .inl rfl⟩
    · obtain ⟨m, h1, h2, h3, h4⟩ := hPextra i hi
      exact ⟨m, h1, h2, .inr ⟨h3, h4⟩⟩
  refine mapM'_step (P := fun l => ∀ r ∈ l, ∃ m ∈ s.nodes, m.nid = r ∧ m.cls = .link) _ (fun i hi => ?_) (fun links hPl => ?_)
  · obtain ⟨mi, hmi, rfl, _⟩ := htoDel i hi
    rw [bind_ok (firstNeighbor_run hd hmi .connects .link)]
    refine filterMapM'_run (P := fun r => ∃ m ∈ s.nodes, m.nid = r ∧ m.cls = .link) _ (fun p hp => ?_)
    obtain ⟨m, hm, rfl⟩ := List.mem_map.mp hp
    obtain ⟨hm1, hm2, _⟩ := mem_neighbors hm
    refine ⟨_, by rw [bind_ok (firstNeighbor_run hd hm1 .connects .connectionPoint)]; rfl, fun r hr => ?_⟩
    split at hr
    · cases hr; exact ⟨m, hm1, rfl, hm2⟩
    · cases hr
  have hall : ∀ x ∈ ((n.nid :: extra).eraseDups ++ links.flatten).eraseDups, Present s x := by
    intro x hx
    rcases List.mem_append.mp (List.mem_eraseDups.mp hx) with hx | hx
    · obtain ⟨m, h1, h2, _⟩ := htoDel x hx; exact ⟨m, h1, h2⟩
    · obtain ⟨l, hl, hxl⟩ := List.mem_flatten.mp hx
      obtain ⟨m, h1, h2, _⟩ := hPl l hl x hxl; exact ⟨m, h1, h2⟩
  refine (forEach_deleteNode_spec _ s hd (List.nodup_eraseDups _) hall).mono ?_
  intro r ⟨m, hm, hmr, hml⟩
  subst hmr
  rcases List.mem_append.mp (List.mem_eraseDups.mp hml) with hx | hx
  · obtain ⟨m', h1, h2, h3⟩ := htoDel _ hx
    have : m' = m := eq_of_nid_eq hd h1 hm h2
    subst this
    rcases h3 with rfl | ⟨h4, h5⟩
    · exact .inl rfl
    · exact .inr (.inl ⟨h4, h5⟩)
  · obtain ⟨l, hl, hxl⟩ := List.mem_flatten.mp hx
    obtain ⟨m', h1, h2, h3⟩ := hPl l hl _ hxl
    have : m' = m := eq_of_nid_eq hd h1 hm h2
    subst this
    exact .inr (.inr h3)

theorem removeCpAndLinks_fs (nid : Nid) (dp : Bool) (s : Topo) (hd : IdsDistinct s) : FS s (removeCpAndLinks nid dp s) := by
  rcases cases_run (findNode nid) s with ⟨n, s', hn⟩ | ⟨e, s', hn⟩
  · obtain ⟨hm, rfl, _⟩ := findNode_ok hn
    exact (removeCpAndLinks_spec hd hm dp).fs
  · obtain rfl := ro_run (readOnly_findNode _) hn
    have h1 : firstNeighbor nid .connects .connectionPoint s' = (.error e, s') := bind_err hn
    unfold removeCpAndLinks
    rw [bind_err h1]; exact FS.err e

theorem Rm.bind_next {Q1 Q2 : Ref → Prop} {s : Topo} {m1 m2 : M Topo Unit} (h1 : Rm Q1 s (m1 s))
    (h2 : ∀ k : Ref → Bool, (∀ x, k x = false → Q1 x) → Rm Q2 (restrict k s) (m2 (restrict k s))) :
    Rm (fun x => Q1 x ∨ Q2 x) s ((m1 >>= fun _ => m2) s) := by
  obtain ⟨k, hk, hq⟩ := h1
  rw [bind_ok hk]
  exact Rm.lift hq (h2 k hq)

/-- pass `b` needs the keys in `needs b` still there and deletes only keys in `Qb b`; no pass deletes what a later one needs -/
theorem Rm.forEach {β : Type} {f : β → M Topo Unit} {Qb : β → Ref → Prop} {C : Ref → Prop} {needs : β → Ref → Prop} {s : Topo} :
    ∀ (L : List β) (k0 : Ref → Bool), (∀ b ∈ L, ∀ x, Qb b x → C x) →
      (∀ b ∈ L, ∀ k : Ref → Bool, (∀ x, k x = false → C x) → (∀ r, needs b r → k r = true) →
        Rm (Qb b) (restrict k s) (f b (restrict k s))) →
      (∀ x, k0 x = false → C x) → (∀ b ∈ L, ∀ r, needs b r → k0 r = true) →
      L.Pairwise (fun a b => ∀ r, needs b r → ¬ Qb a r) →
      Rm (fun x => ∃ b ∈ L, Qb b x) (restrict k0 s) (M.forEach L f (restrict k0 s)) := by
  intro L
  induction L with
  | nil => intro _ _ _ _ _ _; exact Rm.nil
  | cons b L ih =>
    intro k0 hC hstep h0 htg hpw
    obtain ⟨kb, hkb, hqb⟩ := hstep b (List.mem_cons_self ..) k0 h0 (htg b (List.mem_cons_self ..))
    rw [forEach_cons_ok hkb, restrict_restrict]
    rw [List.pairwise_cons] at hpw
    have h0' : ∀ x, (k0 x && kb x) = false → C x := by
      intro x hx
      cases h1 : k0 x
      · exact h0 x h1
      · simp only [h1, Bool.true_and] at hx; exact hC b (List.mem_cons_self ..) x (hqb x hx)
    have htg' : ∀ b' ∈ L, ∀ r, needs b' r → (k0 r && kb r) = true := by
      intro b' hb' r hr
      rw [htg b' (List.mem_cons_of_mem _ hb') r hr, Bool.true_and]
      cases h1 : kb r
      · exact absurd (hqb _ h1) (hpw.1 b' hb' r hr)
      · rfl
    obtain ⟨k', hk', hq'⟩ := ih (fun x => k0 x && kb x) (fun b' hb' => hC b' (List.mem_cons_of_mem _ hb'))
      (fun b' hb' => hstep b' (List.mem_cons_of_mem _ hb')) h0' htg' hpw.2
    refine ⟨fun x => kb x && k' x, ?_, ?_⟩
    · rw [hk', restrict_restrict, restrict_restrict]
      congr 2; funext x; rw [Bool.and_assoc]
    · intro x hx
      cases h1 : kb x
      · exact ⟨b, List.mem_cons_self .., hqb x h1⟩
      · simp only [h1, Bool.true_and] at hx
        obtain ⟨b', hb', hqx⟩ := hq' x hx
        exact ⟨b', List.mem_cons_of_mem _ hb', hqx⟩

theorem Rm.forEach' {β : Type} {f : β → M Topo Unit} {C : Ref → Prop} {s : Topo}
    (hstep : ∀ b (k : Ref → Bool), (∀ x, k x = false → C x) → Rm C (restrict k s) (f b (restrict k s)))
    (L : List β) (k0 : Ref → Bool) (h0 : ∀ x, k0 x = false → C x) : Rm C (restrict k0 s) (M.forEach L f (restrict k0 s)) :=
  (Rm.forEach (Qb := fun _ => C) (needs := fun _ _ => False) L k0 (fun _ _ _ h => h) (fun b _ k hk _ => hstep b k hk) h0
    (fun _ _ _ h => h.elim) (List.pairwise_of_forall fun _ _ _ h => h.elim)).mono fun _ ⟨_, _, h⟩ => h

/-- a loop over the nodes `l`, the pass on `m` deleting `m` and keys in `D m`, none of which is another node of `l`: no pass deletes what a
later one looks up -/
theorem Rm.targets {f : Nid → M Topo Unit} {u : Topo} {D : GNode → Ref → Prop} {C : Ref → Prop} (l : List GNode)
    (hl : (l.map (·.nid)).Nodup) (hD : ∀ a ∈ l, ∀ b ∈ l, a.nid ≠ b.nid → ¬ D a b.ref) (hC : ∀ m ∈ l, ∀ x, x = m.ref ∨ D m x → C x)
    (hstep : ∀ m ∈ l, ∀ k : Ref → Bool, (∀ x, k x = false → C x) → k m.ref = true →
      Rm (fun x => x = m.ref ∨ D m x) (restrict k u) (f m.nid (restrict k u)))
    (k0 : Ref → Bool) (h0 : ∀ x, k0 x = false → C x) (hk0 : ∀ m ∈ l, k0 m.ref = true) :
    Rm (fun x => ∃ m ∈ l, x = m.ref ∨ D m x) (restrict k0 u) (M.forEach (l.map (·.nid)) f (restrict k0 u)) := by
  rw [forEach_map]
  refine Rm.forEach (Qb := fun m x => x = m.ref ∨ D m x) (needs := fun m r => r = m.ref) l k0 hC
    (fun m hm k hk hkm => hstep m hm k hk (hkm _ rfl)) h0 (fun m hm _ e => e ▸ hk0 m hm) ?_
  refine List.Pairwise.imp_of_mem ?_ (List.pairwise_map.mp hl)
  rintro a b ha hb hne _ rfl (h | h)
  · exact hne (nid_of_ref_eq h).symm
  · exact hD a ha b hb hne h

def nsAttached (s : Topo) (r : Ref) : Bool :=
  s.edges.any (fun e => e.rel == .connects &&
    ((e.a == r && e.b.cls == .networkService) || (e.b == r && e.a.cls == .networkService)))

/-- no edge joins two ConnectionPoints that are both attached to a service (a sub-interface hangs off its parent interface only) -/
def CpEdgeOk (s : Topo) : Prop :=
  ∀ e ∈ s.edges, e.a.cls = .connectionPoint → e.b.cls = .connectionPoint → ¬ (nsAttached s e.a = true ∧ nsAttached s e.b = true)

instance (s : Topo) : Decidable (CpEdgeOk s) := by unfold CpEdgeOk; infer_instance

theorem nsAttached_restrict {s : Topo} {k : Ref → Bool} {r : Ref} (h : nsAttached (restrict k s) r = true) : nsAttached s r = true := by
  unfold nsAttached at h ⊢
  rw [List.any_eq_true] at h ⊢
  obtain ⟨e, he, h1⟩ := h
  exact ⟨e, (mem_restrict_edges.mp he).1, h1⟩

theorem cpEdgeOk_restrict {s : Topo} (h : CpEdgeOk s) (k : Ref → Bool) : CpEdgeOk (restrict k s) := by
  intro e he ha hb ⟨h1, h2⟩
  exact h e (mem_restrict_edges.mp he).1 ha hb ⟨nsAttached_restrict h1, nsAttached_restrict h2⟩

theorem nsAttached_of_adjacent {s : Topo} {v x : Ref} (hv : v.cls = .networkService)
    (h : adjacent s v x .connects = true) : nsAttached s x = true := by
  rw [adjacent_iff] at h
  obtain ⟨e, he, hr, hs⟩ := h
  unfold nsAttached
  rw [List.any_eq_true]
  refine ⟨e, he, ?_⟩
  rw [sameEnds_iff] at hs
  rcases hs with ⟨h1, h2⟩ | ⟨h1, h2⟩
  · simp [hr, h1, h2, hv]
  · simp [hr, h1, h2, hv]

def DelNs (v : GNode) (x : Ref) : Prop := x = v.ref ∨ x.cls = .connectionPoint ∨ x.cls = .link

theorem removeNs_spec {u : Topo} (hd : IdsDistinct u) (hcp : CpEdgeOk u) {v : GNode} (hv : v ∈ u.nodes)
    (hcls : v.cls = .networkService) : Rm (DelNs v) u (removeNs v.nid u) := by
  unfold removeNs
  rw [bind_ok (findNode_of_mem hd hv), bind_ok (guard_run (by simp [hcls])),
    bind_ok (firstNeighbor_run hd hv .connects .connectionPoint), bind_ok (deleteNode_run hd hv), dropNode_eq_restrict]
  have hloop := Rm.targets (f := fun i => removeCpAndLinks i true) (u := u)
    (D := fun m x => (x.cls = .connectionPoint ∧ adjacent u m.ref x .connects = true) ∨ x.cls = .link)
    (C := fun x => x = v.ref ∨ x.cls = .connectionPoint ∨ x.cls = .link)
    (neighbors u v.ref .connects .connectionPoint) (neighbors_nodup hd ..)
    (fun a ha b hb _ h => by
      -- two interfaces of the service `v` are not joined by an edge (`CpEdgeOk`)
      obtain ⟨_, ha2, ha3⟩ := mem_neighbors ha
      obtain ⟨_, hb2, hb3⟩ := mem_neighbors hb
      rcases h with ⟨_, h⟩ | h
      · obtain ⟨e, he, _, hs⟩ := adjacent_iff.mp h
        have n1 := nsAttached_of_adjacent (by simp [hcls]) ha3
        have n2 := nsAttached_of_adjacent (by simp [hcls]) hb3
        rcases sameEnds_iff.mp hs with ⟨h1, h2⟩ | ⟨h1, h2⟩
        · exact hcp e he (by rw [h1]; exact ha2) (by rw [h2]; exact hb2) ⟨by rw [h1]; exact n1, by rw [h2]; exact n2⟩
        · exact hcp e he (by rw [h1]; exact hb2) (by rw [h2]; exact ha2) ⟨by rw [h1]; exact n2, by rw [h2]; exact n1⟩
      · rw [ref_cls, hb2] at h; cases h)
    (fun m hm x hx => by
      rcases hx with rfl | ⟨h, _⟩ | h
      · exact .inr (.inl (neighbors_cls hm))
      · exact .inr (.inl h)
      · exact .inr (.inr h))
    (fun m hm k _ hkm => (removeCpAndLinks_spec (idsDistinct_restrict hd k) (mem_restrict_nodes.mpr ⟨(mem_neighbors hm).1, hkm⟩) true).mono
      fun x hx => hx.imp id (Or.imp (And.imp_right adjacent_restrict) id))
    (fun x => x != v.ref) (fun x hx => .inl (by simpa using hx))
    (fun m hm => by simpa using fun e => by have := (cls_of_ref_eq e).symm.trans (neighbors_cls hm); simp [hcls] at this)
  refine (Rm.lift (Q0 := fun x => x = v.ref) (fun x hx => by simpa using hx) hloop).mono fun x hx => ?_
  rcases hx with h | ⟨m, hm, rfl | ⟨h, _⟩ | h⟩
  · exact .inl h
  · exact .inr (.inl (neighbors_cls hm))
  · exact .inr (.inl h)
  · exact .inr (.inr h)

def Below (x : Ref) : Prop := x.cls = .networkService ∨ x.cls = .connectionPoint ∨ x.cls = .link

theorem dropThenNs_spec {u : Topo} (hd : IdsDistinct u) (hcp : CpEdgeOk u) {w : GNode} (hw : w ∈ u.nodes)
    (hwc : w.cls ≠ .networkService) :
    Rm (fun x => x = w.ref ∨ Below x) u
      ((deleteNode w.nid >>= fun _ => M.forEach ((neighbors u w.ref .has .networkService).map (·.nid)) removeNs) u) := by
  rw [bind_ok (deleteNode_run hd hw), dropNode_eq_restrict]
  have hloop := Rm.targets (f := removeNs) (u := u) (D := fun _ x => x.cls = .connectionPoint ∨ x.cls = .link)
    (C := fun x => x = w.ref ∨ Below x) (neighbors u w.ref .has .networkService) (neighbors_nodup hd ..)
    (fun _ _ b hb _ h => by rw [ref_cls, neighbors_cls hb] at h; rcases h with h | h <;> cases h)
    (fun m hm x hx => .inr (hx.imp (fun h => by rw [h]; exact neighbors_cls hm) id))
    (fun m hm k _ hkm => removeNs_spec (idsDistinct_restrict hd k) (cpEdgeOk_restrict hcp k)
      (mem_restrict_nodes.mpr ⟨(mem_neighbors hm).1, hkm⟩) (neighbors_cls hm))
    (fun x => x != w.ref) (fun x hx => .inl (by simpa using hx))
    (fun m hm => by simpa using fun e => hwc ((cls_of_ref_eq e).symm.trans (neighbors_cls hm)))
  exact (Rm.lift (Q0 := fun x => x = w.ref) (fun x hx => by simpa using hx) hloop).mono fun x hx =>
    hx.imp id fun ⟨m, hm, h⟩ => h.imp (fun h => by rw [h]; exact neighbors_cls hm) id

def DelComp (c : GNode) (x : Ref) : Prop := x = c.ref ∨ Below x

theorem removeCompGraph_spec {u : Topo} (hd : IdsDistinct u) (hcp : CpEdgeOk u) {c : GNode} (hc : c ∈ u.nodes)
    (hcls : c.cls = .component) : Rm (DelComp c) u (removeCompGraph c.nid u) := by
  unfold removeCompGraph
  rw [bind_ok (findNode_of_mem hd hc), bind_ok (guard_run (by simp [hcls])), bind_ok (firstNeighbor_run hd hc .has .networkService)]
  exact dropThenNs_spec hd hcp hc (by rw [hcls]; intro h; cases h)

def DelNode (v : GNode) (x : Ref) : Prop := x = v.ref ∨ x.cls = .component ∨ Below x

theorem removeNodeGraph_spec {u : Topo} (hd : IdsDistinct u) (hcp : CpEdgeOk u) {v : GNode} (hv : v ∈ u.nodes)
    (hcls : v.cls = .networkNode) : Rm (DelNode v) u (removeNodeGraph v.nid u) := by
  unfold removeNodeGraph
  rw [bind_ok (findNode_of_mem hd hv), bind_ok (guard_run (by simp [hcls])), bind_ok (firstNeighbor_run hd hv .has .component)]
  have h1 := Rm.targets (f := removeCompGraph) (u := u) (D := fun _ => Below) (C := fun x => x.cls = .component ∨ Below x)
    (neighbors u v.ref .has .component) (neighbors_nodup hd ..)
    (fun _ _ b hb _ h => by rw [Below, ref_cls, neighbors_cls hb] at h; rcases h with h | h | h <;> cases h)
    (fun m hm x hx => hx.imp (fun h => by rw [h]; exact neighbors_cls hm) id)
    (fun m hm k _ hkm => removeCompGraph_spec (idsDistinct_restrict hd k) (cpEdgeOk_restrict hcp k)
      (mem_restrict_nodes.mpr ⟨(mem_neighbors hm).1, hkm⟩) (neighbors_cls hm))
    (fun _ => true) (fun x hx => nomatch hx) (fun _ _ => rfl)
  rw [restrict_true] at h1
  have hcomp : ∀ x, (∃ m ∈ neighbors u v.ref .has .component, x = m.ref ∨ Below x) → x.cls = .component ∨ Below x :=
    fun x ⟨m, hm, h⟩ => h.imp (fun h => by rw [h]; exact neighbors_cls hm) id
  refine (Rm.bind_next (h1.mono hcomp) (Q2 := fun x => x = v.ref ∨ Below x) (fun k hk => ?_)).mono ?_
  · have hvk : v ∈ (restrict k u).nodes := by
      refine mem_restrict_nodes.mpr ⟨hv, ?_⟩
      cases h : k v.ref
      · rcases hk _ h with hb | hb | hb | hb <;> simp [hcls] at hb
      · rfl
    rw [bind_ok (firstNeighbor_run (idsDistinct_restrict hd k) hvk .has .networkService)]
    exact dropThenNs_spec (idsDistinct_restrict hd k) (cpEdgeOk_restrict hcp k) hvk (by rw [hcls]; intro h; cases h)
  · intro x hx
    rcases hx with (h | h) | h | h
    · exact .inr (.inl h)
    · exact .inr (.inr h)
    · exact .inl h
    · exact .inr (.inr h)

/-- a ServicePort has no ConnectionPoint neighbour -/
def SpLeaf (s : Topo) : Prop :=
  ∀ n ∈ s.nodes, n.typ = "ServicePort" → ∀ e ∈ s.edges,
    (e.a = n.ref → e.b.cls ≠ .connectionPoint) ∧ (e.b = n.ref → e.a.cls ≠ .connectionPoint)

instance (s : Topo) : Decidable (SpLeaf s) := by unfold SpLeaf; infer_instance

theorem spLeaf_no_cp {u : Topo} (hsl : SpLeaf u) {b : GNode} (hb : b ∈ u.nodes) (ht : b.typ = "ServicePort") {x : Ref}
    (hx : x.cls = .connectionPoint) {rel : Rel} : adjacent u b.ref x rel = true → False := by
  intro hadj
  rw [adjacent_iff] at hadj
  obtain ⟨e, he, _, hs⟩ := hadj
  rw [sameEnds_iff] at hs
  rcases hs with ⟨h1, h2⟩ | ⟨h1, h2⟩
  · exact (hsl b hb ht e he).1 h1 (by rw [h2]; exact hx)
  · exact (hsl b hb ht e he).2 h2 (by rw [h1]; exact hx)

theorem spLeaf_restrict {s : Topo} (h : SpLeaf s) (k : Ref → Bool) : SpLeaf (restrict k s) := by
  intro n hn ht e he
  exact h n (mem_restrict_nodes.mp hn).1 ht e (mem_restrict_edges.mp he).1

theorem removeSps_spec {u : Topo} (hd : IdsDistinct u) (hsl : SpLeaf u) (sps : List GNode) (hnd : (sps.map (·.nid)).Nodup)
    (hin : ∀ m ∈ sps, m ∈ u.nodes ∧ m.cls = .connectionPoint ∧ m.typ = "ServicePort")
    (k0 : Ref → Bool) (hk0 : ∀ x, k0 x = false → x.cls = .link) :
    Rm (fun x => x.cls = .connectionPoint ∨ x.cls = .link) (restrict k0 u)
      (M.forEach sps (fun sp => removeCpAndLinks sp.nid true) (restrict k0 u)) := by
  have e : M.forEach sps (fun sp : GNode => removeCpAndLinks sp.nid true) = M.forEach (sps.map (·.nid)) (fun i => removeCpAndLinks i true) :=
    (forEach_map (fun sp : GNode => sp.nid) (fun i => removeCpAndLinks i true) sps).symm
  rw [e]
  refine (Rm.targets (f := fun i => removeCpAndLinks i true) (u := u) (D := fun _ x => x.cls = .link)
    (C := fun x => x.cls = .connectionPoint ∨ x.cls = .link) sps hnd
    (fun _ _ b hb _ h => by rw [ref_cls, (hin b hb).2.1] at h; cases h)
    (fun m hm x hx => hx.imp (fun h => by rw [h]; exact (hin m hm).2.1) id)
    (fun m hm k _ hkm => (removeCpAndLinks_spec (idsDistinct_restrict hd k) (mem_restrict_nodes.mpr ⟨(hin m hm).1, hkm⟩) true).mono
      fun x hx => by
        rcases hx with h | ⟨h1, h2⟩ | h
        · exact .inl h
        · exact (spLeaf_no_cp hsl (hin m hm).1 (hin m hm).2.2 h1 (adjacent_restrict h2)).elim
        · exact .inr h)
    k0 (fun x hx => .inr (hk0 x hx)) fun m hm => by
      cases h : k0 m.ref
      · have := hk0 _ h; simp [(hin m hm).2.1] at this
      · rfl).mono fun x ⟨m, hm, h⟩ => h.imp (fun h => by rw [h]; exact (hin m hm).2.1) id

/-- `Topology.remove_link`: both look-ups come first; then the link and the ServicePorts it peered go, and nothing can raise -/
theorem removeLink_fs (name : String) (s : Topo) (hd : IdsDistinct s) (hsl : SpLeaf s) : FS s (removeLink name s) := by
  unfold removeLink
  refine ro_step (by ro) FS.err (fun n hn => ?_)
  refine ro_step (by ro) FS.err (fun cps hcps => ?_)
  obtain ⟨hn1, hn2, _, _⟩ := findByName_ok hn
  obtain ⟨pn, hpn, hpi, hl, _⟩ := childrenOf_ok hd hcps
  have : pn = n := eq_of_nid_eq hd hpn hn1 hpi
  subst this
  rw [bind_ok (deleteNode_run hd hn1), dropNode_eq_restrict]
  refine (removeSps_spec hd hsl (cps.filter (fun x => x.typ == "ServicePort")) ?_ ?_ (fun x => x != pn.ref) ?_).fs
  · rw [hl]
    exact List.Nodup.sublist (List.Sublist.map _ List.filter_sublist) (neighbors_nodup hd _ _ _)
  · intro m hm
    have hm' := List.mem_filter.mp hm
    rw [hl] at hm'
    obtain ⟨h1, h2, _⟩ := mem_neighbors hm'.1
    exact ⟨h1, h2, by simpa using hm'.2⟩
  · intro x hx
    have : x = pn.ref := by simpa using hx
    rw [this]; simp [hn2]

theorem findPeering_ok {s : Topo} (hd : IdsDistinct s) {ids : List Nid} : ∀ {cache : Cache} {s' : Topo} {a b : Nid},
    findPeering ids cache s = (.ok (some (a, b)), s') →
    ∃ na ∈ s.nodes, na.nid = a ∧ na.typ = "ServicePort" ∧ ∃ pb ∈ s.nodes, pb.nid = b ∧ pb.cls = .connectionPoint ∧ pb.ref ≠ na.ref := by
  intro cache
  induction cache with
  | nil => intro s' a b h; simp [findPeering] at h
  | cons x rest ih =>
    intro s' a b h
    obtain ⟨nm, own⟩ := x
    unfold findPeering at h
    obtain ⟨t, h1, h⟩ := ro_ok_inv (readOnly_typeOf _) h
    obtain ⟨na, h0, rfl⟩ := typeOf_ok h1
    obtain ⟨hna, hnai, _⟩ := findNode_ok h0
    split at h
    · exact ih h
    · rename_i hsp
      have hty : na.typ = "ServicePort" := by simpa using hsp
      subst hnai
      rw [bind_ok (peersOf_run hd hna), bind_ok (mapM'_findNode hd _ (fun x hx => (mem_peerNodes hx).1))] at h
      cases hf : (peerNodes s na.ref).filter (fun n => n.typ == "ServicePort" && ids.contains n.nid) with
      | nil =>
        rw [hf] at h
        exact ih h
      | cons p tl =>
        rw [hf] at h
        simp only [pure_apply', Prod.mk.injEq, Except.ok.injEq, Option.some.injEq] at h
        obtain ⟨⟨rfl, rfl⟩, _⟩ := h
        have hp : p ∈ (peerNodes s na.ref).filter (fun n => n.typ == "ServicePort" && ids.contains n.nid) := by rw [hf]; simp
        obtain ⟨h1, h2, h3⟩ := mem_peerNodes (List.mem_filter.mp hp).1
        exact ⟨na, hna, rfl, hty, p, h1, rfl, h2, h3⟩

/-- `NetworkService.unpeer`: the search only reads; both ServicePorts are then in the model and neither removal deletes the other -/
theorem unpeer_fs (cache : Cache) (other : Option SvcHandle) (s : Topo) (hd : IdsDistinct s) (hsl : SpLeaf s) :
    FS s (unpeer cache other s) := by
  unfold unpeer
  cases other with
  | none => exact FS.err _
  | some o =>
    simp only []
    refine ro_step (by ro) FS.err (fun sp hsp => ?_)
    refine ro_step (by ro) FS.err (fun ab hab => ?_)
    obtain ⟨a, b⟩ := ab
    have := need_ok hab
    subst this
    obtain ⟨na, hna, rfl, hty, pb, hpb, rfl, hpc, hne⟩ := findPeering_ok hd hsp
    simp only []
    obtain ⟨k1, hk1, hq1⟩ := removeCpAndLinks_spec hd hna true
    rw [bind_ok hk1]
    have hkept : k1 pb.ref = true := by
      cases hk : k1 pb.ref
      · rcases hq1 _ hk with h | ⟨h1, h2⟩ | h
        · exact absurd h hne
        · exact (spLeaf_no_cp hsl hna hty h1 h2).elim
        · simp [hpc] at h
      · rfl
    obtain ⟨k2, hk2, _⟩ := removeCpAndLinks_spec (idsDistinct_restrict hd k1) (mem_restrict_nodes.mpr ⟨hpb, hkept⟩) true
    rw [bind_ok hk2]
    intro hf; simp at hf

end FimVerif.Topo
