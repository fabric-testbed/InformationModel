import FimVerif.Proofs.Lemmas.C12Codec
/-! C12: what the API can construct, so that the well-formedness hypotheses of the round-trip theorems exclude nothing the API
produces apart from what the property itself excludes (details never set, or empty). -/
namespace FimVerif.C12
open FimVerif.Deleg FimVerif.Gen.DelegConsts

variable {D : Type}

/-- a `Delegation` object as the API makes it: `Delegation(...)`, then any number of successful `set_details` calls
(a rejected call raises and changes nothing) -/
inductive Built (ops : DetailOps D) : Delegation D → Prop
  | ctor (ty : DType) (id : String) (fmt : Fmt) (pool : Option String) (d : Delegation D) :
      mkDelegation ty id fmt pool = .ok d → Built ops d
  | set (d d' : Delegation D) (x : D) : Built ops d → setDetails ops d x = .ok d' → Built ops d'

/-- a `Delegations` container as the API makes it: `Delegations(atype=ty)`, then any number of `add_delegations(*args)`
calls (a call that raises keeps the arguments before the offending one, as the code does) -/
inductive Reachable (ty : DType) : Delegations D → Prop
  | new : Reachable ty { ty := ty, items := [] }
  | call (ds : Delegations D) (args : List (Delegation D)) : Reachable ty ds → Reachable ty (addDelegations ds args).1

theorem built_inv (ops : DetailOps D) (d : Delegation D) (h : Built ops d) :
    (d.fmt = .reference → d.details = none) ∧ (∀ x, d.details = some x → ops.kindOf x = d.ty) ∧
    (d.fmt ≠ .single → match d.pool with | none => False | some p => p ≠ singlePoolName) := by
  induction h with
  | ctor ty id fmt pool d hd =>
    obtain ⟨he, hp⟩ := mkDelegation_ok hd
    rw [he]
    exact ⟨fun _ => rfl, fun x hx => (by cases hx), hp⟩
  | set d d' x _ hs ih =>
    obtain ⟨hf, hk, rfl⟩ := setDetails_ok hs
    refine ⟨fun h => absurd h hf, fun y hy => ?_, ih.2.2⟩
    simp only [Option.some.injEq] at hy
    subst hy; exact hk

theorem reachable_inv (ty : DType) (ds : Delegations D) (h : Reachable ty ds) :
    ds.ty = ty ∧ (∀ d ∈ ds.items, d.ty = ty) ∧ ds.items.Pairwise (fun a b => a.id ≠ b.id) := by
  induction h with
  | new => exact ⟨rfl, by simp, List.Pairwise.nil⟩
  | call ds args _ ih =>
    obtain ⟨hty, hall, hpw⟩ := ih
    obtain ⟨pre, suf, -, hok, hst, -⟩ := addDelegations_spec ds args
    rw [hst]
    refine ⟨hty, ?_, ?_⟩
    · intro d hd
      rcases List.mem_append.mp hd with hd | hd
      · exact hall d hd
      · rw [hok.1 d hd, hty]
    · exact List.pairwise_append.mpr ⟨hpw, hok.2.2, fun a ha b hb => hok.2.1 b hb a ha⟩

/-- details that are not empty and survive `Cls(**x.to_dict())` -/
def Survives (ops : DetailOps D) (x : D) : Prop :=
  match ops.toDict x with
  | none => False
  | some j => ops.fromDict (ops.kindOf x) j = .ok x

theorem detOk_iff_survives {ops : DetailOps D} {ty : DType} {x : D} :
    DetOk ops ty (some x) ↔ ops.kindOf x = ty ∧ Survives ops x := by
  constructor <;> rintro ⟨rfl, h⟩ <;> exact ⟨rfl, h⟩

/-- the property's own restriction on a constructed set: every single-resource delegation and every pool definition has had
its details set (to details that are not empty and survive their own codec), a single-resource delegation was not given a
pool name -/
def Complete (ops : DetailOps D) (ds : Delegations D) : Prop :=
  ∀ d ∈ ds.items, (d.fmt ≠ .reference → ∃ x, d.details = some x ∧ Survives ops x) ∧ (d.fmt = .single → d.pool = none)

theorem wf_of_api {ops : DetailOps D} {ty : DType} {ds : Delegations D} (hr : Reachable ty ds)
    (hb : ∀ d ∈ ds.items, Built ops d) (hc : Complete ops ds) : WF ops ds := by
  obtain ⟨hty, hall, hpw⟩ := reachable_inv ty ds hr
  refine ⟨fun d hd => ?_, hpw⟩
  obtain ⟨hbr, hbk, hbp⟩ := built_inv ops d (hb d hd)
  obtain ⟨hcd, hcs⟩ := hc d hd
  have hdty : d.ty = ds.ty := by rw [hall d hd, hty]
  refine ⟨hdty, ?_⟩
  have hdet : d.fmt ≠ .reference → DetOk ops ds.ty d.details := by
    intro hf
    obtain ⟨x, hx, hs⟩ := hcd hf
    rw [hx]
    exact detOk_iff_survives.mpr ⟨by rw [hbk x hx, hdty], hs⟩
  cases hf : d.fmt with
  | single => exact ⟨hcs hf, hdet (by rw [hf]; decide)⟩
  | definition => exact ⟨hbp (by rw [hf]; decide), hdet (by rw [hf]; decide)⟩
  | reference => exact ⟨hbp (by rw [hf]; decide), hbr hf⟩

end FimVerif.C12
