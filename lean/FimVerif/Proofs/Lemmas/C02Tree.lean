import FimVerif.Proofs.Lemmas.C02Props
/-! Sliver trees for C02: `WF`, the hypothesis of every tree theorem, and `normalize`, what the dictionary path rebuilds (the graph path:
`gnorm` in `C02Graph`).  Both paths need the same of a rebuilt child: it keeps its key and passes `add_device`'s check
(`rebuilt_key_childOk`), and `Info.add_*` over distinct keys drops nothing (`dedupe_nodup`).  The dictionary round trip
`dict_roundtrip_partial` is proved here. -/
namespace FimVerif.C02
open FimVerif.Sliver FimVerif.Gen.SliverMap

section
variable {V P : Type}

/-- the key under which a child sits in its parent's `*Info` dictionary (one dictionary per child kind) -/
def keyOf (c : Sliver V) : Kind × Option V := (c.kind, nameOf c)

mutual
/-- what a rebuilt sliver can at best be: no node id (the dictionary form does not carry `NodeID`), the fields the
from-table rebuilds, children likewise -/
def normalize : Sliver V → Sliver V
  | .mk k _ f ks => .mk k none (restrict (tableOf k) f) (normalizeKids ks)
def normalizeKids : List (Sliver V) → List (Sliver V)
  | [] => []
  | c :: cs => normalize c :: normalizeKids cs
end

mutual
/-- well-formed sliver tree: at every element the table check, the codec law, fate sharing and required fields hold;
children are of a kind the parent can contain, components carry name and type (`add_device` asserts it), and
siblings of one kind have distinct names (they live in a dict keyed by name). -/
def WF (C : Codecs V P) : Sliver V → Prop
  | .mk k _ f ks => tableOK (tableOf k) = true ∧ FieldLaw C (tableOf k) f ∧ FateShared (tableOf k) f ∧
      Required (tableOf k) f ∧ WFKids C k ks ∧ (ks.map keyOf).Nodup
def WFKids (C : Codecs V P) (parent : Kind) : List (Sliver V) → Prop
  | [] => True
  | c :: cs => (slotOf parent c.kind).isSome = true ∧ childOk c = true ∧ WF C c ∧ WFKids C parent cs
end

theorem wfKids_mem (C : Codecs V P) (pk : Kind) (ks : List (Sliver V)) (h : WFKids C pk ks) :
    ∀ c ∈ ks, (slotOf pk c.kind).isSome = true ∧ childOk c = true ∧ WF C c := by
  induction ks with
  | nil => intro c hc; cases hc
  | cons c0 cs ih =>
    simp only [WFKids] at h
    intro c hc
    rcases List.mem_cons.mp hc with rfl | hc
    · exact ⟨h.1, h.2.1, h.2.2.1⟩
    · exact ih h.2.2.2 c hc

theorem wf_roundtrip (C : Codecs V P) (s : Sliver V) (h : WF C s) :
    fromProps C (tableOf s.kind) (toProps C (tableOf s.kind) s.fields) = .ok (restrict (tableOf s.kind) s.fields) := by
  cases s
  simp only [WF] at h
  exact props_roundtrip_partial C _ _ h.1 h.2.1 h.2.2.1 h.2.2.2.1

theorem slotOf_forall {Q : Kind → Kind → Prop} (hQ : Q "node" "component" ∧ Q "node" "service" ∧ Q "component" "service" ∧
    Q "service" "interface" ∧ Q "interface" "interface") (p c : Kind) (h : (slotOf p c).isSome = true) : Q p c := by
  unfold slotOf at h
  by_cases h1 : p = "node" ∧ c = "component"
  · exact h1.1 ▸ h1.2 ▸ hQ.1
  by_cases h2 : p = "node" ∧ c = "service"
  · exact h2.1 ▸ h2.2 ▸ hQ.2.1
  by_cases h3 : p = "component" ∧ c = "service"
  · exact h3.1 ▸ h3.2 ▸ hQ.2.2.1
  by_cases h4 : p = "service" ∧ c = "interface"
  · exact h4.1 ▸ h4.2 ▸ hQ.2.2.2.1
  by_cases h5 : p = "interface" ∧ c = "interface"
  · exact h5.1 ▸ h5.2 ▸ hQ.2.2.2.2
  rw [if_neg h1, if_neg h2, if_neg h3, if_neg h4, if_neg h5] at h
  cases h

theorem childKind_slotOf (p c : Kind) (sl : String) (h : slotOf p c = some sl) : childKind p sl = some c := by
  have := slotOf_forall (Q := fun p c => (slotOf p c).bind (childKind p) = some c) (by decide) p c (by rw [h]; rfl)
  rwa [h] at this

/-- key and `add_device` check look at kind, name and type only, and every checked table rebuilds name and type -/
theorem rebuilt_key_childOk {T : KindTable} (hT : tableOK T = true) {k : Kind} {i j : Option String} {f : Fields V}
    {ks ks' : List (Sliver V)} :
    keyOf (.mk k i (restrict T f) ks') = keyOf (.mk k j f ks) ∧ childOk (.mk k i (restrict T f) ks') = childOk (.mk k j f ks) := by
  simp only [keyOf, childOk, nameOf, Sliver.kind, Sliver.fields, restrict, if_pos (tableFacts hT).has_name,
    if_pos (tableFacts hT).has_type, and_self]

theorem normalize_key_childOk (C : Codecs V P) (s : Sliver V) (h : WF C s) :
    keyOf (normalize s) = keyOf s ∧ childOk (normalize s) = childOk s := by
  cases s
  simp only [WF] at h
  exact rebuilt_key_childOk h.1

theorem normalizeKids_keys (C : Codecs V P) (parent : Kind) (ks : List (Sliver V)) (h : WFKids C parent ks) :
    (normalizeKids ks).map keyOf = ks.map keyOf := by
  induction ks with
  | nil => simp [normalizeKids]
  | cons c cs ih =>
    simp only [WFKids] at h
    simp only [normalizeKids, List.map_cons]
    rw [(normalize_key_childOk C c h.2.2.1).1, ih h.2.2.2]

variable [DecidableEq V]

theorem insertByName_fresh (acc : List (Sliver V)) (c : Sliver V) (h : keyOf c ∉ acc.map keyOf) :
    insertByName acc c = acc ++ [c] := by
  unfold insertByName
  rw [if_neg]
  intro hany
  simp only [List.any_eq_true, Bool.and_eq_true, beq_iff_eq, decide_eq_true_eq] at hany
  obtain ⟨x, hx, hk, hn⟩ := hany
  apply h
  refine List.mem_map.mpr ⟨x, hx, ?_⟩
  unfold keyOf
  rw [hk, hn]

theorem foldl_insert_nodup (cs acc : List (Sliver V)) (h : ((acc ++ cs).map keyOf).Nodup) :
    cs.foldl insertByName acc = acc ++ cs := by
  induction cs generalizing acc with
  | nil => simp
  | cons c cs ih =>
    rw [List.foldl_cons]
    have hfresh : keyOf c ∉ acc.map keyOf := by
      intro hm
      simp only [List.map_append, List.map_cons] at h
      have := (List.nodup_append.mp h).2.2
      exact this _ hm _ (List.mem_cons_self) rfl
    rw [insertByName_fresh acc c hfresh]
    have h' : (((acc ++ [c]) ++ cs).map keyOf).Nodup := by
      simpa [List.append_assoc] using h
    rw [ih _ h']
    simp [List.append_assoc]

theorem dedupe_nodup (cs : List (Sliver V)) (h : (cs.map keyOf).Nodup) : dedupe cs = cs := by
  unfold dedupe
  rw [foldl_insert_nodup cs [] (by simpa using h)]
  simp

mutual
/--
**Deep dictionary round trip** (`build_deep_<kind>_sliver_from_dict ∘ sliver_to_dict`, which is also the JSONSliver
path up to `json.loads ∘ json.dumps` on string-valued dictionaries): for every well-formed sliver tree of any depth
and width the rebuilt tree has the same kind, the same value in every rebuilt property and the same children in the
same order, recursively.  It carries no node id (`sliver_to_dict` does not emit `NodeID`; the id is not settable).
`_partial` only through `WF`'s `FateShared` conjunct (see `props_roundtrip_partial`).
-/
theorem dict_roundtrip_partial (C : Codecs V P) (s : Sliver V) (h : WF C s) :
    fromDict C s.kind (toDict C s) = .ok (normalize s) :=
  match s, h with
  | .mk k i f ks, h => by
    have hp := by simpa only [Sliver.kind, Sliver.fields] using wf_roundtrip C _ h
    simp only [WF] at h
    obtain ⟨-, -, -, -, hkids, hnd⟩ := h
    have hk := dict_kids_aux C k ks hkids
    simp only [toDict, Sliver.kind, fromDict, hp, hk, normalize]
    rw [dedupe_nodup]
    rw [normalizeKids_keys C k ks hkids]
    exact hnd
theorem dict_kids_aux (C : Codecs V P) (parent : Kind) : ∀ (ks : List (Sliver V)), WFKids C parent ks →
    fromDictKids C parent (toDictKids C parent ks) = .ok (normalizeKids ks)
  | [], _ => by simp [toDictKids, fromDictKids, normalizeKids]
  | c :: cs, h => by
    simp only [WFKids] at h
    obtain ⟨hslot, hok, hc, hcs⟩ := h
    obtain ⟨slot, hs⟩ := Option.isSome_iff_exists.mp hslot
    have h1 := dict_roundtrip_partial C c hc
    have h2 := dict_kids_aux C parent cs hcs
    have hck := childKind_slotOf parent c.kind slot hs
    have hok' : childOk (normalize c) = true := by rw [(normalize_key_childOk C c hc).2]; exact hok
    simp only [toDictKids, hs, fromDictKids, hck, h1, h2, hok', normalizeKids, if_true]
end

end
end FimVerif.C02
