import FimVerif.Proofs.Lemmas.TopoInvFac
import FimVerif.Proofs.Lemmas.TopoAtomicPeer
/-!
# C07 — the second alphabet (`Topo.XOp`; `model_type=` components are in `TopoInvComp`)

`add_child_interface` hangs a fresh element off its container (`AttachStable`); `remove_child_interface`, `unpeer`, `prune` are
compositions of reads and `delete_node` (`DropStable`); `peer` raises and leaves the model as it was or returns in the explicit
state `peerState` (C09 `peer_cases`); `add_port_mirror_service` is two assertions and the service constructor.
-/
namespace FimVerif.Topo
open FimVerif FimVerif.M FimVerif.Gen

theorem inv_addChildInterface {P : Topo → Prop} (hP : AttachStable P) (fl : Flavour) (c : Nat) (port : Nid) (cache : Cache)
    (name : String) (nid : Option Nid) (vlan : Option String) (tbl : List (String × String)) (props : List PropArg) (s : Topo)
    (hh : HandleOk s port .connectionPoint) (h : P s) :
    P (addChildInterface fl c port cache name nid vlan tbl props s).2 :=
  (addChildInterface_spec fl c port cache name nid vlan tbl props s).state h fun _ _ ha =>
    ha.1.state (hP.closed _ h) hh (.inr rfl) (.of subInterface_ok) fun _ _ hm hnew hv he hpl hncls htyp =>
      hP.attach h hm hnew hv he hpl (fun _ hsp => by simp [hsp] at htyp) (.inl hncls)

section
variable {P : Topo → Prop} (hP : DropStable P)
include hP

theorem preserves_removeChildInterface (port : Nid) (cache : Cache) (name : String) :
    Preserves P (removeChildInterface port cache name) := by
  unfold removeChildInterface
  refine Preserves.ro_bind (by ro) (fun _ => ?_)
  refine Preserves.ro_bind (by ro) (fun _ => ?_)
  refine Preserves.ro_bind (by ro) (fun _ => ?_)
  refine Preserves.ro_bind (by ro) (fun _ => ?_)
  refine Preserves.bind (preserves_detachAll hP _) (fun _ => ?_)
  refine Preserves.bind (preserves_removeCpAndLinks hP _ _) (fun _ => ?_)
  exact ReadOnly.preserves (readOnly_pure _)

theorem preserves_unpeer (cache : Cache) (other : Option SvcHandle) : Preserves P (unpeer cache other) := by
  unfold unpeer
  split
  · exact ReadOnly.preserves (readOnly_raise _)
  · refine Preserves.ro_bind (readOnly_findPeering _ _) (fun _ => ?_)
    refine Preserves.ro_bind (by ro) (fun ab => ?_)
    obtain ⟨a, b⟩ := ab
    refine Preserves.bind (preserves_removeCpAndLinks hP _ _) (fun _ => ?_)
    refine Preserves.bind (preserves_removeCpAndLinks hP _ _) (fun _ => ?_)
    exact ReadOnly.preserves (readOnly_pure _)

theorem preserves_prune (nodes : List String) (comps : List (Nid × String × Nid)) (nss : List Nid) (ifs : List Nid) :
    Preserves P (prune nodes comps nss ifs) := by
  unfold prune
  refine Preserves.bind (preserves_forEach (fun _ => preserves_removeNode hP _)) (fun _ => ?_)
  refine Preserves.bind (preserves_forEach (fun x => ?_)) (fun _ => ?_)
  · refine Preserves.ro_bind (readOnly_read _) (fun _ => ?_)
    exact Preserves.ite (preserves_removeComponent hP _ _) (ReadOnly.preserves (readOnly_pure _))
  refine Preserves.bind (preserves_forEach (fun ns => ?_)) (fun _ => ?_)
  · refine Preserves.ro_bind (readOnly_read _) (fun _ => ?_)
    refine Preserves.ite ?_ (ReadOnly.preserves (readOnly_pure _))
    refine Preserves.ro_bind (by ro) (fun _ => ?_)
    refine Preserves.bind (preserves_detachAll hP _) (fun _ => ?_)
    exact preserves_removeNs hP _
  refine preserves_forEach (fun i => ?_)
  refine Preserves.ro_bind (readOnly_read _) (fun _ => ?_)
  refine Preserves.ite ?_ (ReadOnly.preserves (readOnly_pure _))
  refine Preserves.bind (preserves_detachAll hP _) (fun _ => ?_)
  exact preserves_removeCpAndLinks hP _ _

end

theorem addPortMirror_cases {fl : Flavour} {c : Nat} {a : SvcArgs} {toOk fromOk : Bool} {s : Topo} {Q : Except Err (Nid × Cache) × Topo → Prop}
    (herr : ∀ e, Q (.error e, s)) (hnew : Q (svcNew fl c none a s)) : Q (addPortMirror fl c a toOk fromOk s) := by
  unfold addPortMirror
  refine ro_step (readOnly_guard _ _) herr (fun _ _ => ?_)
  exact ro_step (readOnly_guard _ _) herr (fun _ _ => hnew)

theorem addPortMirror_stable {P : Topo → Prop} (hP : BuildStable P) (fl : Flavour) (c : Nat) (a : SvcArgs) (toOk fromOk : Bool) (s : Topo)
    (g : SvcGuards s c none a) (h : P s) : P (addPortMirror fl c a toOk fromOk s).2 :=
  addPortMirror_cases (Q := fun r => P r.2) (fun _ => h) (addService_stable hP fl c a s g h)

theorem invD_addPortMirror (fl : Flavour) (c : Nat) (a : SvcArgs) (toOk fromOk : Bool) (s : Topo) (g : SvcGuards s c none a)
    (h : InvD s) : InvD (addPortMirror fl c a toOk fromOk s).2 := addPortMirror_stable buildStable_invD fl c a toOk fromOk s g h

theorem invS_addPortMirror (fl : Flavour) (c : Nat) (a : SvcArgs) (toOk fromOk : Bool) (s : Topo) (g : SvcGuards s c none a)
    (h : InvS s) : InvS (addPortMirror fl c a toOk fromOk s).2 := addPortMirror_stable buildStable_invS fl c a toOk fromOk s g h

theorem invSN_addPortMirror (fl : Flavour) (c : Nat) (a : SvcArgs) (toOk fromOk : Bool) (s : Topo) (g : SvcGuards s c none a)
    (h : InvSN s) : InvSN (addPortMirror fl c a toOk fromOk s).2 := addPortMirror_stable buildStable_invSN fl c a toOk fromOk s g h

/-- the state `peer` leaves when it returns: a ServicePort on each service and one link between the two -/
def peerState (s : Topo) (pn po n1 n2 ln : GNode) : Topo :=
  grow s [n1, n2, ln] [⟨pn.ref, n1.ref, .connects⟩, ⟨po.ref, n2.ref, .connects⟩, ⟨ln.ref, n1.ref, .connects⟩, ⟨ln.ref, n2.ref, .connects⟩]

/-- C09's `PeerAdded` with the link's type (`L2Path`) replaced by what the invariant needs of it, `nodeOk ln` (`PeerNew.of`) -/
structure PeerNew (s : Topo) (c : Nat) (svc other : Nid) (pn po n1 n2 ln : GNode) : Prop where
  pm : pn ∈ s.nodes
  pi : pn.nid = svc
  om : po ∈ s.nodes
  oi : po.nid = other
  c1 : n1.cls = .connectionPoint
  t1 : n1.typ = "ServicePort"
  i1 : n1.nid = .gen c
  c2 : n2.cls = .connectionPoint
  t2 : n2.typ = "ServicePort"
  i2 : n2.nid = .gen (c + 1)
  cl : ln.cls = .link
  il : ln.nid = .gen (c + 2)
  vl : nodeOk ln = true
  fresh : ∀ m ∈ s.nodes, m.nid ≠ .gen c ∧ m.nid ≠ .gen (c + 1) ∧ m.nid ≠ .gen (c + 2)

theorem PeerNew.of {s : Topo} {c : Nat} {svc oid : Nid} {pn po n1 n2 ln : GNode} (h : PeerAdded s c svc oid pn po n1 n2 ln) :
    PeerNew s c svc oid pn po n1 n2 ln :=
  ⟨h.pm, h.pi, h.om, h.oi, h.c1, h.t1, h.i1, h.c2, h.t2, h.i2, h.cl, h.il, nodeOk_of h.cl (h.tl ▸ l2path_ok), h.fresh⟩

theorem peer_ok_state (fl : Flavour) (c : Nat) (svc : Nid) (sname : String) (cache : Cache) (o : SvcHandle) (props : List PropArg)
    (s s' : Topo) (v : Cache × Cache) (hi : IdsOk s) (hc : ClosedOk s) (hv : VocabOk s) (hog : o.nid ≠ .gen c)
    (hok : peer fl c svc sname cache (some o) props s = (.ok v, s')) :
    ∃ pn po n1 n2 ln, PeerNew s c svc o.nid pn po n1 n2 ln ∧ s' = peerState s pn po n1 n2 ln :=
  peer_cases (Q := fun r => r = (.ok v, s') → ∃ pn po n1 n2 ln, PeerNew s c svc o.nid pn po n1 n2 ln ∧ s' = peerState s pn po n1 n2 ln)
    hi hc hog (fun _ _ _ h => by simp at h) (fun pn po n1 n2 ln hA h => ⟨pn, po, n1, n2, ln, .of hA, (Prod.mk.inj h).2.symm⟩) hok

theorem PeerNew.grow {s : Topo} {c : Nat} {svc oid : Nid} {pn po n1 n2 ln : GNode} (h : PeerNew s c svc oid pn po n1 n2 ln)
    (hsv : pn.cls = .networkService) (hov : po.cls = .networkService) :
    GrowCL s [n1, n2, ln] [⟨pn.ref, n1.ref, .connects⟩, ⟨po.ref, n2.ref, .connects⟩, ⟨ln.ref, n1.ref, .connects⟩, ⟨ln.ref, n2.ref, .connects⟩] := by
  have r1 : n1.ref = ⟨.connectionPoint, .gen c⟩ := h.i1 ▸ ref_of_cls h.c1
  have r2 : n2.ref = ⟨.connectionPoint, .gen (c + 1)⟩ := h.i2 ▸ ref_of_cls h.c2
  have rl : ln.ref = ⟨.link, .gen (c + 2)⟩ := h.il ▸ ref_of_cls h.cl
  have rp : pn.ref = ⟨.networkService, pn.nid⟩ := ref_of_cls hsv
  have ro : po.ref = ⟨.networkService, po.nid⟩ := ref_of_cls hov
  refine ⟨.intro (fun x hx => ?_) (by simp [h.i1, h.i2, h.il]) (fun e he => ?_), ?_, fun x hx => ?_⟩
  · simp only [List.mem_cons, List.mem_nil_iff, or_false] at hx
    rcases hx with rfl | rfl | rfl
    · exact ⟨fun m hm => h.i1 ▸ (h.fresh m hm).1, nodeOk_of h.c1 (h.t1 ▸ servicePort_ok)⟩
    · exact ⟨fun m hm => h.i2 ▸ (h.fresh m hm).2.1, nodeOk_of h.c2 (h.t2 ▸ servicePort_ok)⟩
    · exact ⟨fun m hm => h.il ▸ (h.fresh m hm).2.2, h.vl⟩
  · simp only [List.mem_cons, List.mem_nil_iff, or_false] at he
    rcases he with rfl | rfl | rfl | rfl
    · exact .hang h.pm (by simp) (by simp [edgeOk, hsv, h.c1]) (by simp [hsv])
    · exact .hang h.om (by simp) (by simp [edgeOk, hov, h.c2]) (by simp [hov])
    · exact .linkToNew (by simp) h.cl (by simp) h.c1
    · exact .linkToNew (by simp) h.cl (by simp) h.c2
  -- owners, parents, peers among the four new edges, for `n1`, `n2`, `ln` each: a ServicePort's one parent is its service, its one
  -- link is `ln`, whose other end is the other ServicePort; `ln` is no Component and no interface
  · refine ⟨?_, ?_, ?_⟩ <;> intro x hx' <;> simp at hx' <;> rcases hx' with rfl | rfl | rfl
    · simp [h.c1]
    · simp [h.c2]
    · simp [h.cl]
    · intro _; simp [parentsOf, r1, r2, rl, rp, ro, isIfParentCls]
    · intro _; simp [parentsOf, r1, r2, rl, rp, ro, isIfParentCls]
    · simp [h.cl]
    · intro _ _; simp [spPeers, linksOf, r1, r2, rl, rp, ro, List.filter_cons]
    · intro _ _; simp [spPeers, linksOf, r1, r2, rl, rp, ro, List.filter_cons]
    · simp [h.cl]
  · simp only [List.mem_cons, List.mem_nil_iff, or_false] at hx
    rcases hx with rfl | rfl | rfl
    · exact .inl h.c1
    · exact .inl h.c2
    · exact .inr h.cl

theorem invS_peerState {s : Topo} {c : Nat} {svc oid : Nid} {pn po n1 n2 ln : GNode} (h : PeerNew s c svc oid pn po n1 n2 ln)
    (hsv : pn.cls = .networkService) (hov : po.cls = .networkService) (hs : InvS s) : InvS (peerState s pn po n1 n2 ln) :=
  buildStable_invS.growCL hs (h.grow hsv hov)

theorem invD_peerState {s : Topo} {c : Nat} {svc oid : Nid} {pn po n1 n2 ln : GNode} (h : PeerNew s c svc oid pn po n1 n2 ln)
    (hsv : pn.cls = .networkService) (hov : po.cls = .networkService) (hs : InvD s) : InvD (peerState s pn po n1 n2 ln) :=
  buildStable_invD.growCL hs (h.grow hsv hov)

theorem namesCore_peerState {s : Topo} {c : Nat} {svc oid : Nid} {pn po n1 n2 ln : GNode} (h : PeerNew s c svc oid pn po n1 n2 ln)
    (hsv : pn.cls = .networkService) (hov : po.cls = .networkService) (hc : ClosedOk s) (hs : NamesCore s) :
    NamesCore (peerState s pn po n1 n2 ln) :=
  have g := h.grow hsv hov
  namesCore_grow_cp_link hc g.ok g.cls hs

/-- what `peer` asks of its two handles (C09 `PeerOk`): they refer to NetworkServices when to anything, and the other
handle's id is not the uuid about to be drawn -/
def PeerGuard (s : Topo) (c : Nat) (svc : Nid) : Option SvcHandle → Prop
  | none => True
  | some o => HandleOk s svc .networkService ∧ HandleOk s o.nid .networkService ∧ o.nid ≠ .gen c
instance (s : Topo) (c : Nat) (svc : Nid) (o : Option SvcHandle) : Decidable (PeerGuard s c svc o) := by
  cases o <;> unfold PeerGuard <;> infer_instance

theorem peer_state {P : Topo → Prop} (fl : Flavour) (c : Nat) (svc : Nid) (sname : String) (cache : Cache) (other : Option SvcHandle)
    (props : List PropArg) (s : Topo) (hi : IdsOk s) (hc : ClosedOk s) (g : PeerGuard s c svc other) (hs : P s)
    (hok : ∀ o pn po n1 n2 ln, other = some o → PeerNew s c svc o.nid pn po n1 n2 ln → pn.cls = .networkService →
      po.cls = .networkService → P (peerState s pn po n1 n2 ln)) :
    P (peer fl c svc sname cache other props s).2 := by
  cases other with
  | none => simp only [peer]; exact hs
  | some o =>
    obtain ⟨g1, g2, g3⟩ := g
    refine peer_cases (Q := fun r => P r.2) hi hc g3 (fun e t ht => ?_) (fun pn po n1 n2 ln hA => ?_)
    · rw [ht g1 g2]; exact hs
    · exact hok o pn po n1 n2 ln rfl (.of hA) (g1 pn hA.pm hA.pi) (g2 po hA.om hA.oi)

theorem peer_inv {P : Topo → Prop} (fl : Flavour) (c : Nat) (svc : Nid) (sname : String) (cache : Cache) (other : Option SvcHandle)
    (props : List PropArg) (s : Topo) (hi : IdsOk s) (hc : ClosedOk s) (hv : VocabOk s) (g : PeerGuard s c svc other) (hs : P s)
    (hok : ∀ o pn po n1 n2 ln, other = some o → PeerNew s c svc o.nid pn po n1 n2 ln → pn.cls = .networkService →
      po.cls = .networkService → P (peerState s pn po n1 n2 ln)) :
    P (peer fl c svc sname cache other props s).2 := peer_state fl c svc sname cache other props s hi hc g hs hok

theorem peer_stable {P : Topo → Prop} (hP : BuildStable P) (fl : Flavour) (c : Nat) (svc : Nid) (sname : String) (cache : Cache)
    (other : Option SvcHandle) (props : List PropArg) (s : Topo) (g : PeerGuard s c svc other) (h : P s) :
    P (peer fl c svc sname cache other props s).2 :=
  peer_state fl c svc sname cache other props s (hP.ids _ h) (hP.closed _ h) g h fun _ _ _ _ _ _ _ hN hsv hov =>
    hP.growCL h (hN.grow hsv hov)

theorem invS_peer (fl : Flavour) (c : Nat) (svc : Nid) (sname : String) (cache : Cache) (other : Option SvcHandle)
    (props : List PropArg) (s : Topo) (g : PeerGuard s c svc other) (h : InvS s) :
    InvS (peer fl c svc sname cache other props s).2 := peer_stable buildStable_invS fl c svc sname cache other props s g h

theorem invD_peer (fl : Flavour) (c : Nat) (svc : Nid) (sname : String) (cache : Cache) (other : Option SvcHandle)
    (props : List PropArg) (s : Topo) (g : PeerGuard s c svc other) (h : InvD s) :
    InvD (peer fl c svc sname cache other props s).2 := peer_stable buildStable_invD fl c svc sname cache other props s g h

theorem invSN_peer (fl : Flavour) (c : Nat) (svc : Nid) (sname : String) (cache : Cache) (other : Option SvcHandle)
    (props : List PropArg) (s : Topo) (g : PeerGuard s c svc other) (h : InvSN s) :
    InvSN (peer fl c svc sname cache other props s).2 := peer_stable buildStable_invSN fl c svc sname cache other props s g h

end FimVerif.Topo
