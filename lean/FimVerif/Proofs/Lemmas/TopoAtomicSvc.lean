import FimVerif.Proofs.Lemmas.TopoAtomicConn
/-! `NetworkService(..., etype=NEW)` up to its interface loop (`svcNew_cases`): the state right after the service node is
created (`svcBase`) and what the rollback's `remove_ns_with_cps_and_links` does to it. -/
namespace FimVerif.Topo
open FimVerif FimVerif.M

/-- the state right after the service node was created: the node, and its `has` edge when it has a parent.  Spelled as `svcNew` leaves
it (without a parent: `pushNode sn s`, which is not a `grow` on the nose); `svcBase_eq` gives the `grow` form -/
def svcBase (s : Topo) (sn : GNode) (parent : Option GNode) : Topo :=
  match parent with
  | none => pushNode sn s
  | some pn => { pushNode sn s with edges := s.edges ++ [⟨pn.ref, sn.ref, .has⟩] }

theorem svcBase_nodes (s : Topo) (sn : GNode) (parent : Option GNode) : (svcBase s sn parent).nodes = s.nodes ++ [sn] := by
  cases parent <;> rfl

def hang (parent : Option GNode) (sn : GNode) : List GEdge := parent.toList.map fun pn => ⟨pn.ref, sn.ref, .has⟩

theorem svcBase_eq (s : Topo) (sn : GNode) (parent : Option GNode) : svcBase s sn parent = grow s [sn] (hang parent sn) := by
  cases parent
  · exact pushNode_eq_grow sn s
  · rfl

theorem removeNs_base {s : Topo} {sn : GNode} {parent : Option GNode} (hd : IdsDistinct s) (hc : Closed s)
    (hnew : ∀ m ∈ s.nodes, m.nid ≠ sn.nid) (hcls : sn.cls = .networkService) :
    removeNs sn.nid (svcBase s sn parent) = (.ok (), s) := by
  have := removeNs_new (cps := []) (H := hang parent sn) hc (idsDistinct_grow hd (by simp) (by simpa using hnew)) hcls
    (fun _ h => nomatch h) (fun e he => by obtain ⟨_, _, rfl⟩ := List.mem_map.mp he; exact ⟨rfl, rfl⟩)
  rwa [ports, List.map_nil, List.append_nil, ← svcBase_eq] at this

theorem closed_svcBase {s : Topo} {sn : GNode} {parent : Option GNode} (hc : Closed s)
    (hpar : ∀ pn, parent = some pn → pn ∈ s.nodes) : Closed (svcBase s sn parent) := by
  rw [svcBase_eq]
  refine closed_grow hc fun e he => ?_
  obtain ⟨pn, hpn, rfl⟩ := List.mem_map.mp he
  exact ⟨⟨pn, by simp [hpar pn (by simpa using hpn)], rfl⟩, ⟨sn, by simp, rfl⟩⟩

/-- what `svcNew_atomic_le1` asks of the (at most one) interface of a new service; the `NameHyp` conjunct is not used by it:
`connect_interface` validates both derived names itself (`flag_connectNamePrecheck`) -/
def IfsOk (s : Topo) (id : Nid) : List IfArg → Prop
  | [] => True
  | [.bogus] => True
  | [.iface iid iname] => iid ≠ id ∧ (∀ n ∈ s.nodes, n.nid = iid → n.cls = .connectionPoint) ∧ NameHyp s iname
  | _ => False

/-- `pn` is the node the parent handle of a new service refers to in `s` (none for a service of the topology) -/
def ParentIs (s : Topo) : Option Nid → Option GNode → Prop
  | none, none => True
  | some p, some x => findNode p s = (.ok x, s)
  | _, _ => False

theorem ParentIs.mem {s : Topo} {parent : Option Nid} {pn : Option GNode} (h : ParentIs s parent pn) :
    ∀ x, pn = some x → x ∈ s.nodes := by
  rintro x rfl
  cases parent with
  | none => exact h.elim
  | some p => exact (findNode_ok h).1

/-- what `svcNew` knows of the service node `sn` it has just created in `s` under `pn` -/
structure SvcFresh (s : Topo) (c : Nat) (parent : Option Nid) (a : SvcArgs) (sn : GNode) (pn : Option GNode) : Prop where
  nid : sn.nid = (pick a.nid c).1
  cls : sn.cls = .networkService
  name : sn.name = a.name
  typ : a.nstype = some sn.typ
  fresh : ∀ m ∈ s.nodes, m.nid ≠ sn.nid
  par : ParentIs s parent pn
  unused : parent = none → ∀ m ∈ s.nodes, m.cls = .networkService → m.name ≠ a.name

/-- `NetworkService(..., etype=NEW)` up to its interface loop: the validations only read, `add_node` raises before it writes,
and the edge from the parent cannot fail -/
theorem svcNew_cases {fl : Flavour} {c : Nat} {parent : Option Nid} {a : SvcArgs} {s : Topo}
    {Q : Except Err (Nid × Cache) × Topo → Prop} (hc : ∀ p, parent = some p → Closed s)
    (hpar : ∀ p, parent = some p → ∃ pn, findNode p s = (.ok pn, s)) (herr : ∀ e, Q (.error e, s))
    (hloop : ∀ (sn : GNode) (pn : Option GNode), SvcFresh s c parent a sn pn →
      Q ((svcLoop fl sn.nid sn.typ (pick a.nid c).2 a.ifs [] [] >>= fun cache => Pure.pure (sn.nid, cache)) (svcBase s sn pn))) :
    Q (svcNew fl c parent a s) := by
  unfold svcNew
  rcases hp : pick a.nid c with ⟨id, c1⟩
  rw [hp] at hloop
  simp only [] at hloop ⊢
  refine ro_step (readOnly_need ..) herr (fun t ht => ?_)
  refine ro_step (readOnly_guard ..) herr (fun _ _ => ?_)
  refine ro_step (readOnly_need ..) herr (fun layer _ => ?_)
  refine ro_step (readOnly_ofExcept _) herr (fun kw _ => ?_)
  cases parent with
  | none =>
    simp only [Option.isNone, if_true]
    refine ro_step (readOnly_read _) herr (fun _ hdup => ?_)
    refine ro_step (readOnly_guard ..) herr (fun _ hg => ?_)
    refine addGNode_step (herr _) (fun sn hsn hn => ?_)
    subst hsn
    exact hloop _ none ⟨by rw [hp], rfl, rfl, need_ok ht, hn, trivial, fun _ => unused_of_guard hdup hg⟩
  | some p =>
    obtain ⟨pn, hpn⟩ := hpar p rfl
    simp only [Option.isNone]
    refine addGNode_step (herr _) (fun sn hsn hn => ?_)
    subst hsn
    rw [bind_ok (addEdge_fresh (hc p rfl) hpn hn)]
    exact hloop _ (some pn) ⟨by rw [hp], rfl, rfl, need_ok ht, hn, hpn, fun h => nomatch h⟩

end FimVerif.Topo
