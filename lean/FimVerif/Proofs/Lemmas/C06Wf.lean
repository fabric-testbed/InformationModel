import FimVerif.Proofs.Lemmas.C06Basic
/-! # `add_node` and `add_link` keep a view well-formed (C06) -/
namespace FimVerif.Query

theorem wf_empty : wf empty = true := by decide

theorem wf_addNode {g : TGraph} (hw : wf g = true) (i c : String) : wf (addNode g i c) = true := by
  by_cases hi : i ∈ verts g
  · rw [addNode, if_pos hi]
    exact hw
  · obtain ⟨h1, h2, h3⟩ := wf_iff.1 hw
    rw [addNode, if_neg hi, wf_iff, EndsIn, verts, List.map_append]
    refine ⟨List.nodup_append.2 ⟨h1, List.pairwise_singleton .., fun a ha _ hb e => ?_⟩, fun e he => ?_, h3⟩
    · exact hi ((e.trans (List.mem_singleton.1 hb) : a = i) ▸ ha)
    · exact (h2 e he).imp (List.mem_append_left _) (List.mem_append_left _)

theorem addLink_nodes (g : TGraph) (a s b : String) : (addLink g a s b).nodes = g.nodes := by
  unfold addLink
  split
  · split <;> rfl
  · rfl

theorem classOf_addLink (g : TGraph) (a s b m : String) : classOf (addLink g a s b) m = classOf g m := by
  rw [classOf, addLink_nodes, classOf]

theorem verts_addLink (g : TGraph) (a s b : String) : verts (addLink g a s b) = verts g := by
  rw [verts, addLink_nodes, verts]

/-- The model rebuilds a relabelled edge as `(e.1, e.2.1, r)` under an `if` around the triple.  Here the `if` stands in the
    third component alone, so that relabelling keeps the ends of every edge needs no proof. -/
theorem addLink_edges {g : TGraph} {a b : String} (ha : a ∈ verts g) (hb : b ∈ verts g) (r : String) :
    (addLink g a r b).edges =
      if adjB g a b then g.edges.map fun e => (e.1, e.2.1, if joins e a b then r else e.2.2)
      else g.edges ++ [(a, b, r)] := by
  rw [addLink, if_pos ⟨ha, hb⟩, adjB]
  split
  · exact congrArg (g.edges.map ·) (funext fun e => by split <;> rfl)
  · rfl

theorem wf_addLink {g : TGraph} (hw : wf g = true) (a r b : String) : wf (addLink g a r b) = true := by
  by_cases hab : a ∈ verts g ∧ b ∈ verts g
  · obtain ⟨h1, h2, h3⟩ := wf_iff.1 hw
    rw [wf_iff, EndsIn, UniqEdges, verts_addLink, addLink_edges hab.1 hab.2]
    refine ⟨h1, ?_⟩
    split
    · exact ⟨List.forall_mem_map.2 h2, List.pairwise_map.2 h3⟩
    · rename_i hno
      refine ⟨List.forall_mem_append.2 ⟨h2, List.forall_mem_singleton.2 hab⟩, List.pairwise_append.2 ⟨h3, List.pairwise_singleton .., ?_⟩⟩
      intro e he f hf
      rw [List.mem_singleton.1 hf, joins_comm]
      exact Bool.eq_false_iff.2 fun hj => hno (List.any_eq_true.2 ⟨e, he, hj⟩)
  · rw [addLink, if_neg hab]
    exact hw

theorem edge_addLink {g : TGraph} {a b : String} (ha : a ∈ verts g) (hb : b ∈ verts g) (s : String) :
    Edge (addLink g a s b) a b s := by
  rw [edge_iff_joins, addLink_edges ha hb]
  split
  · rename_i h
    obtain ⟨e, he, hj⟩ := List.any_eq_true.1 h
    exact ⟨_, List.mem_map.2 ⟨e, he, rfl⟩, hj, if_pos hj⟩
  · exact ⟨_, List.mem_append_right _ (List.mem_singleton.2 rfl), joins_iff.2 (.inl ⟨rfl, rfl⟩), rfl⟩

end FimVerif.Query
