import FimVerif.Model.Deleg
import FimVerif.Proofs.Lemmas.ExceptAux
/-! What a successful `Delegation(...)` / `set_details` call tells (C12), and `Delegations.add_delegations(*args)` as ONE call with an
argument list: it is accepted iff `CallOk`, and a rejected call leaves the longest acceptable prefix of its arguments behind. -/
namespace FimVerif.C12
open FimVerif.Deleg

variable {D : Type}

/-- (`generalizing := false` keeps the `match` from abstracting `h`: it is then the `match` of `WFDeleg` and `built_inv`) -/
theorem mkDelegation_ok {ty : DType} {id : String} {fmt : Fmt} {pool : Option String} {d : Delegation D}
    (h : mkDelegation ty id fmt pool = .ok d) :
    d = { ty := ty, id := id, fmt := fmt, pool := pool, details := none } ∧
      (fmt ≠ .single → match (generalizing := false) pool with | none => False | some p => p ≠ Gen.DelegConsts.singlePoolName) := by
  unfold mkDelegation at h
  split at h
  · cases h
  · split at h
    · cases h
    · rename_i h1 h2
      injection h with h
      refine ⟨h.symm, fun hf => ?_⟩
      cases pool with
      | none => exact h1 ⟨hf, rfl⟩
      | some p => exact fun hp => h2 ⟨hf, by rw [hp]⟩

theorem setDetails_ok {ops : DetailOps D} {d d' : Delegation D} {x : D} (h : setDetails ops d x = .ok d') :
    d.fmt ≠ .reference ∧ ops.kindOf x = d.ty ∧ d' = { d with details := some x } := by
  unfold setDetails at h
  split at h
  · cases h
  · split at h
    · cases h
    · rename_i h1 h2
      injection h with h
      exact ⟨h1, by simpa using h2, h.symm⟩

/-- what the loop of `add_delegations` accepts (`C12.add_delegations_accepts_iff`) -/
def CallOk (ds : Delegations D) (args : List (Delegation D)) : Prop :=
  (∀ a ∈ args, a.ty = ds.ty) ∧ (∀ a ∈ args, ∀ e ∈ ds.items, e.id ≠ a.id) ∧ args.Pairwise (fun a b => a.id ≠ b.id)

theorem hasId_iff (items : List (Delegation D)) (id : String) : hasId items id = true ↔ ∃ d ∈ items, d.id = id := by
  simp [hasId]

theorem addDelegation_eq (ds : Delegations D) (d : Delegation D) :
    addDelegation ds d = if d.ty ≠ ds.ty then .error .assertion
      else if ∃ e ∈ ds.items, e.id = d.id then .error .delegation else .ok { ds with items := ds.items ++ [d] } := by
  simp only [addDelegation, hasId_iff]

theorem addDelegation_ok {ds ds' : Delegations D} {d : Delegation D} (h : addDelegation ds d = .ok ds') :
    ds' = { ds with items := ds.items ++ [d] } ∧ CallOk ds [d] := by
  rw [addDelegation_eq] at h
  split at h
  · cases h
  · split at h
    · cases h
    · rename_i h1 h2
      cases h
      exact ⟨rfl, fun a ha => by rw [List.mem_singleton.mp ha]; exact Decidable.not_not.mp h1,
        fun a ha e he hid => h2 ⟨e, he, by rw [hid, List.mem_singleton.mp ha]⟩, List.pairwise_singleton _ _⟩

theorem callOk_append (ds : Delegations D) (a b : List (Delegation D)) :
    CallOk ds (a ++ b) ↔ CallOk ds a ∧ CallOk { ds with items := ds.items ++ a } b := by
  simp only [CallOk, List.pairwise_append, List.mem_append, or_imp, forall_and]
  constructor
  · rintro ⟨⟨h1, h2⟩, ⟨h3, h4⟩, h5, h6, h7⟩
    exact ⟨⟨h1, h3, h5⟩, h2, ⟨h4, fun x hx e he => h7 e he x hx⟩, h6⟩
  · rintro ⟨⟨h1, h3, h5⟩, h2, ⟨h4, h7⟩, h6⟩
    exact ⟨⟨h1, h2⟩, ⟨h3, h4⟩, h5, h6, fun e he x hx => h7 x hx e he⟩

theorem not_callOk_of_error {ds : Delegations D} {pre : List (Delegation D)} {x : Delegation D} {rest : List (Delegation D)}
    {e : Err} (h : addDelegation { ds with items := ds.items ++ pre } x = .error e) : ¬ CallOk ds (pre ++ x :: rest) := by
  intro hc
  have hx := ((callOk_append ds pre _).mp hc).2
  rw [addDelegation_eq, if_neg (Decidable.not_not.mpr (hx.1 x (by simp))), if_neg] at h
  · cases h
  · rintro ⟨a, ha, hid⟩
    exact hx.2.1 x (by simp) a ha hid

theorem addDelegations_spec (ds : Delegations D) (args : List (Delegation D)) :
    ∃ pre suf, args = pre ++ suf ∧ CallOk ds pre ∧ (addDelegations ds args).1 = { ds with items := ds.items ++ pre } ∧
      match suf with
      | [] => (addDelegations ds args).2 = none
      | x :: _ => ∃ e, (addDelegations ds args).2 = some e ∧
          addDelegation { ds with items := ds.items ++ pre } x = .error e := by
  fun_induction addDelegations ds args with
  | case1 ds => exact ⟨[], [], rfl, by simp [CallOk], by simp, rfl⟩
  | case2 ds d rest e h => exact ⟨[], d :: rest, rfl, by simp [CallOk], by simp, e, rfl, by simpa using h⟩
  | case3 ds d rest ds' h ih =>
    obtain ⟨rfl, hd⟩ := addDelegation_ok h
    obtain ⟨pre, suf, h1, h3, h2, h4⟩ := ih
    refine ⟨d :: pre, suf, by rw [h1]; rfl, (callOk_append ds [d] pre).mpr ⟨hd, h3⟩, ?_, ?_⟩
    · simp only [h2, List.append_assoc, List.singleton_append]
    · simpa only [List.append_assoc, List.singleton_append] using h4

theorem addDelegations_accepted (ds : Delegations D) (args : List (Delegation D)) (hc : CallOk ds args) :
    addDelegations ds args = ({ ds with items := ds.items ++ args }, none) := by
  obtain ⟨pre, suf, rfl, -, hst, hs⟩ := addDelegations_spec ds args
  cases suf with
  | nil => rw [List.append_nil] at hst hs ⊢; exact Prod.ext hst hs
  | cons x rest =>
    obtain ⟨e, -, hx⟩ := hs
    exact absurd hc (not_callOk_of_error hx)

theorem addDelegations_err_kind (ds : Delegations D) (args : List (Delegation D)) (hty : ∀ a ∈ args, a.ty = ds.ty)
    (h : (addDelegations ds args).2 ≠ none) : (addDelegations ds args).2 = some .delegation := by
  obtain ⟨pre, suf, rfl, -, -, hs⟩ := addDelegations_spec ds args
  cases suf with
  | nil => exact absurd hs h
  | cons x rest =>
    obtain ⟨e, he, hx⟩ := hs
    rw [he]
    rw [addDelegation_eq, if_neg (Decidable.not_not.mpr (hty x (by simp)))] at hx
    split at hx <;> cases hx
    rfl

end FimVerif.C12
