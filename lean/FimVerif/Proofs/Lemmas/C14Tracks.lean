import FimVerif.Proofs.Lemmas.C14Reach
/-! C14: the invariant `Tracks` of a combined model (what it is in terms of the models currently merged into it): it holds of a model
built by merges from the empty one (`MergedAll.tracks`) and is preserved by `merge` and `unmerge`. -/
namespace FimVerif.Cbm

/-- `c` is a combined model whose contributing models are exactly `live` (in the order they were merged). Of the connections only one
direction holds (`edges`: an unmerge can leave more, known finding `unmerge:edge-between-shared-nodes-stays`), and element / connection
data comes from a model of `pool`, live or not (first wins, and data stays after an unmerge). -/
structure Tracks (pool : List Adm) (c : Graph) (live : List Adm) : Prop where
  wf : c.WF
  sub : ∀ a ∈ live, a ∈ pool
  awf : ∀ a ∈ live, a.WF
  nonempty : ∀ a ∈ live, a.g.nodes ≠ []
  ids : (live.map (·.id)).Nodup
  compat : live.Pairwise (fun a b => clash a b = false)
  has : ∀ i, c.has i = live.any (fun a => a.g.has i)
  prov : ∀ i, c.provOf i = contributors live i
  ldel : ∀ i, (c.ldelOf i).norm = firstLive (live.map (speakL · i))
  cdel : ∀ i, (c.cdelOf i).norm = firstLive (live.map (speakC · i))
  edges : ∀ x y, live.any (fun a => a.g.hasEdge x y) = true → c.hasEdge x y = true
  propsFrom : ∀ i p, c.propsOf i = some p → ∃ a ∈ pool, a.g.propsOf i = some p
  edgesFrom : ∀ x y p, c.edgeData x y = some p → ∃ a ∈ pool, a.g.edgeData x y = some p

theorem Tracks.empty (pool : List Adm) : Tracks pool Graph.empty [] :=
  ⟨Graph.empty_WF, fun _ h => (nomatch h), fun _ h => (nomatch h), fun _ h => (nomatch h), List.nodup_nil, List.Pairwise.nil,
   fun _ => rfl, fun _ => rfl, fun _ => rfl, fun _ => rfl, fun _ _ h => (nomatch h), fun _ _ h => (nomatch h),
   fun _ _ _ h => (nomatch h)⟩

theorem Tracks.del {pool : List Adm} {c : Graph} {live : List Adm} (t : Tracks pool c live) (cap : Bool) (i : String) :
    (c.delOf cap i).norm = firstLive (live.map (speak cap · i)) := by
  cases cap
  · exact t.ldel i
  · exact t.cdel i

theorem Tracks.madeOf {pool : List Adm} {c : Graph} {live : List Adm} (t : Tracks pool c live) : MadeOf c live :=
  ⟨t.wf.nodup, t.has, t.prov, t.del⟩

theorem Tracks.fresh_not_live {pool : List Adm} {c : Graph} {live : List Adm} (t : Tracks pool c live) {gid : String}
    (hf : c.Fresh gid) : ∀ b ∈ live, b.id ≠ gid := by
  intro b hb he
  obtain ⟨i, hbi⟩ := nodes_ne_nil_iff.mp (t.nonempty b hb)
  have hci := t.madeOf.has_of_mem hb hbi
  obtain ⟨m, hm, rfl⟩ := List.mem_map.mp (has_iff.mp hci)
  refine (hf m hm).1 ?_
  rw [t.madeOf.prov_of_mem hm]
  exact List.mem_map.mpr ⟨b, List.mem_filter.mpr ⟨hb, hbi⟩, he⟩

theorem MergedAll.tracks {as : List Adm} {g : Graph} (m : MergedAll Graph.empty as g) (hw : ∀ a ∈ as, a.WF)
    (hn : (as.map (·.id)).Nodup) (hc : Compat Graph.empty as = true) : Tracks as g as := by
  obtain ⟨h1, h2⟩ := Compat_iff.mp hc
  have md := m.madeOf
  exact ⟨m.wf, fun _ h => h, hw, fun a ha => (mergeable_iff.mp (h1 a ha).1).1, hn, h2, md.has, md.prov, md.del false, md.del true,
    fun x y h => by rw [m.hasEdge, h, Bool.or_true],
    fun i p h => firstSome_mem ((m.props i).symm.trans h), fun x y p h => firstSome_mem ((m.edgeData x y).symm.trans h)⟩

theorem Tracks.merge {pool : List Adm} {c : Graph} {live : List Adm} {a : Adm} {g : Graph} (t : Tracks pool c live)
    (hp : a ∈ pool) (ha : a.WF) (hid : ∀ b ∈ live, b.id ≠ a.id) (hm : mergeN c a = (none, g)) :
    Tracks pool g (live ++ [a]) := by
  have hs := merge_step t.wf.closed hm
  have hdel : ∀ cap i, (g.delOf cap i).norm = firstLive ((live ++ [a]).map (speak cap · i)) := fun cap i => by
    rw [hs.del, Deleg.norm_take (t := speak cap a i) (Deleg.rk_ne_emptied _ _), t.del, List.map_append, List.map_singleton,
      firstLive_append_singleton]
  have snoc : ∀ {P : Adm → Prop}, (∀ b ∈ live, P b) → P a → ∀ b ∈ live ++ [a], P b := fun h1 h2 b hb =>
    (List.mem_append.mp hb).elim (h1 b) fun h => List.mem_singleton.mp h ▸ h2
  refine ⟨merge_WF t.wf ha hm, snoc t.sub hp, snoc t.awf ha, snoc t.nonempty hs.nonempty, ?_, ?_, ?_, ?_, hdel false, hdel true, ?_, ?_, ?_⟩
  · rw [List.map_append, List.map_singleton]
    refine List.nodup_append.mpr ⟨t.ids, List.pairwise_singleton _ _, ?_⟩
    intro x hx y hy hxy
    obtain ⟨b, hb, hbe⟩ := List.mem_map.mp hx
    exact hid b hb (hbe.trans (hxy.trans (List.mem_singleton.mp hy)))
  · refine List.pairwise_append.mpr ⟨t.compat, List.pairwise_singleton _ _, ?_⟩
    intro b hb a' ha'
    rw [List.mem_singleton.mp ha', clash_false_iff]
    -- where `b` speaks the combined model has a delegation, so `a` does not speak there, or the merge would have raised
    refine fun cap i => Bool.eq_false_iff.mpr fun h => ?_
    have hno := hs.noconf cap i
    rw [t.madeOf.live_of_speaks hb (Bool.and_eq_true_iff.mp h).1, (Bool.and_eq_true_iff.mp h).2] at hno
    cases hno
  · intro i; rw [hs.has, t.has, List.any_append]; simp
  · intro i; rw [hs.prov, t.prov, contributors_append]
  · intro x y h
    rw [hs.hasEdge]
    rw [List.any_append] at h
    rcases Bool.or_eq_true_iff.mp h with h | h
    · rw [t.edges x y h]; rfl
    · simp at h; rw [h]; simp
  · intro i p h
    rcases Option.or_eq_some_iff.mp (hs.props i ▸ h) with h | ⟨_, h⟩
    · exact t.propsFrom i p h
    · exact ⟨a, hp, h⟩
  · intro x y p h
    rcases Option.or_eq_some_iff.mp (hs.edgeData x y ▸ h) with h | ⟨_, h⟩
    · exact t.edgesFrom x y p h
    · exact ⟨a, hp, h⟩

theorem Tracks.unmerge {pool : List Adm} {c : Graph} {live : List Adm} {gid : String} {g' : Graph} (t : Tracks pool c live)
    (hu : unmerge c gid = (none, g')) : Tracks pool g' (live.filter (fun a => a.id != gid)) := by
  have us := unmerge_step t.wf hu
  -- the live models have distinct ids, so a provenance list has none twice: `unmerge` filters it as `live` is filtered, and every clause
  -- is the old one with both sides filtered
  have hpu := fun i => provUnmerge_nodup gid (contributors_nodup t.ids i)
  have hhas : ∀ i, g'.has i = (live.filter (fun a => a.id != gid)).any (fun a => a.g.has i) := by
    intro i
    rw [us.has, t.has, t.prov, hpu, any_has_eq, any_has_eq, contributors_filter]
    cases contributors live i <;> simp
  have hsub : ∀ b ∈ live.filter (fun a => a.id != gid), b ∈ live := fun b hb => (List.mem_filter.mp hb).1
  have hdel : ∀ cap i, (g'.delOf cap i).norm = firstLive ((live.filter (fun a => a.id != gid)).map (speak cap · i)) := by
    intro cap i
    rw [us.del]
    split
    · rw [Deleg.un_norm, t.del]
      exact un_firstLive (speak cap · i) gid live (fun _ _ h => Deleg.rk_form h) (atMostOne_speaks t.compat cap i)
    · -- the element is gone: none of the remaining models has it, so none speaks for it
      rename_i hg
      rw [hhas, Bool.not_eq_true, List.any_eq_false] at hg
      refine (firstLive_none fun d hd hl => ?_).symm
      obtain ⟨b, hb, rfl⟩ := List.mem_map.mp hd
      exact hg b hb (has_iff.mpr (speak_live_has hl))
  refine ⟨us.wf, fun a ha => t.sub a (hsub a ha), fun a ha => t.awf a (hsub a ha), fun a ha => t.nonempty a (hsub a ha), ?_, List.Pairwise.filter _ t.compat,
    hhas, ?_, hdel false, hdel true, ?_, ?_, ?_⟩
  · exact (List.filter_sublist.map _).nodup t.ids
  · intro i
    rw [us.prov, hhas, t.prov, hpu, any_has_eq, contributors_filter]
    cases h : ((contributors live i).filter (fun x => x != gid)).isEmpty with
    | false => rfl
    | true => exact (List.isEmpty_iff.mp h).symm
  · intro x y h
    obtain ⟨b, hb, hbe⟩ := List.any_eq_true.mp h
    have hb' := hsub b hb
    have hce := t.edges x y (List.any_eq_true.mpr ⟨b, hb', hbe⟩)
    have hxy := hasEdge_has (t.awf b hb').closed hbe
    rw [us.hasEdge, hce, hhas x, hhas y]
    have hx : (live.filter (fun a => a.id != gid)).any (fun a => a.g.has x) = true := List.any_eq_true.mpr ⟨b, hb, hxy.1⟩
    have hy : (live.filter (fun a => a.id != gid)).any (fun a => a.g.has y) = true := List.any_eq_true.mpr ⟨b, hb, hxy.2⟩
    rw [hx, hy]; rfl
  · intro i p h
    rw [us.props] at h
    split at h
    · exact t.propsFrom i p h
    · cases h
  · intro x y p h
    rw [us.edgeData] at h
    split at h
    · exact t.edgesFrom x y p h
    · cases h

end FimVerif.Cbm
