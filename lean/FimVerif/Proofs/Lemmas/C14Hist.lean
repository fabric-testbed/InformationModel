import FimVerif.Proofs.Lemmas.C14Union
/-! C14: a sequence of merges in closed form (`MergedAll`: `firstSome` for first-wins data, `firstLive` for delegations), when a merge and a
sequence of merges succeed (`Compat`: a condition on each model and on each pair), and what is independent of the order of merging (`MergedAll.perm`). -/
namespace FimVerif.Cbm

def firstSome {β : Type} (f : Adm → Option β) : List Adm → Option β
  | [] => none
  | a :: as => (f a).or (firstSome f as)

theorem firstSome_eq_findSome? {β : Type} (f : Adm → Option β) : ∀ (as : List Adm), firstSome f as = as.findSome? f
  | [] => rfl
  | a :: as => by rw [firstSome, firstSome_eq_findSome? f as, List.findSome?_cons]; cases f a <;> rfl

theorem firstSome_perm {β : Type} (f : Adm → Option β) {as as' : List Adm} (hp : as.Perm as')
    (h : (as.filter (fun a => (f a).isSome)).length ≤ 1) : firstSome f as = firstSome f as' := by
  rw [← List.countP_eq_length_filter, ← List.length_filterMap_eq_countP] at h
  rw [firstSome_eq_findSome?, firstSome_eq_findSome?, ← List.head?_filterMap, ← List.head?_filterMap,
    perm_length_le_one (hp.filterMap f) h]

theorem firstSome_none {β : Type} (f : Adm → Option β) (l : List Adm) (h : ∀ a ∈ l, f a = none) : firstSome f l = none := by
  rw [firstSome_eq_findSome?]; exact List.findSome?_eq_none_iff.mpr h

theorem firstSome_mem {β : Type} {f : Adm → Option β} {as : List Adm} {p : β} (h : firstSome f as = some p) : ∃ a ∈ as, f a = some p :=
  List.exists_of_findSome?_eq_some (firstSome_eq_findSome? f as ▸ h)

theorem firstSome_skip {β : Type} (f : Adm → Option β) (pre post : List Adm) (a : Adm)
    (h : f a = none ∨ ∃ b ∈ pre, (f b).isSome = true) :
    firstSome f (pre ++ a :: post) = firstSome f (pre ++ post) := by
  simp only [firstSome_eq_findSome?, List.findSome?_append, List.findSome?_cons]
  rcases h with h | h
  · rw [h]
  · have := List.findSome?_isSome_iff.mpr h
    cases hfs : pre.findSome? f with
    | none => rw [hfs] at this; cases this
    | some v => rfl

theorem firstWins_perm {β : Type} (f : Adm → Option β) (pc : Option β) {as as' : List Adm} (hp : as.Perm as')
    (h : pc.isSome = true ∨ (as.filter (fun a => (f a).isSome)).length ≤ 1) :
    pc.or (firstSome f as') = pc.or (firstSome f as) := by
  rcases h with h | h
  · cases pc with
    | none => cases h
    | some _ => rfl
  · rw [firstSome_perm f hp h]

/-- `speak false` and `speak true` (by `rfl`), for the definitions that spell the two kinds out: `clashAt`, `clashG`, `Tracks` -/
def speakL (a : Adm) (i : String) : Deleg := (a.g.ldelOf i).rk a.id
def speakC (a : Adm) (i : String) : Deleg := (a.g.cdelOf i).rk a.id

/-- closed form of a sequence of successful merges -/
structure MergedAll (c : Graph) (as : List Adm) (g : Graph) : Prop where
  wf : g.WF
  has : ∀ i, g.has i = (c.has i || as.any (fun a => a.g.has i))
  prov : ∀ i, g.provOf i = c.provOf i ++ contributors as i
  props : ∀ i, g.propsOf i = (c.propsOf i).or (firstSome (fun a => a.g.propsOf i) as)
  edgeData : ∀ x y, g.edgeData x y = (c.edgeData x y).or (firstSome (fun a => a.g.edgeData x y) as)
  hasEdge : ∀ x y, g.hasEdge x y = (c.hasEdge x y || as.any (fun a => a.g.hasEdge x y))
  del : ∀ cap i, g.delOf cap i = (c.delOf cap i).take (firstLive (as.map (speak cap · i)))

theorem MergedAll.of_mergeAll {as : List Adm} {c g : Graph} (hc : c.WF) (ha : ∀ a ∈ as, a.WF) (h : mergeAll c as = some g) :
    MergedAll c as g := by
  induction as generalizing c with
  | nil =>
    cases h
    exact ⟨hc, by simp, by simp [contributors], by simp [firstSome], by simp [firstSome], by simp,
      fun cap i => (Deleg.take_dead rfl).symm⟩
  | cons a as ih =>
    obtain ⟨g', hm, h⟩ := mergeAll_cons_some h
    have hs := merge_step hc.closed hm
    have m := ih (merge_WF hc (ha a List.mem_cons_self) hm) (fun b hb => ha b (List.mem_cons_of_mem _ hb)) h
    exact ⟨m.wf, fun i => by rw [m.has, hs.has, List.any_cons, Bool.or_assoc],
      fun i => by rw [m.prov, hs.prov, contributors_cons, List.append_assoc],
      fun i => by rw [m.props, hs.props, firstSome, Option.or_assoc],
      fun x y => by rw [m.edgeData, hs.edgeData, firstSome, Option.or_assoc],
      fun x y => by rw [m.hasEdge, hs.hasEdge, List.any_cons, Bool.or_assoc],
      fun cap i => by rw [m.del, hs.del, List.map_cons, take_assoc_firstLive]⟩

def clashAt (a b : Adm) (i : String) : Bool :=
  ((speakL a i).live && (speakL b i).live) || ((speakC a i).live && (speakC b i).live)
/-- the two models speak for a common element: they do not merge into one combined model, in either order -/
def clash (a b : Adm) : Bool := a.g.ids.any (clashAt a b)
/-- model `a` speaks for an element the combined model `c` has a delegation for: `merge_adm` raises ("delegations from both") -/
def clashG (c : Graph) (a : Adm) : Bool :=
  c.ids.any (fun i => ((c.ldelOf i).live && (speakL a i).live) || ((c.cdelOf i).live && (speakC a i).live))

/-- `clash` and `clashG` test the two kinds side by side at the ids of one graph; the lemmas want no conflict at any `cap` and any element -/
theorem any_clash_false_iff (ids : List String) (d t : Bool → String → Deleg) (hd : ∀ cap i, (d cap i).live = true → i ∈ ids) :
    ids.any (fun i => ((d false i).live && (t false i).live) || ((d true i).live && (t true i).live)) = false ↔
      ∀ cap i, ((d cap i).live && (t cap i).live) = false := by
  constructor
  · intro h cap i
    by_cases hi : i ∈ ids
    · have := Bool.or_eq_false_iff.mp (Bool.eq_false_iff.mpr (List.any_eq_false.mp h i hi))
      cases cap
      · exact this.1
      · exact this.2
    · rw [Bool.eq_false_iff.mpr fun hl => hi (hd cap i hl), Bool.false_and]
  · intro h
    exact List.any_eq_false.mpr fun i _ => Bool.eq_false_iff.mp (Bool.or_eq_false_iff.mpr ⟨h false i, h true i⟩)

theorem clashG_false_iff {c : Graph} {a : Adm} : clashG c a = false ↔
    ∀ cap i, ((c.delOf cap i).live && (speak cap a i).live) = false :=
  any_clash_false_iff c.ids (fun cap i => c.delOf cap i) (fun cap i => speak cap a i) fun _ _ => live_has

theorem mergeN_succeeds_iff {c : Graph} (hc : c.Closed) (a : Adm) :
    (mergeN c a).1 = none ↔ (a.Mergeable = true ∧ clashG c a = false) := by
  rw [clashG_false_iff]
  constructor
  · intro h
    have hm : mergeN c a = (none, (mergeN c a).2) := by rw [← h]
    obtain ⟨h1, h2, _⟩ := (mergeN_ok_iff hc).mp hm
    exact ⟨h1, h2⟩
  · intro ⟨hm, hno⟩
    rw [(mergeN_ok_iff hc).mpr ⟨hm, hno, rfl⟩]

/-- the sequence merges into `c` (`mergeAll_succeeds_iff`); a condition on each model and on each pair of them (`Compat_iff`) -/
def Compat (c : Graph) : List Adm → Bool
  | [] => true
  | a :: as => a.Mergeable && !clashG c a && as.all (fun b => !clash a b) && Compat c as

theorem speak_live_has {a : Adm} {cap : Bool} {i : String} (h : (speak cap a i).live = true) : i ∈ a.g.ids :=
  live_has (Deleg.live_of_rk h)

theorem clash_false_iff {a b : Adm} : clash a b = false ↔ ∀ cap i, ((speak cap a i).live && (speak cap b i).live) = false :=
  any_clash_false_iff a.g.ids (fun cap i => speak cap a i) (fun cap i => speak cap b i) fun _ _ => speak_live_has

theorem clash_symm {a b : Adm} (h : clash a b = false) : clash b a = false := by
  rw [clash_false_iff] at h ⊢
  exact fun cap i => Bool.and_comm _ _ ▸ h cap i

theorem clashG_merged {c : Graph} {a : Adm} {g : Graph} (hs : MergeStep c a g) (b : Adm) :
    clashG g b = false ↔ (clashG c b = false ∧ clash a b = false) := by
  rw [clashG_false_iff, clashG_false_iff, clash_false_iff, ← forall_and]
  refine forall_congr' fun cap => ?_
  rw [← forall_and]
  refine forall_congr' fun i => ?_
  rw [hs.del, Deleg.live_take, Bool.and_or_distrib_right, Bool.or_eq_false_iff]

theorem Compat_iff {c : Graph} {as : List Adm} : Compat c as = true ↔
    ((∀ a ∈ as, a.Mergeable = true ∧ clashG c a = false) ∧ as.Pairwise (fun a b => clash a b = false)) := by
  induction as with
  | nil => simp [Compat]
  | cons a as ih =>
    simp only [Compat, Bool.and_eq_true, Bool.not_eq_eq_eq_not, Bool.not_true, List.all_eq_true, ih,
      List.mem_cons, List.pairwise_cons, forall_eq_or_imp]
    constructor
    · intro ⟨⟨⟨h1, h2⟩, h3⟩, h4, h5⟩; exact ⟨⟨⟨h1, h2⟩, h4⟩, h3, h5⟩
    · intro ⟨⟨⟨h1, h2⟩, h4⟩, h3, h5⟩; exact ⟨⟨⟨h1, h2⟩, h3⟩, h4, h5⟩

theorem mergeAll_succeeds_iff {as : List Adm} {c : Graph} (hc : c.WF) (ha : ∀ a ∈ as, a.WF) :
    (∃ g, mergeAll c as = some g) ↔ Compat c as = true := by
  rw [Compat_iff]
  induction as generalizing c with
  | nil => simp [mergeAll]
  | cons a as ih =>
    have hstep := mergeN_succeeds_iff hc.closed a
    rw [List.forall_mem_cons, List.pairwise_cons]
    unfold mergeAll
    split
    · rename_i g hm
      -- after the merge of `a` the rest must not clash with `c` nor with `a` (`clashG_merged`)
      have hg := clashG_merged (merge_step hc.closed hm)
      rw [ih (merge_WF hc (ha a List.mem_cons_self) hm) (fun b hb => ha b (List.mem_cons_of_mem _ hb))]
      constructor
      · intro ⟨h1, hp⟩
        exact ⟨⟨hstep.mp (by rw [hm]), fun b hb => ⟨(h1 b hb).1, ((hg b).mp (h1 b hb).2).1⟩⟩,
          fun b hb => ((hg b).mp (h1 b hb).2).2, hp⟩
      · intro ⟨⟨_, h1⟩, h3, hp⟩
        exact ⟨fun b hb => ⟨(h1 b hb).1, (hg b).mpr ⟨(h1 b hb).2, h3 b hb⟩⟩, hp⟩
    · rename_i e g hm
      refine ⟨fun ⟨_, h⟩ => (nomatch h), fun ⟨⟨h1, _⟩, _⟩ => ?_⟩
      have := hstep.mpr h1
      rw [hm] at this
      cases this

theorem Compat_perm {c : Graph} {as as' : List Adm} (hp : as.Perm as') : Compat c as = Compat c as' := by
  rw [Bool.eq_iff_iff, Compat_iff, Compat_iff]
  rw [List.Perm.pairwise_iff (fun h => clash_symm h) hp]
  constructor
  · intro ⟨h1, h2⟩; exact ⟨fun a ha => h1 a (hp.mem_iff.mpr ha), h2⟩
  · intro ⟨h1, h2⟩; exact ⟨fun a ha => h1 a (hp.mem_iff.mp ha), h2⟩

theorem Compat_sublist {c : Graph} {as as' : List Adm} (hs : as'.Sublist as) (h : Compat c as = true) : Compat c as' = true := by
  rw [Compat_iff] at h ⊢
  exact ⟨fun a ha => h.1 a (hs.subset ha), h.2.sublist hs⟩

theorem atMostOne_live {as : List Adm} (sp : Adm → Deleg)
    (h : as.Pairwise (fun a b => ((sp a).live && (sp b).live) = false)) : ((as.map sp).filter Deleg.live).length ≤ 1 := by
  induction as with
  | nil => exact Nat.zero_le _
  | cons a as ih =>
    rw [List.pairwise_cons] at h
    rw [List.map_cons, List.filter_cons]
    split
    · rename_i ha
      have : (as.map sp).filter Deleg.live = [] := by
        apply List.filter_eq_nil_iff.mpr
        intro d hd
        obtain ⟨b, hb, rfl⟩ := List.mem_map.mp hd
        have := h.1 b hb
        rw [ha, Bool.true_and] at this
        rw [this]
        exact Bool.false_ne_true
      rw [this]
      exact Nat.le_refl 1
    · exact ih h.2

theorem atMostOne_speaks {as : List Adm} (h : as.Pairwise (fun a b => clash a b = false)) (cap : Bool) (i : String) :
    ((as.map (speak cap · i)).filter Deleg.live).length ≤ 1 :=
  atMostOne_live (speak cap · i) (h.imp fun hab => clash_false_iff.mp hab cap i)

/-- what two combined models have in common whatever the order their models were merged in -/
structure SameUpToFirstWins (c : Graph) (as : List Adm) (g g' : Graph) : Prop where
  has : ∀ i, g'.has i = g.has i
  hasEdge : ∀ x y, g'.hasEdge x y = g.hasEdge x y
  prov : ∀ i, (g'.provOf i).Perm (g.provOf i)
  ldel : ∀ i, g'.ldelOf i = g.ldelOf i
  cdel : ∀ i, g'.cdelOf i = g.cdelOf i
  props : ∀ i, (c.has i = true ∨ (as.filter (fun a => a.g.has i)).length ≤ 1) → g'.propsOf i = g.propsOf i
  edgeData : ∀ x y, (c.hasEdge x y = true ∨ (as.filter (fun a => a.g.hasEdge x y)).length ≤ 1) → g'.edgeData x y = g.edgeData x y

theorem MergedAll.perm {c : Graph} {as as' : List Adm} {g g' : Graph} (m : MergedAll c as g) (m' : MergedAll c as' g')
    (hp : as.Perm as') (hpw : as.Pairwise (fun a b => clash a b = false)) : SameUpToFirstWins c as g g' := by
  have hdel : ∀ cap i, g'.delOf cap i = g.delOf cap i := fun cap i => by
    rw [m.del, m'.del, firstLive_perm (hp.map (speak cap · i)) (atMostOne_speaks hpw cap i)]
  refine ⟨?_, ?_, ?_, hdel false, hdel true, ?_, ?_⟩
  · intro i; rw [m.has, m'.has, hp.any_eq]
  · intro x y; rw [m.hasEdge, m'.hasEdge, hp.any_eq]
  · intro i
    rw [m.prov, m'.prov]
    exact List.Perm.append_left _ ((hp.symm.filter _).map _)
  · intro i hi
    rw [m.props, m'.props]
    exact firstWins_perm (fun a => a.g.propsOf i) _ hp (by simpa only [propsOf_isSome] using hi)
  · intro x y hi
    rw [m.edgeData, m'.edgeData]
    exact firstWins_perm (fun a => a.g.edgeData x y) _ hp (by simpa only [edgeData_isSome] using hi)

end FimVerif.Cbm
