import FimVerif.Model.ARef
import FimVerif.Proofs.Lemmas.StoreNid
/-! C05, shared store only (of the reference model just the key function `keyP`): the list of the stored nodes' keys only loses
    entries (`KShrinks`) under every primitive that writes no key; an operation that keeps the keys (`Op.keepsKeys`) drops nodes and
    may append nodes of one graph whose `NodeID`s are new to it (`KeysKept`); `UniqueKeys` and per-graph `UniqueNid` both follow. -/
namespace FimVerif.Store
open FimVerif FimVerif.Gen.StoreConsts

def kList (s : Store) : List Key := s.nodes.map (fun n => keyP n.attrs)

/-- the key list only loses entries: `Shrinks` (StoreNid) for all graphs at once -/
def KShrinks (s s' : Store) : Prop := List.Sublist (kList s') (kList s)

theorem uniqueKeys_iff (s : Store) : UniqueKeys s ↔ (kList s).Nodup := Iff.rfl

theorem KShrinks.refl (s : Store) : KShrinks s s := List.Sublist.refl _
theorem KShrinks.trans {s s1 s2 : Store} (h1 : KShrinks s s1) (h2 : KShrinks s1 s2) : KShrinks s s2 :=
  List.Sublist.trans h2 h1
theorem KShrinks.unique {s s' : Store} (h : KShrinks s s') (hu : UniqueKeys s) : UniqueKeys s' :=
  List.Nodup.sublist h hu

theorem kshrinks_of_nodes_eq (s s' : Store) (h : s'.nodes = s.nodes) : KShrinks s s' := by
  unfold KShrinks kList; rw [h]; exact List.Sublist.refl _

theorem kshrinks_filter (s s' : Store) (q : SNode → Bool) (h : s'.nodes = s.nodes.filter q) : KShrinks s s' := by
  unfold KShrinks kList; rw [h]; exact List.Sublist.map _ List.filter_sublist

theorem keyP_congr (a a' : Props) (h1 : AMap.get graphId a' = AMap.get graphId a)
    (h2 : AMap.get nodeId a' = AMap.get nodeId a) : keyP a' = keyP a := by
  unfold keyP; rw [h1, h2]

theorem kshrinks_updNodes (s : Store) (c : SNode → Bool) (f : Props → Props)
    (hk : ∀ n ∈ s.nodes, c n = true → keyP (f n.attrs) = keyP n.attrs) :
    KShrinks s (updNodes c f s) := by
  unfold updNodes
  unfold KShrinks kList
  simp only [List.map_map]
  have e : s.nodes.map ((fun n => keyP n.attrs) ∘ fun n => if c n = true then { iid := n.iid, attrs := f n.attrs } else n)
      = s.nodes.map (fun n => keyP n.attrs) := by
    apply List.map_congr_left
    intro n hn
    by_cases h : c n
    · simp [Function.comp, h, hk n hn h]
    · simp [Function.comp, h]
  rw [e]; exact List.Sublist.refl _

theorem kshrinks_updNode (s : Store) (i : Nat) (f : Props → Props)
    (hk : ∀ n ∈ s.nodes, n.iid = i → keyP (f n.attrs) = keyP n.attrs) : KShrinks s (updNode i f s) := by
  exact updNode_eq i f s ▸ kshrinks_updNodes s _ f fun n h hc => hk n h (of_decide_eq_true hc)

theorem kshrinks_contract (u v : Nat) (s : Store) : KShrinks s (contract u v s) :=
  kshrinks_filter s _ (fun n => n.iid != v) (contract_nodes u v s).1

theorem nids_eq_filterMap (s : Store) (g : String) :
    (nodesOf s g).map nidA = (kList s).filterMap fun k => if k.1 == some (.str g) then some k.2 else none := by
  unfold nodesOf kList
  rw [List.map_filter_eq_filterMap, List.filterMap_map]
  rfl

theorem KShrinks.shrinks {s s' : Store} (h : KShrinks s s') : Shrinks s s' := fun g => by
  rw [nids_eq_filterMap, nids_eq_filterMap]; exact h.filterMap _

theorem kList_appendGraph (ns : List Props) (es : List (Nat × Nat × Props)) (s : Store) :
    kList (appendGraph ns es s) = kList s ++ ns.map keyP := by
  simp only [kList, appendGraph, List.map_append, map_attrs_relabel keyP]

theorem uniqueKeys_appendGraph_of (s1 : Store) (g : String) (ns : List Props) (es : List (Nat × Nat × Props))
    (hu : UniqueKeys s1) (hns : ∀ a ∈ ns, AMap.get graphId a = some (.str g))
    (hnew : ((nodesOf s1 g).map nidA ++ ns.map (AMap.get nodeId)).Nodup) : UniqueKeys (appendGraph ns es s1) := by
  obtain ⟨_, hnid, hdis⟩ := List.nodup_append.1 hnew
  rw [uniqueKeys_iff, kList_appendGraph, List.nodup_append]
  refine ⟨hu, ?_, ?_⟩
  · refine List.nodup_map_of_nodup_map (AMap.get nodeId) keyP ns (fun a _ b _ e => ?_) hnid
    exact (Prod.mk.inj e).2
  · intro x hx y hy e
    obtain ⟨n, hn, rfl⟩ := List.mem_map.1 hx
    obtain ⟨a, ha, rfl⟩ := List.mem_map.1 hy
    obtain ⟨e1, e2⟩ := Prod.mk.inj e
    have hin : n ∈ nodesOf s1 g := List.mem_filter.2 ⟨hn, beq_iff_eq.2 (e1.trans (hns a ha))⟩
    exact hdis _ (List.mem_map.2 ⟨n, hin, rfl⟩) _ (List.mem_map.2 ⟨a, ha, rfl⟩) e2

theorem uniqueNid_of_uniqueKeys (s : Store) (hu : UniqueKeys s) (g : String) : UniqueNid s g := by
  have hsub : ((nodesOf s g).map (fun n => keyP n.attrs)).Nodup :=
    List.Nodup.sublist (List.Sublist.map _ List.filter_sublist) hu
  refine List.nodup_map_of_nodup_map (fun n => keyP n.attrs) nidA (nodesOf s g) (fun a ha b hb e => ?_) hsub
  have ga : inG g a = true := (List.mem_filter.1 ha).2
  have gb : inG g b = true := (List.mem_filter.1 hb).2
  simp only [inG, beq_iff_eq] at ga gb
  simp only [nidA] at e
  simp only [keyP, ga, gb, e]

/-- some nodes are dropped (their keys untouched), and then nodes of one graph `g` may be appended whose `NodeID`s are
    pairwise distinct and new to `g` -/
def KeysKept (s s' : Store) : Prop :=
  ∃ s1 g ns es, s' = appendGraph ns es s1 ∧ KShrinks s s1 ∧ (∀ a ∈ ns, AMap.get graphId a = some (.str g)) ∧
    ((nodesOf s1 g).map nidA ++ ns.map (AMap.get nodeId)).Nodup

theorem KeysKept.uniqueNid {s s' : Store} (h : KeysKept s s') (hall : ∀ g, UniqueNid s g) : ∀ g, UniqueNid s' g := by
  obtain ⟨s1, g, ns, es, rfl, hs, hns, hnew⟩ := h
  exact unique_appendGraph s1 g ns es hns (fun g' => hs.shrinks.unique g' (hall g')) hnew

theorem KeysKept.uniqueKeys {s s' : Store} (h : KeysKept s s') (hu : UniqueKeys s) : UniqueKeys s' := by
  obtain ⟨s1, g, ns, es, rfl, hs, hns, hnew⟩ := h
  exact uniqueKeys_appendGraph_of s1 g ns es (hs.unique hu) hns hnew

theorem Effect.keysKept {s : Store} {op : Op} {r : R} (e : Effect s op r) (h : Inv s) (hk : op.keepsKeys = true)
    (hall : ∀ g, UniqueNid s g) : KeysKept s r.2 := by
  -- nothing appended: the empty list of nodes, for which any graph id serves
  have shrinks : ∀ {s' : Store}, KShrinks s s' → KeysKept s s' := fun {s'} hs =>
    ⟨s', "", [], [], by simp [appendGraph, relabel], hs, nofun, by simpa [UniqueNid] using hs.shrinks.unique "" (hall "")⟩
  have updated : ∀ {i : Nat} (f : Props → Props),
      (∀ a, AMap.get graphId (f a) = AMap.get graphId a) → (∀ a, AMap.get nodeId (f a) = AMap.get nodeId a) →
      KeysKept s (updNode i f s) :=
    fun f hg hn => shrinks (kshrinks_updNode s _ f fun n _ _ => keyP_congr _ _ (hg _) (hn _))
  have created : ∀ {g nid label : String} (p : Props), addNodeGuard g nid s = false →
      AMap.has graphId p = false → AMap.has nodeId p = false →
      KeysKept s (appendGraph [AMap.update [(graphId, .str g), (propClass, .str label), (nodeId, .str nid)] p] [] s) := by
    intro g nid label p hg hp1 hp2
    refine ⟨s, g, _, [], rfl, .refl s, fun a ha => ?_, ?_⟩
    · rw [List.mem_singleton.1 ha, AMap.get_update_of_not_has _ _ _ hp1]; simp [AMap.get]
    · rw [List.map_singleton, AMap.get_update_of_not_has _ _ _ hp2,
        show AMap.get nodeId [(graphId, Val.str g), (propClass, .str label), (nodeId, .str nid)] = some (.str nid) by
          simp [AMap.get, graphId, propClass, nodeId], List.nodup_append]
      refine ⟨hall g, by simp, fun x hx y hy => ?_⟩
      obtain ⟨n, hn, rfl⟩ := List.mem_map.1 hx
      rw [List.mem_singleton.1 hy]
      rw [mem_nodesOf] at hn
      have := List.any_eq_false.1 (addNodeGuard_eq_any g nid s ▸ hg) n hn.1
      simpa [hn.2, hasNid, nidA] using this
  have imported : ∀ (g : String) (ns : List Props) (es : List (Nat × Nat × Props)),
      (∀ a ∈ ns, AMap.get graphId a = some (.str g)) → (ns.map (AMap.get nodeId)).Nodup →
      KeysKept s (appendGraph ns es (delGraphNl g s)) :=
    fun g ns es hns hnid => ⟨_, g, ns, es, rfl, kshrinks_filter s _ _ rfl, hns, by
      rw [nodesOf_delGraphNl_self, List.map_nil, List.nil_append]; exact hnid⟩
  have tagged : ∀ (g : String) (ns : List Props), (ns.map (AMap.get nodeId)).Nodup →
      (∀ a ∈ ns.map (AMap.set graphId (.str g)), AMap.get graphId a = some (.str g)) ∧
      ((ns.map (AMap.set graphId (.str g))).map (AMap.get nodeId)).Nodup := by
    intro g ns hn
    refine ⟨fun a ha => ?_, ?_⟩
    · exact gid_of_tagged ha
    · rw [List.map_map, show (AMap.get nodeId ∘ AMap.set graphId (Val.str g)) = AMap.get nodeId from
        funext fun a => AMap.get_set_ne _ _ _ _ nodeId_ne_graphId]
      exact hn
  cases e with
  | refused => exact shrinks (.refl s)
  | answered => exact shrinks (.refl s)
  | addNode g nid label props hg =>
    simp only [Op.keepsKeys_addNode, Bool.and_eq_true, Bool.not_eq_true'] at hk
    rw [updNode_fresh s h]
    exact created _ hg hk.1 hk.2
  | deleteNode g nid i => exact shrinks (kshrinks_filter s _ _ rfl)
  | addLink g a rel b props ia ib attrs => exact shrinks (kshrinks_of_nodes_eq _ _ (addEdge_nodes ia ib attrs s).1)
  | updateNodeProperty g nid k v i =>
    simp only [Op.keepsKeys, Bool.and_eq_true, bne_iff_ne, ne_eq] at hk
    exact updated _ (fun a => AMap.get_set_ne _ _ _ _ (Ne.symm hk.1)) (fun a => AMap.get_set_ne _ _ _ _ (Ne.symm hk.2))
  | unsetNodeProperty g nid k i _ hnu =>
    exact updated _ (fun a => AMap.get_erase_ne _ _ _ (ne_of_mem_of_not_mem graphId_mem_noUnset hnu))
      (fun a => AMap.get_erase_ne _ _ _ (ne_of_mem_of_not_mem nodeId_mem_noUnset hnu))
  | updateNodesProperty g k v =>
    simp only [Op.keepsKeys, Bool.and_eq_true, bne_iff_ne, ne_eq] at hk
    exact shrinks (kshrinks_updNodes s (inG g) (AMap.set k v) fun n _ _ =>
      keyP_congr _ _ (AMap.get_set_ne _ _ _ _ (Ne.symm hk.1)) (AMap.get_set_ne _ _ _ _ (Ne.symm hk.2)))
  | updateNodeProperties g nid p i =>
    simp only [Op.keepsKeys, Bool.and_eq_true, Bool.not_eq_true'] at hk
    exact updated _ (fun a => AMap.get_update_of_not_has _ _ _ hk.1) fun a => AMap.get_update_of_not_has _ _ _ hk.2
  | updateLinkProperty => exact shrinks (kshrinks_of_nodes_eq _ _ rfl)
  | unsetLinkProperty => exact shrinks (kshrinks_of_nodes_eq _ _ rfl)
  | updateLinkProperties => exact shrinks (kshrinks_of_nodes_eq _ _ rfl)
  | deleteGraph g => exact shrinks (kshrinks_filter s _ _ rfl)
  | importRefused g ig => exact shrinks (kshrinks_filter s _ _ rfl)
  | addGraph g ig =>
    have := tagged g ig.close.nodes (by simpa [Op.keepsKeys, IGraph.close] using hk)
    exact imported g _ _ this.1 this.2
  | addGraphDirect g ig =>
    simp only [Op.keepsKeys, Bool.and_eq_true, List.all_eq_true, beq_iff_eq, decide_eq_true_eq] at hk
    exact imported g _ _ hk.1 hk.2
  | cloneRefused g g2 => exact shrinks (kshrinks_filter s _ _ rfl)
  | clone g g2 ig hig =>
    -- the copied nodes are the nodes of `g`, whose ids are distinct
    have : (ig.nodes.map (AMap.get nodeId)).Nodup := by
      rw [extractGraph_some hig, List.map_map]; exact hall g
    have := tagged g2 ig.nodes this
    exact imported g2 _ _ this.1 this.2
  | mergeNodes g nid g2 pol u v mine theirs np hu hv huv hm ht hnp =>
    refine shrinks ((kshrinks_contract u v s).trans (kshrinks_updNode _ u _ fun n hn hi => ?_))
    rw [attrs_of_nodeAttrs h (mem_contract_nodes.1 hn).1 (hi ▸ hm)]
    cases pol with
    | none => rw [hnp]
    | some pol =>
      simp only [Op.keepsKeys, Bool.and_eq_true] at hk
      exact keyP_congr _ _ (mergeProps_get hnp hk.1) (mergeProps_get hnp hk.2)
  | delAllGraphs => exact shrinks (kshrinks_filter s _ (fun _ => false) (by simp [Store.delAllGraphs]))

theorem uniqueKeys_step (op : Op) (s : Store) (h : Inv s) (hk : op.keepsKeys = true) (hu : UniqueKeys s) :
    UniqueKeys (step op s).2 :=
  ((step_effect op s).keysKept h hk (uniqueNid_of_uniqueKeys s hu)).uniqueKeys hu

theorem uniqueKeys_init : UniqueKeys init := by
  simp [UniqueKeys, init]

end FimVerif.Store
