import FimVerif.Model.ARef
import FimVerif.Proofs.Lemmas.ListAux
/-! C05: what `C05.reference_is_local` is put together from.  In the store-level reference model an operation addressed to one
    graph that writes no `GraphID` commutes with restricting the store to that graph (`restrict`): `proj` goes through the control
    flow, one `restrict_*` lemma per primitive.  Reference model only (no `Store`, no internal ids). -/
namespace FimVerif.Store
open FimVerif FimVerif.Gen.StoreConsts

/-- the part of the reference store that belongs to graph `g`: its nodes and the links among them -/
def ARef.restrict (R : ARef) (g : String) : ARef :=
  ⟨R.nodes.filter (ARef.inGP g), R.edges.filter (fun e => ARef.kIn g e.1 && ARef.kIn g e.2.1)⟩

namespace ARef

theorem restrict_nodes (R : ARef) (g : String) : (R.restrict g).nodes = R.nodes.filter (inGP g) := rfl
theorem restrict_edges (R : ARef) (g : String) :
    (R.restrict g).edges = R.edges.filter (fun e => kIn g e.1 && kIn g e.2.1) := rfl

theorem restrict_restrict (R : ARef) (g : String) : (R.restrict g).restrict g = R.restrict g := by
  simp [restrict, List.filter_filter]

theorem kIn_K (g nid : String) : kIn g (K g nid) = true := by simp [kIn, K]

theorem nodesOf_restrict (R : ARef) (g : String) : nodesOf (R.restrict g) g = nodesOf R g := by
  simp [nodesOf, restrict, List.filter_filter]

theorem filter_restrict (R : ARef) (g : String) (p : Props → Bool) (h : ∀ a, p a = true → inGP g a = true) :
    (R.restrict g).nodes.filter p = R.nodes.filter p := by
  simp only [restrict, List.filter_filter]
  apply List.filter_congr
  intro a _
  cases hp : p a
  · simp
  · simp [h a hp]

theorem find_restrict (R : ARef) (g nid : String) : find (R.restrict g) g nid = find R g nid := by
  unfold find
  rw [filter_restrict R g _ (by intro a h; simp only [Bool.and_eq_true] at h; exact h.2)]

theorem edgeIsK_kIn (g a b : String) (e : Key × Key × Props) (h : edgeIsK (K g a) (K g b) e = true) :
    (kIn g e.1 && kIn g e.2.1) = true := by
  simp only [edgeIsK, Bool.or_eq_true, Bool.and_eq_true, beq_iff_eq] at h
  rcases h with ⟨h1, h2⟩ | ⟨h1, h2⟩ <;> simp [h1, h2, kIn_K]

theorem findEdge_restrict (R : ARef) (g a b : String) :
    (R.restrict g).edges.find? (edgeIsK (K g a) (K g b)) = R.edges.find? (edgeIsK (K g a) (K g b)) :=
  List.find?_filter_of_imp _ _ _ (fun e _ h => edgeIsK_kIn g a b e h)

theorem anyEdge_restrict (R : ARef) (g a b : String) :
    (R.restrict g).edges.any (edgeIsK (K g a) (K g b)) = R.edges.any (edgeIsK (K g a) (K g b)) :=
  List.any_filter_of_imp _ _ _ (fun e _ h => edgeIsK_kIn g a b e h)

/-- a result as it shows inside graph `g`.  Locality is an equation, `proj g (step op R) = step op (R.restrict g)`: both sides run
    the same function, so the projection can be pushed through its control flow (`proj_ite`, `proj_withN`, `proj_withL`,
    `proj_assertVal`) down to the primitive, where it is one of the `restrict_*` lemmas below -/
def proj (g : String) (r : AR) : AR := (r.1, r.2.restrict g)

theorem proj_mk (g : String) (x : Except Err Out) (R : ARef) : proj g (x, R) = (x, R.restrict g) := rfl

theorem proj_ite (g : String) (c : Prop) [Decidable c] (a b : AR) :
    proj g (if c then a else b) = if c then proj g a else proj g b :=
  apply_ite _ _ _ _

theorem proj_withN (g : String) (R : ARef) (nid : String) (k : Props → AR) :
    proj g (withN R g nid k) = withN (R.restrict g) g nid fun a => proj g (k a) := by
  unfold withN
  rw [find_restrict]
  cases find R g nid <;> rfl

theorem proj_assertVal (g : String) (R : ARef) (v : Val) (k : AR) :
    proj g (assertVal v R k) = assertVal v (R.restrict g) (proj g k) := by
  unfold assertVal; split <;> rfl

theorem proj_nidList (g : String) (R : ARef) (ns : List Props) : proj g (nidList ns R) = nidList ns (R.restrict g) := by
  unfold nidList; split <;> rfl

theorem kIn_rekey (g nid : String) (new k : Key) (hn : kIn g new = kIn g (K g nid)) : kIn g (rekey (K g nid) new k) = kIn g k := by
  unfold rekey
  split
  · next h => rw [h, hn]
  · rfl

theorem restrict_updK (g nid : String) (f : Props → Props) (new : Key) (R : ARef)
    (hf : ∀ a, inGP g (f a) = inGP g a) (hn : kIn g new = kIn g (K g nid)) :
    (updK (K g nid) f new R).restrict g = updK (K g nid) f new (R.restrict g) := by
  unfold updK restrict
  simp only
  congr 1
  · exact List.filter_map_comm _ _ _ fun a _ => by split <;> simp only [hf]
  · exact List.filter_map_comm _ _ _ fun e _ => by simp only [kIn_rekey g nid new _ hn]

theorem restrict_updGraphK (g : String) (f : Props → Props) (fk : Key → Key) (R : ARef)
    (hf : ∀ a, inGP g (f a) = inGP g a) (hk : ∀ k, kIn g (fk k) = kIn g k) :
    (updGraphK g f fk R).restrict g = updGraphK g f fk (R.restrict g) := by
  unfold updGraphK restrict
  simp only
  congr 1
  · exact List.filter_map_comm _ _ _ fun a _ => by split <;> simp only [hf]
  · refine List.filter_map_comm _ _ _ fun e _ => ?_
    have : ∀ k : Key, kIn g (if kIn g k = true then fk k else k) = kIn g k := fun k => by split <;> simp only [hk]
    simp only [this]

theorem restrict_updEdgeK (g : String) (ka kb : Key) (f : Props → Props) (R : ARef) :
    (updEdgeK ka kb f R).restrict g = updEdgeK ka kb f (R.restrict g) := by
  unfold updEdgeK restrict
  simp only
  congr 1
  apply List.filter_map_comm
  intro e _
  by_cases h : edgeIsK ka kb e = true <;> simp [h]

theorem restrict_filter (g : String) (p : Props → Bool) (q : Key × Key × Props → Bool) (R : ARef) :
    (⟨R.nodes.filter p, R.edges.filter q⟩ : ARef).restrict g = ⟨(R.restrict g).nodes.filter p, (R.restrict g).edges.filter q⟩ := by
  unfold restrict
  simp only [List.filter_filter]
  congr 1
  · apply List.filter_congr; intro a _; exact Bool.and_comm _ _
  · apply List.filter_congr; intro a _; exact Bool.and_comm _ _

theorem restrict_removeK (g : String) (k : Key) (R : ARef) : (removeK k R).restrict g = removeK k (R.restrict g) :=
  restrict_filter g _ _ R

theorem restrict_delGraphK (g : String) (R : ARef) : (delGraphK g R).restrict g = delGraphK g (R.restrict g) :=
  restrict_filter g _ _ R

theorem restrict_addEdgeK (g a b : String) (attrs : Props) (R : ARef) :
    (addEdgeK (K g a) (K g b) attrs R).restrict g = addEdgeK (K g a) (K g b) attrs (R.restrict g) := by
  unfold addEdgeK
  rw [anyEdge_restrict]
  split
  · exact restrict_updEdgeK g _ _ _ R
  · simp [restrict, List.filter_append, kIn_K]

theorem restrict_addNode (g : String) (a : Props) (R : ARef) (h : inGP g a = true) :
    ({ R with nodes := R.nodes ++ [a] } : ARef).restrict g
      = { R.restrict g with nodes := (R.restrict g).nodes ++ [a] } := by
  simp [restrict, List.filter_append, h]

theorem inGP_set (g k : String) (v : Val) (a : Props) (hk : k ≠ graphId) : inGP g (AMap.set k v a) = inGP g a := by
  unfold inGP
  rw [AMap.get_set_ne _ _ _ _ (Ne.symm hk)]

theorem inGP_erase (g k : String) (a : Props) (hk : k ≠ graphId) : inGP g (AMap.erase k a) = inGP g a := by
  unfold inGP
  rw [AMap.get_erase_ne _ _ _ (Ne.symm hk)]

theorem inGP_update (g : String) (a p : Props) (hp : AMap.has graphId p = false) :
    inGP g (AMap.update a p) = inGP g a := by
  unfold inGP
  rw [AMap.get_update_of_not_has _ _ _ hp]

theorem kIn_setKey (g k : String) (v : Val) (key : Key) (hk : k ≠ graphId) : kIn g (setKey k v key) = kIn g key := by
  simp [kIn, setKey, hk]

theorem kIn_updKey (g : String) (p : Props) (key : Key) (hp : AMap.has graphId p = false) :
    kIn g (updKey p key) = kIn g key := by
  simp [kIn, updKey, hp]

theorem proj_withL (g : String) (R : ARef) (a b kind : String) (k : AR) :
    proj g (withL R g a b kind k) = withL (R.restrict g) g a b kind (proj g k) := by
  unfold withL
  simp only [proj_withN, findEdge_restrict]
  congr; funext _; congr; funext _
  split
  · rfl
  · split <;> rfl

end ARef

end FimVerif.Store
