import FimVerif.Proofs.Lemmas.C14Reach
/-! C14: the unmerge of any previously merged model, not only the last, against the model built without it (`UnmergedVs`). -/
namespace FimVerif.Cbm

theorem filter_id_ne {pre post : List Adm} {a : Adm} (hn : ((pre ++ a :: post).map (·.id)).Nodup) :
    (pre ++ a :: post).filter (fun b => b.id != a.id) = pre ++ post := by
  rw [List.map_append, List.map_cons] at hn
  obtain ⟨h1, h2, h3⟩ := List.nodup_append.mp hn
  rw [List.nodup_cons] at h2
  rw [List.filter_append, List.filter_cons]
  have e1 : pre.filter (fun b => b.id != a.id) = pre := by
    apply List.filter_eq_self.mpr
    intro b hb
    have := h3 b.id (List.mem_map.mpr ⟨b, hb, rfl⟩) a.id (by simp)
    simpa using this
  have e2 : post.filter (fun b => b.id != a.id) = post := by
    apply List.filter_eq_self.mpr
    intro b hb
    have : a.id ≠ b.id := fun e => h2.1 (e ▸ List.mem_map.mpr ⟨b, hb, rfl⟩)
    simpa using this.symm
  simp [e1, e2]

/-- what is left after unmerging model `a` from a combined model built from `pre ++ a :: post`, against the combined
model `g0` built without `a` -/
structure UnmergedVs (pre post : List Adm) (a : Adm) (g g' g0 : Graph) : Prop where
  has : ∀ i, g'.has i = g0.has i
  prov : ∀ i, g'.provOf i = g0.provOf i
  ldel : ∀ i, (g'.ldelOf i).norm = (g0.ldelOf i).norm
  cdel : ∀ i, (g'.cdelOf i).norm = (g0.cdelOf i).norm
  /-- known finding `edge-between-shared-nodes-stays`: `a`'s connections between elements that others contribute stay -/
  hasEdge : ∀ x y, g'.hasEdge x y = (g0.hasEdge x y || (a.g.hasEdge x y && g0.has x && g0.has y))
  /-- known finding `shared-node-keeps-unmerged-model-properties`: survivors keep the data they had -/
  propsKept : ∀ i, g'.propsOf i = if g0.has i then g.propsOf i else none
  props : ∀ i, (a.g.has i = false ∨ pre.any (fun b => b.g.has i) = true) → g'.propsOf i = g0.propsOf i
  edgeKept : ∀ x y, g'.edgeData x y = if g0.has x && g0.has y then g.edgeData x y else none
  edgeData : ∀ x y, (a.g.hasEdge x y = false ∨ pre.any (fun b => b.g.hasEdge x y) = true) → g'.edgeData x y = g0.edgeData x y

theorem firstSome_unmerged {β : Type} {f : Adm → Option β} {has : Adm → Bool} (hf : ∀ b, (f b).isSome = has b)
    {pre post : List Adm} {a : Adm} {keep : Bool} (hskip : has a = false ∨ pre.any has = true)
    (hkeep : ∀ b ∈ pre ++ post, has b = true → keep = true) :
    (if keep then firstSome f (pre ++ a :: post) else none) = firstSome f (pre ++ post) := by
  have hnone : ∀ {b}, has b = false → f b = none := fun hb => Option.not_isSome_iff_eq_none.mp (by simp [hf, hb])
  rw [firstSome_skip f pre post a (hskip.imp hnone fun h => by simpa only [hf, List.any_eq_true] using h)]
  cases keep with
  | true => rfl
  | false => exact (firstSome_none f _ fun b hb => hnone (Bool.eq_false_iff.mpr fun h => nomatch hkeep b hb h)).symm

theorem UnmergedVs.of {pre post : List Adm} {a : Adm} {g g' g0 : Graph} (d : MergedAll Graph.empty (pre ++ a :: post) g)
    (e : MergedAll Graph.empty (pre ++ post) g0) (us : UnmergeStep g a.id g') (m' : MadeOf g' (pre ++ post))
    (hcl : ∀ b ∈ pre ++ post, b.g.Closed) : UnmergedVs pre post a g g' g0 := by
  obtain ⟨hhas, hprov, hdel⟩ := m'.agree e.madeOf
  have hinE : ∀ b ∈ pre ++ post, ∀ x y, b.g.hasEdge x y = true → g0.has x = true ∧ g0.has y = true := fun b hb x y hbe =>
    ⟨e.madeOf.has_of_mem hb (hasEdge_has (hcl b hb) hbe).1, e.madeOf.has_of_mem hb (hasEdge_has (hcl b hb) hbe).2⟩
  refine ⟨hhas, hprov, hdel false, hdel true, ?_, ?_, ?_, ?_, ?_⟩
  · intro x y
    -- a connection one of the remaining models has joins elements that stay; any other is `a`'s, between elements that stay
    have hsplit : (pre ++ a :: post).any (fun b => b.g.hasEdge x y) = (a.g.hasEdge x y || (pre ++ post).any (fun b => b.g.hasEdge x y)) := by
      rw [List.any_append, List.any_cons, List.any_append, Bool.or_left_comm]
    rw [us.hasEdge, hhas, hhas, d.hasEdge, e.hasEdge, hsplit]
    cases hR : (pre ++ post).any (fun b => b.g.hasEdge x y) with
    | false => rw [Bool.or_false, Bool.or_false]; rfl
    | true =>
      obtain ⟨b, hb, hbe⟩ := List.any_eq_true.mp hR
      rw [(hinE b hb x y hbe).1, (hinE b hb x y hbe).2, Bool.or_true]
      rfl
  · intro i; rw [us.props, hhas]
  · intro i hi
    rw [us.props, hhas, d.props, e.props]
    exact firstSome_unmerged (fun b => propsOf_isSome b.g i) hi fun b hb => e.madeOf.has_of_mem hb
  · intro x y; rw [us.edgeData, hhas, hhas]
  · intro x y hi
    rw [us.edgeData, hhas, hhas, d.edgeData, e.edgeData]
    exact firstSome_unmerged (fun b => edgeData_isSome b.g x y) hi
      fun b hb h => by rw [(hinE b hb x y h).1, (hinE b hb x y h).2]; rfl

end FimVerif.Cbm
