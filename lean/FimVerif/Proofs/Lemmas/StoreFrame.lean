import FimVerif.Proofs.Lemmas.StoreInv
/-! C04: frame lemmas for the primitive state transformers of the shared store. -/
namespace FimVerif.Store
open FimVerif FimVerif.Gen.StoreConsts

/-- `C04.frame_general` and the frame theorems after it state this conjunction written out -/
def Frames (g' : String) (s s' : Store) : Prop :=
  nodesOf s' g' = nodesOf s g' ∧ edgesOf s' g' = edgesOf s g'

theorem Frames.refl (g' : String) (s : Store) : Frames g' s s := ⟨rfl, rfl⟩
theorem Frames.trans {g' : String} {s s1 s2 : Store} (h1 : Frames g' s s1) (h2 : Frames g' s1 s2) : Frames g' s s2 :=
  ⟨h2.1.trans h1.1, h2.2.trans h1.2⟩

theorem frames_of (g' : String) (s s' : Store) (hn : nodesOf s' g' = nodesOf s g')
    (he : s'.edges.filter (fun e => idIn (nodesOf s g') e.a && idIn (nodesOf s g') e.b) = edgesOf s g') :
    Frames g' s s' := by
  refine ⟨hn, ?_⟩
  unfold edgesOf at *
  rw [hn]; exact he

theorem inG_upd (g' : String) (n : SNode) (f : Props → Props) (hf : ∀ a, AMap.get graphId (f a) = AMap.get graphId a) :
    inG g' { n with attrs := f n.attrs } = inG g' n := by
  simp [inG, hf]

theorem frames_updNodes (g' : String) (s : Store) (c : SNode → Bool) (f : Props → Props)
    (hc : ∀ n ∈ s.nodes, c n = true → inG g' n = false)
    (hf : ∀ n ∈ s.nodes, c n = true → AMap.get graphId (f n.attrs) ≠ some (.str g')) :
    Frames g' s (updNodes c f s) := by
  unfold updNodes
  apply frames_of
  · unfold nodesOf
    apply map_filter_frame
    · intro n hn
      by_cases h : c n
      · simp only [h, if_true, hc n hn h]
        simpa only [inG, beq_eq_false_iff_ne, ne_eq] using hf n hn h
      · simp [h]
    · intro n hn hp
      by_cases h : c n
      · rw [hc n hn h] at hp; cases hp
      · simp [h]
  · rfl

theorem idIn_nodesOf_of_ne (s : Store) (h : Inv s) (n : SNode) (hn : n ∈ s.nodes) (g g' : String) (hg : inG g n = true)
    (hne : g' ≠ g) : idIn (nodesOf s g') n.iid = false :=
  (idIn_nodesOf s h g' n hn).trans (inG_of_ne hg hne)

theorem edgeMatch_ends (a b : Nat) (e : SEdge) (h : edgeMatch a b e = true) : (e.a = a ∧ e.b = b) ∨ (e.a = b ∧ e.b = a) := by
  simpa [edgeMatch] using h

theorem frames_updEdge (g' : String) (s : Store) (a b : Nat) (f : Props → Props)
    (hab : idIn (nodesOf s g') a = false ∨ idIn (nodesOf s g') b = false) : Frames g' s (updEdge a b f s) := by
  apply frames_of
  · rfl
  · unfold edgesOf updEdge
    apply map_filter_frame
    · intro e _
      by_cases h : edgeMatch a b e <;> simp [h]
    · intro e _ hp
      by_cases h : edgeMatch a b e
      · simp only [Bool.and_eq_true] at hp
        rcases edgeMatch_ends a b e h with ⟨e1, e2⟩ | ⟨e1, e2⟩ <;> rcases hab with hab | hab <;> simp_all
      · simp [h]

theorem frames_removeNode (g' : String) (s : Store) (i : Nat) (hi : idIn (nodesOf s g') i = false) :
    Frames g' s (removeNode i s) := by
  rw [idIn_false_iff] at hi
  apply frames_of
  · unfold nodesOf removeNode
    apply List.filter_filter_of_imp
    intro n hn hp
    simpa using hi n (mem_nodesOf.2 ⟨hn, hp⟩)
  · unfold edgesOf removeNode
    apply List.filter_filter_of_imp
    intro e _ hp
    simp only [Bool.and_eq_true, idIn_iff] at hp
    obtain ⟨⟨na, hna, ea⟩, ⟨nb, hnb, eb⟩⟩ := hp
    have := hi na hna; have := hi nb hnb
    simp_all

theorem frames_delGraphNl (g g' : String) (s : Store) (h : Inv s) (hne : g' ≠ g) : Frames g' s (delGraphNl g s) := by
  apply frames_of
  · unfold nodesOf delGraphNl
    apply List.filter_filter_of_imp
    intro n _ hp
    rw [inG_of_ne hp hne.symm]; rfl
  · unfold edgesOf delGraphNl
    apply List.filter_filter_of_imp
    intro e _ hp
    simp only [Bool.and_eq_true, idIn_iff] at hp
    obtain ⟨⟨na, hna, ea⟩, ⟨nb, hnb, eb⟩⟩ := hp
    rw [mem_nodesOf] at hna hnb
    have da := idIn_nodesOf_of_ne s h na hna.1 g' g hna.2 (Ne.symm hne)
    have db := idIn_nodesOf_of_ne s h nb hnb.1 g' g hnb.2 (Ne.symm hne)
    rw [ea] at da; rw [eb] at db
    simp [da, db]

theorem frames_appendEdge (g' : String) (s : Store) (e : SEdge)
    (hab : idIn (nodesOf s g') e.a = false ∨ idIn (nodesOf s g') e.b = false) :
    Frames g' s { s with edges := s.edges ++ [e] } := by
  apply frames_of
  · rfl
  · unfold edgesOf
    rcases hab with hab | hab <;> simp [List.filter_append, hab]

theorem frames_addEdge (g' : String) (s : Store) (a b : Nat) (attrs : Props)
    (hab : idIn (nodesOf s g') a = false ∨ idIn (nodesOf s g') b = false) : Frames g' s (addEdge a b attrs s) := by
  unfold addEdge; split
  · exact frames_updEdge g' s a b _ hab
  · exact frames_appendEdge g' s ⟨a, b, attrs⟩ hab

theorem idIn_nodesOf_lt (s : Store) (h : Inv s) (g' : String) (i : Nat) (hi : s.nextId ≤ i) : idIn (nodesOf s g') i = false := by
  rw [idIn_false_iff]
  intro n hn e
  have := h.2.1 n (mem_nodesOf.1 hn).1
  omega

theorem filter_relabel_none (g' : String) (base : Nat) (l : List Props) (hl : ∀ a ∈ l, AMap.get graphId a ≠ some (.str g')) :
    (relabel base l).filter (inG g') = [] :=
  List.filter_eq_nil_iff.2 fun n hn => by simpa [inG] using hl _ (mem_relabel_attrs hn)

theorem frames_appendGraph (g' : String) (s : Store) (h : Inv s) (ns : List Props) (es : List (Nat × Nat × Props))
    (hns : ∀ a ∈ ns, AMap.get graphId a ≠ some (.str g')) : Frames g' s (appendGraph ns es s) := by
  apply frames_of
  · simp [nodesOf, appendGraph, List.filter_append, filter_relabel_none g' _ ns hns]
  · simp only [edgesOf, appendGraph, List.filter_append]
    have : (es.map (fun e => (⟨s.nextId + e.1, s.nextId + e.2.1, e.2.2⟩ : SEdge))).filter
        (fun e => idIn (nodesOf s g') e.a && idIn (nodesOf s g') e.b) = [] := by
      rw [List.filter_eq_nil_iff]
      intro e he
      obtain ⟨e0, _, rfl⟩ := List.mem_map.1 he
      simp [idIn_nodesOf_lt s h g' (s.nextId + e0.1) (by omega)]
    simp [this]

theorem frames_addIfAbsent (g' : String) (s : Store) (w x : Nat) (attrs : Props)
    (hab : idIn (nodesOf s g') w = false ∨ idIn (nodesOf s g') x = false) : Frames g' s (addIfAbsent w x attrs s) := by
  unfold addIfAbsent
  split
  · exact Frames.refl _ _
  · exact frames_appendEdge g' s ⟨w, x, attrs⟩ hab

theorem frames_remapEdges (g' : String) (u v : Nat) (l : List SEdge) (s : Store)
    (hu : idIn (nodesOf s g') u = false) (hl : ∀ e ∈ l, e.a = v ∨ e.b = v) : Frames g' s (remapEdges u v l s) := by
  induction l generalizing s with
  | nil => exact Frames.refl _ _
  | cons e r ih =>
    have step : Frames g' s (addIfAbsent (rm u v e.a) (rm u v e.b) e.attrs s) :=
      frames_addIfAbsent g' s _ _ _ ((hl e (by simp)).imp (fun he => by simp [rm, he, hu]) (fun he => by simp [rm, he, hu]))
    refine Frames.trans step (ih (addIfAbsent (rm u v e.a) (rm u v e.b) e.attrs s) ?_ (fun e' he' => hl e' (by simp [he'])))
    rw [step.1]; exact hu

theorem frames_contract (g' : String) (u v : Nat) (s : Store) (hu : idIn (nodesOf s g') u = false)
    (hv : idIn (nodesOf s g') v = false) : Frames g' s (contract u v s) := by
  have f1 := frames_removeNode g' s v hv
  refine Frames.trans f1 (frames_remapEdges g' u v _ _ (by rw [f1.1]; exact hu) ?_)
  intro e he
  simpa using (List.mem_filter.1 he).2

end FimVerif.Store
