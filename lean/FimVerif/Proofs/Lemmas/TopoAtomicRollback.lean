import FimVerif.Proofs.Lemmas.TopoAtomicSvc
/-! The rollback of `NetworkService.__init__`: the state after k successful `connect_interface` calls (`ext`), and
the lemma that disconnecting the oldest connected interface removes exactly its ServicePort and Link (`disconnect_head`):
computed for one pair on the base (`ext b v [p]`), then carried under the later pairs, whose edges touch nothing that
`disconnect_interface` reads (`rest_untouched` and the frame lemmas of TopoAtomicGrow).  From this the constructor's
post-state for any list of interfaces (`svcLoop_spec`, `svcNew_spec`). -/
namespace FimVerif.Topo
open FimVerif FimVerif.M

/-- what one successful `connect_interface` added: the node interface it connected, the ServicePort, the Link -/
structure Pair where
  fi : GNode
  cp : GNode
  ln : GNode
  nm : String

def Pair.nodes (p : Pair) : List GNode := [p.cp, p.ln]
def Pair.edges (v : Ref) (p : Pair) : List GEdge :=
  [⟨v, p.cp.ref, .connects⟩, ⟨p.ln.ref, p.fi.ref, .connects⟩, ⟨p.ln.ref, p.cp.ref, .connects⟩]
def Pair.arg (p : Pair) : IfArg := .iface p.fi.nid p.nm

def ext (b : Topo) (v : Ref) (ps : List Pair) : Topo :=
  ⟨b.nodes ++ ps.flatMap Pair.nodes, b.edges ++ ps.flatMap (Pair.edges v)⟩

theorem ext_nil (b : Topo) (v : Ref) : ext b v [] = b := by simp [ext]

theorem Pair.touches_edges {v r : Ref} {p : Pair} (h : touches (p.edges v) r) :
    r = v ∨ r = p.cp.ref ∨ r = p.ln.ref ∨ r = p.fi.ref := by
  obtain ⟨e, he, ht⟩ := h
  simp only [Pair.edges, List.mem_cons, List.mem_nil_iff, or_false] at he
  rcases he with rfl | rfl | rfl <;> rcases ht with rfl | rfl <;> simp

theorem connState_ext (b : Topo) (v : Ref) (ps : List Pair) (sv fi cp ln : GNode) (nm : String) (hv : sv.ref = v) :
    connState (ext b v ps) sv fi cp ln = ext b v (ps ++ [⟨fi, cp, ln, nm⟩]) := by
  simp [connState, ext, List.flatMap_append, Pair.nodes, Pair.edges, hv, List.append_assoc]

/-- `fi` has no peer over the links it is attached to in `b`: what `find_peer_connection_points` found (nothing) when `fi` was
connected; it is why, once connected, the ServicePort is its one peer -/
def NoOldPeers (b : Topo) (fi : GNode) : Prop :=
  ∀ f ∈ b.nodes, f.cls = .link → adjacent b fi.ref f.ref .connects = true →
    ∀ k ∈ b.nodes, k.cls = .connectionPoint → k.ref ≠ fi.ref → adjacentAny b f.ref k.ref = false

structure PairOk (b : Topo) (c0 c : Nat) (p : Pair) : Prop where
  fib : p.fi ∈ b.nodes
  ficls : p.fi.cls = .connectionPoint
  cpcls : p.cp.cls = .connectionPoint
  cptyp : p.cp.typ = "ServicePort"
  lncls : p.ln.cls = .link
  ids : ∃ k, c0 ≤ k ∧ k + 2 ≤ c ∧ p.cp.nid = .gen k ∧ p.ln.nid = .gen (k + 1)
  nop : NoOldPeers b p.fi

/-- `ps` were connected to the service `v` of `b`, each interface once; `c0` is the first uuid the call drew for them and `c` the
next one it will draw (`PairOk.ids`: every pair sits at some `k`, `k + 1` in between) -/
structure ExtOk (b : Topo) (v : Ref) (c0 c : Nat) (ps : List Pair) : Prop where
  ids : IdsDistinct (ext b v ps)
  closed : Closed b
  vin : ∃ vn ∈ b.nodes, vn.ref = v
  vcls : v.cls = .networkService
  pairs : ∀ p ∈ ps, PairOk b c0 c p
  dist : (ps.map (·.fi.nid)).Nodup

theorem ext_grow (b : Topo) (v : Ref) (ps : List Pair) : ext b v ps = grow b (ps.flatMap Pair.nodes) (ps.flatMap (Pair.edges v)) := rfl

theorem ExtOk.tail {b v c0 c p rest} (h : ExtOk b v c0 c (p :: rest)) : ExtOk b v c0 c rest := by
  refine ⟨?_, h.closed, h.vin, h.vcls, fun q hq => h.pairs q (List.mem_cons_of_mem _ hq), (List.nodup_cons.mp h.dist).2⟩
  obtain ⟨hb, hnd, hf⟩ := (ext_grow .. ▸ h.ids).of_grow
  exact idsDistinct_grow hb (hnd.sublist ((List.sublist_append_right ..).map _)) fun n hn => hf n (List.mem_append_right _ hn)

theorem old_new_fresh {b v c0 c ps} (h : ExtOk b v c0 c ps) :
    ∀ q ∈ ps, ∀ m ∈ b.nodes, m.nid ≠ q.cp.nid ∧ m.nid ≠ q.ln.nid := fun q hq m hm =>
  have hf := (ext_grow .. ▸ h.ids).of_grow.2.2
  ⟨hf q.cp (List.mem_flatMap.mpr ⟨q, hq, by simp [Pair.nodes]⟩) m hm, hf q.ln (List.mem_flatMap.mpr ⟨q, hq, by simp [Pair.nodes]⟩) m hm⟩

theorem mem_ext_edges {b : Topo} {v : Ref} {ps : List Pair} {e : GEdge} :
    e ∈ (ext b v ps).edges ↔ e ∈ b.edges ∨ ∃ q ∈ ps, e ∈ q.edges v := by
  simp [ext, List.mem_flatMap]

theorem mem_ext_nodes {b : Topo} {v : Ref} {ps : List Pair} {n : GNode} :
    n ∈ (ext b v ps).nodes ↔ n ∈ b.nodes ∨ ∃ q ∈ ps, n = q.cp ∨ n = q.ln := by
  simp [ext, List.mem_flatMap, Pair.nodes]

theorem ExtOk.new_ids {b : Topo} {v : Ref} {c0 c : Nat} {ps : List Pair} (h : ExtOk b v c0 c ps) {n : GNode}
    (hn : n ∈ (ext b v ps).nodes) : n ∈ b.nodes ∨ ∃ k, c0 ≤ k ∧ k < c ∧ n.nid = .gen k := by
  rcases mem_ext_nodes.mp hn with hb | ⟨q, hq, hor⟩
  · exact .inl hb
  · obtain ⟨k, hk0, hkc, hk1, hk2⟩ := (h.pairs q hq).ids
    rcases hor with rfl | rfl
    · exact .inr ⟨k, hk0, by omega, hk1⟩
    · exact .inr ⟨k + 1, by omega, by omega, hk2⟩

theorem closed_ext {b : Topo} {v : Ref} {c0 c : Nat} {ps : List Pair} (h : ExtOk b v c0 c ps) : Closed (ext b v ps) := by
  refine closed_grow h.closed fun e he => ?_
  obtain ⟨vn, hvn, hvr⟩ := h.vin
  obtain ⟨q, hq, he⟩ := List.mem_flatMap.mp he
  have m1 : ∃ n ∈ (ext b v ps).nodes, n.ref = v := ⟨vn, mem_ext_nodes.mpr (.inl hvn), hvr⟩
  have m2 : ∃ n ∈ (ext b v ps).nodes, n.ref = q.cp.ref := ⟨q.cp, mem_ext_nodes.mpr (.inr ⟨q, hq, .inl rfl⟩), rfl⟩
  have m3 : ∃ n ∈ (ext b v ps).nodes, n.ref = q.ln.ref := ⟨q.ln, mem_ext_nodes.mpr (.inr ⟨q, hq, .inr rfl⟩), rfl⟩
  have m4 : ∃ n ∈ (ext b v ps).nodes, n.ref = q.fi.ref := ⟨q.fi, mem_ext_nodes.mpr (.inl (h.pairs q hq).fib), rfl⟩
  simp only [Pair.edges, List.mem_cons, List.mem_nil_iff, or_false] at he
  rcases he with rfl | rfl | rfl
  · exact ⟨m1, m2⟩
  · exact ⟨m3, m4⟩
  · exact ⟨m3, m2⟩

theorem ext_single (b : Topo) (v : Ref) (p : Pair) : ext b v [p] = grow b p.nodes (p.edges v) := by simp [ext, grow]

section single
variable {b : Topo} {v : Ref} {c0 c : Nat} {p : Pair}

theorem single_fresh (h : ExtOk b v c0 c [p]) : (∀ m ∈ b.nodes, m.nid ≠ p.cp.nid ∧ m.nid ≠ p.ln.nid) ∧ p.cp.nid ≠ p.ln.nid := by
  have := h.ids
  rw [ext_single] at this
  obtain ⟨_, hnd, hfr⟩ := this.of_grow
  exact ⟨fun m hm => ⟨hfr p.cp (by simp [Pair.nodes]) m hm, hfr p.ln (by simp [Pair.nodes]) m hm⟩, by simpa [Pair.nodes] using hnd⟩

theorem single_mem (h : ExtOk b v c0 c [p]) :
    p.cp ∈ (ext b v [p]).nodes ∧ p.ln ∈ (ext b v [p]).nodes ∧ p.fi ∈ (ext b v [p]).nodes :=
  ⟨mem_ext_nodes.mpr (.inr ⟨p, List.mem_cons_self .., .inl rfl⟩), mem_ext_nodes.mpr (.inr ⟨p, List.mem_cons_self .., .inr rfl⟩),
    mem_ext_nodes.mpr (.inl (h.pairs p (List.mem_cons_self ..)).fib)⟩

theorem adj_cp (h : ExtOk b v c0 c [p]) {x : Ref} (ha : adjacentAny (ext b v [p]) p.cp.ref x = true) : x = v ∨ x = p.ln.ref := by
  rw [ext_single, adjacentAny_grow_new h.closed (absent_of_fresh fun m hm => ((single_fresh h).1 m hm).1)] at ha
  obtain ⟨e, he, hs⟩ := adjacentAny_iff.mp ha
  have hpo := h.pairs p (List.mem_cons_self ..)
  have a1 : v ≠ p.cp.ref := fun e => by have := h.vcls; rw [e] at this; simp [hpo.cpcls] at this
  have a2 : p.ln.ref ≠ p.cp.ref := ref_ne_of_cls_ne (by simp [hpo.lncls, hpo.cpcls])
  have a3 : p.fi.ref ≠ p.cp.ref := ref_ne_of_nid_ne ((single_fresh h).1 _ hpo.fib).1
  simp only [only, Pair.edges, List.mem_cons, List.mem_nil_iff, or_false] at he
  rcases he with rfl | rfl | rfl <;> rcases sameEnds_iff.mp hs with ⟨x1, x2⟩ | ⟨x1, x2⟩ <;> simp only at x1 x2
  · exact absurd x1 a1
  · exact .inl x1.symm
  · exact absurd x1 a2
  · exact absurd x2 a3
  · exact absurd x1 a2
  · exact .inr x1.symm

theorem adj_ln (h : ExtOk b v c0 c [p]) {x : Ref} (ha : adjacentAny (ext b v [p]) p.ln.ref x = true) :
    x = p.fi.ref ∨ x = p.cp.ref := by
  rw [ext_single, adjacentAny_grow_new h.closed (absent_of_fresh fun m hm => ((single_fresh h).1 m hm).2)] at ha
  obtain ⟨e, he, hs⟩ := adjacentAny_iff.mp ha
  have hpo := h.pairs p (List.mem_cons_self ..)
  have a1 : v ≠ p.ln.ref := fun e => by have := h.vcls; rw [e] at this; simp [hpo.lncls] at this
  have a2 : p.cp.ref ≠ p.ln.ref := ref_ne_of_cls_ne (by simp [hpo.lncls, hpo.cpcls])
  have a3 : p.fi.ref ≠ p.ln.ref := ref_ne_of_cls_ne (by simp [hpo.lncls, hpo.ficls])
  simp only [only, Pair.edges, List.mem_cons, List.mem_nil_iff, or_false] at he
  rcases he with rfl | rfl | rfl <;> rcases sameEnds_iff.mp hs with ⟨x1, x2⟩ | ⟨x1, x2⟩ <;> simp only at x1 x2
  · exact absurd x1 a1
  · exact absurd x2 a2
  · exact .inl x2.symm
  · exact absurd x2 a3
  · exact .inr x2.symm
  · exact absurd x2 a2

theorem mem_single_edges {e : GEdge} (he : e ∈ p.edges v) : e ∈ (ext b v [p]).edges :=
  mem_ext_edges.mpr (.inr ⟨p, List.mem_cons_self .., he⟩)

theorem nb_cp_cp (h : ExtOk b v c0 c [p]) : neighbors (ext b v [p]) p.cp.ref .connects .connectionPoint = [] :=
  neighbors_eq_nil fun x _ hx => Bool.eq_false_iff.mpr fun ha => by
    rcases adj_cp h (adjacentAny_of_adjacent ha) with e | e
    · have := h.vcls; rw [← e] at this; simp [hx] at this
    · have := cls_of_ref_eq e; rw [hx, (h.pairs p (List.mem_cons_self ..)).lncls] at this; cases this

theorem nb_cp_link (h : ExtOk b v c0 c [p]) : neighbors (ext b v [p]) p.cp.ref .connects .link = [p.ln] := by
  have hpo := h.pairs p (List.mem_cons_self ..)
  rw [← hpo.lncls]
  refine neighbors_eq_singleton h.ids (single_mem h).2.1
    (adjacent_of_edge (a := p.ln.ref) (mem_single_edges (by simp [Pair.edges]))).2
    fun x _ hx ha => (adj_cp h (adjacentAny_of_adjacent ha)).resolve_left fun e => ?_
  have := h.vcls; rw [← e] at this; simp [hx, hpo.lncls] at this

/-- the Link joins exactly two ConnectionPoints, which is what makes `remove_cp_and_links` take it along -/
theorem nb_ln_cp (h : ExtOk b v c0 c [p]) : neighbors (ext b v [p]) p.ln.ref .connects .connectionPoint = [p.fi, p.cp] := by
  have hpo := h.pairs p (List.mem_cons_self ..)
  obtain ⟨hB, hcl⟩ := single_fresh h
  have hadj : ∀ x, x = p.fi ∨ x = p.cp → (x.cls == Cls.connectionPoint && adjacent (ext b v [p]) p.ln.ref x.ref .connects) = true := by
    rintro x (rfl | rfl)
    · simp only [hpo.ficls, beq_self_eq_true, Bool.true_and]
      exact (adjacent_of_edge (mem_single_edges (by simp [Pair.edges]))).1
    · simp only [hpo.cpcls, beq_self_eq_true, Bool.true_and]
      exact (adjacent_of_edge (mem_single_edges (by simp [Pair.edges]))).1
  unfold neighbors
  have hb1 : IdsDistinct b := by have := h.ids; rw [ext_single] at this; exact this.of_grow.1
  rw [show (ext b v [p]).nodes = b.nodes ++ [p.cp, p.ln] by simp [ext, Pair.nodes], List.filter_append,
    filter_singleton hb1 hpo.fib fun y hy => ⟨fun hp => ?_, fun e => e ▸ hadj _ (.inl rfl)⟩]
  · simp [hadj p.cp (.inr rfl), hpo.lncls]
  · simp only [Bool.and_eq_true, beq_iff_eq] at hp
    rcases adj_ln h (adjacentAny_of_adjacent hp.2) with e | e
    · exact (ref_eq_iff hb1 hy hpo.fib).mp e
    · exact absurd (nid_of_ref_eq e) (hB y hy).1

theorem peers_single (h : ExtOk b v c0 c [p]) : peerNodes (ext b v [p]) p.fi.ref = [p.cp] := by
  have hpo := h.pairs p (List.mem_cons_self ..)
  obtain ⟨hB, hcl⟩ := single_fresh h
  obtain ⟨hcpm, hlnm, hfim⟩ := single_mem h
  have hfc : p.fi.ref ≠ p.cp.ref := ref_ne_of_nid_ne (hB _ hpo.fib).1
  have hlnN : p.ln ∈ neighbors (ext b v [p]) p.fi.ref .connects .link :=
    hpo.lncls ▸ mem_neighbors_of hlnm (adjacent_of_edge (a := p.ln.ref) (mem_single_edges (by simp [Pair.edges]))).2
  unfold peerNodes
  rw [flatMap_single (neighbors_nodup h.ids ..) hlnN]
  · -- over its own Link: the ServicePort
    refine filter_singleton h.ids hcpm fun k hk => ?_
    simp only [Bool.and_eq_true, beq_iff_eq, bne_iff_ne, ne_eq]
    constructor
    · rintro ⟨⟨_, ha⟩, hne⟩
      exact (ref_eq_iff h.ids hk hcpm).mp ((adj_ln h ha).resolve_left hne)
    · rintro rfl
      exact ⟨⟨hpo.cpcls, adjacentAny_of_adjacent (adjacent_of_edge (rel := .connects) (mem_single_edges (by simp [Pair.edges]))).1⟩,
        fun e => hfc e.symm⟩
  · -- over a Link it had before: nothing, neither among the old nodes nor among the two new ones
    intro z hz hzne
    obtain ⟨hzm, hzc, hza⟩ := mem_neighbors hz
    have hzb : z ∈ b.nodes := by
      rcases mem_ext_nodes.mp hzm with hzb | ⟨q, hq, hor⟩
      · exact hzb
      · rw [List.mem_singleton.mp hq] at hor
        rcases hor with rfl | rfl
        · rw [hpo.cpcls] at hzc; cases hzc
        · exact absurd rfl hzne
    -- the new edges do not touch an old Link
    have hzt : ¬ touches (p.edges v) z.ref := fun ht => by
      rcases Pair.touches_edges ht with e | e | e | e
      · have := h.vcls; rw [← e] at this; simp [hzc] at this
      · exact (hB z hzb).1 (nid_of_ref_eq e)
      · exact (hB z hzb).2 (nid_of_ref_eq e)
      · exact absurd (cls_of_ref_eq e) (by simp [hpo.ficls, hzc])
    have hadjb : adjacent b p.fi.ref z.ref .connects = true := by
      rw [ext_single] at hza
      obtain ⟨e, he, hr, hs⟩ := adjacent_iff.mp hza
      rcases List.mem_append.mp he with he | he
      · exact adjacent_iff.mpr ⟨e, he, hr, hs⟩
      · exact absurd ⟨e, he, sameEnds_touches hs⟩ hzt
    rw [List.filter_eq_nil_iff]
    intro k hk hp
    simp only [Bool.and_eq_true, beq_iff_eq, bne_iff_ne, ne_eq] at hp
    obtain ⟨⟨hkc, hka⟩, hkne⟩ := hp
    rw [ext_single, adjacentAny_grow_old hzt] at hka
    rcases mem_ext_nodes.mp hk with hkb | ⟨q, hq, hor⟩
    · rw [hpo.nop z hzb hzc hadjb k hkb hkc hkne] at hka; cases hka
    · rw [List.mem_singleton.mp hq] at hor
      have : Absent b k.ref := by
        rcases hor with rfl | rfl
        · exact absent_of_fresh fun m hm => (hB m hm).1
        · exact absent_of_fresh fun m hm => (hB m hm).2
      rw [adjacentAny_absent h.closed this] at hka; cases hka

theorem drop_single (h : ExtOk b v c0 c [p]) : dropNode p.ln.ref (dropNode p.cp.ref (ext b v [p])) = b := by
  obtain ⟨hB, hcl⟩ := single_fresh h
  have a1 : p.ln.ref ≠ p.cp.ref := ref_ne_of_nid_ne fun e => hcl e.symm
  rw [ext_single, dropNode_grow_new h.closed (absent_of_fresh fun m hm => (hB m hm).1),
    dropNode_grow_new h.closed (absent_of_fresh fun m hm => (hB m hm).2)]
  simp [Pair.nodes, Pair.edges, a1, grow_nil]

end single

/-! Later pairs are a frame around the oldest one: they bring nodes it does not have and edges that touch neither its two nodes, nor its
interface, nor a Link of `b`. -/
section head
variable {b : Topo} {v : Ref} {c0 c : Nat} {p : Pair} {rest : List Pair}

theorem ext_cons (b : Topo) (v : Ref) (p : Pair) (rest : List Pair) :
    ext b v (p :: rest) = grow (ext b v [p]) (rest.flatMap Pair.nodes) (rest.flatMap (Pair.edges v)) := by
  rw [ext_single, grow_grow]; rfl

theorem ExtOk.head (h : ExtOk b v c0 c (p :: rest)) : ExtOk b v c0 c [p] :=
  ⟨by have := h.ids; rw [ext_cons] at this; exact this.of_grow.1, h.closed, h.vin, h.vcls,
    fun q hq => h.pairs q (List.mem_singleton.mp hq ▸ List.mem_cons_self ..), by simp⟩

theorem rest_absent (h : ExtOk b v c0 c (p :: rest)) : ∀ n ∈ rest.flatMap Pair.nodes, Absent (ext b v [p]) n.ref := by
  have := h.ids
  rw [ext_cons] at this
  exact fun n hn => absent_of_fresh (this.of_grow.2.2 n hn)

theorem rest_untouched (h : ExtOk b v c0 c (p :: rest)) {m : GNode} (hm : m ∈ (ext b v [p]).nodes) (hv : m.cls ≠ .networkService)
    (hfi : ∀ q ∈ rest, m.ref ≠ q.fi.ref) : ¬ touches (rest.flatMap (Pair.edges v)) m.ref := by
  rintro ⟨e, he, ht⟩
  obtain ⟨q, hq, he⟩ := List.mem_flatMap.mp he
  rcases Pair.touches_edges ⟨e, he, ht⟩ with e | e | e | e
  · exact hv (by rw [← ref_cls, e, h.vcls])
  · exact rest_absent h q.cp (List.mem_flatMap.mpr ⟨q, hq, by simp [Pair.nodes]⟩) m hm e
  · exact rest_absent h q.ln (List.mem_flatMap.mpr ⟨q, hq, by simp [Pair.nodes]⟩) m hm e
  · exact hfi q hq e

theorem disconnect_head (h : ExtOk b v c0 c (p :: rest)) (cache : Cache) (nm : String) :
    disconnectInterface cache (.iface p.fi.nid nm) (ext b v (p :: rest)) =
      (.ok (cache.filter (fun x => x.2 != p.cp.nid)), ext b v rest) := by
  have h1 := h.head
  have hpo := h.pairs p (List.mem_cons_self ..)
  have hT := h.ids
  obtain ⟨hB, hcl⟩ := single_fresh h1
  obtain ⟨hcp1, hln1, hfi1⟩ := single_mem h1
  have hc1 : Closed (ext b v [p]) := closed_ext h1
  have hN := rest_absent h
  -- what the later pairs leave alone
  have ucp := rest_untouched h hcp1 (by simp [hpo.cpcls]) fun q hq => ref_ne_of_nid_ne fun e =>
    (hB _ (h.pairs q (List.mem_cons_of_mem _ hq)).fib).1 e.symm
  have uln := rest_untouched h hln1 (by simp [hpo.lncls]) fun q hq => ref_ne_of_nid_ne fun e =>
    (hB _ (h.pairs q (List.mem_cons_of_mem _ hq)).fib).2 e.symm
  have ufi := rest_untouched h hfi1 (by simp [hpo.ficls]) fun q hq => ref_ne_of_nid_ne fun e => by
    have hd := h.dist
    simp only [List.map_cons, List.nodup_cons, List.mem_map, not_exists, not_and] at hd
    exact hd.1 q hq e.symm
  have ulk : ∀ f ∈ (ext b v [p]).nodes, f.cls = .link → ¬ touches (rest.flatMap (Pair.edges v)) f.ref := fun f hf hfc =>
    rest_untouched h hf (by simp [hfc]) fun q hq => ref_ne_of_cls_ne (by simp [hfc, (h.pairs q (List.mem_cons_of_mem _ hq)).ficls])
  have hcpm : p.cp ∈ (ext b v (p :: rest)).nodes := by rw [ext_cons]; exact List.mem_append_left _ hcp1
  have hlnm : p.ln ∈ (ext b v (p :: rest)).nodes := by rw [ext_cons]; exact List.mem_append_left _ hln1
  have hfim : p.fi ∈ (ext b v (p :: rest)).nodes := by rw [ext_cons]; exact List.mem_append_left _ hfi1
  have hsp : (peerNodes (ext b v (p :: rest)) p.fi.ref).filter (fun n => n.typ == "ServicePort") = [p.cp] := by
    rw [ext_cons, peerNodes_grow_old hc1 hN ufi ulk, peers_single h1]; simp [hpo.cptyp]
  have hdrop : dropNode p.ln.ref (dropNode p.cp.ref (ext b v (p :: rest))) = ext b v rest := by
    rw [ext_cons, dropNode_grow_old (fun n hn => (hN n hn p.cp hcp1).symm) ucp,
      dropNode_grow_old (fun n hn => (hN n hn p.ln hln1).symm) uln, drop_single h1]
    rfl
  have hrm : removeCpAndLinks p.cp.nid true (ext b v (p :: rest)) = (.ok (), ext b v rest) := by
    rw [← hdrop]
    refine removeCp_linked hT hcpm hlnm (fun e => hcl e.symm) ?_ ?_ ?_
    · rw [ext_cons, neighbors_grow_old hc1 hN ucp, nb_cp_cp h1]
    · rw [ext_cons, neighbors_grow_old hc1 hN ucp, nb_cp_link h1]
    · rw [ext_cons, neighbors_grow_old hc1 hN uln, nb_ln_cp h1]; rfl
  rw [disconnectInterface_run hT hfim hsp, bind_ok hrm]; rfl
end head

theorem rollback_all {b : Topo} {v : Ref} {c0 c : Nat} (ps : List Pair) (h : ExtOk b v c0 c ps) (cache : Cache) :
    M.forEach (ps.map Pair.arg) (fun ii => do let _ ← disconnectInterface cache ii; Pure.pure ()) (ext b v ps) = (.ok (), b) := by
  induction ps with
  | nil => simp only [List.map_nil, ext_nil]; rfl
  | cons p rest ih =>
    have hd : (do let _ ← disconnectInterface cache p.arg; Pure.pure () : M Topo Unit) (ext b v (p :: rest)) = (.ok (), ext b v rest) := by
      simp only [Pair.arg]
      rw [bind_ok (disconnect_head h cache p.nm)]; rfl
    simp only [List.map_cons]
    rw [forEach_cons_ok (f := fun ii => do let _ ← disconnectInterface cache ii; Pure.pure ()) hd]
    exact ih h.tail

/-- what `find_peer_connection_points = None` says about the graph -/
theorem peers_nil_inv {t t' : Topo} (hd : IdsDistinct t) {fi : GNode} (hfi : fi ∈ t.nodes)
    (h : peersOf fi.nid t = (.ok [], t')) :
    ∀ f ∈ neighbors t fi.ref .connects .link, ∀ k ∈ t.nodes, k.cls = .connectionPoint →
      adjacentAny t f.ref k.ref = true → k.ref = fi.ref := by
  rw [peersOf_run hd hfi] at h
  simp only [Prod.mk.injEq, Except.ok.injEq, List.map_eq_nil_iff, peerNodes, List.flatMap_eq_nil_iff, List.filter_eq_nil_iff] at h
  intro f hf k hk hkc hadj
  have := h.1 f hf k hk
  simp only [Bool.and_eq_true, beq_iff_eq, bne_iff_ne, ne_eq, not_and, Decidable.not_not] at this
  exact this ⟨hkc, hadj⟩

theorem noOldPeers_of_peers_nil {b : Topo} {v : Ref} {ps : List Pair} {t' : Topo} (hd : IdsDistinct (ext b v ps)) {fi : GNode}
    (hfi : fi ∈ b.nodes) (h : peersOf fi.nid (ext b v ps) = (.ok [], t')) : NoOldPeers b fi := by
  intro f hf hfc hadj k hk hkc hkne
  have hinv := peers_nil_inv hd (mem_ext_nodes.mpr (.inl hfi)) h
  cases hk' : adjacentAny b f.ref k.ref with
  | false => rfl
  | true =>
    exfalso
    have hfN : f ∈ neighbors (ext b v ps) fi.ref .connects .link :=
      hfc ▸ mem_neighbors_of (mem_ext_nodes.mpr (.inl hf)) (adjacent_grow_of hadj)
    exact hkne (hinv f hfN k (mem_ext_nodes.mpr (.inl hk)) hkc (adjacentAny_grow_of hk'))

theorem ExtOk.snoc {b : Topo} {v : Ref} {c0 c : Nat} {ps : List Pair} (h : ExtOk b v c0 c ps) (hc0 : c0 ≤ c)
    {fi cp ln : GNode} {nm : String} {t' : Topo}
    (hfi : fi ∈ (ext b v ps).nodes) (hficls : fi.cls = .connectionPoint)
    (hold : ∀ k, c0 ≤ k → k < c → fi.nid ≠ .gen k)
    (hpeers : peersOf fi.nid (ext b v ps) = (.ok [], t'))
    (hcpc : cp.cls = .connectionPoint) (hcpi : cp.nid = .gen c) (hcpt : cp.typ = "ServicePort")
    (hlnc : ln.cls = .link) (hlni : ln.nid = .gen (c + 1))
    (hfresh : ∀ m ∈ (ext b v ps).nodes, m.nid ≠ .gen c ∧ m.nid ≠ .gen (c + 1)) :
    ExtOk b v c0 (c + 2) (ps ++ [⟨fi, cp, ln, nm⟩]) := by
  -- `hold`: the interface is none of the ports and links this call has made, so it is a node of `b` (what `PairOk.fib` and `NoOldPeers b` are stated on)
  have hfib : fi ∈ b.nodes := (h.new_ids hfi).resolve_right fun ⟨k, hk0, hkc, hk⟩ => hold k hk0 hkc hk
  refine ⟨?_, h.closed, h.vin, h.vcls, ?_, ?_⟩
  · have e : (ext b v (ps ++ [⟨fi, cp, ln, nm⟩])).nodes = (pushNode ln (pushNode cp (ext b v ps))).nodes := by
      simp [ext, pushNode, List.flatMap_append, Pair.nodes, List.append_assoc]
    unfold IdsDistinct; rw [e]
    refine idsDistinct_push (idsDistinct_push h.ids (fun m hm => by rw [hcpi]; exact (hfresh m hm).1)) ?_
    intro m hm
    simp only [pushNode, List.mem_append, List.mem_singleton] at hm
    rcases hm with hm | rfl
    · rw [hlni]; exact (hfresh m hm).2
    · rw [hcpi, hlni]; intro e; injection e with e; omega
  · intro q hq
    rcases List.mem_append.mp hq with hq | hq
    · have := h.pairs q hq
      obtain ⟨k, a1, a2, a3, a4⟩ := this.ids
      exact { this with ids := ⟨k, a1, by omega, a3, a4⟩ }
    · simp only [List.mem_singleton] at hq; subst hq
      exact ⟨hfib, hficls, hcpc, hcpt, hlnc, ⟨c, hc0, by omega, hcpi, hlni⟩, noOldPeers_of_peers_nil h.ids hfib hpeers⟩
  · simp only [List.map_append, List.map_cons, List.map_nil]
    rw [List.nodup_append]
    refine ⟨h.dist, by simp, ?_⟩
    intro a ha b' hb'
    simp only [List.mem_singleton] at hb'; subst hb'
    simp only [List.mem_map] at ha
    obtain ⟨q, hq, rfl⟩ := ha
    intro heq
    -- q.fi = fi, and q's ServicePort would be a peer of fi
    have hqo := h.pairs q hq
    have hqfi : q.fi = fi := eq_of_nid_eq h.ids (mem_ext_nodes.mpr (.inl hqo.fib)) hfi heq
    have hinv := peers_nil_inv h.ids hfi hpeers
    have hlnN : q.ln ∈ neighbors (ext b v ps) fi.ref .connects .link :=
      hqo.lncls ▸ mem_neighbors_of (mem_ext_nodes.mpr (.inr ⟨q, hq, .inr rfl⟩))
        (hqfi ▸ (adjacent_of_edge (a := q.ln.ref) (mem_ext_edges.mpr (.inr ⟨q, hq, by simp [Pair.edges]⟩))).2)
    have := hinv q.ln hlnN q.cp (mem_ext_nodes.mpr (.inr ⟨q, hq, .inl rfl⟩)) hqo.cpcls
      (adjacentAny_of_adjacent (adjacent_of_edge (rel := .connects) (mem_ext_edges.mpr (.inr ⟨q, hq, by simp [Pair.edges]⟩))).1)
    exact (old_new_fresh h q hq fi hfib).1 (nid_of_ref_eq this).symm

/-- what is asked of the interface the loop gets to when `c` is the next uuid and `c0 ≤ k < c` are those the call has drawn -/
def ArgOk (b : Topo) (c0 c : Nat) : IfArg → Prop
  | .bogus => True
  | .iface iid _ => (∀ n ∈ b.nodes, n.nid = iid → n.cls = .connectionPoint) ∧ (∀ k, c0 ≤ k → k < c → iid ≠ .gen k)

/-- every pass that returns draws two uuids -/
def ArgsOk (b : Topo) (c0 : Nat) : Nat → List IfArg → Prop
  | _, [] => True
  | c, i :: rest => ArgOk b c0 c i ∧ ArgsOk b c0 (c + 2) rest

theorem loop_body_spec {fl : Flavour} {svc : Nid} {st : String} {b : Topo} {v : Ref} {c0 c : Nat} {ps : List Pair}
    (h : ExtOk b v c0 c ps) (hc0 : c0 ≤ c) (hvn : ∃ vn ∈ b.nodes, vn.ref = v ∧ vn.nid = svc)
    (hfb : ∀ m ∈ b.nodes, ∀ k, c0 ≤ k → m.nid ≠ .gen k) (cache : Cache) (i : IfArg) (hi : ArgOk b c0 c i) :
    Outcome (ext b v ps) (fun _ t => ∃ p, t = ext b v (ps ++ [p]) ∧ ExtOk b v c0 (c + 2) (ps ++ [p]) ∧ p.arg = i)
      ((do guardrails st i; connectInterface fl c svc cache i : M Topo Cache) (ext b v ps)) := by
  refine ro_step (readOnly_guardrails _ _) Outcome.err (fun _ _ => ?_)
  cases i with
  | bogus => exact .err .assertion
  | iface iid iname =>
    obtain ⟨hicp, hiold⟩ := hi
    have hcpT : ∀ n ∈ (ext b v ps).nodes, n.nid = iid → n.cls = .connectionPoint := fun n hn hni =>
      (h.new_ids hn).elim (fun hb => hicp n hb hni) fun ⟨k, hk0, hkc, hk⟩ => absurd (hni.symm.trans hk) (hiold k hk0 hkc)
    have hfrT : ∀ m ∈ (ext b v ps).nodes, m.nid ≠ .gen c ∧ m.nid ≠ .gen (c + 1) := fun m hm =>
      (h.new_ids hm).elim (fun hb => ⟨hfb m hb c hc0, hfb m hb (c + 1) (by omega)⟩) fun ⟨k, _, hkc, hk⟩ => by
        rw [hk]; exact ⟨fun e => by injection e with e; omega, fun e => by injection e with e; omega⟩
    refine (connect_spec fl c svc iid iname cache (ext b v ps) h.ids (closed_ext h) hcpT hfrT).mono
      fun _ _ ⟨sv, fi, cp, ln, nm, hsvm, hsvi, hfim, hfii, hpeers, hcpc, hcpi, hcpt, hlnc, _, hlni, _, ht⟩ => ?_
    obtain ⟨vn, hvnm, hvr, hvni⟩ := hvn
    have hsv : sv = vn := eq_of_nid_eq h.ids hsvm (mem_ext_nodes.mpr (.inl hvnm)) (hsvi.trans hvni.symm)
    refine ⟨⟨fi, cp, ln, iname⟩, by rw [ht, connState_ext b v ps sv fi cp ln iname (hsv ▸ hvr)], ?_, by simp [Pair.arg, hfii]⟩
    exact ExtOk.snoc h hc0 hfim (hcpT fi hfim hfii) (by rw [hfii]; exact hiold) (by rw [hfii]; exact hpeers)
      hcpc hcpi hcpt hlnc hlni hfrT

/-- the loop of `NetworkService.__init__`: whichever interface fails, and whatever it raises, the handler disconnects what was
connected and removes the service -/
theorem svcLoop_spec {fl : Flavour} {svc : Nid} {st : String} {b s : Topo} {v : Ref} {c0 : Nat}
    (hrm : removeNs svc b = (.ok (), s)) (hvn : ∃ vn ∈ b.nodes, vn.ref = v ∧ vn.nid = svc)
    (hfb : ∀ m ∈ b.nodes, ∀ k, c0 ≤ k → m.nid ≠ .gen k) :
    ∀ (todo : List IfArg) (ps : List Pair) (c : Nat) (cache : Cache), ExtOk b v c0 c ps → c0 ≤ c →
      ArgsOk b c0 c todo →
      Outcome s (fun _ t => ∃ qs c', t = ext b v (ps ++ qs) ∧ ExtOk b v c0 c' (ps ++ qs) ∧ qs.map Pair.arg = todo)
        (svcLoop fl svc st c todo (ps.map Pair.arg) cache (ext b v ps)) := by
  intro todo
  induction todo with
  | nil =>
    intro ps c cache h _ _
    unfold svcLoop
    exact .ok ⟨[], c, by rw [List.append_nil], by rwa [List.append_nil], rfl⟩
  | cons i rest ih =>
    intro ps c cache h hc0 hargs
    unfold svcLoop
    rcases loop_body_spec (fl := fl) (st := st) h hc0 hvn hfb cache i hargs.1 with
      ⟨e, he⟩ | ⟨cache', _, hok, p, rfl, hext, harg⟩
    · rw [bind_err ((tryCatch_err he (by simp [rollbackCatches, flag_svcRollbackAll])).trans (by rw [bind_ok (rollback_all ps h cache), bind_ok hrm]; rfl))]
      exact .err e
    · rw [bind_ok (tryCatch_ok hok)]
      have := ih (ps ++ [p]) (c + 2) cache' hext (by omega) hargs.2
      simp only [List.map_append, List.map_cons, List.map_nil, harg, List.append_assoc, List.cons_append, List.nil_append] at this
      exact this.mono fun _ t ⟨qs, c', ht, hx, hq⟩ => ⟨p :: qs, c', ht, hx, by rw [List.map_cons, harg, hq]⟩

theorem svcLoop_atomic {fl : Flavour} {svc : Nid} {st : String} {b s : Topo} {v : Ref} {c0 : Nat}
    (hrm : removeNs svc b = (.ok (), s)) (hvn : ∃ vn ∈ b.nodes, vn.ref = v ∧ vn.nid = svc)
    (hfb : ∀ m ∈ b.nodes, ∀ k, c0 ≤ k → m.nid ≠ .gen k) (todo : List IfArg) (ps : List Pair) (c : Nat) (cache : Cache)
    (h : ExtOk b v c0 c ps) (hc0 : c0 ≤ c) (hargs : ArgsOk b c0 c todo) :
    FS s (svcLoop fl svc st c todo (ps.map Pair.arg) cache (ext b v ps)) :=
  (svcLoop_spec hrm hvn hfb todo ps c cache h hc0 hargs).fs

/-- what is asked of the interfaces of a new service: each handle refers to a ConnectionPoint of the model (or to
nothing), not to the id given to the service, not to a uuid the library has not drawn yet -/
def IfsAll (s : Topo) (id : Nid) (c : Nat) (ifs : List IfArg) : Prop :=
  ∀ i ∈ ifs, match i with
    | .bogus => True
    | .iface iid _ => iid ≠ id ∧ (∀ n ∈ s.nodes, n.nid = iid → n.cls = .connectionPoint) ∧ (∀ k, c ≤ k → iid ≠ .gen k)

theorem argOk_base {s : Topo} {sn : GNode} {parent : Option GNode} {c0 c : Nat} {iid : Nid} {nm : String} (hne : iid ≠ sn.nid)
    (hcp : ∀ n ∈ s.nodes, n.nid = iid → n.cls = .connectionPoint) (hold : ∀ k, c0 ≤ k → k < c → iid ≠ .gen k) :
    ArgOk (svcBase s sn parent) c0 c (.iface iid nm) := by
  refine ⟨fun n hn hni => ?_, hold⟩
  rw [svcBase_nodes] at hn
  rcases List.mem_append.mp hn with hn | hn
  · exact hcp n hn hni
  · rw [List.mem_singleton.mp hn] at hni; exact absurd hni.symm hne

theorem IfsAll.args {s : Topo} {sn : GNode} {parent : Option GNode} {c0 : Nat} :
    ∀ {ifs : List IfArg} (c : Nat), IfsAll s sn.nid c0 ifs → ArgsOk (svcBase s sn parent) c0 c ifs
  | [], _, _ => trivial
  | .bogus :: _, _, h => ⟨trivial, IfsAll.args _ fun j hj => h j (List.mem_cons_of_mem _ hj)⟩
  | .iface _ _ :: _, _, h =>
    have ⟨hne, hcp, hold⟩ := h _ (List.mem_cons_self ..)
    ⟨argOk_base hne hcp fun k hk _ => hold k hk, IfsAll.args _ fun j hj => h j (List.mem_cons_of_mem _ hj)⟩

/-- at most one interface: there is no earlier pass whose uuids it could carry -/
theorem IfsOk.args {s : Topo} {sn : GNode} {parent : Option GNode} {c0 : Nat} {ifs : List IfArg} (h : IfsOk s sn.nid ifs) :
    ArgsOk (svcBase s sn parent) c0 c0 ifs :=
  match ifs, h with
  | [], _ => trivial
  | [.bogus], _ => ⟨trivial, trivial⟩
  | [.iface _ _], ⟨hne, hcp, _⟩ => ⟨argOk_base hne hcp fun _ h1 h2 => absurd h2 (Nat.not_lt.mpr h1), trivial⟩

/-- `NetworkService(..., etype=NEW)`.  `hargs` is stated on the state the loop starts in (`IfsAll.args`, `IfsOk.args`) -/
theorem svcNew_spec {fl : Flavour} {c : Nat} {parent : Option Nid} {a : SvcArgs} {s : Topo} (hd : IdsDistinct s) (hc : Closed s)
    (hfresh : ∀ m ∈ s.nodes, ∀ k, c ≤ k → m.nid ≠ .gen k) (hnid : ∀ k, c ≤ k → a.nid ≠ some (.gen k))
    (hpar : ∀ p, parent = some p → ∃ pn, findNode p s = (.ok pn, s))
    (hargs : ∀ sn pn, sn.nid = (pick a.nid c).1 → ArgsOk (svcBase s sn pn) (pick a.nid c).2 (pick a.nid c).2 a.ifs) :
    Outcome s (fun r t => ∃ sn pn qs c', SvcFresh s c parent a sn pn ∧ r.1 = sn.nid ∧ t = ext (svcBase s sn pn) sn.ref qs ∧
        ExtOk (svcBase s sn pn) sn.ref (pick a.nid c).2 c' qs ∧ qs.map Pair.arg = a.ifs)
      (svcNew fl c parent a s) := by
  have hle := le_pick a.nid c
  have hid := pick_fst_ne_gen hnid
  refine svcNew_cases (fun _ _ => hc) hpar Outcome.err fun sn pn h => ?_
  rw [← h.nid] at hid
  have hsnB : sn ∈ (svcBase s sn pn).nodes := by rw [svcBase_nodes]; simp
  have hext : ExtOk (svcBase s sn pn) sn.ref (pick a.nid c).2 (pick a.nid c).2 [] :=
    ⟨(by rw [ext_nil]; unfold IdsDistinct; rw [svcBase_nodes]; exact idsDistinct_push hd h.fresh), closed_svcBase hc h.par.mem,
      ⟨sn, hsnB, rfl⟩, (by simp [h.cls]), (fun _ hp => nomatch hp), (by simp)⟩
  have hfb : ∀ m ∈ (svcBase s sn pn).nodes, ∀ k, (pick a.nid c).2 ≤ k → m.nid ≠ .gen k := by
    intro m hm k hk
    rw [svcBase_nodes] at hm
    rcases List.mem_append.mp hm with hm | hm
    · exact hfresh m hm k (by omega)
    · rw [List.mem_singleton.mp hm]; exact hid k hk
  have := svcLoop_spec (fl := fl) (st := sn.typ) (removeNs_base (parent := pn) hd hc h.fresh h.cls) ⟨sn, hsnB, rfl, rfl⟩ hfb a.ifs [] _ []
    hext (Nat.le_refl _) (hargs sn pn h.nid)
  rw [ext_nil] at this
  exact this.step Outcome.err fun _ _ ⟨qs, c', h1, h2, h3⟩ => .ok ⟨sn, pn, qs, c', h, rfl, h1, h2, h3⟩

theorem svcNew_atomic (fl : Flavour) (c : Nat) (parent : Option Nid) (a : SvcArgs) (s : Topo)
    (hd : IdsDistinct s) (hc : Closed s)
    (hfresh : ∀ m ∈ s.nodes, ∀ k, c ≤ k → m.nid ≠ .gen k)
    (hnid : ∀ k, c ≤ k → a.nid ≠ some (.gen k))
    (hpar : ∀ p, parent = some p → ∃ pn, findNode p s = (.ok pn, s))
    (hifs : IfsAll s (pick a.nid c).1 c a.ifs) : FS s (svcNew fl c parent a s) :=
  Outcome.fs <| svcNew_spec hd hc hfresh hnid hpar fun sn pn hsn => IfsAll.args _ fun i hi => by
    have := hifs i hi
    rw [← hsn] at this
    cases i with
    | bogus => trivial
    | iface iid nm => exact ⟨this.1, this.2.1, fun k hk => this.2.2 k (Nat.le_trans (le_pick ..) hk)⟩

/-- at most one interface: no condition on the uuid its handle carries -/
theorem svcNew_atomic_le1 (fl : Flavour) (c : Nat) (parent : Option Nid) (a : SvcArgs) (s : Topo)
    (hd : IdsDistinct s) (hc : Closed s)
    (hfresh : ∀ m ∈ s.nodes, ∀ k, c ≤ k → m.nid ≠ .gen k)
    (hnid : ∀ k, c ≤ k → a.nid ≠ some (.gen k))
    (hpar : ∀ p, parent = some p → ∃ pn, findNode p s = (.ok pn, s))
    (hifs : IfsOk s (pick a.nid c).1 a.ifs) : FS s (svcNew fl c parent a s) :=
  (svcNew_spec hd hc hfresh hnid hpar fun _ _ hsn => IfsOk.args (by rw [hsn]; exact hifs)).fs
end FimVerif.Topo
