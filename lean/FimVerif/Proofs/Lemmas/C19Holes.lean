import FimVerif.Proofs.Lemmas.C19Scan
import FimVerif.Proofs.Lemmas.C19Hom
/-!
C19, identifier holes: rendering commutes with filling the holes of the environment (`render_expandAll`, under `renderOK`), so one
evaluation of the lint on the template rendered with holes decides every filling (`checkStmt_render_expandAll`).
-/
namespace FimVerif.Cypher

theorem expand_nil (ρ : Nat → Text) : expand ρ [] = [] := rfl

variable (ρ : Nat → Text)

theorem get_expandPairs (l : List (Text × Text)) (x : Text) : get (expandPairs ρ l) x = expand ρ (get l x) := by
  unfold get expandPairs
  simp only [List.find?_map, Function.comp_def]
  cases List.find? (fun p : Text × Text => p.1 == x) l <;> rfl

theorem has_expandAll (r : Row) (f : Text) : (r.expandAll ρ).has f = r.has f := by
  simp [Row.has, Row.expandAll, expandPairs, List.any_map, Function.comp_def]

theorem emptyRow_expandAll : emptyRow.expandAll ρ = emptyRow := rfl

theorem Atom.render_expandAll {e : Env} (r : Row) {a : Atom} (ha : atomPlain a = true) :
    a.render (e.expandAll ρ) (r.expandAll ρ) = expand ρ (a.render e r) := by
  cases a with
  | lit s => exact (expand_plain ρ ha).symm
  | param x =>
    have hx : plain x = true := ha
    show cp%'$' :: x = expand ρ (cp%'$' :: x)
    rw [expand_char ρ (by decide), expand_plain ρ hx]
  | ident x => exact get_expandPairs ρ e.idents x
  | value x => exact get_expandPairs ρ e.values x
  | rowIdent f => exact get_expandPairs ρ r.idents f
  | rowValue f => exact get_expandPairs ρ r.values f

theorem renderAtoms_expandAll {e : Env} (r : Row) {as : List Atom} (ha : ∀ a ∈ as, atomPlain a = true) :
    renderAtoms (e.expandAll ρ) (r.expandAll ρ) as = expand ρ (renderAtoms e r as) :=
  renderAtoms_hom (expand_flatten ρ) fun a hmem => Atom.render_expandAll ρ r (ha a hmem)

theorem renderInner_expandAll {e : Env} {r : Row} {body : List Inner} (hb : body.all innerPlain = true) :
    renderInner (e.expandAll ρ) (r.expandAll ρ) body = expand ρ (renderInner e r body) :=
  renderInner_hom (expand_flatten ρ) (has_expandAll ρ r) fun i hi a ha =>
    Atom.render_expandAll ρ r (innerPlain_iff.mp (List.all_eq_true.mp hb i hi) a ha)

theorem argRows_expandAll (e : Env) (src : MapSrc) :
    argRows (e.expandAll ρ) src = (argRows e src).map (Row.expandAll ρ) :=
  argRows_mapRows rfl src

theorem reachable_expandAll (ρ : Nat → Text) (op : Op) (e : Env) : op.reachable (e.expandAll ρ) = op.reachable e := by
  unfold Op.reachable
  congr 1
  funext g
  cases g <;> simp only [Guard.holds, Env.expandAll, List.find?_map, Function.comp_def] <;>
    cases List.find? (fun p : Text × List Row => p.1 == _) e.maps <;> simp

theorem rows_of_disjoint (e : Env) (src : MapSrc)
    (h : ∀ r ∈ argRows e src, ∀ kv ∈ src.fixed, get r.idents t!"k" ≠ kv.1) :
    rows e src = src.fixed.map (fun kv => ⟨[(t!"k", kv.1)], [(t!"v", renderAtoms e emptyRow kv.2)]⟩) ++ argRows e src := by
  simp only [rows]
  congr 1
  · refine List.map_congr_left fun kv hkv => ?_
    rw [List.find?_eq_none.mpr fun r hr => by simp [h r hr kv hkv]]
  · rw [List.filter_eq_self]
    intro r hr
    simp only [Bool.not_eq_true', List.any_eq_false, beq_iff_eq]
    exact fun kv hkv heq => h r hr kv hkv heq.symm

variable {ρ}

theorem isRowHole_iff {x : Text} : isRowHole x = true ↔ ∃ c, x = [c] ∧ isMarker c = true ∧ rowBase ≤ c - markerBase := by
  match x with
  | [] | _ :: _ :: _ => simp [isRowHole]
  | [c] =>
    simp [isRowHole, isMarker_iff]
    exact ⟨fun h => ⟨Nat.le_of_add_right_le h, Nat.le_sub_of_add_le' h⟩, fun ⟨hm, hr⟩ => Nat.add_le_of_le_sub' hm hr⟩

theorem rowHole_ne_plain {x y : Text} (hx : isRowHole x = true) (hy : plain y = true) : x ≠ y := by
  rintro rfl
  obtain ⟨c, rfl, hm, _⟩ := isRowHole_iff.1 hx
  simp [plain, hm] at hy

theorem expand_rowHole_ne_reserved (h : GoodSubst ρ) {x y : Text} (hx : isRowHole x = true)
    (hy : reservedKeys.contains y = true) : expand ρ x ≠ y := by
  rintro rfl
  obtain ⟨c, rfl, hm, hc⟩ := isRowHole_iff.1 hx
  rw [expand_hole ρ hm, h.2 _ hc] at hy
  cases hy

theorem rows_expandAll (h : GoodSubst ρ) {e : Env} {src : MapSrc} (hk : keysOK e src = true) :
    rows (e.expandAll ρ) src = (rows e src).map (Row.expandAll ρ) := by
  simp only [keysOK, Bool.or_eq_true, Bool.and_eq_true, List.all_eq_true, List.isEmpty_iff] at hk
  rcases hk with hemp | ⟨hfix, harg⟩
  · rw [rows_of_disjoint e src (by simp [hemp]), rows_of_disjoint _ src (by simp [hemp]), argRows_expandAll]
    simp [hemp]
  · have hne : ∀ r ∈ argRows e src, ∀ kv ∈ src.fixed, get r.idents t!"k" ≠ kv.1 ∧ get (r.expandAll ρ).idents t!"k" ≠ kv.1 := by
      intro r hr kv hkv
      have ⟨⟨hp, hres⟩, _⟩ := hfix kv hkv
      exact ⟨rowHole_ne_plain (harg r hr) hp, get_expandPairs ρ r.idents _ ▸ expand_rowHole_ne_reserved h (harg r hr) hres⟩
    rw [rows_of_disjoint e src fun r hr kv hkv => (hne r hr kv hkv).1, rows_of_disjoint (e.expandAll ρ) src, argRows_expandAll,
      List.map_append, List.map_map]
    · congr 1
      apply List.map_congr_left
      intro kv hkv
      have ⟨⟨hp, _⟩, hat⟩ := hfix kv hkv
      have : renderAtoms (e.expandAll ρ) emptyRow kv.2 = _ := renderAtoms_expandAll ρ emptyRow hat
      simp [Row.expandAll, expandPairs, this, expand_plain ρ hp]
    · rw [argRows_expandAll]
      exact List.forall_mem_map.mpr fun r hr kv hkv => (hne r hr kv hkv).2

theorem joinSep_expand (ρ : Nat → Text) {sep : Text} (hs : plain sep = true) {items : List Text} :
    joinSep sep (items.map (expand ρ)) = expand ρ (joinSep sep items) := by
  induction items with
  | nil => rfl
  | cons x t ih =>
    cases t with
    | nil => rfl
    | cons y t' =>
      show expand ρ x ++ sep ++ joinSep sep ((y :: t').map (expand ρ)) = expand ρ (x ++ sep ++ joinSep sep (y :: t'))
      rw [ih, expand_append, expand_append, expand_plain ρ hs]

theorem finish_expand (h : IdSubst ρ) {mode : RepMode} {items : List Text} (hk : trimOK mode items = true) :
    finish mode (items.map (expand ρ)) = expand ρ (finish mode items) := by
  cases mode with
  | join sep => exact joinSep_expand ρ hk
  | accTrim n d =>
    simp only [finish, ← expand_flatten]
    simp only [trimOK, Bool.or_eq_true, Bool.and_eq_true, Nat.blt_eq, Nat.ble_eq] at hk
    generalize items.flatten = s at hk ⊢
    -- `trimOK`: nothing was accumulated, or the trim `acc[:-d]` happens and cuts off hole-free characters only
    rcases hk with he | ⟨⟨hn, hd⟩, hp⟩
    · have : s = [] := by simpa using he
      subst this; simp [expand]
    · -- filling never shortens, so the filled text is trimmed too
      rw [if_pos hn, if_pos (Nat.lt_of_lt_of_le hn (expand_length_ge h s)), expand_take_of_plain_drop ρ hd hp]

theorem Piece.render_expandAll (h : GoodSubst ρ) {e : Env} {p : Piece} (hp : pieceOK e p = true) :
    p.render (e.expandAll ρ) = expand ρ (p.render e) := by
  cases p with
  | atom a => exact Atom.render_expandAll ρ emptyRow hp
  | rep src mode body =>
    simp only [pieceOK, Bool.and_eq_true] at hp
    simp only [Piece.render]
    rw [rows_expandAll h hp.1.2, List.map_map, ← finish_expand h.idSubst hp.2, List.map_map]
    congr 1
    apply List.map_congr_left
    intro r _
    exact renderInner_expandAll ρ hp.1.1

theorem render_expandAll (h : GoodSubst ρ) {e : Env} {t : List Piece} (hk : renderOK e t = true) :
    render (e.expandAll ρ) t = expand ρ (render e t) := by
  rw [render, render, expand_flatten, List.map_map]
  exact congrArg List.flatten (List.map_congr_left fun p hmem => Piece.render_expandAll h (List.all_eq_true.mp hk p hmem))

theorem checkStmt_render_expandAll (h : GoodSubst ρ) {e : Env} {t : List Piece} {sup : List Text}
    (h1 : renderOK e t = true) (h2 : cleanFor (render e t) = true) :
    checkStmt (render (e.expandAll ρ) t) sup = checkStmt (render e t) sup := by
  rw [render_expandAll h h1]; unfold checkStmt; rw [lint_expand h h2]

end FimVerif.Cypher
