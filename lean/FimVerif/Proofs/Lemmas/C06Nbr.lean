import FimVerif.Proofs.Lemmas.C06Basic
/-!
# The neighbour queries and the class gate (C06)

A neighbour query is one `hop` (neighbours, drop-list loop, class filter) or a hop from every node of a hop.  What the
drop-list loop lets through depends on which variable the source puts on the drop list, a generated flag: `Kept` says it for
both values, and `mem_twoHopWith` is the two-hop answer for any pair of flags.
-/
namespace FimVerif.Query
open FimVerif.Gen

theorem mem_filterByLabel {g : TGraph} {l : List String} {c m : String} :
    m ∈ filterByLabel g l c ↔ m ∈ l ∧ classOf g m = some c := by
  simp [filterByLabel]

theorem mem_viaFilter_true {g : TGraph} (hu : UniqEdges g) {near r v : String} {cand : List String} :
    v ∈ viaFilter true g near cand r ↔ v ∈ cand ∧ Edge g near v r := by
  simp [viaFilter, relOf_iff hu]

theorem mem_viaFilter_false {g : TGraph} {near r v : String} {cand : List String} :
    v ∈ viaFilter false g near cand r ↔
      v ∈ cand ∧ (v = near → ∀ w ∈ cand, relOf g near w = some r) := by
  rw [viaFilter, if_neg Bool.false_ne_true]
  by_cases h : ∀ w ∈ cand, relOf g near w = some r
  · rw [if_neg (by simpa using h)]
    exact ⟨fun h1 => ⟨h1, fun _ => h⟩, And.left⟩
  · rw [if_pos (by simpa using h), List.mem_filter, bne_iff_ne]
    exact and_congr_right fun _ => ⟨fun hne e => absurd e hne, fun h2 e => h (h2 e)⟩

/-- What the drop-list loop over the neighbours of `m` lets through.  With the loop variable on the drop list: the
    neighbours over an `r` edge.  With `m` itself on it: every neighbour, except that `m` (its own neighbour over a
    self-loop) stays only when all edges at `m` are `r` edges. -/
def Kept (loopVar : Bool) (g : TGraph) (m r v : String) : Prop :=
  match loopVar with
  | true => Edge g m v r
  | false => (∃ r', Edge g m v r') ∧ (v = m → ∀ w r', Edge g m w r' → r' = r)

theorem mem_viaFilter_nbrs {b : Bool} {g : TGraph} (hu : UniqEdges g) {m r v : String} :
    v ∈ viaFilter b g m (nbrs g m) r ↔ Kept b g m r v := by
  cases b with
  | true =>
    rw [mem_viaFilter_true hu, mem_nbrs]
    exact ⟨fun h => h.2, fun h => ⟨⟨r, h⟩, h⟩⟩
  | false =>
    -- the loop compares `relOf`, one relation per pair: with one edge per pair that is every edge between the two
    rw [mem_viaFilter_false, mem_nbrs]
    refine and_congr_right fun _ => imp_congr_right fun _ => ⟨fun h w r' hw => ?_, fun h w hw => ?_⟩
    · exact edge_rel_unique hu hw ((relOf_iff hu).1 (h w (mem_nbrs.2 ⟨r', hw⟩)))
    · obtain ⟨r', hr⟩ := mem_nbrs.1 hw
      exact (relOf_iff hu).2 (h w r' hr ▸ hr)

theorem Kept.edge {b : Bool} {g : TGraph} {m r v : String} (h : Kept b g m r v) : ∃ r', Edge g m v r' := by
  cases b with
  | true => exact ⟨r, h⟩
  | false => exact h.1

theorem Kept.of_edge {b : Bool} {g : TGraph} {m r v : String} (h : Edge g m v r)
    (hl : v = m → ∀ w r', Edge g m w r' → r' = r) : Kept b g m r v := by
  cases b with
  | true => exact h
  | false => exact ⟨⟨r, h⟩, hl⟩

theorem nbrs_nodup {g : TGraph} (hu : UniqEdges g) {n : String} : (nbrs g n).Nodup := by
  refine List.Pairwise.filterMap (other n) ?_ hu
  rintro e f hef b hb _ hb' rfl
  -- two edges that show `n` the same neighbour join the same pair
  rw [joins_of_joins (other_eq_some.1 hb) (other_eq_some.1 hb')] at hef
  cases hef

theorem viaFilter_sublist {b : Bool} {g : TGraph} {near r : String} {cand : List String} :
    (viaFilter b g near cand r).Sublist cand := by
  unfold viaFilter
  split
  · exact List.filter_sublist
  · split
    · exact List.filter_sublist
    · exact List.Sublist.refl _

def hop (loopVar : Bool) (g : TGraph) (m r c : String) : List String :=
  filterByLabel g (viaFilter loopVar g m (nbrs g m) r) c

theorem mem_hop {b : Bool} {g : TGraph} (hu : UniqEdges g) {m r c v : String} :
    v ∈ hop b g m r c ↔ Kept b g m r v ∧ classOf g v = some c := by
  rw [hop, mem_filterByLabel, mem_viaFilter_nbrs hu]

theorem hop_nodup {b : Bool} {g : TGraph} (hu : UniqEdges g) {m r c : String} : (hop b g m r c).Nodup :=
  List.Pairwise.filter _ ((nbrs_nodup hu).sublist viaFilter_sublist)

theorem getFirstNeighbor_ok {g : TGraph} {n r c : String} {l : List String} :
    getFirstNeighbor g n r c = .ok l ↔ n ∈ verts g ∧ l = hop QueryIdioms.firstViaDropsNeighbour g n r c := by
  rw [getFirstNeighbor, prologue, pure_ok]
  rfl

/-- an `if not len(l): return None` in front of a loop over `l` changes nothing -/
theorem ite_isEmpty {α β} (f : List α → List β) (h : f [] = []) (l : List α) :
    (if l.isEmpty then [] else f l) = f l := by
  cases l <;> simp [h]

theorem secondOf_eq (b2 : Bool) (g : TGraph) (n m r2 c2 : String) :
    secondOf b2 g n m r2 c2 = ((hop b2 g m r2 c2).filter (fun k => k != n)).map (fun k => (m, k)) :=
  ite_isEmpty (fun sn => (sn.filter (fun k => k != n)).map (fun k => (m, k))) rfl _

theorem twoHopWith_eq (b1 b2 : Bool) (g : TGraph) (n r1 c1 r2 c2 : String) : twoHopWith b1 b2 g n r1 c1 r2 c2 =
    (hop b1 g n r1 c1).flatMap fun m => ((hop b2 g m r2 c2).filter (fun k => k != n)).map (fun k => (m, k)) := by
  simp only [← secondOf_eq]
  exact ite_isEmpty (fun fn => (filterByLabel g fn c1).flatMap (fun m => secondOf b2 g n m r2 c2)) rfl _

theorem mem_twoHopWith {b1 b2 : Bool} {g : TGraph} (hu : UniqEdges g) {n r1 c1 r2 c2 : String} {p : String × String} :
    p ∈ twoHopWith b1 b2 g n r1 c1 r2 c2 ↔
      Kept b1 g n r1 p.1 ∧ classOf g p.1 = some c1 ∧ Kept b2 g p.1 r2 p.2 ∧ classOf g p.2 = some c2 ∧ p.2 ≠ n := by
  simp only [twoHopWith_eq, List.mem_flatMap, List.mem_map, List.mem_filter, mem_hop hu, bne_iff_ne, ne_eq]
  constructor
  · rintro ⟨m, ⟨h1, h2⟩, k, ⟨⟨h3, h4⟩, h5⟩, rfl⟩; exact ⟨h1, h2, h3, h4, h5⟩
  · rintro ⟨h1, h2, h3, h4, h5⟩; exact ⟨p.1, ⟨h1, h2⟩, p.2, ⟨⟨h3, h4⟩, h5⟩, rfl⟩

theorem nodup_flatMap_pair {α β} {L : List α} {S : α → List β} (hL : L.Nodup) (hS : ∀ m, (S m).Nodup) :
    (L.flatMap fun m => (S m).map fun k => (m, k)).Nodup := by
  unfold List.Nodup
  rw [List.pairwise_flatMap]
  refine ⟨fun m _ => ?_, hL.imp ?_⟩
  · rw [List.pairwise_map]
    exact (hS m).imp fun h e => h (Prod.mk.inj e).2
  · intro a b hab x hx y hy hxy
    obtain ⟨_, _, rfl⟩ := List.mem_map.1 hx
    obtain ⟨_, _, rfl⟩ := List.mem_map.1 hy
    exact hab (Prod.mk.inj hxy).1

theorem twoHopWith_nodup {b1 b2 : Bool} {g : TGraph} (hu : UniqEdges g) {n r1 c1 r2 c2 : String} :
    (twoHopWith b1 b2 g n r1 c1 r2 c2).Nodup := by
  rw [twoHopWith_eq]
  exact nodup_flatMap_pair (hop_nodup hu) fun m => List.Pairwise.filter _ (hop_nodup hu)

theorem getFirstAndSecondNeighbor_ok {g : TGraph} {n r1 c1 r2 c2 : String} {l : List (String × String)} :
    getFirstAndSecondNeighbor g n r1 c1 r2 c2 = .ok l ↔ n ∈ verts g ∧ l = twoHop g n r1 c1 r2 c2 := by
  rw [getFirstAndSecondNeighbor, prologue, pure_ok]

theorem classGate_eq (g : TGraph) (n : String) (adm : List String) :
    classGate g n adm = if ∃ c ∈ adm, classOf g n = some c then .ok () else .error .query := by
  unfold classGate labelsOf
  cases classOf g n with
  | none => simp [bind, Except.bind]
  | some c => by_cases hm : c ∈ adm <;> simp [bind, Except.bind, hm]

theorem gated_ok_iff {α} {g : TGraph} {n : String} {adm : List String} {f : Except Err α} {r : α} :
    (do classGate g n adm; f) = Except.ok r ↔ (∃ c ∈ adm, classOf g n = some c) ∧ f = .ok r := by
  rw [seq_ok, classGate_eq]
  split <;> simp [*]

/-- `P` is any description of the admitted classes (the contracts list them as a disjunction) -/
theorem gated_outside {α} {g : TGraph} {n : String} {adm : List String} {f : Except Err α} {P : String → Prop}
    (hP : ∀ c ∈ adm, P c) (h : ¬ ∃ c, classOf g n = some c ∧ P c) :
    (do classGate g n adm; f) = Except.error Err.query := by
  rw [classGate_eq, if_neg fun ⟨c, hm, hc⟩ => h ⟨c, hc, hP c hm⟩]
  rfl

end FimVerif.Query
