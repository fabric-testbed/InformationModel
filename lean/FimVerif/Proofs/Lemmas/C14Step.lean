import FimVerif.Proofs.Lemmas.C14Deleg
import FimVerif.Proofs.Lemmas.ListAux
/-! C14: what one successful `merge_adm` does: when it succeeds and what it returns, whatever the iteration order of the common ids
(`mergeOrdN_ok_iff`), then observation by observation (`has`, `propsOf`, ... : `merge_step`). Everything else about merging is algebra on
top; C14UnStep does the same for `unmerge`. -/
namespace FimVerif.Cbm

def Graph.has (g : Graph) (i : String) : Bool := g.ids.contains i
def Graph.propsOf (g : Graph) (i : String) : Option Props := (g.node? i).map (·.props)
def Graph.provOf (g : Graph) (i : String) : List String := ((g.node? i).map (·.prov)).getD []
def Graph.ldelOf (g : Graph) (i : String) : Deleg := ((g.node? i).map (·.ldel)).getD .absent
def Graph.cdelOf (g : Graph) (i : String) : Deleg := ((g.node? i).map (·.cdel)).getD .absent
def Graph.edgeData (g : Graph) (x y : String) : Option Props := (g.edge? x y).map (·.props)

/-- the label (`false`) or capacity (`true`) delegation, numbered as in `UStep.deleg` (Model/CbmPlan.lean). The statements of Proofs/C14.lean
and the structures they mention spell the two kinds out (`ldelOf` / `cdelOf`, one field each); the lemmas go over `cap`
(`g.ldelOf i` is `g.delOf false i` by `rfl`). -/
def Node.del (cap : Bool) (n : Node) : Deleg := cond cap n.cdel n.ldel
def Graph.delOf (cap : Bool) (g : Graph) (i : String) : Deleg := ((g.node? i).map (Node.del cap)).getD .absent

/-- what model `a` says about the delegation of kind `cap` of element `i`, once re-keyed by its graph id -/
def speak (cap : Bool) (a : Adm) (i : String) : Deleg := (a.g.delOf cap i).rk a.id

def Graph.Closed (g : Graph) : Prop := ∀ e ∈ g.edges, e.a ∈ g.ids ∧ e.b ∈ g.ids
instance (g : Graph) : Decidable g.Closed := by unfold Graph.Closed; infer_instance

/-- total version of `stampNode` (what it returns when it does not raise) -/
def stampT (aid : String) (n : Node) : Node :=
  { n with prov := [aid], ldel := n.ldel.rk aid, cdel := n.cdel.rk aid }

theorem stampNode_iff {aid : String} {n n' : Node} :
    stampNode aid n = .ok n' ↔ (n.ldel.single = true ∧ n.cdel.single = true) ∧ n' = stampT aid n := by
  simp only [stampNode, Deleg.rekey_eq]
  cases n.ldel.single <;> cases n.cdel.single <;> simp [stampT, eq_comm]

theorem stampAll_cons_iff {aid : String} {n : Node} {rest tn : List Node} : stampAll aid (n :: rest) = .ok tn ↔
    ∃ n' l, stampNode aid n = .ok n' ∧ stampAll aid rest = .ok l ∧ tn = n' :: l := by
  constructor
  · intro h
    unfold stampAll at h
    split at h
    · cases h
    · rename_i n' hn
      split at h
      · cases h
      · rename_i l hl
        exact ⟨n', l, hn, hl, (Except.ok.inj h).symm⟩
  · rintro ⟨n', l, h1, h2, rfl⟩
    simp only [stampAll, h1, h2]

theorem stampAll_iff {aid : String} {ns tn : List Node} :
    stampAll aid ns = .ok tn ↔ (∀ n ∈ ns, n.ldel.single = true ∧ n.cdel.single = true) ∧ tn = ns.map (stampT aid) := by
  induction ns generalizing tn with
  | nil => exact ⟨fun h => ⟨fun _ hn => (nomatch hn), (Except.ok.inj h).symm⟩, fun ⟨_, h⟩ => h ▸ rfl⟩
  | cons n ns ih =>
    rw [stampAll_cons_iff, List.forall_mem_cons, List.map_cons]
    constructor
    · rintro ⟨n', l, hn, hl, rfl⟩
      obtain ⟨h1, rfl⟩ := stampNode_iff.mp hn
      obtain ⟨h2, rfl⟩ := ih.mp hl
      exact ⟨⟨h1, h2⟩, rfl⟩
    · rintro ⟨⟨h1, h2⟩, rfl⟩
      exact ⟨_, _, stampNode_iff.mpr ⟨h1, rfl⟩, ih.mpr ⟨h2, rfl⟩, rfl⟩

theorem stampT_stampT (aid : String) (n : Node) : stampT aid (stampT aid n) = stampT aid n := by
  simp [stampT, Deleg.rk_rk]

theorem node?_id {g : Graph} {i : String} {n : Node} (h : g.node? i = some n) : n.id = i := by
  have := List.find?_some h
  simpa using this

theorem has_iff {g : Graph} {i : String} : g.has i = true ↔ i ∈ g.ids := by
  simp [Graph.has]

theorem has_eq_isSome (g : Graph) (i : String) : g.has i = (g.node? i).isSome := by
  rw [Bool.eq_iff_iff, has_iff]
  simp only [Graph.node?, Graph.ids, List.find?_isSome, List.mem_map, beq_iff_eq]

theorem mem_ids_of_node? {g : Graph} {i : String} {n : Node} (h : g.node? i = some n) : i ∈ g.ids :=
  has_iff.mp (by rw [has_eq_isSome, h]; rfl)

theorem node?_of_mem {g : Graph} (hn : g.ids.Nodup) {n : Node} (h : n ∈ g.nodes) : g.node? n.id = some n :=
  List.find?_key_of_nodup Node.id (l := g.nodes) hn h

theorem nodes_ne_nil_iff {g : Graph} : g.nodes ≠ [] ↔ ∃ i, g.has i = true := by
  cases h : g.nodes with
  | nil => simp [Graph.has, Graph.ids, h]
  | cons n l => exact ⟨fun _ => ⟨n.id, has_iff.mpr (by simp [Graph.ids, h])⟩, fun _ => List.cons_ne_nil _ _⟩

theorem nodes_ne_nil_mono {g g' : Graph} (hne : g.nodes ≠ []) (h : ∀ i, g.has i = true → g'.has i = true) : g'.nodes ≠ [] :=
  let ⟨i, hi⟩ := nodes_ne_nil_iff.mp hne
  nodes_ne_nil_iff.mpr ⟨i, h i hi⟩

theorem propsOf_isSome (g : Graph) (i : String) : (g.propsOf i).isSome = g.has i := by
  rw [has_eq_isSome]; unfold Graph.propsOf; cases g.node? i <;> rfl

theorem live_has {g : Graph} {cap : Bool} {i : String} (h : (g.delOf cap i).live = true) : i ∈ g.ids := by
  cases hn : g.node? i with
  | none => rw [Graph.delOf, hn] at h; cases h
  | some n => exact mem_ids_of_node? hn

theorem mergeAt_id (t : Graph) (aid : String) (done : List String) (n : Node) : (mergeAt t aid done n).id = n.id := by
  unfold mergeAt
  split
  · split <;> simp [mergeNode]
  · rfl

theorem find?_filter_const {α : Type} (p q : α → Bool) (b : Bool) (h : ∀ x, q x = true → p x = b) (l : List α) :
    (l.filter p).find? q = if b then l.find? q else none := by
  rw [List.find?_filter]
  cases b with
  | true =>
    refine congrArg (List.find? · l) (funext fun x => ?_)
    cases hq : q x with
    | false => simp
    | true => simp [h x hq]
  | false =>
    refine List.find?_eq_none.mpr fun x _ hx => ?_
    rw [decide_eq_true_eq] at hx
    exact Bool.false_ne_true ((h x hx.2).symm.trans hx.1)

theorem mergeCore_nodes (c t : Graph) (aid : String) (done : List String) : (mergeCore c t aid done true).nodes =
    c.nodes.map (mergeAt t aid done) ++ t.nodes.filter (fun tn => !c.ids.contains tn.id) := rfl

theorem mergeCore_edges (c t : Graph) (aid : String) (done : List String) : (mergeCore c t aid done true).edges =
    c.edges ++ t.edges.filter (fun e => !c.hasEdge e.a e.b) := by
  simp [mergeCore]

theorem node?_mergeCore (c t : Graph) (aid : String) (done : List String) (i : String) :
    (mergeCore c t aid done true).node? i =
      match c.node? i with
      | some n => some (mergeAt t aid done n)
      | none => t.node? i := by
  have hf := find?_filter_const (fun tn : Node => !c.ids.contains tn.id) (fun n => n.id == i) (!(c.node? i).isSome)
    (fun n hn => by rw [eq_of_beq hn, ← has_eq_isSome]; rfl) t.nodes
  unfold Graph.node? at hf ⊢
  rw [mergeCore_nodes, List.find?_append, List.find?_map_key Node.id (mergeAt t aid done) (mergeAt_id t aid done) c.nodes i, hf]
  cases c.nodes.find? (fun n => n.id == i) <;> rfl

theorem joins_iff {e : Edge} {x y : String} : e.joins x y = true ↔ (e.a = x ∧ e.b = y) ∨ (e.a = y ∧ e.b = x) := by
  simp only [Edge.joins, Bool.or_eq_true, Bool.and_eq_true, beq_iff_eq]

theorem joins_sym_eq {β : Type} {e : Edge} {x y : String} (h : e.joins x y = true) (F : String → String → β)
    (hF : ∀ u v, F u v = F v u) : F e.a e.b = F x y := by
  rcases joins_iff.mp h with ⟨h1, h2⟩ | ⟨h1, h2⟩
  · rw [h1, h2]
  · rw [h1, h2, hF]

theorem hasEdge_swap (c : Graph) (x y : String) : c.hasEdge x y = c.hasEdge y x := by
  unfold Graph.hasEdge
  congr 1
  funext f
  exact Bool.or_comm _ _

theorem edge?_isSome (g : Graph) (x y : String) : (g.edge? x y).isSome = g.hasEdge x y :=
  Bool.eq_iff_iff.mpr (by rw [Graph.edge?, Graph.hasEdge, List.find?_isSome, List.any_eq_true])

theorem edgeData_isSome (g : Graph) (x y : String) : (g.edgeData x y).isSome = g.hasEdge x y := by
  rw [← edge?_isSome]; unfold Graph.edgeData; cases g.edge? x y <;> rfl

theorem hasEdge_has {g : Graph} (hc : g.Closed) {x y : String} (h : g.hasEdge x y = true) : g.has x = true ∧ g.has y = true := by
  unfold Graph.hasEdge at h
  obtain ⟨e, he, hj⟩ := List.any_eq_true.mp h
  have := hc e he
  rcases joins_iff.mp hj with ⟨h1, h2⟩ | ⟨h1, h2⟩
  · exact ⟨has_iff.mpr (h1 ▸ this.1), has_iff.mpr (h2 ▸ this.2)⟩
  · exact ⟨has_iff.mpr (h2 ▸ this.2), has_iff.mpr (h1 ▸ this.1)⟩

theorem edge?_mergeCore (c t : Graph) (aid : String) (done : List String) (x y : String) :
    (mergeCore c t aid done true).edge? x y = (c.edge? x y).or (t.edge? x y) := by
  have hf := find?_filter_const (fun e : Edge => !c.hasEdge e.a e.b) (fun e => e.joins x y) (!(c.edge? x y).isSome)
    (fun e hj => by rw [joins_sym_eq hj c.hasEdge (hasEdge_swap c), edge?_isSome]) t.edges
  unfold Graph.edge? at hf ⊢
  rw [mergeCore_edges, List.find?_append, hf]
  cases c.edges.find? (fun e => e.joins x y) <;> rfl

theorem hasEdge_mergeCore (c t : Graph) (aid : String) (done : List String) (x y : String) :
    (mergeCore c t aid done true).hasEdge x y = (c.hasEdge x y || t.hasEdge x y) := by
  rw [← edge?_isSome, ← edge?_isSome, ← edge?_isSome, edge?_mergeCore]
  cases c.edge? x y <;> simp

/-- the temporary clone of a merge that got past `rewrite_delegations` -/
def Adm.stamped (a : Adm) : Graph := ⟨a.g.nodes.map (stampT a.id), a.g.edges⟩

theorem node?_stamped (a : Adm) (i : String) : a.stamped.node? i = (a.g.node? i).map (stampT a.id) := by
  unfold Graph.node? Adm.stamped
  exact List.find?_map_key Node.id (stampT a.id) (fun _ => rfl) a.g.nodes i

theorem ids_stamped (a : Adm) : a.stamped.ids = a.g.ids := by
  simp [Adm.stamped, Graph.ids, stampT, Function.comp_def]

theorem mergeCore_empty {c t : Graph} {aid : String} {done : List String} (hn : c.nodes.isEmpty = true) (hc : c.Closed) :
    mergeCore c t aid done true = t := by
  have hn := List.isEmpty_iff.mp hn
  have he : c.edges = [] := by
    cases h : c.edges with
    | nil => rfl
    | cons e es =>
      have := (hc e (by simp [h])).1
      simp [Graph.ids, hn] at this
  cases t with
  | mk tn te => simp [mergeCore, hn, he, Graph.ids, Graph.hasEdge]

/-- `rewrite_delegations` accepts every delegation of the model and the model is not empty -/
def Adm.Mergeable (a : Adm) : Bool := !a.g.nodes.isEmpty && a.g.nodes.all (fun n => n.ldel.single && n.cdel.single)

theorem mergeable_iff {a : Adm} : a.Mergeable = true ↔
    a.g.nodes ≠ [] ∧ ∀ n ∈ a.g.nodes, n.ldel.single = true ∧ n.cdel.single = true := by
  simp [Adm.Mergeable]

theorem conflictAt_empty {c t : Graph} (hn : c.nodes.isEmpty = true) (i : String) : conflictAt c t i = false := by
  simp [conflictAt, Graph.node?, List.isEmpty_iff.mp hn]

theorem mergeOrdN_ok_iff {c : Graph} {a : Adm} {o : List String} {g : Graph} :
    mergeOrdN c a o = (none, g) ↔ a.Mergeable = true ∧ (∀ i ∈ o, conflictAt c a.stamped i = false) ∧
      g = if c.nodes.isEmpty then a.stamped else mergeCore c a.stamped a.id o true := by
  rw [mergeable_iff]
  have hstamp : ∀ {l}, stampAll a.id a.g.nodes = .ok l →
      (∀ n ∈ a.g.nodes, n.ldel.single = true ∧ n.cdel.single = true) ∧ (⟨l, a.g.edges⟩ : Graph) = a.stamped := fun h =>
    let ⟨hs, hl⟩ := stampAll_iff.mp h
    ⟨hs, by rw [hl]; rfl⟩
  fun_cases mergeOrdN c a o with
  | case1 he => exact ⟨nofun, fun h => absurd (List.isEmpty_iff.mp he) h.1.1⟩
  | case2 he e hst =>
    refine ⟨nofun, fun h => ?_⟩
    rw [stampAll_iff.mpr ⟨h.1.2, rfl⟩] at hst
    cases hst
  | case3 he l hst t hce =>
    obtain ⟨hs, ht⟩ := hstamp hst
    rw [if_pos hce, show t = a.stamped from ht]
    exact ⟨fun h => ⟨⟨by simpa using he, hs⟩, fun i _ => conflictAt_empty hce i, ((Prod.mk.inj h).2).symm⟩, fun h => by rw [h.2.2]⟩
  | case4 he l hst t hce k hk =>
    rw [if_neg hce]
    refine ⟨nofun, fun h => ?_⟩
    rw [show t = a.stamped from (hstamp hst).2, List.findIdx?_eq_none_iff.mpr fun i hi => by simpa using h.2.1 i hi] at hk
    cases hk
  | case5 he l hst t hce hk =>
    obtain ⟨hs, ht⟩ := hstamp hst
    rw [if_neg hce]
    rw [show t = a.stamped from ht] at hk ⊢
    exact ⟨fun h => ⟨⟨by simpa using he, hs⟩, fun i hi => by simpa using List.findIdx?_eq_none_iff.mp hk i hi, ((Prod.mk.inj h).2).symm⟩,
      fun h => by rw [h.2.2]⟩

theorem mergeCore_order {c t : Graph} {aid : String} {o o' : List String} (h : ∀ x, x ∈ o ↔ x ∈ o') :
    mergeCore c t aid o true = mergeCore c t aid o' true := by
  have hc : ∀ x, o.contains x = o'.contains x := by
    intro x
    rw [Bool.eq_iff_iff]
    simp [h x]
  have hm : c.nodes.map (mergeAt t aid o) = c.nodes.map (mergeAt t aid o') := by
    apply List.map_congr_left
    intro n _
    unfold mergeAt
    rw [hc]
  simp only [mergeCore, hm, Bool.true_or, Bool.and_true]

theorem mergeOrdN_order_irrelevant {c : Graph} {a : Adm} {o : List String} (h : ∀ x, x ∈ o ↔ x ∈ common c a.g)
    (hok : (mergeOrdN c a o).1 = none) : mergeOrdN c a o = mergeN c a := by
  have h1 : mergeOrdN c a o = (none, (mergeOrdN c a o).2) := by rw [← hok]
  obtain ⟨hm, hcf, hg⟩ := mergeOrdN_ok_iff.mp h1
  rw [h1]
  exact (mergeOrdN_ok_iff.mpr ⟨hm, fun i hi => hcf i ((h i).mpr hi), by rw [hg, mergeCore_order h]⟩).symm

theorem mergeOrd_nx (c : Graph) (a : Adm) (o : List String) :
    mergeOrd c a o = mergeOrdN c a o ∨
    ((mergeOrdN c a o).1 = none ∧ vanishes c a = true ∧ mergeOrd c a o = (some .query, (mergeOrdN c a o).2)) := by
  unfold mergeOrd
  simp only
  split
  · rename_i hc
    simp only [Bool.and_eq_true, Option.isNone_iff_eq_none] at hc
    exact Or.inr ⟨hc.1, hc.2, rfl⟩
  · exact Or.inl rfl

theorem mergeOrd_order_irrelevant {c : Graph} {a : Adm} {o : List String} (h : ∀ x, x ∈ o ↔ x ∈ common c a.g)
    (hok : (mergeOrd c a o).1 = none) : mergeOrd c a o = mergeN c a := by
  rcases mergeOrd_nx c a o with h' | ⟨_, _, h'⟩
  · rw [h'] at hok ⊢
    exact mergeOrdN_order_irrelevant h hok
  · rw [h'] at hok; cases hok

theorem mergeN_of_merge {c : Graph} {a : Adm} {g : Graph} (h : merge c a = (none, g)) : mergeN c a = (none, g) := by
  rcases mergeOrd_nx c a (common c a.g) with h' | ⟨_, _, h'⟩
  · exact h'.symm.trans h
  · exact nomatch h'.symm.trans h

theorem merge_state (c : Graph) (a : Adm) : (merge c a).2 = (mergeN c a).2 := by
  rcases mergeOrd_nx c a (common c a.g) with h' | ⟨_, _, h'⟩ <;> exact congrArg (·.2) h'

theorem mem_common {c : Graph} {a : Graph} {i : String} : i ∈ common c a ↔ i ∈ c.ids ∧ i ∈ a.ids := by
  simp [common]

theorem node?_merged (c : Graph) (a : Adm) (i : String) :
    (mergeCore c a.stamped a.id (common c a.g) true).node? i =
      match c.node? i, a.g.node? i with
      | some n, some an => some (mergeNode a.id n (stampT a.id an))
      | some n, none => some n
      | none, some an => some (stampT a.id an)
      | none, none => none := by
  rw [node?_mergeCore, node?_stamped]
  cases hc : c.node? i with
  | none => cases a.g.node? i <;> rfl
  | some n =>
    -- with `done` = all common ids the loop body applies exactly when the model has the node
    simp only [mergeAt, node?_id hc, node?_stamped]
    cases ha : a.g.node? i with
    | none => split <;> rfl
    | some an =>
      rw [if_pos (by simpa using mem_common.mpr ⟨mem_ids_of_node? hc, mem_ids_of_node? ha⟩)]
      rfl

/-- a successful merge of `a` into `c` gave `g`, observation by observation; `eq`, the lists themselves, is for the proofs that walk
them (`merge_WF`, `unmerge_merge`) -/
structure MergeStep (c : Graph) (a : Adm) (g : Graph) : Prop where
  nonempty : a.g.nodes ≠ []
  single : ∀ n ∈ a.g.nodes, n.ldel.single = true ∧ n.cdel.single = true
  has : ∀ i, g.has i = (c.has i || a.g.has i)
  props : ∀ i, g.propsOf i = (c.propsOf i).or (a.g.propsOf i)
  prov : ∀ i, g.provOf i = c.provOf i ++ (if a.g.has i then [a.id] else [])
  ldel : ∀ i, g.ldelOf i = (c.ldelOf i).take ((a.g.ldelOf i).rk a.id)
  cdel : ∀ i, g.cdelOf i = (c.cdelOf i).take ((a.g.cdelOf i).rk a.id)
  lnoconf : ∀ i, ((c.ldelOf i).live && ((a.g.ldelOf i).rk a.id).live) = false
  cnoconf : ∀ i, ((c.cdelOf i).live && ((a.g.cdelOf i).rk a.id).live) = false
  hasEdge : ∀ x y, g.hasEdge x y = (c.hasEdge x y || a.g.hasEdge x y)
  edgeData : ∀ x y, g.edgeData x y = (c.edgeData x y).or (a.g.edgeData x y)
  eq : g = mergeCore c a.stamped a.id (common c a.g) true

theorem conflictAt_stamped {c : Graph} {a : Adm} {i : String} : conflictAt c a.stamped i = false ↔
    ∀ cap, ((c.delOf cap i).live && (speak cap a i).live) = false := by
  rw [Bool.forall_bool, ← Bool.or_eq_false_iff]
  unfold conflictAt speak Graph.delOf
  rw [node?_stamped]
  cases c.node? i with
  | none => rfl
  | some n =>
    cases a.g.node? i with
    | none => simp only [Option.map_none, Option.map_some, Option.getD_none, Option.getD_some, Deleg.rk, Deleg.live, Bool.and_false,
        Bool.or_false]
    | some an => rfl

/-- where both sides have a live delegation the element is common -/
theorem noconf_iff {c : Graph} {a : Adm} : (∀ i ∈ common c a.g, conflictAt c a.stamped i = false) ↔
    ∀ cap i, ((c.delOf cap i).live && (speak cap a i).live) = false := by
  refine ⟨fun hcf cap i => Bool.eq_false_iff.mpr fun h => ?_, fun h i _ => conflictAt_stamped.mpr fun cap => h cap i⟩
  have hcom := mem_common.mpr ⟨live_has (Bool.and_eq_true_iff.mp h).1, live_has (Deleg.live_of_rk (Bool.and_eq_true_iff.mp h).2)⟩
  exact Bool.false_ne_true ((conflictAt_stamped.mp (hcf i hcom) cap).symm.trans h)

theorem mergeN_ok_iff {c : Graph} {a : Adm} {g : Graph} (hc : c.Closed) : mergeN c a = (none, g) ↔ a.Mergeable = true ∧
    (∀ cap i, ((c.delOf cap i).live && (speak cap a i).live) = false) ∧
    g = mergeCore c a.stamped a.id (common c a.g) true := by
  unfold mergeN
  rw [mergeOrdN_ok_iff, noconf_iff]
  -- an empty closed graph has no connections either: the model forced into it is what the general case gives
  split
  · rename_i he; rw [mergeCore_empty he hc]
  · rfl

theorem merge_step {c : Graph} {a : Adm} {g : Graph} (hc : c.Closed) (h : mergeN c a = (none, g)) :
    MergeStep c a g := by
  obtain ⟨hm, hno, rfl⟩ := (mergeN_ok_iff hc).mp h
  have hnode := node?_merged c a
  have hdel : ∀ cap i, (mergeCore c a.stamped a.id (common c a.g) true).delOf cap i =
      (c.delOf cap i).take ((a.g.delOf cap i).rk a.id) := by
    intro cap i
    simp only [Graph.delOf, hnode]
    cases c.node? i with
    | none =>
      cases a.g.node? i with
      | none => rfl
      | some an => cases cap <;> exact (Deleg.take_absent_rk _ _).symm
    | some n =>
      cases a.g.node? i with
      | none => exact (Deleg.take_dead rfl).symm
      | some an => cases cap <;> rfl
  refine ⟨(mergeable_iff.mp hm).1, (mergeable_iff.mp hm).2, ?_, ?_, ?_, hdel false, hdel true, hno false, hno true, ?_, ?_, rfl⟩
  · intro i
    rw [has_eq_isSome, has_eq_isSome, has_eq_isSome, hnode]
    cases c.node? i <;> cases a.g.node? i <;> rfl
  · intro i
    simp only [Graph.propsOf, hnode]
    cases c.node? i <;> cases a.g.node? i <;> rfl
  · intro i
    rw [has_eq_isSome]
    simp only [Graph.provOf, hnode]
    cases c.node? i <;> cases a.g.node? i <;> simp [mergeNode, stampT]
  · intro x y
    rw [hasEdge_mergeCore]
    rfl
  · intro x y
    simp only [Graph.edgeData, edge?_mergeCore]
    have : a.stamped.edge? x y = a.g.edge? x y := rfl
    rw [this]
    cases c.edge? x y <;> cases a.g.edge? x y <;> rfl

theorem MergeStep.del {c : Graph} {a : Adm} {g : Graph} (hs : MergeStep c a g) (cap : Bool) (i : String) :
    g.delOf cap i = (c.delOf cap i).take (speak cap a i) := by
  cases cap
  · exact hs.ldel i
  · exact hs.cdel i

theorem MergeStep.noconf {c : Graph} {a : Adm} {g : Graph} (hs : MergeStep c a g) (cap : Bool) (i : String) :
    ((c.delOf cap i).live && (speak cap a i).live) = false := by
  cases cap
  · exact hs.lnoconf i
  · exact hs.cnoconf i

end FimVerif.Cbm
