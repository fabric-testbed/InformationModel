import FimVerif.Model.Authz
import FimVerif.Proofs.Lemmas.ListAux
/-! C11: closed form of `transform_to_pdp_request` and the "each attribute once, in its own category" lemma. -/
namespace FimVerif.Authz
open FimVerif.Gen.Authz

theorem key_rows : ∀ k : Key, ∃ dt c, k.dataType = some dt ∧ k.category = some c ∧ c ∈ categories := by
  intro k; cases k <;> exact ⟨_, _, rfl, rfl, by simp [categories]⟩

theorem key_mem_all (k : Key) : k ∈ Key.all := by cases k <;> decide +kernel

theorem ids_nodup : (Key.all.map Key.id).Nodup := by simp [Key.all, Key.id]

end FimVerif.Authz

namespace FimVerif.C11
open FimVerif.Authz FimVerif.Gen.Authz

theorem ids_injective : ∀ k k' : Key, k.id = k'.id → k = k' := fun k k' h =>
  List.eq_of_nodup_map Key.id ids_nodup (key_mem_all k) (key_mem_all k') h

end FimVerif.C11

namespace FimVerif.Authz
open FimVerif.Gen.Authz

theorem categories_nodup : categories.Nodup := by simp [categories]

/-- the entry attribute `kv` contributes to category `c` -/
def pdpRow (c : String) (kv : Key × List Val) : Option PAttr :=
  match kv.1.dataType, kv.1.category with
  | some dt, some c' => if c' = c then some ⟨kv.1.id, dt, kv.2⟩ else none
  | _, _ => none

theorem pdpFold_eq (cats : Pdp) (a : Attrs) :
    pdpFold cats a = some (cats.map fun p => (p.1, p.2 ++ a.filterMap (pdpRow p.1))) := by
  induction a generalizing cats with
  | nil => simp [pdpFold]
  | cons kv r ih =>
    obtain ⟨dt, c, hdt, hc, _⟩ := key_rows kv.1
    simp only [pdpFold, pdpStep, hdt, hc, ih, List.map_map, Option.some.injEq]
    apply List.map_congr_left
    intro p _
    simp only [Function.comp, List.filterMap_cons, pdpRow, hdt, hc]
    by_cases h : p.1 = c
    · subst h; simp
    · have h' : ¬ c = p.1 := fun e => h e.symm
      simp [h, h']

theorem toPdp_eq (a : Attrs) : toPdp a = some (categories.map fun c => (c, a.filterMap (pdpRow c))) := by
  unfold toPdp; rw [pdpFold_eq]; simp [List.map_map, Function.comp]

theorem mem_toPdp {a : Attrs} {req : Pdp} (h : toPdp a = some req) {c : String} {as : List PAttr} :
    (c, as) ∈ req ↔ c ∈ categories ∧ as = a.filterMap (pdpRow c) := by
  rw [toPdp_eq] at h
  cases h
  simp only [List.mem_map, Prod.mk.injEq]
  exact ⟨fun ⟨_, hc, e, e'⟩ => e ▸ ⟨hc, e'.symm⟩, fun ⟨hc, e⟩ => ⟨c, hc, rfl, e.symm⟩⟩

theorem pdpRow_eq_some {c : String} {kv : Key × List Val} {x : PAttr} :
    pdpRow c kv = some x ↔ ∃ dt, kv.1.dataType = some dt ∧ kv.1.category = some c ∧ x = ⟨kv.1.id, dt, kv.2⟩ := by
  obtain ⟨dt, c', hdt, hc, _⟩ := key_rows kv.1
  unfold pdpRow
  rw [hdt, hc]
  by_cases h : c' = c
  · simp [h, eq_comm]
  · simp [h]

theorem pdpRow_id {c : String} {kv : Key × List Val} {x : PAttr} (h : pdpRow c kv = some x) : x.id = kv.1.id := by
  obtain ⟨_, _, _, rfl⟩ := pdpRow_eq_some.mp h
  rfl

/-- the entries with `k`'s id come from the one pair with key `k` -/
theorem filter_row_present (a : Attrs) (hn : (keys a).Nodup) (k : Key) (v : List Val) (hm : (k, v) ∈ a)
    (dt cat : String) (hdt : k.dataType = some dt) (hcat : k.category = some cat) (c : String) :
    (a.filterMap (pdpRow c)).filter (fun x => decide (x.id = k.id)) = if cat = c then [⟨k.id, dt, v⟩] else [] := by
  have h1 : (a.filterMap (pdpRow c)).filter (fun x => decide (x.id = k.id)) =
      (a.filter fun kv => kv.1 == k).filterMap (pdpRow c) :=
    (List.filterMap_filter_comm _ _ _ a fun kv _ x hrow => by
      rw [pdpRow_id hrow, Bool.eq_iff_iff, decide_eq_true_iff, beq_iff_eq]
      exact ⟨congrArg _, C11.ids_injective _ _⟩).symm
  rw [h1, show (fun kv : Key × List Val => kv.1 == k) = fun kv => kv.1 == (k, v).1 from rfl,
    List.filter_eq_singleton_of_nodup_map Prod.fst hn hm]
  by_cases hc : cat = c <;> simp [pdpRow, hdt, hcat, hc]

end FimVerif.Authz
