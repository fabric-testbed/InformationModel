import FimVerif.Proofs.Lemmas.C12Pools
/-! From per-node delegations back to the pool family (C12): the entries of a valid clash-free family can be incorporated in any
arrangement, and a container that stands in `QInv` to them holds the same pools. -/
namespace FimVerif.C12
open FimVerif.Deleg

variable {D : Type}

/-- an entry that belongs to a pool: a definition or a reference -/
def nonSingle (e : Entry D) : Bool := decide (e.2.fmt ≠ .single)

theorem filter_nonSingle {ty : DType} {P : List (Pool D)} {L : List (Entry D)} (h : L ⊆ allEntries ty P) :
    L.filter nonSingle = L := by
  refine List.filter_eq_self.mpr fun e he => ?_
  obtain ⟨p, -, hp⟩ := mem_allEntries.mp (h he)
  simpa [nonSingle] using (entriesOf_fields hp).2.2.2

theorem filter_flat_singles (L : NodeDelegs D) (h : ∀ e ∈ L, ∀ d ∈ e.2.items, d.fmt = .single) :
    (flat L).filter nonSingle = [] := by
  apply List.filter_eq_nil_iff.mpr
  intro x hx
  obtain ⟨n, d⟩ := x
  obtain ⟨e, he, _, hd⟩ := mem_flat.mp hx
  simp [nonSingle, h e he d hd]

theorem incorporable_with_singles (ops : DetailOps D) (ty : DType) (P : List (Pool D)) (L : List (Entry D))
    (hF : Family ops ty P) (hmem : ∀ e ∈ L, e.2.fmt ≠ .single → e ∈ allEntries ty P)
    (hkeys : ((L.filter nonSingle).map keyOf).Nodup) : Incorporable L := by
  refine ⟨fun e he hns => ?_, fun e he hns => ?_, fun e he hf => ?_, ?_⟩
  · obtain ⟨p, -, hp⟩ := mem_allEntries.mp (hmem e he hns)
    rw [(entriesOf_fields hp).1]; exact nofun
  · obtain ⟨p, hpP, hp⟩ := mem_allEntries.mp (hmem e he hns)
    rw [(entriesOf_fields hp).1]
    exact fun h => (hF.ok p hpP).name (Option.some.inj h)
  · obtain ⟨p, hpP, hp⟩ := mem_allEntries.mp (hmem e he (by rw [hf]; exact nofun))
    rw [def_of_mem_entriesOf hp hf]
    have := (hF.ok p hpP).details
    intro hd; rw [show p.details = none from hd] at this; exact this
  · -- two definitions of one pool are the same entry, and an entry cannot sit at two places of a list whose slots are distinct
    refine List.Pairwise.imp_of_mem ?_ (List.pairwise_filter.mp (List.pairwise_map.mp (List.nodup_iff_pairwise_ne.mp hkeys)))
    intro a b ha hb hne hfa hfb hpool
    have hna : a.2.fmt ≠ .single := by rw [hfa]; exact nofun
    have hnb : b.2.fmt ≠ .single := by rw [hfb]; exact nofun
    refine hne (by simp [nonSingle, hna]) (by simp [nonSingle, hnb]) ?_
    obtain ⟨p, hpP, hp⟩ := mem_allEntries.mp (hmem a ha hna)
    have hb' := entry_own hF.distinct hpP (hmem b hb hnb) (by rw [← hpool]; exact (entriesOf_fields hp).1)
    rw [def_of_mem_entriesOf hp hfa, def_of_mem_entriesOf hb' hfb]

theorem incorporable_of_family (ops : DetailOps D) (ty : DType) (P : List (Pool D)) (L : List (Entry D))
    (hF : Family ops ty P) (hmem : ∀ e ∈ L, e ∈ allEntries ty P) (hkeys : (L.map keyOf).Nodup) : Incorporable L := by
  apply incorporable_with_singles ops ty P L hF (fun e he _ => hmem e he)
  rw [filter_nonSingle hmem]
  exact hkeys

/-- "the same pools": every pool is found again with the same type, defining node, delegation id, details and
reference *set*; nothing else is found; ids stay distinct -/
structure SamePools (P Q : List (Pool D)) : Prop where
  found : ∀ p ∈ P, ∃ q ∈ Q, q.pid = p.pid ∧ q.ty = p.ty ∧ q.on_ = p.on_ ∧ q.deleg = p.deleg ∧
    q.details = p.details ∧ ∀ n, n ∈ q.for_ ↔ n ∈ p.for_
  nothingElse : ∀ q ∈ Q, ∃ p ∈ P, p.pid = q.pid
  distinct : Distinct Q

/-- For `p ∈ P` the pool of that name is there because `p`'s definition entry was read (`present`); its defining node and details
are those of that entry (`onDef`), its reference set the nodes of `p`'s reference entries (`refs`), and its delegation id is the id
of some entry naming it (`DelegW`), all of which carry `p`'s id. -/
theorem samePools_of_qinv (ops : DetailOps D) (ty : DType) (P Q : List (Pool D)) (L : List (Entry D)) (hF : Family ops ty P)
    (hq : QInv ty Q L) (hsub : ∀ e ∈ L, e.2.fmt ≠ .single → e ∈ allEntries ty P) (hsup : ∀ e ∈ allEntries ty P, e ∈ L) :
    SamePools P Q := by
  have hsup' : ∀ p ∈ P, ∀ e ∈ entriesOf ty p, e ∈ L := fun p hp e he => hsup e (mem_allEntries.mpr ⟨p, hp, he⟩)
  refine ⟨fun p hp => ?_, fun q hqm => ?_, hq.distinct⟩
  · have hpok := hF.ok p hp
    have hdef : (p.on_.getD "", defEntry ty p) ∈ L := hsup' p hp _ List.mem_cons_self
    obtain ⟨q, hqm, hqpid⟩ := hq.present _ hdef nofun p.pid rfl
    obtain ⟨hpi, ⟨s, hs, hsns, hsp, hsd⟩, hqty⟩ := hq.pool q hqm
    have hown : ∀ s ∈ L, s.2.fmt ≠ .single → s.2.pool = some q.pid → s ∈ entriesOf ty p := fun s hs hns hsp =>
      entry_own hF.distinct hp (hsub s hs hns) (hqpid ▸ hsp)
    obtain ⟨hon, hdet⟩ := hpi.onDef _ hdef rfl (by rw [hqpid]; rfl)
    refine ⟨q, hqm, hqpid, by rw [hqty, hpok.ty_], by rw [hon]; exact Option.getD_of_ne_none hpok.on_ _, ?_, hdet, fun n => ?_⟩
    · rw [hsd, (entriesOf_fields (hown s hs hsns hsp)).2.1]
      exact Option.getD_of_ne_none hpok.deleg _
    · rw [hpi.refs n]
      constructor
      · rintro ⟨s, hs, rfl, hsf, hsp⟩
        obtain rfl | ⟨n, hn, rfl⟩ := mem_entriesOf.mp (hown s hs (by rw [hsf]; exact nofun) hsp)
        · cases hsf
        · exact hn
      · intro hn
        exact ⟨(n, refEntry ty p), hsup' p hp _ (List.mem_cons_of_mem _ (List.mem_map_of_mem hn)), rfl, rfl, by rw [hqpid]; rfl⟩
  · obtain ⟨-, ⟨s, hs, hsns, hsp, -⟩, -⟩ := hq.pool q hqm
    obtain ⟨p, hp, he⟩ := mem_allEntries.mp (hsub s hs hsns)
    rw [(entriesOf_fields he).1] at hsp
    exact ⟨p, hp, Option.some.inj hsp⟩

end FimVerif.C12
