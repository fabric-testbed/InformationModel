import FimVerif.Proofs.Lemmas.C08Basic
/-! Neighbour queries in a shrunk graph and `remove_cp_and_links` in closed form; from `SepFam` on, statements about the pre-state `g` and
the list `A` of what has been deleted.  Up to `removeCp_after'` (one `remove_cp_and_links` call after `A`, no hypothesis on links) the file
serves both developments; from `Sep` on, the separation development only: under `Sep` that call deletes what it would delete in `g`, and the
chained Boolean predicates `SepSeq`, `SepNs`, `SepComp`, `SepNode` go with the closed forms `nsDel`, `compDel`, `nodeDel` of the graph-level
removals. -/
namespace FimVerif.Remove

theorem cls_minus (g : G) (D : List Nat) (y : Nat) :
    (g.minus D).cls? y = if D.contains y then none else g.cls? y := by
  simp only [G.cls?, find_minus]; split <;> simp

theorem kind_minus (g : G) (D : List Nat) (y : Nat) :
    (g.minus D).kind? y = if D.contains y then none else g.kind? y := by
  simp only [G.kind?, find_minus]; split <;> simp

theorem cls_minus_keep {g : G} {A : List Nat} {x : Nat} (h : A.contains x = false) : (g.minus A).cls? x = g.cls? x := by
  rw [cls_minus, h]; rfl

theorem kind_minus_keep {g : G} {A : List Nat} {x : Nat} (h : A.contains x = false) : (g.minus A).kind? x = g.kind? x := by
  rw [kind_minus, h]; rfl

theorem other_eq_some {e : Edge} {x : Nat} {r : Rel} {y : Nat} (h : e.other x r = some y) :
    (e.a = x ∧ e.b = y) ∨ (e.b = x ∧ e.a = y) := by
  unfold Edge.other at h
  split at h
  · split at h
    · exact Or.inl ⟨‹_›, Option.some.inj h⟩
    · split at h
      · exact Or.inr ⟨‹_›, Option.some.inj h⟩
      · cases h
  · cases h

theorem other_symm {e : Edge} {x y : Nat} {r : Rel} (h : e.other x r = some y) : e.other y r = some x := by
  unfold Edge.other at h ⊢
  split at h
  · rename_i hr; rw [if_pos hr]
    split at h
    · rename_i ha; cases h
      by_cases hxy : e.a = e.b
      · simp [hxy, ← ha]
      · simp [ha]; exact fun h => h.symm
    · split at h
      · rename_i hb; cases h; simp [hb]
      · cases h
  · cases h

theorem nbrs_minus_eq (g : G) (D : List Nat) (x : Nat) (r : Rel) (c : Cls) :
    (g.minus D).nbrs x r c = (g.nbrs x r c).filter (fun y => !D.contains x && !D.contains y) := by
  unfold G.nbrs
  have h1 : ((g.minus D).edges).filterMap (fun e => e.other x r)
      = (g.edges.filterMap (fun e => e.other x r)).filter (fun y => !D.contains x && !D.contains y) := by
    simp only [G.minus]
    apply List.filterMap_filter_comm
    intro e _ y he
    rcases other_eq_some he with ⟨ha, hb⟩ | ⟨hb, ha⟩
    · rw [ha, hb]
    · rw [ha, hb, Bool.and_comm]
  rw [h1, List.filter_filter, List.filter_filter]
  apply List.filter_congr
  intro y _
  rw [cls_minus]
  by_cases hy : y ∈ D
  · simp [hy]
  · simp [hy, Bool.and_comm]

theorem nbrs_minus {g : G} {D : List Nat} {x : Nat} {r : Rel} {c : Cls} (hx : D.contains x = false) :
    (g.minus D).nbrs x r c = (g.nbrs x r c).filter (fun y => !D.contains y) := by
  simp only [nbrs_minus_eq, hx, Bool.not_false, Bool.true_and]

theorem nbrs_minus_clean {g : G} {A : List Nat} {x : Nat} {r : Rel} {c : Cls} (hx : A.contains x = false)
    (h : (g.nbrs x r c).all (fun y => !A.contains y) = true) : (g.minus A).nbrs x r c = g.nbrs x r c := by
  rw [nbrs_minus hx, List.filter_eq_self.mpr (List.all_eq_true.mp h)]

theorem mem_nbrs_minus {g : G} {A : List Nat} {x : Nat} (hxA : x ∉ A) {r : Rel} {c : Cls} (y : Nat) :
    y ∈ (g.minus A).nbrs x r c ↔ y ∈ g.nbrs x r c ∧ y ∉ A := by
  simp [nbrs_minus (contains_false hxA)]

theorem mem_nbrs_cls {g : G} {x y : Nat} {r : Rel} {c : Cls} (h : y ∈ g.nbrs x r c) : g.cls? y = some c := by
  unfold G.nbrs at h
  simp only [List.mem_filter] at h
  simpa using h.2

theorem mem_nbrs_has {g : G} {x y : Nat} {r : Rel} {c : Cls} (h : y ∈ g.nbrs x r c) : g.has y = true :=
  cls_has (mem_nbrs_cls h)

theorem nbrs_symm {g : G} {x y : Nat} {r : Rel} {c c' : Cls} (h : y ∈ g.nbrs x r c) (hx : g.cls? x = some c') :
    x ∈ g.nbrs y r c' := by
  unfold G.nbrs at h ⊢
  simp only [List.mem_filter, List.mem_filterMap] at h ⊢
  obtain ⟨⟨e, he, ho⟩, _⟩ := h
  exact ⟨⟨e, he, other_symm ho⟩, by simp [hx]⟩

theorem elem_of_cls {g : G} {x : Nat} {c : Cls} (h : g.cls? x = some c) :
    ∃ n ∈ g.nodes, n.id = x ∧ n.cls = c ∧ g.kind? x = some n.kind := by
  unfold G.cls? at h
  cases hf : g.find x with
  | none => simp [hf] at h
  | some n =>
    simp only [hf, Option.map_some, Option.some.injEq] at h
    exact ⟨n, List.mem_of_find?_eq_some hf, by simpa using List.find?_some hf, h, by simp [G.kind?, hf]⟩

theorem eq_singleton_of_mem_of_length_le_one {l : List Nat} {a : Nat} (h : a ∈ l) (hl : l.length ≤ 1) : l = [a] := by
  match l, h, hl with
  | [b], h, _ => simp at h; rw [h]
  | _ :: _ :: _, _, hl => simp at hl

theorem two_le_length_of_mem {l : List Nat} {a b : Nat} (ha : a ∈ l) (hb : b ∈ l) (hne : a ≠ b) : 2 ≤ l.length := by
  match l, ha, hb with
  | [x], ha, hb => simp at ha hb; exact absurd (ha.trans hb.symm) hne
  | _ :: _ :: _, _, _ => simp

theorem mem_dedup (l : List Nat) (y : Nat) : y ∈ dedup l ↔ y ∈ l := by
  fun_induction dedup l with
  | case1 => simp
  | case2 x xs h ih =>
    rw [ih, List.mem_cons]
    exact ⟨Or.inr, fun h' => h'.elim (fun e => e ▸ by simpa using h) id⟩
  | case3 x xs h ih => simp only [List.mem_cons, ih]

theorem nodup_dedup (l : List Nat) : (dedup l).Nodup := by
  fun_induction dedup l with
  | case1 => simp
  | case2 x xs h ih => exact ih
  | case3 x xs h ih =>
    rw [List.nodup_cons, mem_dedup]
    exact ⟨by simpa using h, ih⟩

theorem mem_cpFamily {g : G} {x : Nat} {dp : Bool} {f : Nat} :
    f ∈ cpFamily g x dp ↔ f = x ∨ (f ∈ g.nbrs x .connects .cp ∧ (g.nbrs f .connects .cp).length = 1 ∧ dp = true) := by
  simp only [cpFamily, List.mem_cons, List.mem_filter, Bool.and_eq_true, beq_iff_eq]

theorem mem_cpFamily_self {g : G} {x : Nat} {dp : Bool} : x ∈ cpFamily g x dp := List.mem_cons_self

theorem cpFamily_false (g : G) (x : Nat) : cpFamily g x false = [x] := by
  simp [cpFamily]

theorem mem_cpDel_fam {g : G} {x : Nat} {dp : Bool} {y : Nat} :
    y ∈ cpDel g x dp ↔ ∃ f ∈ cpFamily g x dp, y = f ∨ (y ∈ g.nbrs f .connects .link ∧ (g.nbrs y .connects .cp).length = 2) := by
  simp only [cpDel, mem_dedup, List.mem_append, cpLinks, List.mem_flatMap, List.mem_filter, beq_iff_eq]
  constructor
  · rintro (h | ⟨f, hf, h⟩)
    · exact ⟨y, h, Or.inl rfl⟩
    · exact ⟨f, hf, Or.inr h⟩
  · rintro ⟨f, hf, rfl | h⟩
    · exact Or.inl hf
    · exact Or.inr ⟨f, hf, h⟩

theorem self_mem_cpDel (g : G) (x : Nat) (dp : Bool) : x ∈ cpDel g x dp :=
  mem_cpDel_fam.mpr ⟨x, mem_cpFamily_self, Or.inl rfl⟩

theorem cpDel_has (g : G) (x : Nat) (dp : Bool) (hx : g.has x = true) : ∀ y ∈ cpDel g x dp, g.has y = true := by
  intro y hy
  obtain ⟨f, hf, hy⟩ := mem_cpDel_fam.mp hy
  have hfx : g.has f = true := (mem_cpFamily.mp hf).elim (fun e => e ▸ hx) fun h => mem_nbrs_has h.1
  exact hy.elim (fun e => e ▸ hfx) fun h => mem_nbrs_has h.1

theorem removeCp_minus {g : G} {x : Nat} {dp : Bool} (hx : g.has x = true) :
    removeCp g x dp = .ok (g.minus (cpDel g x dp)) := by
  simp only [removeCp, hx, ite_true]
  exact deleteAll_minus g _ (cpDel_has g x dp hx) (nodup_dedup _)

theorem removeCp_ok {g g' : G} {x : Nat} {dp : Bool} (h : removeCp g x dp = .ok g') : g' = g.minus (cpDel g x dp) := by
  have hx : g.has x = true := by
    unfold removeCp at h; split at h
    · assumption
    · cases h
  rw [removeCp_minus hx] at h
  exact (Except.ok.inj h).symm

/-- `A` (what has been deleted) has left the family of `i` alone: `i`, its connection-point neighbours and theirs, so that
`remove_cp_and_links(i)` computes the same family in `g.minus A` as in `g` -/
def SepFam (g : G) (A : List Nat) (i : Nat) : Bool :=
  !A.contains i &&
  (g.nbrs i .connects .cp).all (fun p => !A.contains p && (g.nbrs p .connects .cp).all (fun q => !A.contains q))

theorem sepFam_iff {g : G} {A : List Nat} {i : Nat} :
    SepFam g A i = true ↔ i ∉ A ∧ ∀ p ∈ g.nbrs i .connects .cp, p ∉ A ∧ ∀ q ∈ g.nbrs p .connects .cp, q ∉ A := by
  simp only [SepFam, Bool.and_eq_true, Bool.not_eq_true', List.all_eq_true, List.contains_eq_mem, decide_eq_false_iff_not]

theorem cpFamily_minus {g : G} {A : List Nat} {i : Nat} (dp : Bool) (h : SepFam g A i = true) :
    cpFamily (g.minus A) i dp = cpFamily g i dp := by
  obtain ⟨hi, hp⟩ := sepFam_iff.mp h
  simp only [cpFamily]
  rw [nbrs_minus (contains_false hi), List.filter_eq_self.mpr fun p hp' => not_contains (hp p hp').1]
  congr 1
  apply List.filter_congr
  intro p hp'
  rw [nbrs_minus (contains_false (hp p hp').1), List.filter_eq_self.mpr fun q hq => not_contains ((hp p hp').2 q hq)]

theorem fam_notin {g : G} {A : List Nat} {i : Nat} {dp : Bool} (h : SepFam g A i = true) :
    ∀ f ∈ cpFamily g i dp, A.contains f = false := by
  obtain ⟨hi, hp⟩ := sepFam_iff.mp h
  intro f hf
  rcases mem_cpFamily.mp hf with rfl | hf
  · exact contains_false hi
  · exact contains_false (hp f hf.1).1

/-- the links `remove_cp_and_links` finds next to the family `fam` in `g.minus A`, in terms of `g` -/
def cpLinksA (g : G) (A fam : List Nat) : List Nat :=
  fam.flatMap (fun i => (g.nbrs i .connects .link).filter
    (fun l => !A.contains l && ((g.nbrs l .connects .cp).filter (fun e => !A.contains e)).length == 2))

/-- what `remove_cp_and_links(x, dp)` deletes when run on `g.minus A` (`removeCp_after'`): `cpDel` with the link test made on the
surviving ends -/
def cpDelA (g : G) (A : List Nat) (x : Nat) (dp : Bool) : List Nat :=
  dedup (cpFamily g x dp ++ cpLinksA g A (cpFamily g x dp))

theorem cpLinks_minus (g : G) (A fam : List Nat) (h : ∀ f ∈ fam, A.contains f = false) :
    cpLinks (g.minus A) fam = cpLinksA g A fam := by
  simp only [cpLinks, cpLinksA]
  apply List.flatMap_congr'
  intro f hf
  rw [nbrs_minus (h f hf), List.filter_filter]
  apply List.filter_congr
  intro l _
  cases hA : A.contains l
  · rw [nbrs_minus hA]; exact Bool.and_comm _ _
  · simp

/-- **The general sequential step**, without any hypothesis on links -/
theorem removeCp_after' {g : G} {A : List Nat} {i : Nat} {dp : Bool} (hi : g.has i = true) (h : SepFam g A i = true) :
    removeCp (g.minus A) i dp = .ok (g.minus (A ++ cpDelA g A i dp)) := by
  have hnot := fam_notin (dp := dp) h
  have hi' : (g.minus A).has i = true := by rw [has_minus, hnot i mem_cpFamily_self, hi]; rfl
  rw [removeCp_minus hi', minus_minus]
  simp only [cpDel, cpDelA, cpFamily_minus dp h, cpLinks_minus g A _ hnot]

/-- `SepFam`, and every link of the family is in `A` already or has all its ends: `remove_cp_and_links(i)` then sees what it saw in
the full graph -/
def Sep (g : G) (A : List Nat) (i : Nat) (dp : Bool) : Bool :=
  !A.contains i &&
  (g.nbrs i .connects .cp).all (fun p => !A.contains p && (g.nbrs p .connects .cp).all (fun q => !A.contains q)) &&
  (cpFamily g i dp).all (fun f => (g.nbrs f .connects .link).all
    (fun l => A.contains l || (g.nbrs l .connects .cp).all (fun e => !A.contains e)))

theorem sepFam_of_sep {g : G} {A : List Nat} {i : Nat} {dp : Bool} (h : Sep g A i dp = true) : SepFam g A i = true := by
  simp only [Sep, Bool.and_eq_true] at h
  simp only [SepFam, Bool.and_eq_true]
  exact h.1

/-- **Sequential step.**  Under `Sep` a link of the family that is still there has all its ends, so the general step deletes `cpDel`
outside `A`. -/
theorem removeCp_after {g : G} {A : List Nat} {i : Nat} {dp : Bool} (hi : g.has i = true) (h : Sep g A i dp = true) :
    removeCp (g.minus A) i dp = .ok (g.minus (A ++ cpDel g i dp)) := by
  rw [removeCp_after' hi (sepFam_of_sep h)]
  congr 1
  apply minus_congr
  intro y
  simp only [Sep, Bool.and_eq_true, List.all_eq_true, Bool.or_eq_true] at h
  simp only [List.mem_append, cpDel, cpDelA, mem_dedup, cpLinks, cpLinksA, List.mem_flatMap, List.mem_filter, Bool.and_eq_true,
    beq_iff_eq]
  by_cases hA : y ∈ A
  · exact ⟨fun _ => Or.inl hA, fun _ => Or.inl hA⟩
  · refine or_congr_right (or_congr_right (exists_congr fun f => and_congr_right fun hf => and_congr_right fun hl => ?_))
    rcases h.2 f hf y hl with h' | h'
    · exact absurd (by simpa using h') hA
    · rw [List.filter_eq_self.mpr h']
      exact and_iff_right (not_contains hA)

/-- separation along a sequence of `remove_cp_and_links(i, True)` calls -/
def SepSeq (g : G) : List Nat → List Nat → Bool
  | _, [] => true
  | A, i :: is => g.has i && Sep g A i true && SepSeq g (A ++ cpDel g i true) is

/-- **Induction over a removal loop.**  Each call deletes a list given in the pre-state, under a hypothesis `S` chained along the
loop; `D A xs` is what is gone once the loop over `xs` has run on `g.minus A`, given by its two equations (so that the recursive
`seqDelA`, `gDel` and the closed `A ++ xs.flatMap del` all fit). -/
theorem loop_after {α : Type} {g : G} {f : G → α → Except Err G} (D : List Nat → List α → List Nat) (S : List Nat → List α → Bool)
    (hnil : ∀ A, D A [] = A)
    (hcons : ∀ A x xs, S A (x :: xs) = true →
      ∃ A', f (g.minus A) x = .ok (g.minus A') ∧ S A' xs = true ∧ D A (x :: xs) = D A' xs)
    {xs : List α} {A : List Nat} (h : S A xs = true) : xs.foldlM f (g.minus A) = .ok (g.minus (D A xs)) := by
  induction xs generalizing A with
  | nil => rw [hnil]; rfl
  | cons x xs ih =>
    obtain ⟨A', h1, h2, h3⟩ := hcons A x xs h
    rw [List.foldlM_cons, h1, h3]
    exact ih h2

/-- `del x` is given in the pre-state whatever has gone before; `hS` is `rfl` for the recursive Boolean predicates `SepSeq`, `SepNsSeq`, .. -/
theorem seq_after {α : Type} {g : G} {f : G → α → Except Err G} {del : α → List Nat} {S : List Nat → List α → Bool}
    {hyp : List Nat → α → Bool} (hS : ∀ A x xs, S A (x :: xs) = (hyp A x && S (A ++ del x) xs))
    (hf : ∀ A x, hyp A x = true → f (g.minus A) x = .ok (g.minus (A ++ del x)))
    {xs : List α} {A : List Nat} (h : S A xs = true) :
    xs.foldlM f (g.minus A) = .ok (g.minus (A ++ xs.flatMap del)) :=
  loop_after (fun A xs => A ++ xs.flatMap del) S (fun A => by simp)
    (fun A x xs h => by
      rw [hS, Bool.and_eq_true] at h
      exact ⟨_, hf A x h.1, h.2, by simp⟩) h

/-- **an element goes, then the loop over its neighbours**, which `A` has left alone -/
theorem parent_after {g : G} {A : List Nat} {x : Nat} {r : Rel} {c : Cls} {f : G → Nat → Except Err G} {del : Nat → List Nat}
    (hx : A.contains x = false) (hall : (g.nbrs x r c).all (fun y => !A.contains y) = true)
    (hloop : (g.nbrs x r c).foldlM f (g.minus (A ++ [x])) = .ok (g.minus (A ++ [x] ++ (g.nbrs x r c).flatMap del))) :
    ((g.minus A).nbrs x r c).foldlM f ((g.minus A).minus [x]) = .ok (g.minus (A ++ x :: (g.nbrs x r c).flatMap del)) := by
  rw [nbrs_minus_clean hx hall, minus_minus, hloop]; simp

theorem seqCp {g : G} {is A : List Nat} (h : SepSeq g A is = true) :
    is.foldlM (fun g i => removeCp g i true) (g.minus A) = .ok (g.minus (A ++ is.flatMap (fun i => cpDel g i true))) :=
  seq_after (fun _ _ _ => rfl) (fun A i h => by
    rw [Bool.and_eq_true] at h; exact removeCp_after h.1 h.2) h

/-- closed form of what `remove_ns_with_cps_and_links(s)` deletes, computed in the pre-state -/
def nsDel (g : G) (s : Nat) : List Nat := s :: (g.nbrs s .connects .cp).flatMap (fun i => cpDel g i true)

def SepNs (g : G) (A : List Nat) (s : Nat) : Bool :=
  g.cls? s == some .ns && !A.contains s && (g.nbrs s .connects .cp).all (fun i => !A.contains i) &&
  SepSeq g (A ++ [s]) (g.nbrs s .connects .cp)

theorem sepNs_cls {g : G} {A : List Nat} {s : Nat} (h : SepNs g A s = true) : g.cls? s = some .ns := by
  simp only [SepNs, Bool.and_eq_true, beq_iff_eq] at h; exact h.1.1.1

theorem removeNs_after {g : G} {A : List Nat} {s : Nat} (h : SepNs g A s = true) :
    removeNs (g.minus A) s = .ok (g.minus (A ++ nsDel g s)) := by
  simp only [SepNs, Bool.and_eq_true, Bool.not_eq_true', beq_iff_eq] at h
  obtain ⟨⟨⟨hc, hs⟩, hall⟩, hseq⟩ := h
  simp only [removeNs, cls_minus_keep hs, hc, beq_self_eq_true, ite_true]
  exact parent_after hs hall (seqCp hseq)

def SepNsSeq (g : G) : List Nat → List Nat → Bool
  | _, [] => true
  | A, s :: ss => SepNs g A s && SepNsSeq g (A ++ nsDel g s) ss

theorem seqNs {g : G} {ss A : List Nat} (h : SepNsSeq g A ss = true) :
    ss.foldlM removeNs (g.minus A) = .ok (g.minus (A ++ ss.flatMap (nsDel g))) :=
  seq_after (fun _ _ _ => rfl) (fun _ _ => removeNs_after) h

/-- closed form of `remove_component_with_nss_cps_and_links(c)` -/
def compDel (g : G) (c : Nat) : List Nat := c :: (g.nbrs c .has .ns).flatMap (nsDel g)

def SepComp (g : G) (A : List Nat) (c : Nat) : Bool :=
  g.cls? c == some .comp && !A.contains c && (g.nbrs c .has .ns).all (fun s => !A.contains s) &&
  SepNsSeq g (A ++ [c]) (g.nbrs c .has .ns)

theorem sepComp_cls {g : G} {A : List Nat} {c : Nat} (h : SepComp g A c = true) : g.cls? c = some .comp := by
  simp only [SepComp, Bool.and_eq_true, beq_iff_eq] at h; exact h.1.1.1

theorem removeComp_after {g : G} {A : List Nat} {c : Nat} (h : SepComp g A c = true) :
    removeComp (g.minus A) c = .ok (g.minus (A ++ compDel g c)) := by
  simp only [SepComp, Bool.and_eq_true, Bool.not_eq_true', beq_iff_eq] at h
  obtain ⟨⟨⟨hc, hs⟩, hall⟩, hseq⟩ := h
  simp only [removeComp, cls_minus_keep hs, hc, beq_self_eq_true, ite_true]
  exact parent_after hs hall (seqNs hseq)

def SepCompSeq (g : G) : List Nat → List Nat → Bool
  | _, [] => true
  | A, c :: cs => SepComp g A c && SepCompSeq g (A ++ compDel g c) cs

theorem seqComp {g : G} {cs A : List Nat} (h : SepCompSeq g A cs = true) :
    cs.foldlM removeComp (g.minus A) = .ok (g.minus (A ++ cs.flatMap (compDel g))) :=
  seq_after (fun _ _ _ => rfl) (fun _ _ => removeComp_after) h

/-- closed form of `remove_network_node_with_components_nss_cps_and_links(n)` -/
def nodeDel (g : G) (n : Nat) : List Nat :=
  (g.nbrs n .has .comp).flatMap (compDel g) ++ n :: (g.nbrs n .has .ns).flatMap (nsDel g)

def SepNode (g : G) (A : List Nat) (n : Nat) : Bool :=
  let A1 := A ++ (g.nbrs n .has .comp).flatMap (compDel g)
  g.cls? n == some .node && !A1.contains n && (g.nbrs n .has .ns).all (fun s => !A1.contains s) &&
  SepCompSeq g A (g.nbrs n .has .comp) && (g.nbrs n .has .comp).all (fun c => !A.contains c) &&
  SepNsSeq g (A1 ++ [n]) (g.nbrs n .has .ns)

theorem sepNode_cls {g : G} {A : List Nat} {n : Nat} (h : SepNode g A n = true) : g.cls? n = some .node := by
  simp only [SepNode, Bool.and_eq_true, beq_iff_eq] at h; exact h.1.1.1.1.1

theorem removeNodeG_after {g : G} {A : List Nat} {n : Nat} (h : SepNode g A n = true) :
    removeNodeG (g.minus A) n = .ok (g.minus (A ++ nodeDel g n)) := by
  simp only [SepNode, Bool.and_eq_true, Bool.not_eq_true', beq_iff_eq] at h
  obtain ⟨⟨⟨⟨⟨hc, hn⟩, hnss⟩, hcs⟩, hcA⟩, hseq⟩ := h
  have hnA : A.contains n = false := contains_false fun h => by simp [List.contains_eq_mem, h] at hn
  simp only [removeNodeG, cls_minus_keep hnA, hc, beq_self_eq_true, ite_true]
  rw [nbrs_minus_clean hnA hcA, seqComp hcs]
  simp only [bind, Except.bind]
  rw [parent_after hn hnss (seqNs hseq)]
  simp [nodeDel]

/-- the interface loop when shared links have several ends inside what is removed: only the families are separated -/
def SepFamSeq (g : G) : List Nat → List Nat → Bool
  | _, [] => true
  | A, i :: is => g.has i && SepFam g A i && SepFamSeq g (A ++ cpDelA g A i true) is

/-- what the interface loop deletes, as a fold over the pre-state -/
def seqDelA (g : G) : List Nat → List Nat → List Nat
  | A, [] => A
  | A, i :: is => seqDelA g (A ++ cpDelA g A i true) is

theorem seqCp' {g : G} {is A : List Nat} (h : SepFamSeq g A is = true) :
    is.foldlM (fun g i => removeCp g i true) (g.minus A) = .ok (g.minus (seqDelA g A is)) :=
  loop_after (seqDelA g) (SepFamSeq g) (fun _ => rfl) (fun A i _ h => by
    simp only [SepFamSeq, Bool.and_eq_true] at h
    exact ⟨_, removeCp_after' h.1.1 h.1.2, h.2, rfl⟩) h

end FimVerif.Remove
