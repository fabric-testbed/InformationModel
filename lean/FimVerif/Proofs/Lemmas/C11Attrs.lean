import FimVerif.Model.Authz
import FimVerif.Proofs.Lemmas.AddNew
import FimVerif.Proofs.Lemmas.ListAux
/-! C11: the association-list dictionary (`get`/`upd`), and every statement of the two sliver collectors seen from one key `k`: it
*adds* some values to the list of `k`, where adding is appending for the six list-valued keys and appending what is absent for all
others (`add`). The two writes the collectors make add (`get_upd_append`, `get_addIfAbsent`), hence so does every statement
(`get_typeStep` is the one assignment); statements compose by `add_add` and a loop adds what its rounds add (`get_foldl_add`).
Every statement also keeps `Good` (no key twice, none with the empty list), under which the keys present are those with values. -/
namespace FimVerif.Authz
open FimVerif.Gen.Authz

theorem get_upd (a : Attrs) (k k' : Key) (f : List Val → List Val) :
    get (upd a k f) k' = if k' = k then f (get a k) else get a k' := by
  induction a with
  | nil => simp only [upd, get]; split <;> simp_all [eq_comm]
  | cons p r ih =>
    obtain ⟨k0, v⟩ := p
    simp only [upd]
    by_cases h0 : k0 = k
    · subst h0; simp only [if_true, get]
      by_cases h1 : k0 = k'
      · subst h1; simp
      · simp [h1, Ne.symm h1]
    · simp only [h0, if_false, get]
      by_cases h1 : k0 = k'
      · subst h1; simp [h0]
      · simp only [h1, if_false, ih]

theorem keys_upd (a : Attrs) (k : Key) (f : List Val → List Val) : keys (upd a k f) = addNew (keys a) k := by
  unfold addNew
  induction a with
  | nil => simp [upd, keys]
  | cons p r ih =>
    obtain ⟨k0, v⟩ := p
    simp only [upd]
    by_cases h0 : k0 = k
    · subst h0; simp [keys]
    · have ih' : List.map (·.1) (upd r k f) = if k ∈ List.map (·.1) r then List.map (·.1) r else List.map (·.1) r ++ [k] := ih
      simp only [h0, if_false, keys, List.map_cons, List.mem_cons, ih']
      have : ¬ k = k0 := fun h => h0 h.symm
      simp only [this, false_or]
      split <;> simp

def NoEmpty (a : Attrs) : Prop := ∀ p ∈ a, p.2 ≠ []

theorem noEmpty_upd (a : Attrs) (k : Key) (f : List Val → List Val) (hf : ∀ l, f l ≠ []) (h : NoEmpty a) : NoEmpty (upd a k f) := by
  induction a with
  | nil => intro p hp; simp [upd] at hp; subst hp; exact hf _
  | cons p r ih =>
    obtain ⟨k0, v⟩ := p
    simp only [upd]
    have hr : NoEmpty r := fun q hq => h q (List.mem_cons_of_mem _ hq)
    split
    · intro q hq; simp at hq; rcases hq with rfl | hq
      · exact hf _
      · exact hr q hq
    · intro q hq; simp at hq; rcases hq with rfl | hq
      · exact h (k0, v) (by simp)
      · exact ih hr q hq

theorem mem_keys_iff (a : Attrs) (h : NoEmpty a) (k : Key) : k ∈ keys a ↔ get a k ≠ [] := by
  induction a with
  | nil => simp [keys, get]
  | cons p r ih =>
    obtain ⟨k0, v⟩ := p
    have hr : NoEmpty r := fun q hq => h q (List.mem_cons_of_mem _ hq)
    have hv : v ≠ [] := h (k0, v) (by simp)
    have ih' : k ∈ List.map (·.1) r ↔ get r k ≠ [] := ih hr
    simp only [keys, List.map_cons, List.mem_cons, get]
    by_cases h0 : k0 = k
    · subst h0; simp [hv]
    · have : ¬ k = k0 := fun e => h0 e.symm
      simp only [h0, if_false, this, false_or]; exact ih'

theorem get_of_mem (a : Attrs) (hn : (keys a).Nodup) (k : Key) (v : List Val) (h : (k, v) ∈ a) : get a k = v := by
  induction a with
  | nil => simp at h
  | cons p r ih =>
    obtain ⟨k0, v0⟩ := p
    simp only [keys, List.map_cons, List.nodup_cons] at hn
    simp only [List.mem_cons, Prod.mk.injEq] at h
    simp only [get]
    rcases h with ⟨rfl, rfl⟩ | h
    · simp
    · have : k0 ≠ k := by
        intro e; subst e; exact hn.1 (List.mem_map_of_mem (f := (·.1)) h)
      simp only [this, if_false]; exact ih hn.2 h

/-- `if v not in l: l.append(v)` -/
def ins (l : List Val) (v : Val) : List Val := if v ∈ l then l else l ++ [v]

theorem addIfAbsent_eq_upd (a : Attrs) (k : Key) (v : Val) : addIfAbsent a k v = upd a k (fun l => ins l v) := by
  unfold addIfAbsent
  simp only [get_upd, if_true, id]
  induction a with
  | nil => simp [upd, get, ins]
  | cons p r ih =>
    obtain ⟨k0, v0⟩ := p
    by_cases h0 : k0 = k
    · subst h0; simp only [upd, if_true, get, id, ins]; split <;> rfl
    · simp only [upd, h0, if_false, get]
      split
      · rename_i hm; rw [if_pos hm] at ih; rw [ih]
      · rename_i hm; rw [if_neg hm] at ih; rw [ih]

/-- first occurrences, in order: the list an append-if-absent loop builds from `l0` -/
def insAll (l0 : List Val) (xs : List Val) : List Val := xs.foldl ins l0

def dedup (xs : List Val) : List Val := insAll [] xs

theorem ins_eq_insAll (l : List Val) (v : Val) : ins l v = insAll l [v] := rfl

theorem insAll_nil (l : List Val) : insAll l [] = l := rfl

theorem mem_dedup (xs : List Val) (x : Val) : x ∈ dedup xs ↔ x ∈ xs := (mem_foldl_addNew [] xs x).trans (by simp)

theorem nodup_dedup (xs : List Val) : (dedup xs).Nodup := nodup_foldl_addNew [] xs List.nodup_nil

theorem insAll_append (l0 xs ys : List Val) : insAll l0 (xs ++ ys) = insAll (insAll l0 xs) ys := by
  simp [insAll, List.foldl_append]

/-- no key occurs twice and none holds the empty list, so the keys present are those with values (`mem_keys_iff`). The second is a
fact about the statements of the collectors, not about the dictionary: a `defaultdict` *read* creates its key with an empty list
(`addIfAbsent` begins with one). -/
def Good (a : Attrs) : Prop := (keys a).Nodup ∧ NoEmpty a

theorem good_upd (a : Attrs) (k : Key) (f : List Val → List Val) (hf : ∀ l, f l ≠ []) (h : Good a) : Good (upd a k f) :=
  ⟨keys_upd a k f ▸ nodup_addNew _ k h.1, noEmpty_upd a k f hf h.2⟩

theorem good_addIfAbsent (a : Attrs) (k : Key) (v : Val) (h : Good a) : Good (addIfAbsent a k v) := by
  rw [addIfAbsent_eq_upd]; exact good_upd a k _ (fun l => addNew_ne_nil l v) h

theorem good_append (a : Attrs) (k : Key) (v : Val) (h : Good a) : Good (upd a k (· ++ [v])) :=
  good_upd a k _ (fun l => by simp) h

/-- the attributes that are lists, one entry per node, component, service or facility; every other attribute is a set. These are the
six keys `_collect_attributes_from_node_sliver`, `_collect_attributes_from_ns_sliver` and the facility loop of
`_collect_attributes_from_topo` write with a bare `.append`; their writes to `RESOURCE_SITE` and to the `NSTYPE_LUT` targets are
guarded by `not in`. -/
def listKeys : List Key :=
  [.RESOURCE_CPU, .RESOURCE_RAM, .RESOURCE_DISK, .RESOURCE_BW, .RESOURCE_COMPONENT, .RESOURCE_FACILITY_PORT]

/-- `l` with the values `c` added the way the collectors add to key `k`: `d[k].append(v)` for a list,
`if v not in d[k]: d[k].append(v)` for a set -/
def add (k : Key) (l c : List Val) : List Val := if k ∈ listKeys then l ++ c else insAll l c

theorem add_list {k : Key} (hk : k ∈ listKeys) (l c : List Val) : add k l c = l ++ c := if_pos hk

theorem add_set {k : Key} (hk : k ∉ listKeys) (l c : List Val) : add k l c = insAll l c := if_neg hk

theorem add_nil (k : Key) (l : List Val) : add k l [] = l := by
  unfold add; split
  · exact List.append_nil l
  · exact insAll_nil l

theorem add_add (k : Key) (l c c' : List Val) : add k (add k l c) c' = add k l (c ++ c') := by
  unfold add; split
  · exact List.append_assoc l c c'
  · exact (insAll_append l c c').symm

theorem add_perm (k : Key) {c c' : List Val} (h : c.Perm c') : (add k [] c).Perm (add k [] c') := by
  unfold add; split
  · exact h.append_left []
  · exact perm_foldl_addNew (.refl _) .nil h

/-- For a set key what `add k l c` appends depends on `l` (`insAll` skips what `l` has), so the closed form of a loop carries its start
`get a k` along; it is not `get a k ++ ..`. -/
theorem get_foldl_add {α : Type} {step : Attrs → α → Attrs} {k : Key} {c : α → List Val}
    (h : ∀ a x, get (step a x) k = add k (get a k) (c x)) (xs : List α) (a : Attrs) :
    get (xs.foldl step a) k = add k (get a k) (xs.flatMap c) := by
  induction xs generalizing a with
  | nil => exact (add_nil k _).symm
  | cons x xs ih => rw [List.foldl_cons, ih, h, add_add, List.flatMap_cons]

theorem get_upd_append {K : Key} (hK : K ∈ listKeys) (a : Attrs) (vs : List Val) (k : Key) :
    get (upd a K (· ++ vs)) k = add k (get a k) (if k = K then vs else []) := by
  rw [get_upd]
  by_cases hk : k = K
  · subst hk; rw [if_pos rfl, if_pos rfl, add_list hK]
  · rw [if_neg hk, if_neg hk, add_nil]

theorem get_addIfAbsent {K : Key} (hK : K ∉ listKeys) (a : Attrs) (v : Val) (k : Key) :
    get (addIfAbsent a K v) k = add k (get a k) (if k = K then [v] else []) := by
  rw [addIfAbsent_eq_upd, get_upd]
  by_cases hk : k = K
  · subst hk; rw [if_pos rfl, if_pos rfl, add_set hK]; rfl
  · rw [if_neg hk, if_neg hk, add_nil]

theorem flatMap_none {α β : Type} (xs : List α) : xs.flatMap (fun _ => ([] : List β)) = [] :=
  List.flatMap_eq_nil_iff.mpr fun _ _ => rfl

def optVal (o : Option Val) : List Val := o.toList

theorem flatMap_optVal_map {α β : Type} (f : α → Option β) (g : β → Val) (xs : List α) :
    (xs.flatMap fun x => optVal ((f x).map g)) = (xs.filterMap f).map g := by
  induction xs with
  | nil => rfl
  | cons x xs ih =>
    simp only [List.flatMap_cons, ih, List.filterMap_cons]
    cases f x <;> simp [optVal]

def siteVal (site : String) : List Val := if site ≠ "" then [.s site] else []

theorem mem_flatMap_siteVal {α : Type} (f : α → String) (l : List α) (v : Val) :
    v ∈ l.flatMap (fun a => siteVal (f a)) ↔ ∃ x, v = .s x ∧ x ≠ "" ∧ ∃ a ∈ l, f a = x := by
  simp only [List.mem_flatMap, siteVal]
  constructor
  · rintro ⟨a, ha, h⟩
    by_cases hs : f a = "" <;> simp [hs] at h
    exact ⟨f a, h, hs, a, ha, rfl⟩
  · rintro ⟨x, rfl, hx, a, ha, rfl⟩
    exact ⟨a, ha, by simp [hx]⟩

/-! ### `_collect_attributes_from_node_sliver` -/

/-- the one attribute that is assigned: no other statement of either collector touches it -/
theorem get_typeStep (a : Attrs) (n : NodeS) (k : Key) :
    get (typeStep a n) k = if k = .RESOURCE_TYPE ∧ n.ntype = switchNodeType then [.s switchType] else get a k := by
  unfold typeStep; split
  · rename_i h; simp only [get_upd, h, and_true]
  · rename_i h; simp only [h, and_false, if_false]

theorem good_typeStep (a : Attrs) (n : NodeS) (h : Good a) : Good (typeStep a n) := by
  unfold typeStep; split
  · exact good_upd _ _ _ (by intro l; simp) h
  · exact h

def capsAdds (n : NodeS) (k : Key) : List Val :=
  (if k = .RESOURCE_CPU then optVal (n.caps.map fun c => .i c.core) else []) ++
  (if k = .RESOURCE_RAM then optVal (n.caps.map fun c => .i c.ram) else []) ++
  (if k = .RESOURCE_DISK then optVal (n.caps.map fun c => .i c.disk) else [])

theorem get_capsStep (a : Attrs) (n : NodeS) (k : Key) : get (capsStep a n) k = add k (get a k) (capsAdds n k) := by
  unfold capsStep capsAdds
  cases n.caps with
  | none => simp [optVal, add_nil]
  | some c =>
    rw [get_upd_append (by decide), get_upd_append (by decide), get_upd_append (by decide), add_add, add_add, ← List.append_assoc]
    rfl

theorem good_capsStep (a : Attrs) (n : NodeS) (h : Good a) : Good (capsStep a n) := by
  unfold capsStep; split
  · exact good_append _ _ _ (good_append _ _ _ (good_append _ _ _ h))
  · exact h

def siteAdds (site : String) (k : Key) : List Val := if k = .RESOURCE_SITE then siteVal site else []

theorem get_siteStep (a : Attrs) (site : String) (k : Key) : get (siteStep a site) k = add k (get a k) (siteAdds site k) := by
  unfold siteStep siteAdds siteVal
  split
  · exact get_addIfAbsent (by decide) a _ k
  · simp [add_nil]

theorem good_siteStep (a : Attrs) (site : String) (h : Good a) : Good (siteStep a site) := by
  unfold siteStep; split
  · exact good_addIfAbsent _ _ _ h
  · exact h

def compsAdds (n : NodeS) (k : Key) : List Val :=
  (n.comps.getD []).flatMap fun c => if k = .RESOURCE_COMPONENT then [.s c] else []

theorem get_compsStep (a : Attrs) (n : NodeS) (k : Key) : get (compsStep a n) k = add k (get a k) (compsAdds n k) := by
  unfold compsStep compsAdds
  cases n.comps with
  | none => exact (add_nil k _).symm
  | some cs => exact get_foldl_add (fun a c => get_upd_append (by decide) a [.s c] k) cs a

theorem good_compsStep (a : Attrs) (n : NodeS) (h : Good a) : Good (compsStep a n) := by
  unfold compsStep; split
  · exact List.foldl_invariant Good h fun a ha c _ => good_append _ _ _ ha
  · exact h

/-- what a node adds to key `k` (`RESOURCE_TYPE` apart) -/
def nodeAdds (n : NodeS) (k : Key) : List Val := capsAdds n k ++ siteAdds n.site k ++ compsAdds n k

theorem get_nodeStep (a : Attrs) (n : NodeS) (k : Key) (hk : k ≠ .RESOURCE_TYPE) :
    get (nodeStep a n) k = add k (get a k) (nodeAdds n k) := by
  unfold nodeStep nodeAdds
  rw [get_compsStep, get_siteStep, get_capsStep, get_typeStep, if_neg fun h => hk h.1, add_add, add_add, List.append_assoc]

theorem get_nodeStep_type (a : Attrs) (n : NodeS) :
    get (nodeStep a n) .RESOURCE_TYPE = if n.ntype = switchNodeType then [.s switchType] else get a .RESOURCE_TYPE := by
  unfold nodeStep
  rw [get_compsStep, get_siteStep, get_capsStep, get_typeStep]
  simp [capsAdds, siteAdds, compsAdds, flatMap_none, add_nil]

theorem good_nodeStep (a : Attrs) (n : NodeS) (h : Good a) : Good (nodeStep a n) :=
  good_compsStep _ _ (good_siteStep _ _ (good_capsStep _ _ (good_typeStep _ _ h)))

/-! ### `_collect_attributes_from_ns_sliver` -/

def bwAdds (s : SvcS) (k : Key) : List Val := if k = .RESOURCE_BW then optVal (s.bw.map Val.i) else []

theorem get_bwStep (a : Attrs) (s : SvcS) (k : Key) : get (bwStep a s) k = add k (get a k) (bwAdds s k) := by
  unfold bwStep bwAdds
  cases s.bw with
  | none => simp [optVal, add_nil]
  | some b => exact get_upd_append (by decide) a _ k

theorem good_bwStep (a : Attrs) (s : SvcS) (h : Good a) : Good (bwStep a s) := by
  unfold bwStep; split
  · exact good_append _ _ _ h
  · exact h

/-- the site attribute a service is listed under, if any: its type's NSTYPE_LUT entry unless exempt -/
def listedUnder (P : List (Option String)) (s : SvcS) (k : Key) : Prop :=
  lutFind s.stype nstypeLut = some k ∧ ¬ exempt P s

instance (P : List (Option String)) (s : SvcS) (k : Key) : Decidable (listedUnder P s k) := by
  unfold listedUnder; exact inferInstance

theorem lutFind_mem (t : String) (k : Key) (l : List (String × Key)) (h : lutFind t l = some k) : k ∈ l.map (·.2) := by
  induction l with
  | nil => simp [lutFind] at h
  | cons p r ih =>
    obtain ⟨t0, k0⟩ := p
    simp only [lutFind] at h
    split at h
    · simp at h; simp [h]
    · simp [ih h]

theorem lut_set : ∀ k ∈ nstypeLut.map (·.2), k ∉ listKeys := by decide

def listAdds (P : List (Option String)) (s : SvcS) (k : Key) : List Val := if listedUnder P s k then [.s (effSite s)] else []

theorem get_listStep (P : List (Option String)) (a : Attrs) (s : SvcS) (k : Key) :
    get (listStep P a s) k = add k (get a k) (listAdds P s k) := by
  unfold listStep listAdds listedUnder
  split
  · rename_i h; simp [h, add_nil]
  · rename_i k0 h
    by_cases he : exempt P s
    · simp [he, add_nil]
    · simp only [he, if_false, h, Option.some.injEq, not_false_eq_true, and_true, eq_comm (a := k0)]
      exact get_addIfAbsent (lut_set k0 (lutFind_mem _ _ _ h)) a _ k

theorem good_listStep (P : List (Option String)) (a : Attrs) (s : SvcS) (h : Good a) : Good (listStep P a s) := by
  unfold listStep; split
  · exact h
  · split
    · exact h
    · exact good_addIfAbsent _ _ _ h

def svcAdds (P : List (Option String)) (s : SvcS) (k : Key) : List Val := bwAdds s k ++ siteAdds s.site k ++ listAdds P s k

theorem get_svcStep (P : List (Option String)) (a : Attrs) (s : SvcS) (k : Key) :
    get (svcStep P a s) k = add k (get a k) (svcAdds P s k) := by
  unfold svcStep svcAdds
  rw [get_listStep, get_siteStep, get_bwStep, add_add, add_add, List.append_assoc]

theorem good_svcStep (P : List (Option String)) (a : Attrs) (s : SvcS) (h : Good a) : Good (svcStep P a s) :=
  good_listStep _ _ _ (good_siteStep _ _ (good_bwStep _ _ h))

def facAdds (f : String) (k : Key) : List Val := if k = .RESOURCE_FACILITY_PORT then [.s f] else []

theorem get_facStep (a : Attrs) (f : String) (k : Key) : get (facStep a f) k = add k (get a k) (facAdds f k) :=
  get_upd_append (by decide) a _ k

theorem good_init : Good init := by
  constructor
  · simp [init, keys]
  · intro p hp; simp [init] at hp; subst hp; simp

theorem good_collect (sl : Slice) : Good (collect sl) := by
  unfold collect
  exact List.foldl_invariant Good (List.foldl_invariant Good (List.foldl_invariant Good good_init fun a ha n _ => good_nodeStep a n ha)
    fun a ha s _ => good_svcStep _ a s ha) fun a ha f _ => good_append a _ _ ha

end FimVerif.Authz
