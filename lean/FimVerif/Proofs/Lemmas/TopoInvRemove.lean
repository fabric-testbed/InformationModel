import FimVerif.Proofs.Lemmas.TopoInvGraph
import FimVerif.Proofs.Lemmas.TopoAtomicDetach
/-!
# C07 — property-rewriting and removing calls

`set_property/set_properties`, `unset_property` keep every predicate that is stable under an in-place rewrite keeping id, class, type
and name (`MapStable`; `Inv` and `NamesOk` are: `TopoInvNames`).  `rename` keeps those stable under a rewrite keeping id, class and type
(`KeyStable`; `InvS` and `InvD` are: `TopoInvGraph`) — not the name scopes (known finding).  Every removing call is a composition of reads and
`delete_node`, so it keeps every predicate that survives `dropNode` (`DropStable`: `InvD`), whether it returns or raises half-way.
-/
namespace FimVerif.Topo
open FimVerif FimVerif.M

def DropStable (P : Topo → Prop) : Prop := ∀ r s, P s → P (dropNode r s)

theorem dropStable_invD : DropStable InvD := fun r _ h => invD_dropNode r h

/-- rewriting the properties of the element `r` (the `modify` of `updateProps` and `unsetProp`) -/
theorem MapStable.props {P : Topo → Prop} (hP : MapStable P) (r : Ref) (g : Props → Props) {s : Topo} (h : P s) :
    P (mapNodes (fun m => if m.ref == r then { m with props := g m.props } else m) s) :=
  hP _ (fun n => by split <;> simp) (fun n => by split <;> rfl) s h

theorem preserves_updateProps {P : Topo → Prop} (hP : MapStable P) (nid : Nid) (new : Props) : Preserves P (updateProps nid new) := by
  unfold updateProps
  exact Preserves.ro_bind (readOnly_findNode _) fun n => preserves_modify fun _ h => hP.props n.ref (dictUpdate · new) h

theorem preserves_setProps {P : Topo → Prop} (hP : MapStable P) (nid : Nid) (props : List PropArg) : Preserves P (setProps nid props) := by
  unfold setProps
  exact Preserves.ro_bind (readOnly_ofExcept _) (fun _ => preserves_updateProps hP _ _)

theorem preserves_unsetProp {P : Topo → Prop} (hP : MapStable P) (nid : Nid) (g : Option String) : Preserves P (unsetProp nid g) := by
  unfold unsetProp
  split
  · exact ReadOnly.preserves (readOnly_pure _)
  · refine Preserves.ro_bind (readOnly_guard _ _) (fun _ => ?_)
    refine Preserves.ro_bind (readOnly_findNode _) (fun n => ?_)
    exact Preserves.ro_bind (readOnly_guard _ _) fun _ => preserves_modify fun _ h => hP.props n.ref (·.filter fun q => q.1 != _) h

theorem preserves_rename {P : Topo → Prop} (hP : KeyStable P) (cls : Cls) (nid : Nid) (nm : String) : Preserves P (rename cls nid nm) := by
  unfold rename
  refine Preserves.ro_bind (readOnly_guard _ _) (fun _ => ?_)
  refine Preserves.ro_bind (readOnly_findNode _) (fun n => preserves_modify (fun s h => ?_))
  exact hP _ (fun m => by split <;> simp) s h

section
variable {P : Topo → Prop} (hP : DropStable P)
include hP

theorem preserves_deleteNode (nid : Nid) : Preserves P (deleteNode nid) := by
  unfold deleteNode
  exact Preserves.ro_bind (readOnly_findNode _) (fun n => preserves_modify (fun s h => hP n.ref s h))

/-! In the proofs below each `Preserves.ro_bind (by ro)` passes one reading bind of the model function (`Model/Topo.lean`), in its order;
`Preserves.bind` passes a writing one. -/

theorem preserves_removeCpAndLinks (nid : Nid) (b : Bool) : Preserves P (removeCpAndLinks nid b) := by
  unfold removeCpAndLinks
  refine Preserves.ro_bind (by ro) (fun _ => ?_)
  refine Preserves.ro_bind (by ro) (fun _ => ?_)
  refine Preserves.ro_bind (by ro) (fun _ => ?_)
  exact preserves_forEach (fun _ => preserves_deleteNode hP _)

theorem preserves_removeNs (nid : Nid) : Preserves P (removeNs nid) := by
  unfold removeNs
  refine Preserves.ro_bind (by ro) (fun _ => ?_)
  refine Preserves.ro_bind (by ro) (fun _ => ?_)
  refine Preserves.ro_bind (by ro) (fun _ => ?_)
  refine Preserves.bind (preserves_deleteNode hP _) (fun _ => ?_)
  exact preserves_forEach (fun _ => preserves_removeCpAndLinks hP _ _)

theorem preserves_removeCompGraph (nid : Nid) : Preserves P (removeCompGraph nid) := by
  unfold removeCompGraph
  refine Preserves.ro_bind (by ro) (fun _ => ?_)
  refine Preserves.ro_bind (by ro) (fun _ => ?_)
  refine Preserves.ro_bind (by ro) (fun _ => ?_)
  refine Preserves.bind (preserves_deleteNode hP _) (fun _ => ?_)
  exact preserves_forEach (fun _ => preserves_removeNs hP _)

theorem preserves_removeNodeGraph (nid : Nid) : Preserves P (removeNodeGraph nid) := by
  unfold removeNodeGraph
  refine Preserves.ro_bind (by ro) (fun _ => ?_)
  refine Preserves.ro_bind (by ro) (fun _ => ?_)
  refine Preserves.ro_bind (by ro) (fun _ => ?_)
  refine Preserves.bind (preserves_forEach (fun _ => preserves_removeCompGraph hP _)) (fun _ => ?_)
  refine Preserves.ro_bind (by ro) (fun _ => ?_)
  refine Preserves.bind (preserves_deleteNode hP _) (fun _ => ?_)
  exact preserves_forEach (fun _ => preserves_removeNs hP _)

theorem preserves_disconnectInterface (cache : Cache) (i : IfArg) : Preserves P (disconnectInterface cache i) := by
  unfold disconnectInterface
  split
  · exact ReadOnly.preserves (readOnly_raise _)
  · refine Preserves.ro_bind (readOnly_peersOf _) (fun _ => ?_)
    refine Preserves.ro_bind (readOnly_mapM' (fun _ => readOnly_findNode _)) (fun _ => ?_)
    split
    · exact ReadOnly.preserves (readOnly_pure _)
    · refine Preserves.ro_bind (readOnly_guard _ _) (fun _ => ?_)
      refine Preserves.bind (preserves_removeCpAndLinks hP _ _) (fun _ => ?_)
      exact ReadOnly.preserves (readOnly_pure _)

theorem preserves_detachOne (ii : Nid) : Preserves P (detachOne ii) := by
  unfold detachOne
  -- `if Rules.detachSkipsGone && !there then pure () else …` (interface already gone: skipped)
  refine .ro_bind (readOnly_read _) fun _ => .ite (ReadOnly.preserves (readOnly_pure _)) ?_
  refine .ro_bind (readOnly_peersOf _) fun _ => ?_
  refine .ro_bind (readOnly_mapM' fun _ => readOnly_findNode _) fun _ => ?_
  dsimp only
  split
  · exact ReadOnly.preserves (readOnly_pure _)
  · refine .ro_bind (readOnly_parentService _) fun _ => ?_
    exact .bind (preserves_disconnectInterface hP _ _) fun _ => ReadOnly.preserves (readOnly_pure _)
  · exact ReadOnly.preserves (readOnly_raise _)

theorem preserves_detachAll (ifs : List Nid) : Preserves P (detachAll ifs) := by
  rw [detachAll_eq]
  refine preserves_forEach fun i => ?_
  unfold detachStep
  refine .ro_bind (readOnly_read _) fun _ => .ite (ReadOnly.preserves (readOnly_pure _)) ?_
  refine .ro_bind (readOnly_findNode _) fun _ => ?_
  -- `do` has pushed the loop into both branches of `kids ← if … then … else …`
  show Preserves P (if _ then _ else _)
  refine .ite ?_ ?_
  · exact .ro_bind (readOnly_firstNeighbor ..) fun _ => preserves_forEach fun ii => preserves_detachOne hP ii
  · exact .ro_bind (readOnly_pure _) fun _ => preserves_forEach fun ii => preserves_detachOne hP ii

theorem preserves_removeNode (name : String) : Preserves P (removeNode name) := by
  unfold removeNode
  refine Preserves.ro_bind (by ro) (fun _ => ?_)
  refine Preserves.ro_bind (by ro) (fun _ => ?_)
  refine Preserves.ro_bind (by ro) (fun _ => ?_)
  refine Preserves.ro_bind (by ro) (fun _ => ?_)
  refine Preserves.bind (preserves_detachAll hP _) (fun _ => ?_)
  refine Preserves.ro_bind (by ro) (fun _ => ?_)
  exact preserves_removeNodeGraph hP _

theorem preserves_removeFacility (name : String) : Preserves P (removeFacility name) := by
  unfold removeFacility
  refine Preserves.ro_bind (by ro) (fun _ => ?_)
  refine Preserves.ro_bind (by ro) (fun _ => ?_)
  refine Preserves.ro_bind (by ro) (fun _ => ?_)
  refine Preserves.bind (preserves_detachAll hP _) (fun _ => ?_)
  refine Preserves.ro_bind (by ro) (fun _ => ?_)
  exact preserves_removeNodeGraph hP _

theorem preserves_removeSwitch (name : String) : Preserves P (removeSwitch name) := by
  unfold removeSwitch
  refine Preserves.ro_bind (by ro) (fun _ => ?_)
  refine Preserves.ro_bind (by ro) (fun _ => ?_)
  exact preserves_removeNode hP _

theorem preserves_removeLink (name : String) : Preserves P (removeLink name) := by
  unfold removeLink
  refine Preserves.ro_bind (by ro) (fun _ => ?_)
  refine Preserves.ro_bind (by ro) (fun _ => ?_)
  refine Preserves.bind (preserves_deleteNode hP _) (fun _ => ?_)
  exact preserves_forEach (fun _ => preserves_removeCpAndLinks hP _ _)

theorem preserves_removeService (name : String) : Preserves P (removeService name) := by
  unfold removeService
  refine Preserves.ro_bind (by ro) (fun _ => ?_)
  refine Preserves.ro_bind (by ro) (fun _ => ?_)
  refine Preserves.bind (preserves_detachAll hP _) (fun _ => ?_)
  exact preserves_removeNs hP _

theorem preserves_nodeRemoveService (parent : Nid) (name : String) : Preserves P (nodeRemoveService parent name) := by
  unfold nodeRemoveService
  refine Preserves.ro_bind (by ro) (fun _ => ?_)
  refine Preserves.ro_bind (by ro) (fun _ => ?_)
  refine Preserves.ro_bind (by ro) (fun _ => ?_)
  refine Preserves.bind (preserves_detachAll hP _) (fun _ => ?_)
  exact preserves_removeNs hP _

theorem preserves_removeComponent (parent : Nid) (name : String) : Preserves P (removeComponent parent name) := by
  unfold removeComponent
  refine Preserves.ro_bind (by ro) (fun _ => ?_)
  refine Preserves.ro_bind (by ro) (fun _ => ?_)
  refine Preserves.ro_bind (by ro) (fun _ => ?_)
  refine Preserves.bind (preserves_detachAll hP _) (fun _ => ?_)
  exact preserves_removeCompGraph hP _

theorem preserves_nsRemoveInterface (fl : Flavour) (svc : Nid) (name : String) : Preserves P (nsRemoveInterface fl svc name) := by
  unfold nsRemoveInterface
  refine Preserves.ro_bind (by ro) (fun _ => ?_)
  refine Preserves.ro_bind (by ro) (fun _ => ?_)
  refine Preserves.ro_bind (by ro) (fun _ => ?_)
  exact preserves_removeCpAndLinks hP _ _

end
end FimVerif.Topo
