import FimVerif.Proofs.Lemmas.C01Doc
import FimVerif.Proofs.Lemmas.C01Iter
import FimVerif.Proofs.Lemmas.C01Store
/-! The copy of a well-formed graph that `add_graph` / `add_graph_direct` put into a store (`copyWith`), and the shared store after the
copy has been stored under an id (`stored`): the invariant holds, the id reads the copy, every other id reads what it read. -/
namespace FimVerif.C01
open FimVerif.GraphML

variable {κ : Type}

/-- what every `nx.Graph` value satisfies -/
def GraphWF (G : Graph κ) : Prop :=
  G.keys.Nodup ∧ ∀ e ∈ G.edges, e.a ∈ G.keys ∧ e.b ∈ G.keys

/-- every node has a truthy `NodeID` (what `add_graph` checks) -/
def HasNodeIds (G : Graph κ) : Prop :=
  ∀ p ∈ G.nodes, ((p.2.get? "NodeID").map Val.truthy).getD false = true

instance [DecidableEq κ] (G : Graph κ) : Decidable (GraphWF G) := by unfold GraphWF Graph.keys; exact inferInstance
instance (G : Graph κ) : Decidable (HasNodeIds G) := by unfold HasNodeIds; exact inferInstance

/-- the copy `add_graph` stores -/
def stampedCopy [DecidableEq κ] (G : Graph κ) (start : Nat) (g : Val) : Graph Nat :=
  { nodes := G.nodes.map fun p => (start + G.keys.idxOf p.1, p.2.set "GraphID" g),
    edges := G.edgesIter.map (ren fun k => start + G.keys.idxOf k) }

/-- the copy `add_graph_direct` stores -/
def directCopy [DecidableEq κ] (G : Graph κ) (start : Nat) : Graph Nat :=
  { nodes := G.nodes.map fun p => (start + G.keys.idxOf p.1, p.2),
    edges := G.edgesIter.map (ren fun k => start + G.keys.idxOf k) }

/-- `stampedCopy` and `directCopy` are the instances `·.set "GraphID" g` and `id`, by `rfl` -/
def copyWith [DecidableEq κ] (G : Graph κ) (start : Nat) (at' : Attrs → Attrs) : Graph Nat :=
  { nodes := G.nodes.map fun p => (start + G.keys.idxOf p.1, at' p.2),
    edges := G.edgesIter.map (ren fun k => start + G.keys.idxOf k) }

theorem relabelFrom_with [DecidableEq κ] (G : Graph κ) (start : Nat) (at' : Attrs → Attrs) :
    ({ Store.relabelFrom G start with nodes := (Store.relabelFrom G start).nodes.map fun p => (p.1, at' p.2) } : Graph Nat)
      = copyWith G start at' := by
  simp only [Store.relabelFrom, Graph.relabel, copyWith, List.map_map, Function.comp_def]
  rfl

theorem relabelFrom_hasNodeIds [DecidableEq κ] (G : Graph κ) (start : Nat) :
    ((Store.relabelFrom G start).nodes.all fun p => ((p.2.get? "NodeID").map Val.truthy).getD false) = true ↔ HasNodeIds G := by
  simp only [Store.relabelFrom, Graph.relabel, List.all_map, List.all_eq_true]; rfl

theorem copyWith_keys [DecidableEq κ] (G : Graph κ) (start : Nat) (at' : Attrs → Attrs) :
    (copyWith G start at').keys = G.keys.map fun k => start + G.keys.idxOf k := by
  simp [copyWith, Graph.keys, List.map_map, Function.comp_def]

theorem copy_renaming_injective [DecidableEq κ] (G : Graph κ) (start : Nat) :
    ∀ x ∈ G.keys, ∀ y ∈ G.keys, start + G.keys.idxOf x = start + G.keys.idxOf y → x = y :=
  fun x hx y _ e => List.idxOf_inj hx (by omega)

theorem edgesIter_ends [DecidableEq κ] (G : Graph κ) (h : GraphWF G) : ∀ e ∈ G.edgesIter, e.a ∈ G.keys ∧ e.b ∈ G.keys :=
  ends_iterFrom (· ∈ G.keys) G.edges h.2 [] G.keys

theorem copyWith_wf [DecidableEq κ] (G : Graph κ) (hw : GraphWF G) (start : Nat) (at' : Attrs → Attrs) :
    GraphWF (copyWith G start at') := by
  refine ⟨?_, fun e he => ?_⟩ <;> rw [copyWith_keys]
  · exact List.pairwise_map.2 (hw.1.imp_of_mem fun hx hy hne e => hne (copy_renaming_injective G start _ hx _ hy e))
  · obtain ⟨e0, he0, rfl⟩ := List.mem_map.mp he
    obtain ⟨ha, hb⟩ := edgesIter_ends G hw e0 he0
    exact ⟨List.mem_map_of_mem ha, List.mem_map_of_mem hb⟩

theorem copyWith_iter [DecidableEq κ] (G : Graph κ) (hw : GraphWF G) (start : Nat) (at' : Attrs → Attrs) :
    (copyWith G start at').edgesIter = (copyWith G start at').edges := by
  -- the renaming is injective on the nodes, so iterating commutes with it, and `G.edgesIter` is an iteration already
  have := iterFrom_map (fun k => start + G.keys.idxOf k) G.keys (copy_renaming_injective G start) G.edgesIter (edgesIter_ends G hw) G.keys []
    (fun _ hx => hx) (by simp)
  rw [Graph.edgesIter, copyWith_keys]
  simp only [List.map_nil] at this
  rw [show (copyWith G start at').edges = G.edgesIter.map (ren fun k => start + G.keys.idxOf k) from rfl, this, Graph.edgesIter,
    iter_idem G.edges G.keys hw.1]

theorem copyWith_range [DecidableEq κ] (G : Graph κ) (start : Nat) (at' : Attrs → Attrs) :
    ∀ k ∈ (copyWith G start at').keys, start ≤ k ∧ k < start + (copyWith G start at').nodes.length := by
  intro k hk
  rw [copyWith_keys] at hk
  obtain ⟨x, hx, rfl⟩ := List.mem_map.mp hk
  have := List.idxOf_lt_length_of_mem hx
  simp only [copyWith, List.length_map, Graph.keys] at this ⊢
  omega

theorem extract_spec (s : Store) (hs : StoreInv s) (g : Val) (G0 : Graph Nat) (h : s.extract g = some G0) :
    G0.nodes ≠ [] ∧ GraphWF G0 ∧ G0.edgesIter = G0.edges ∧ (∀ p ∈ G0.nodes, p.2.get? "GraphID" = some g) ∧
    (∀ p ∈ G0.nodes, (⟨p.1, p.2⟩ : SNode) ∈ s.nodes) := by
  obtain ⟨hne0, hnodes, hedges⟩ := extract_eq_some s g G0 h
  have hkeys : G0.keys = (s.graphNodes g).map (·.iid) := by
    rw [Graph.keys, hnodes, List.map_map]; rfl
  have hnd : G0.keys.Nodup := by
    rw [hkeys]
    exact (List.Sublist.map _ List.filter_sublist).nodup hs.1
  rw [← hkeys] at hedges
  refine ⟨?_, ⟨hnd, ?_⟩, ?_, ?_, ?_⟩
  · rw [hnodes]
    exact fun hn => hne0 (List.map_eq_nil_iff.mp hn)
  · intro e he
    rw [hedges] at he
    refine ends_iterFrom (· ∈ G0.keys) _ (fun e0 he0 => ?_) _ _ e he
    exact hkeys ▸ (mem_ownEdges.1 he0).2
  · unfold Graph.edgesIter
    rw [hedges]
    exact iter_idem _ _ hnd
  · intro p hp
    rw [hnodes] at hp
    obtain ⟨n, hn, rfl⟩ := List.mem_map.mp hp
    exact (mem_graphNodes.1 hn).2
  · intro p hp
    rw [hnodes] at hp
    obtain ⟨n, hn, rfl⟩ := List.mem_map.mp hp
    exact (mem_graphNodes.1 hn).1

theorem storeInv_merge (s1 : Store) (hs : StoreInv s1) (T : Graph Nat) (hw : GraphWF T)
    (hrange : ∀ k ∈ T.keys, s1.nextId ≤ k ∧ k < s1.nextId + T.nodes.length) : StoreInv (s1.merge T) := by
  have hids : (s1.merge T).nodes.map (·.iid) = s1.nodes.map (·.iid) ++ T.keys := by
    simp [Store.merge, Graph.keys, List.map_map, Function.comp_def]
  refine ⟨?_, ?_, ?_⟩
  · rw [hids]
    refine List.nodup_append.mpr ⟨hs.1, hw.1, ?_⟩
    intro a ha b hb hab
    have := hs.id_lt a ha
    have := (hrange b hb).1
    omega
  · intro n hn
    simp only [Store.merge, List.mem_append, List.mem_map] at hn ⊢
    rcases hn with h | ⟨p, hp, rfl⟩
    · have := hs.2.1 n h; omega
    · have := (hrange p.1 (List.mem_map_of_mem (f := (·.1)) hp)).2
      exact this
  · intro e he
    rw [hids]
    simp only [Store.merge, List.mem_append] at he
    rcases he with h | h
    · obtain ⟨ha, hb⟩ := hs.2.2 e h
      exact ⟨List.mem_append_left _ ha, List.mem_append_left _ hb⟩
    · obtain ⟨h1, h2⟩ := ends_iterFrom (· ∈ T.keys) T.edges hw.2 [] T.keys e h
      exact ⟨List.mem_append_right _ h1, List.mem_append_right _ h2⟩

theorem graphNodes_merge (s1 : Store) (g : Val) (hno : s1.graphNodes g = []) (T : Graph Nat)
    (htag : ∀ p ∈ T.nodes, p.2.get? "GraphID" = some g) : (s1.merge T).graphNodes g = T.nodes.map fun p => (⟨p.1, p.2⟩ : SNode) := by
  rw [Store.graphNodes, Store.merge, List.filter_append, show s1.nodes.filter (Store.inGraph g) = [] from hno, List.nil_append,
    List.filter_eq_self]
  exact List.forall_mem_map.2 fun p hp => inGraph_iff.2 (htag p hp)

theorem extract_merge (s1 : Store) (hs : StoreInv s1) (g : Val) (hno : s1.graphNodes g = []) (T : Graph Nat) (hne : T.nodes ≠ [])
    (htag : ∀ p ∈ T.nodes, p.2.get? "GraphID" = some g) (hge : ∀ k ∈ T.keys, s1.nextId ≤ k)
    (hend : ∀ e ∈ T.edges, e.a ∈ T.keys ∧ e.b ∈ T.keys) (hiter : T.edgesIter = T.edges) :
    (s1.merge T).extract g = some T := by
  -- the edges among the new nodes are the new ones: an old edge has ends below `start_id`, a new one both ends among the new nodes
  have hfil : (s1.edges ++ T.edges).filter (fun e => T.keys.contains e.a && T.keys.contains e.b) = T.edges := by
    rw [List.filter_append, List.filter_eq_nil_iff.2, List.nil_append, List.filter_eq_self]
    · intro e he
      simp [(hend e he).1, (hend e he).2]
    · intro e he
      simp only [Bool.and_eq_true, List.contains_eq_mem, decide_eq_true_eq, not_and]
      intro hm
      have := hge _ hm
      have := hs.id_lt _ (hs.2.2 e he).1
      omega
  have hit : iterFrom T.edges [] T.keys = T.edges := hiter
  have hk : T.nodes.map (fun p => p.1) = T.keys := rfl
  simp only [Store.extract, graphNodes_merge s1 g hno T htag, List.isEmpty_map, List.isEmpty_iff, hne, if_false, List.map_map, Function.comp_def, List.map_id']
  simp only [Store.merge, hiter, hk, hfil, hit]

theorem extract_merge_other (s1 : Store) (hs : StoreInv s1) (g'' : Val) (T : Graph Nat)
    (htag : ∀ p ∈ T.nodes, p.2.get? "GraphID" ≠ some g'') (hge : ∀ k ∈ T.keys, s1.nextId ≤ k) :
    (s1.merge T).extract g'' = s1.extract g'' := by
  unfold Store.merge
  apply extract_append_other
  · exact List.forall_mem_map.2 htag
  · refine fun e he => Or.inl fun hm => ?_
    have := hs.id_lt _ ((List.filter_sublist.map _).subset hm)
    have := hge _ (mem_iterFrom T.edges [] T.keys e he).1.1
    omega

/-- the shared store after `add_graph` / `add_graph_direct` has put a copy of `G` under `g` -/
def stored [DecidableEq κ] (s : Store) (g : Val) (G : Graph κ) (at' : Attrs → Attrs) : Store :=
  (s.delGraph g).merge (copyWith G s.nextId at')

theorem addGraphDirect_eq [DecidableEq κ] (s : Store) (g : Val) (G : Graph κ) : s.addGraphDirect g G = stored s g G id := rfl

/-- `add_graph`: the old graph is gone in either case -/
theorem addGraph_eq [DecidableEq κ] (s : Store) (g : Val) (G : Graph κ) :
    s.addGraph g G =
      if HasNodeIds G then (.ok (), stored s g G fun a => a.set "GraphID" g) else (.error "import", s.delGraph g) := by
  simp only [Store.addGraph, sharedFirst_eval, relabelFrom_with G _ fun a => a.set "GraphID" g, relabelFrom_hasNodeIds]
  rfl

theorem addGraph_error_store [DecidableEq κ] (s : Store) (g : Val) (G : Graph κ) (e : String)
    (h : (s.addGraph g G).1 = .error e) : (s.addGraph g G).2 = s.delGraph g := by
  rw [addGraph_eq] at h ⊢
  by_cases hid : HasNodeIds G
  · rw [if_pos hid] at h; cases h
  · rw [if_neg hid]

theorem storeInv_stored [DecidableEq κ] (s : Store) (hs : StoreInv s) (g : Val) (G : Graph κ) (hw : GraphWF G) (at' : Attrs → Attrs) :
    StoreInv (stored s g G at') :=
  storeInv_merge _ (storeInv_delGraph s hs g) _ (copyWith_wf G hw s.nextId at') (copyWith_range G s.nextId at')

theorem extract_stored [DecidableEq κ] (s : Store) (hs : StoreInv s) (g : Val) (G : Graph κ) (hw : GraphWF G)
    (hne : G.nodes ≠ []) (at' : Attrs → Attrs) (htag : ∀ p ∈ G.nodes, (at' p.2).get? "GraphID" = some g) :
    (stored s g G at').extract g = some (copyWith G s.nextId at') := by
  exact extract_merge _ (storeInv_delGraph s hs g) g (delGraph_graphNodes s g) _ (fun h => hne (List.map_eq_nil_iff.mp h))
    (List.forall_mem_map.2 htag) (fun k hk => (copyWith_range G s.nextId at' k hk).1) (copyWith_wf G hw s.nextId at').2
    (copyWith_iter G hw s.nextId at')

theorem extract_stored_other [DecidableEq κ] (s : Store) (hs : StoreInv s) (g'' g : Val) (hne : g'' ≠ g) (G : Graph κ)
    (at' : Attrs → Attrs) (htag : ∀ p ∈ G.nodes, (at' p.2).get? "GraphID" = some g) :
    (stored s g G at').extract g'' = s.extract g'' := by
  refine (extract_merge_other (s.delGraph g) (storeInv_delGraph s hs g) g'' _ (List.forall_mem_map.2 fun q hq => ?_)
    fun k hk => (copyWith_range G s.nextId at' k hk).1).trans (extract_delGraph_other s hs g'' g hne)
  rw [htag q hq]
  exact fun h => hne (Option.some.inj h).symm

theorem storeInv_addGraphDirect [DecidableEq κ] (s : Store) (hs : StoreInv s) (g : Val) (G : Graph κ) (hw : GraphWF G) :
    StoreInv (s.addGraphDirect g G) :=
  storeInv_stored s hs g G hw id

theorem storeInv_addGraph [DecidableEq κ] (s : Store) (hs : StoreInv s) (g : Val) (G : Graph κ) (hw : GraphWF G) :
    StoreInv (s.addGraph g G).2 := by
  rw [addGraph_eq]
  split
  · exact storeInv_stored s hs g G hw _
  · exact storeInv_delGraph s hs g

theorem extract_addGraph_other [DecidableEq κ] (s : Store) (hs : StoreInv s) (g'' g' : Val) (hne : g'' ≠ g') (G : Graph κ) :
    (s.addGraph g' G).2.extract g'' = s.extract g'' := by
  rw [addGraph_eq]
  split
  · exact extract_stored_other s hs g'' g' hne G _ fun p _ => Attrs.get_set p.2 "GraphID" g'
  · exact extract_delGraph_other s hs g'' g' hne

end FimVerif.C01
