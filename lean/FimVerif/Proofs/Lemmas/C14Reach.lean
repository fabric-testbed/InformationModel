import FimVerif.Proofs.Lemmas.C14Hist
import FimVerif.Proofs.Lemmas.C14Unmerge
/-! C14: `MadeOf c live`, the part of the invariant that the theorems about reachable combined models draw on, and what follows from
it. It holds of a model built by merges from the empty one (`MergedAll.madeOf`) and of every model reachable by a history
(`Tracks.madeOf`). -/
namespace FimVerif.Cbm

/-- the elements, provenance and delegations (`'' = absent`) of `c` are those of the models `live` -/
structure MadeOf (c : Graph) (live : List Adm) : Prop where
  nodup : c.ids.Nodup
  has : ∀ i, c.has i = live.any (fun a => a.g.has i)
  prov : ∀ i, c.provOf i = contributors live i
  del : ∀ cap i, (c.delOf cap i).norm = firstLive (live.map (speak cap · i))

theorem MergedAll.madeOf {as : List Adm} {g : Graph} (m : MergedAll Graph.empty as g) : MadeOf g as :=
  ⟨m.wf.nodup, m.has, m.prov, fun cap i => by rw [m.del]; exact norm_absent_take_firstLive _⟩

namespace MadeOf
variable {c : Graph} {live : List Adm} (m : MadeOf c live)
include m

theorem has_of_mem {a : Adm} (ha : a ∈ live) {i : String} (h : a.g.has i = true) : c.has i = true := by
  rw [m.has]; exact List.any_eq_true.mpr ⟨a, ha, h⟩

theorem keyed {cap : Bool} {i : String} {l : List (String × String)} (h : c.delOf cap i = .dict l) :
    ∃ a ∈ live, ∃ k d, a.g.delOf cap i = .dict [(k, d)] ∧ l = [(a.id, d)] := by
  have hd := m.del cap i
  rw [h] at hd
  obtain ⟨a, ha, he⟩ := List.mem_map.mp (firstLive_mem (by rw [← hd]; rfl))
  obtain ⟨k, v, e1, e2⟩ := Deleg.rk_eq_dict (he.trans hd.symm)
  exact ⟨a, ha, k, v, e1, e2⟩

theorem carries (hc : live.Pairwise (fun a b => clash a b = false)) {cap : Bool} {i : String} {a : Adm} (ha : a ∈ live)
    {k d : String} (hs : a.g.delOf cap i = .dict [(k, d)]) : c.delOf cap i = .dict [(a.id, d)] := by
  have hs : speak cap a i = .dict [(a.id, d)] := by rw [speak, hs]; rfl
  have hd := m.del cap i
  rw [firstLive_eq_of_mem (atMostOne_speaks hc cap i) (List.mem_map.mpr ⟨a, ha, rfl⟩) (by rw [hs]; rfl), hs] at hd
  exact Deleg.norm_eq_dict hd

/-- a delegation of a node of the combined model is absent, emptied, or one entry under the id of a live model -/
theorem nodes_deleg (P : Deleg → Prop) (h0 : P .absent) (h1 : P .emptied) (h : ∀ a ∈ live, ∀ d, P (.dict [(a.id, d)]))
    {n : Node} (hn : n ∈ c.nodes) (cap : Bool) : P (n.del cap) := by
  have hd : c.delOf cap n.id = n.del cap := by simp [Graph.delOf, node?_of_mem m.nodup hn]
  cases hc : n.del cap with
  | absent => exact h0
  | emptied => exact h1
  | dict l =>
    obtain ⟨a, ha, _, d, _, rfl⟩ := m.keyed (hd.trans hc)
    exact h a ha d

theorem live_of_speaks {b : Adm} (hb : b ∈ live) {cap : Bool} {i : String} (h : (speak cap b i).live = true) :
    (c.delOf cap i).live = true := by
  rw [← Deleg.live_norm, m.del]
  exact firstLive_live_of_mem (List.mem_map.mpr ⟨b, hb, rfl⟩) h

theorem unmerge_total (hne : c.nodes ≠ []) (gid : String) : unmerge c gid = (none, unmerged c gid) := by
  refine unmerge_ok_iff.mpr ⟨hne, fun n hn => ?_, rfl⟩
  have h := m.nodes_deleg (fun d => d.unOk gid = true) rfl rfl (fun _ _ _ => Deleg.unOk_single) hn
  exact Bool.and_eq_true_iff.mpr ⟨h true, h false⟩

theorem prov_of_mem {n : Node} (hn : n ∈ c.nodes) : n.prov = contributors live n.id := by
  rw [← m.prov]; simp [Graph.provOf, node?_of_mem m.nodup hn]

theorem fresh {gid : String} (h : ∀ a ∈ live, a.id ≠ gid) : c.Fresh gid := by
  intro n hn
  have hd := m.nodes_deleg (fun d => d.mentions gid = false) rfl rfl (fun a ha _ => by simp [Deleg.mentions, h a ha]) hn
  refine ⟨fun hin => ?_, hd false, hd true⟩
  rw [m.prov_of_mem hn] at hin
  obtain ⟨a, ha, hid⟩ := List.mem_map.mp hin
  exact h a (List.mem_filter.mp ha).1 hid

theorem has_iff_contributors (i : String) : c.has i = true ↔ contributors live i ≠ [] := by
  rw [m.has, any_has_eq]
  cases contributors live i <;> simp

theorem proved : c.Proved := fun n hn hnil =>
  (m.has_iff_contributors n.id).mp (has_iff.mpr (List.mem_map.mpr ⟨n, hn, rfl⟩)) (m.prov_of_mem hn ▸ hnil)

theorem unmerge_inverse (hc : c.WF) {a : Adm} {g : Graph} (hid : ∀ b ∈ live, b.id ≠ a.id) (hm : mergeN c a = (none, g))
    (hguard : EdgeGuard c a) : (unmerge g a.id).1 = none ∧ (unmerge g a.id).2.norm = c.norm :=
  unmerge_merge hc hm (m.fresh hid) m.proved hguard

theorem agree {c' : Graph} (m' : MadeOf c' live) : (∀ i, c.has i = c'.has i) ∧ (∀ i, c.provOf i = c'.provOf i) ∧
    ∀ cap i, (c.delOf cap i).norm = (c'.delOf cap i).norm :=
  ⟨fun i => (m.has i).trans (m'.has i).symm, fun i => (m.prov i).trans (m'.prov i).symm, fun cap i => (m.del cap i).trans (m'.del cap i).symm⟩

end MadeOf

end FimVerif.Cbm
