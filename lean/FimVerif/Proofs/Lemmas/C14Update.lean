import FimVerif.Proofs.Lemmas.C14World
/-! C14: the source models move on between the broker's calls. `unmerge_adm` is given a graph id, not a model: by then the graph stored
under that id may have been changed, reloaded or deleted (the broker unmerges the OLD advertisement when the updated one has arrived). A
new version of a source is PREPENDED to `srcs`: `step`'s `find?` finds the newest version of an id (deleted: the version without elements),
the older ones stay as the pool the combined model's data may come from; the invariant survives (`Tracks.mono`, `WInv.urun`). -/
namespace FimVerif.Cbm

inductive UOp where
  | op (o : Op)
  | update (a : Adm)              -- the graph stored under `a.id` is now `a.g` (no elements: deleted)
deriving Repr, Inhabited

def World.update (w : World) (a : Adm) : World := { w with srcs := a :: w.srcs }

def ustep (w : World) : UOp → World
  | .op o => (step w o).2
  | .update a => w.update a

def urun (w : World) : List UOp → World
  | [] => w
  | o :: ops => urun (ustep w o) ops

/-- as `HistOk`; updates of the sources are unrestricted -/
def UHistOk (w : World) : List UOp → Prop
  | [] => True
  | .op o :: ops => OpOk w o ∧ UHistOk (step w o).2 ops
  | .update a :: ops => UHistOk (w.update a) ops

def UHistOk.dec : (w : World) → (ops : List UOp) → Decidable (UHistOk w ops)
  | _, [] => isTrue trivial
  | w, .op o :: ops =>
    have := UHistOk.dec (step w o).2 ops
    (inferInstance : Decidable (OpOk w o ∧ UHistOk (step w o).2 ops))
  | w, .update a :: ops => UHistOk.dec (w.update a) ops

instance (w : World) (ops : List UOp) : Decidable (UHistOk w ops) := UHistOk.dec w ops

theorem Tracks.mono {pool pool' : List Adm} {c : Graph} {live : List Adm} (t : Tracks pool c live)
    (h : ∀ a ∈ pool, a ∈ pool') : Tracks pool' c live :=
  ⟨t.wf, fun a ha => h a (t.sub a ha), t.awf, t.nonempty, t.ids, t.compat, t.has, t.prov, t.ldel, t.cdel, t.edges,
   fun i p hp => let ⟨a, ha, e⟩ := t.propsFrom i p hp; ⟨a, h a ha, e⟩,
   fun x y p hp => let ⟨a, ha, e⟩ := t.edgesFrom x y p hp; ⟨a, h a ha, e⟩⟩

theorem WInv.update {w : World} (h : WInv w) (a : Adm) : WInv (w.update a) := by
  obtain ⟨⟨live, t⟩, hs⟩ := h
  refine ⟨⟨live, t.mono (fun b hb => List.mem_cons_of_mem _ hb)⟩, ?_⟩
  intro p hp
  obtain ⟨l, tl⟩ := hs p hp
  exact ⟨l, tl.mono (fun b hb => List.mem_cons_of_mem _ hb)⟩

theorem WInv.urun : ∀ (ops : List UOp) {w : World}, WInv w → UHistOk w ops → WInv (urun w ops)
  | [], _, h, _ => h
  | .op o :: ops, _, h, hok => WInv.urun ops (h.step o hok.1) hok.2
  | .update a :: ops, _, h, hok => WInv.urun ops (h.update a) hok

theorem unmerge_ignores_sources (w : World) (srcs' : List Adm) (gid : String) :
    (step { w with srcs := srcs' } (.unmerge gid)).1 = (step w (.unmerge gid)).1 ∧
    (step { w with srcs := srcs' } (.unmerge gid)).2.cbm = (step w (.unmerge gid)).2.cbm := ⟨rfl, rfl⟩

end FimVerif.Cbm
