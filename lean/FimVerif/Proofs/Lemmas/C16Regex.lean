import FimVerif.Model.Regex
/-! `matches_iff`: nullable / derivative characterise the language, so `accepts .full` is membership (`accepts_full`).
The language of a repeated character class is a condition on the members and, for `rep` and `+`, a bound on the length
(`L_rep_chr`, `L_star_chr`, `L_plus_chr`). -/
namespace FimVerif.Regex

theorem pow_nil (P : List Char → Prop) (k : Nat) : Pow P k [] ↔ k = 0 ∨ P [] := by
  induction k with
  | zero => simp [Pow]
  | succ k ih =>
    constructor
    · rintro ⟨u, v, h, hu, _⟩
      obtain ⟨rfl, _⟩ := List.nil_eq_append_iff.mp h
      exact Or.inr hu
    · intro h
      cases h with
      | inl h => omega
      | inr h => exact ⟨[], [], rfl, h, ih.mpr (Or.inr h)⟩

/-- A non-empty word of a power starts with a non-empty factor (empty factors in front of it are dropped and made up for behind). -/
theorem pow_succ_cons {P : List Char → Prop} {c : Char} {k : Nat} {s : List Char} :
    Pow P (k + 1) (c :: s) ↔ ∃ u v, s = u ++ v ∧ P (c :: u) ∧ Pow P k v := by
  refine ⟨?_, fun ⟨u, v, hs, hu, hv⟩ => ⟨c :: u, v, by rw [hs]; rfl, hu, hv⟩⟩
  induction k with
  | zero =>
    rintro ⟨u', v', hw, hu, rfl⟩
    rw [List.append_nil] at hw; subst hw
    exact ⟨s, [], by simp, hu, rfl⟩
  | succ k ih =>
    rintro ⟨u', v', hw, hu, hv⟩
    cases u' with
    | nil =>
      obtain ⟨u, v, hs, hcu, hp⟩ := ih (by simpa using hw ▸ hv)
      exact ⟨u, v, hs, hcu, [], v, rfl, hu, hp⟩
    | cons a t =>
      obtain ⟨rfl, rfl⟩ := List.cons.inj hw
      exact ⟨t, v', rfl, hu, hv⟩

/-- the derivative of "some power whose exponent satisfies `Q`" -/
theorem exists_pow_cons {P : List Char → Prop} (Q : Nat → Prop) {c : Char} {s : List Char} :
    (∃ k, Q k ∧ Pow P k (c :: s)) ↔ ∃ u v, s = u ++ v ∧ P (c :: u) ∧ ∃ k, Q (k + 1) ∧ Pow P k v := by
  constructor
  · rintro ⟨k, hq, hp⟩
    cases k with
    | zero => cases hp
    | succ k =>
      obtain ⟨u, v, hs, hu, hv⟩ := pow_succ_cons.mp hp
      exact ⟨u, v, hs, hu, k, hq, hv⟩
  · rintro ⟨u, v, hs, hu, k, hq, hv⟩
    exact ⟨k + 1, hq, pow_succ_cons.mpr ⟨u, v, hs, hu, hv⟩⟩

theorem L_mkCat (a b : Re) (w : List Char) : (mkCat a b).L w ↔ (Re.cat a b).L w := by
  unfold mkCat
  split
  · simp [Re.L]
  · simp only [Re.L]
    exact ⟨fun h => ⟨[], w, rfl, rfl, h⟩, by rintro ⟨u, v, rfl, rfl, h⟩; exact h⟩
  · rfl

theorem L_mkAlt (a b : Re) (w : List Char) : (mkAlt a b).L w ↔ (Re.alt a b).L w := by
  unfold mkAlt
  split
  · simp [Re.L]
  · simp [Re.L]
  · rfl

theorem nullable_iff (r : Re) : r.nullable = true ↔ r.L [] := by
  induction r with
  | empty => simp [Re.nullable, Re.L]
  | eps => simp [Re.nullable, Re.L]
  | chr p => simp [Re.nullable, Re.L]
  | cat a b iha ihb => simp [Re.nullable, Re.L, iha, ihb, and_assoc]
  | alt a b iha ihb => simp [Re.nullable, Re.L, iha, ihb]
  | star a _ => simp only [Re.nullable, Re.L, true_iff]; exact ⟨0, rfl⟩
  | rep a lo hi iha =>
    simp only [Re.nullable, Re.L, Bool.and_eq_true, Bool.or_eq_true, decide_eq_true_eq, beq_iff_eq, iha, pow_nil]
    constructor
    · rintro ⟨hle, h | h⟩
      · exact ⟨0, by omega, by omega, Or.inl rfl⟩
      · exact ⟨lo, Nat.le_refl _, hle, Or.inr h⟩
    · rintro ⟨k, h1, h2, h | h⟩
      · exact ⟨by omega, Or.inl (by omega)⟩
      · exact ⟨by omega, Or.inr h⟩

theorem cat_cons (a b : Re) (c : Char) (s : List Char) :
    (Re.cat a b).L (c :: s) ↔ (∃ u v, s = u ++ v ∧ a.L (c :: u) ∧ b.L v) ∨ (a.L [] ∧ b.L (c :: s)) := by
  simp only [Re.L]
  constructor
  · rintro ⟨u, v, h, ha, hb⟩
    cases u with
    | nil => simp at h; subst h; exact Or.inr ⟨ha, hb⟩
    | cons x t =>
      simp at h; obtain ⟨rfl, rfl⟩ := h
      exact Or.inl ⟨t, v, rfl, ha, hb⟩
  · rintro (⟨u, v, rfl, ha, hb⟩ | ⟨ha, hb⟩)
    · exact ⟨c :: u, v, rfl, ha, hb⟩
    · exact ⟨[], c :: s, rfl, ha, hb⟩

theorem der_iff (c : Char) (r : Re) (s : List Char) : (r.der c).L s ↔ r.L (c :: s) := by
  induction r generalizing s with
  | empty => simp [Re.der, Re.L]
  | eps => simp [Re.der, Re.L]
  | chr p => by_cases h : p c = true <;> simp [Re.der, Re.L, h, and_assoc]
  | alt a b iha ihb => simp [Re.der, L_mkAlt, Re.L, iha, ihb]
  | cat a b iha ihb =>
    rw [cat_cons, ← nullable_iff]
    simp only [Re.der]
    by_cases hn : a.nullable = true <;> simp [hn, L_mkAlt, Re.L, L_mkCat, iha, ihb]
  | star a iha => simpa [Re.der, L_mkCat, Re.L, iha] using (exists_pow_cons (fun _ => True)).symm
  | rep a lo hi iha =>
    simp only [Re.der]
    split
    · rename_i hz
      simp only [Re.L, false_iff]
      rintro ⟨k, _, hk, hp⟩
      obtain rfl : k = 0 := by omega
      cases hp
    · rename_i hz
      simp only [L_mkCat, Re.L, iha, ← and_assoc (a := lo ≤ _)]
      rw [exists_pow_cons (fun k => lo ≤ k ∧ k ≤ hi)]
      have (k : Nat) : (lo ≤ k + 1 ∧ k + 1 ≤ hi) ↔ (lo - 1 ≤ k ∧ k ≤ hi - 1) := by omega
      simp only [this, and_assoc]

theorem matches_iff (r : Re) (s : List Char) : r.matches s = true ↔ r.L s := by
  induction s generalizing r with
  | nil => simpa [Re.matches] using nullable_iff r
  | cons c s ih => simp only [Re.matches]; rw [ih, der_iff]

theorem accepts_full {r : Re} {s : List Char} : accepts .full r s = true ↔ r.L s := by
  simp only [accepts]; exact matches_iff r s

/-- Any condition `Q` on the exponent, as in `exists_pow_cons`: one induction on the word serves `rep` (`lo ≤ k ∧ k ≤ hi`) and `star` (`True`). -/
theorem exists_pow_chr (p : Char → Bool) (w : List Char) : ∀ (Q : Nat → Prop),
    (∃ k, Q k ∧ Pow (Re.chr p).L k w) ↔ Q w.length ∧ ∀ c ∈ w, p c = true := by
  induction w with
  | nil => intro Q; simp [pow_nil, Re.L]
  | cons c s ih =>
    intro Q
    rw [exists_pow_cons, List.forall_mem_cons, List.length_cons, and_left_comm, ← ih fun k => Q (k + 1)]
    constructor
    · rintro ⟨_, v, rfl, ⟨x, h, hx⟩, hv⟩
      cases h
      exact ⟨hx, hv⟩
    · rintro ⟨hc, hs⟩
      exact ⟨[], s, rfl, ⟨c, rfl, hc⟩, hs⟩

theorem L_rep_chr (p : Char → Bool) (lo hi : Nat) (w : List Char) :
    (Re.rep (.chr p) lo hi).L w ↔ lo ≤ w.length ∧ w.length ≤ hi ∧ ∀ c ∈ w, p c = true := by
  simpa only [Re.L, and_assoc] using exists_pow_chr p w fun k => lo ≤ k ∧ k ≤ hi

theorem L_rep_chr_append {p q : Char → Bool} {s t : List Char} (lo hi : Nat) (hs : ∀ c ∈ s, p c = true)
    (hpq : ∀ c, p c = true → q c = true) (ht : ∀ c ∈ t, q c = true) :
    (Re.rep (.chr q) lo hi).L (s ++ t) ↔ lo ≤ s.length + t.length ∧ s.length + t.length ≤ hi := by
  rw [L_rep_chr, List.length_append]
  exact ⟨fun ⟨a, b, _⟩ => ⟨a, b⟩, fun ⟨a, b⟩ => ⟨a, b, List.forall_mem_append.mpr ⟨fun c hc => hpq c (hs c hc), ht⟩⟩⟩

theorem L_star_chr (p : Char → Bool) (w : List Char) : (Re.star (.chr p)).L w ↔ ∀ c ∈ w, p c = true := by
  simpa only [Re.L, true_and] using exists_pow_chr p w fun _ => True

/-- `[class]+` written as `[class][class]*` -/
theorem L_plus_chr (p : Char → Bool) (w : List Char) :
    (Re.cat (.rep (.chr p) 1 1) (.star (.chr p))).L w ↔ 1 ≤ w.length ∧ ∀ c ∈ w, p c = true := by
  simp only [Re.L.eq_4, L_rep_chr, L_star_chr]
  constructor
  · rintro ⟨u, v, rfl, ⟨h1, _, h3⟩, h4⟩
    exact ⟨by rw [List.length_append]; omega, List.forall_mem_append.mpr ⟨h3, h4⟩⟩
  · rintro ⟨h1, h2⟩
    match w, h1, h2 with
    | c :: r, _, h2 =>
      obtain ⟨hc, hr⟩ := List.forall_mem_cons.mp h2
      exact ⟨[c], r, rfl, ⟨by simp, by simp, by simpa using hc⟩, hr⟩

end FimVerif.Regex
