import FimVerif.Proofs.Lemmas.TopoInvGraph
import FimVerif.Proofs.Lemmas.TopoAtomicConn
/-!
# C07 — creating calls: `add_node`, `NetworkService.add_interface`, `add_link`, `connect_interface`

Each call either raises in the state it started from or extends the state by fresh nodes and edges in an explicit way
(post-state lemmas of the C09 development, read through `Outcome.state`); for `add_link` and `connect_interface` the extension is a
`grow s N E` with `GrowOk` (`linkEdges_grow`, `connect_growCL`).  `AttachStable P`: `P` survives hanging one fresh element off its
container (all that `add_interface` asks); `BuildStable P` adds what the other extensions ask.  `InvS` and `InvD` are `BuildStable`
(here), `InvS` with the name scopes too (`TopoInvNames`); each of the four calls is proved once, for any such predicate.
-/
namespace FimVerif.Topo
open FimVerif FimVerif.M

theorem growCounts_push {R : Nat → Prop} {n : GNode} (h0 : n.cls = .component ∨ n.cls = .connectionPoint → R 0) : GrowCounts R [n] [] := by
  refine ⟨?_, ?_, ?_⟩ <;> intro x hx <;> rw [List.mem_singleton.mp hx]
  · exact fun hc => h0 (.inl hc)
  · exact fun hc => h0 (.inr hc)
  · exact fun hc _ => h0 (.inr hc)

theorem invS_push {s : Topo} {n : GNode} (h : InvS s) (hf : ∀ m ∈ s.nodes, m.nid ≠ n.nid) (hv : nodeOk n = true)
    (hc : n.cls = .networkNode ∨ n.cls = .networkService) : InvS (pushNode n s) :=
  pushNode_eq_grow n s ▸ invS_grow_full h (.single hf hv fun _ he => nomatch he) (growCounts_push fun hc' => by
    rcases hc with hc | hc <;> rcases hc' with hc' | hc' <;> rw [hc] at hc' <;> cases hc')

theorem invD_push {s : Topo} {n : GNode} (h : InvD s) (hf : ∀ m ∈ s.nodes, m.nid ≠ n.nid) (hv : nodeOk n = true) :
    InvD (pushNode n s) :=
  pushNode_eq_grow n s ▸ invD_grow_most h (.single hf hv fun _ he => nomatch he) (growCounts_push fun _ => Nat.zero_le 1)

theorem growOk_attach {s : Topo} {p n : GNode} {rel : Rel} (hp : p ∈ s.nodes) (hf : ∀ m ∈ s.nodes, m.nid ≠ n.nid)
    (hv : nodeOk n = true) (he : edgeOk ⟨p.ref, n.ref, rel⟩ = true) (hpl : p.cls ≠ .link) :
    GrowOk s [n] [⟨p.ref, n.ref, rel⟩] :=
  .single hf hv fun e he' => by
    rw [List.mem_singleton.mp he']; exact .hang hp (List.mem_singleton.mpr rfl) he hpl

/-- the edge from `p` is its one owner / parent; no link yet, so no peer -/
theorem growCounts_attach {R : Nat → Prop} {p n : GNode} {rel : Rel} (he : edgeOk ⟨p.ref, n.ref, rel⟩ = true) (hpl : p.cls ≠ .link) (h1 : R 1)
    (hsp : n.cls = .connectionPoint → n.typ = "ServicePort" → R 0) : GrowCounts R [n] [⟨p.ref, n.ref, rel⟩] := by
  refine ⟨?_, ?_, ?_⟩ <;> intro x hx <;> rw [List.mem_singleton.mp hx]
  · intro hc
    -- a Component hangs on a `has` edge from a node
    have : (ownersOf (⟨[n], [⟨p.ref, n.ref, rel⟩]⟩ : Topo) n.ref).length = 1 := by
      rcases edgeOk_rows he with ⟨rfl, hpc, _⟩ | ⟨_, _, hn⟩ | ⟨_, _, hn⟩
      · rcases hpc with hpc | hpc <;> simp [ownersOf, isOwnerCls, show p.cls = _ from hpc]
      · rw [show n.cls = _ from hn] at hc; cases hc
      · rw [show n.cls = _ from hn] at hc; cases hc
    rw [this]; exact h1
  · intro hc
    -- an interface hangs on a `connects` edge from a service or an interface (`p` is not a Link)
    have : (parentsOf (⟨[n], [⟨p.ref, n.ref, rel⟩]⟩ : Topo) n.ref).length = 1 := by
      rcases edgeOk_rows he with ⟨_, _, hn⟩ | ⟨_, _, hn⟩ | ⟨rfl, hpc, _⟩
      · rcases hn with hn | hn <;> rw [show n.cls = _ from hn] at hc <;> cases hc
      · rw [show n.cls = _ from hn] at hc; cases hc
      · rcases hpc with hpc | hpc | hpc
        · simp [parentsOf, isIfParentCls, show p.cls = _ from hpc]
        · simp [parentsOf, isIfParentCls, show p.cls = _ from hpc]
        · exact absurd hpc hpl
    rw [this]; exact h1
  · intro hc ht
    have : spPeers (⟨[n], [⟨p.ref, n.ref, rel⟩]⟩ : Topo) n.ref = [] := by simp [spPeers, linksOf, hpl]
    rw [this]; exact hsp hc ht

theorem invS_attach {s : Topo} {p n : GNode} {rel : Rel} (h : InvS s) (hp : p ∈ s.nodes) (hf : ∀ m ∈ s.nodes, m.nid ≠ n.nid)
    (hv : nodeOk n = true) (he : edgeOk ⟨p.ref, n.ref, rel⟩ = true) (hpl : p.cls ≠ .link)
    (hsp : n.cls = .connectionPoint → n.typ ≠ "ServicePort") : InvS (grow s [n] [⟨p.ref, n.ref, rel⟩]) :=
  invS_grow_full h (growOk_attach hp hf hv he hpl) (growCounts_attach he hpl rfl fun hc ht => absurd ht (hsp hc))

/-- "at most one" also when the interface is a ServicePort: it has no peer yet -/
theorem invD_attach {s : Topo} {p n : GNode} {rel : Rel} (h : InvD s) (hp : p ∈ s.nodes) (hf : ∀ m ∈ s.nodes, m.nid ≠ n.nid)
    (hv : nodeOk n = true) (he : edgeOk ⟨p.ref, n.ref, rel⟩ = true) (hpl : p.cls ≠ .link) :
    InvD (grow s [n] [⟨p.ref, n.ref, rel⟩]) :=
  invD_grow_most h (growOk_attach hp hf hv he hpl) (growCounts_attach he hpl (Nat.le_refl 1) fun _ _ => Nat.zero_le 1)

/-- hanging `n` under `p` does not clash with the names of `p`'s children of `n`'s class; nothing is asked of an interface or a
link, whose scopes are not among the four of `NamesCore` (`TopoInvNames`) that the creating calls keep -/
def NameFree (s : Topo) (p : Ref) (rel : Rel) (n : GNode) : Prop :=
  n.cls = .connectionPoint ∨ n.cls = .link ∨ ∀ m ∈ kids s p rel n.cls, m.name ≠ n.name

/-- predicates that survive hanging a fresh element (not a ServicePort) off its container -/
structure AttachStable (P : Topo → Prop) : Prop where
  ids : ∀ s, P s → IdsOk s
  closed : ∀ s, P s → ClosedOk s
  attach : ∀ {s : Topo} {p n : GNode} {rel : Rel}, P s → p ∈ s.nodes → (∀ m ∈ s.nodes, m.nid ≠ n.nid) → nodeOk n = true →
    edgeOk ⟨p.ref, n.ref, rel⟩ = true → p.cls ≠ .link → (n.cls = .connectionPoint → n.typ ≠ "ServicePort") →
    NameFree s p.ref rel n → P (grow s [n] [⟨p.ref, n.ref, rel⟩])

structure BuildStable (P : Topo → Prop) : Prop extends AttachStable P where
  push : ∀ {s : Topo} {n : GNode} {c : Cls}, P s → (∀ m ∈ s.nodes, m.nid ≠ n.nid) → nodeOk n = true → n.cls = c →
    (c = .networkNode ∨ c = .networkService) → (∀ m ∈ s.nodes, m.cls = c → m.name ≠ n.name) → P (pushNode n s)
  growCL : ∀ {s : Topo} {N : List GNode} {E : List GEdge}, P s → GrowCL s N E → P (grow s N E)
  map : MapStable P

theorem buildStable_invS : BuildStable InvS where
  ids := fun _ h => h.ids
  closed := fun _ h => h.closed
  attach := fun h hp hf hv he hpl hsp _ => invS_attach h hp hf hv he hpl hsp
  push := fun h hf hv hc hcc _ => invS_push h hf hv (hc ▸ hcc)
  growCL := fun h g => invS_grow_full h g.ok g.full
  map := keyStable_invS.map

theorem buildStable_invD : BuildStable InvD where
  ids := fun _ h => h.ids
  closed := fun _ h => h.closed
  attach := fun h hp hf hv he hpl _ _ => invD_attach h hp hf hv he hpl
  push := fun h hf hv _ _ _ => invD_push h hf hv
  growCL := fun h g => invD_grow_most h g.ok (g.full.mono fun _ => Nat.le_of_eq)
  map := keyStable_invD.map

/-- the type argument is a member of the API's enum for the class (or absent): what Python's typing of the call gives -/
def TypeArgOk (c : Cls) (t : Option String) : Prop := ∀ x, t = some x → typeOk c x = true
instance (c : Cls) (t : Option String) : Decidable (TypeArgOk c t) := by
  unfold TypeArgOk
  cases t with
  | none => exact isTrue (by intro x h; cases h)
  | some y => exact if h : typeOk c y = true then isTrue (by intro x hx; cases hx; exact h) else isFalse (fun k => h (k y rfl))

theorem classOk_all (c : Cls) : classOk c = true := by cases c <;> decide

theorem nodeOk_of {n : GNode} {c : Cls} (hc : n.cls = c) (ht : typeOk c n.typ = true) : nodeOk n = true := by
  subst hc; simp [nodeOk, classOk_all, ht]

theorem TypeArgOk.of {c : Cls} {t : String} (h : typeOk c t = true) : TypeArgOk c (some t) := by
  intro x hx; cases hx; exact h

/-! the types the library passes on its own account are in the published vocabularies (`Generated/Rules.lean`) -/
theorem servicePort_ok : typeOk .connectionPoint "ServicePort" = true := by decide +kernel
theorem subInterface_ok : typeOk .connectionPoint "SubInterface" = true := by decide +kernel
theorem facilityPort_ok : typeOk .connectionPoint "FacilityPort" = true := by decide +kernel
theorem dedicatedPort_ok : typeOk .connectionPoint "DedicatedPort" = true := by decide +kernel
theorem facility_ok : typeOk .networkNode "Facility" = true := by decide +kernel
theorem switch_ok : typeOk .networkNode "Switch" = true := by decide +kernel
theorem l2path_ok : typeOk .link "L2Path" = true := by decide +kernel
theorem patch_ok : typeOk .link "Patch" = true := by decide +kernel
theorem sp_not_service_type : typeOk .networkService "ServicePort" = false := by decide +kernel

theorem addNode_inv {P : Topo → Prop} (fl : Flavour) (c : Nat) (a : NodeArgs) (s : Topo) (ht : TypeArgOk .networkNode a.ntype) (h : P s)
    (hpush : ∀ n : GNode, (∀ m ∈ s.nodes, m.nid ≠ n.nid) → nodeOk n = true → n.cls = .networkNode →
      (∀ m ∈ s.nodes, m.cls = .networkNode → m.name ≠ n.name) → P (pushNode n s)) : P (addNode fl c a s).2 :=
  (addNode_spec fl c a s).state h fun _ _ ⟨n, hf, hc, hty, hnm, hnames, _, _, ht'⟩ =>
    ht' ▸ hpush n hf (nodeOk_of hc (ht n.typ hty)) hc (by rw [hnm]; exact hnames)

theorem addNode_stable {P : Topo → Prop} (hP : BuildStable P) (fl : Flavour) (c : Nat) (a : NodeArgs) (s : Topo)
    (ht : TypeArgOk .networkNode a.ntype) (h : P s) : P (addNode fl c a s).2 :=
  addNode_inv fl c a s ht h fun _ hf hv hc hnm => hP.push h hf hv hc (.inl rfl) hnm

theorem invS_addNode (fl : Flavour) (c : Nat) (a : NodeArgs) (s : Topo) (ht : TypeArgOk .networkNode a.ntype) (h : InvS s) :
    InvS (addNode fl c a s).2 := addNode_stable buildStable_invS fl c a s ht h

/-- the handle refers to an element of its class, if to anything (no id recycled under another class) -/
def HandleOk (s : Topo) (nid : Nid) (c : Cls) : Prop := ∀ m ∈ s.nodes, m.nid = nid → m.cls = c
instance (s : Topo) (nid : Nid) (c : Cls) : Decidable (HandleOk s nid c) := by unfold HandleOk; infer_instance

def NotSp (t : Option String) : Prop := t ≠ some "ServicePort"
instance (t : Option String) : Decidable (NotSp t) := by unfold NotSp; infer_instance

theorem IfAdded.state {P : Topo → Prop} {s t : Topo} {p : Nid} {pc : Cls} {c : Nat} {nid : Option Nid} {name : String}
    {itype : Option String} {v : Nid × Nat} (ha : IfAdded s (some p) c nid name itype v t) (hcl : ClosedOk s) (hh : HandleOk s p pc)
    (hpc : pc = .networkService ∨ pc = .connectionPoint) (ht : TypeArgOk .connectionPoint itype)
    (hatt : ∀ pn n, pn ∈ s.nodes → (∀ m ∈ s.nodes, m.nid ≠ n.nid) → nodeOk n = true → edgeOk ⟨pn.ref, n.ref, .connects⟩ = true →
      pn.cls ≠ .link → n.cls = .connectionPoint → itype = some n.typ → P (grow s [n] [⟨pn.ref, n.ref, .connects⟩])) : P t := by
  obtain ⟨n, hnew, hncls, _, _, htyp, _, _, pn, hpn, rfl⟩ := ha
  obtain ⟨hm, hi, _⟩ := findNode_ok hpn
  rw [setEdge_pushNew hcl hnew]
  have hpn : pn.cls = pc := hh pn hm hi
  exact hatt pn n hm hnew (nodeOk_of hncls (ht n.typ htyp)) (by rcases hpc with rfl | rfl <;> simp [edgeOk, hpn, hncls])
    (by rcases hpc with rfl | rfl <;> simp [hpn]) hncls htyp

theorem nsAddInterface_inv {P : Topo → Prop} (fl : Flavour) (c : Nat) (svc : Nid) (cache : Cache) (name : String) (nid : Option Nid)
    (itype : Option String) (props : List PropArg) (s : Topo) (hh : HandleOk s svc .networkService) (ht : TypeArgOk .connectionPoint itype)
    (hcl : ClosedOk s) (hs : P s)
    (hatt : ∀ pn n, pn ∈ s.nodes → (∀ m ∈ s.nodes, m.nid ≠ n.nid) → nodeOk n = true → edgeOk ⟨pn.ref, n.ref, .connects⟩ = true →
      pn.cls ≠ .link → n.cls = .connectionPoint → itype = some n.typ → P (grow s [n] [⟨pn.ref, n.ref, .connects⟩])) :
    P (nsAddInterface fl c svc cache name nid itype props s).2 := by
  unfold nsAddInterface
  refine state_after_ro (readOnly_guard _ _) hs (fun _ _ => ?_)
  exact (ifaceNew_spec fl c name nid (some svc) itype props s).state hs fun _ _ ha => ha.state hcl hh (.inl rfl) ht hatt

theorem nsAddInterface_stable {P : Topo → Prop} (hP : AttachStable P) (fl : Flavour) (c : Nat) (svc : Nid) (cache : Cache) (name : String)
    (nid : Option Nid) (itype : Option String) (props : List PropArg) (s : Topo) (hh : HandleOk s svc .networkService)
    (ht : TypeArgOk .connectionPoint itype) (hsp : NotSp itype) (h : P s) :
    P (nsAddInterface fl c svc cache name nid itype props s).2 :=
  nsAddInterface_inv fl c svc cache name nid itype props s hh ht (hP.closed _ h) h fun _ _ hm hnew hv he hpl hncls htyp =>
    hP.attach h hm hnew hv he hpl (fun _ hsp' => hsp (by rw [htyp, hsp'])) (.inl hncls)

theorem invS_nsAddInterface (fl : Flavour) (c : Nat) (svc : Nid) (cache : Cache) (name : String) (nid : Option Nid)
    (itype : Option String) (props : List PropArg) (s : Topo) (hh : HandleOk s svc .networkService)
    (ht : TypeArgOk .connectionPoint itype) (hsp : NotSp itype) (h : InvS s) :
    InvS (nsAddInterface fl c svc cache name nid itype props s).2 :=
  nsAddInterface_stable buildStable_invS.toAttachStable fl c svc cache name nid itype props s hh ht hsp h

/-- no `NotSp` guard: a ServicePort made here has no peer yet -/
theorem invD_nsAddInterface (fl : Flavour) (c : Nat) (svc : Nid) (cache : Cache) (name : String) (nid : Option Nid)
    (itype : Option String) (props : List PropArg) (s : Topo) (hh : HandleOk s svc .networkService)
    (ht : TypeArgOk .connectionPoint itype) (h : InvD s) :
    InvD (nsAddInterface fl c svc cache name nid itype props s).2 :=
  nsAddInterface_inv fl c svc cache name nid itype props s hh ht h.closed h fun _ _ hm hnew hv he hpl _ _ => invD_attach h hm hnew hv he hpl

/-- no interface of the list is a ServicePort of the model (`add_link` on a ServicePort gives it a second peer:
known finding, `addLink_sp_counterexample`) -/
def NoSpIn (s : Topo) (l : List IfArg) : Prop :=
  ∀ m ∈ s.nodes, m.typ = "ServicePort" → ∀ i ∈ l, ∀ iid nm, i = IfArg.iface iid nm → m.nid ≠ iid
instance (s : Topo) (l : List IfArg) : Decidable (NoSpIn s l) := by
  unfold NoSpIn
  have : ∀ (m : GNode) (i : IfArg), Decidable (∀ iid nm, i = IfArg.iface iid nm → m.nid ≠ iid) := by
    intro m i
    cases i with
    | bogus => exact isTrue (by intro _ _ h; cases h)
    | iface a b => exact if h : m.nid = a then isFalse (fun k => k a b rfl h) else isTrue (by intro _ _ e; cases e; exact h)
  infer_instance

/-- the edges `add_network_link_sliver` adds from the fresh link `ln`, one interface after the other: each is a new edge into an old
interface that is no ServicePort (an interface named twice gets one edge: `nx.Graph.add_edge`) -/
theorem linkEdges_grow {s : Topo} (hi : IdsOk s) (hc : ClosedOk s) {ln : GNode} (hf : ∀ m ∈ s.nodes, m.nid ≠ ln.nid) (hlc : ln.cls = .link) :
    ∀ (l : List IfArg), IfacesPresent l s → NoSpIn s l → ∀ (E : List GEdge), (∀ e ∈ E, NewEdgeOk s [ln] e) →
      ∃ E', (∀ e ∈ E', NewEdgeOk s [ln] e) ∧ linkEdges ln l (grow s [ln] E) = grow s [ln] E' := by
  intro l
  induction l with
  | nil => intro _ _ E hE; exact ⟨E, hE, rfl⟩
  | cons i l ih =>
    intro hp hsp E hE
    obtain ⟨iid, nm, rfl, x, hx, hxi, hxc⟩ := hp _ (List.mem_cons_self ..)
    have hstep : linkEdges ln (IfArg.iface iid nm :: l) (grow s [ln] E) =
        linkEdges ln l (setEdge ln.ref ⟨.connectionPoint, iid⟩ .connects (grow s [ln] E)) := rfl
    have hs : setEdge ln.ref ⟨.connectionPoint, iid⟩ .connects (grow s [ln] E) =
        grow s [ln] (E.filter (fun e => !sameEnds e ln.ref ⟨.connectionPoint, iid⟩) ++ [⟨ln.ref, ⟨.connectionPoint, iid⟩, .connects⟩]) := by
      unfold setEdge grow
      simp only [List.filter_append, List.append_assoc]
      congr 2
      rw [List.filter_eq_self]
      intro e he
      have := Absent.edge hc (absent_of_fresh hf) he
      rw [sameEnds_false_left this.1 this.2]; rfl
    rw [hstep, hs]
    refine ih (fun j hj => hp j (List.mem_cons_of_mem _ hj)) (fun m hm ht j hj => hsp m hm ht j (List.mem_cons_of_mem _ hj)) _ ?_
    intro e he
    rcases List.mem_append.mp he with he | he
    · exact hE e (List.mem_filter.mp he).1
    · rw [List.mem_singleton.mp he, ← hxi, ← ref_of_cls hxc]
      exact .linkToOld hi (List.mem_singleton.mpr rfl) hlc hx hxc fun ht => hsp x hx ht _ (List.mem_cons_self ..) iid nm rfl hxi

theorem addLink_stable {P : Topo → Prop} (hP : BuildStable P) (fl : Flavour) (c : Nat) (name : String) (nid : Option Nid)
    (ltype : Option String) (ifs : Option (List IfArg)) (tech : Option String) (props : List PropArg) (s : Topo)
    (ht : TypeArgOk .link ltype) (hsp : ∀ l, ifs = some l → NoSpIn s l) (h : P s) :
    P (addLink fl c name nid ltype ifs tech props s).2 := by
  unfold addLink
  refine state_after_ro (readOnly_listNames _ _) h (fun _ _ => ?_)
  refine state_after_ro (readOnly_guard _ _) h (fun _ _ => ?_)
  have hi := hP.ids _ h
  refine (linkNew_spec fl c name nid ltype ifs tech props s hi).state h fun _ _ ⟨l, ln, hl, hf, hlc, hty, _, hp, _, ht'⟩ => ?_
  obtain ⟨E, hE, heq⟩ := linkEdges_grow hi (hP.closed _ h) hf hlc l hp (hsp l hl) [] (fun _ he => nomatch he)
  rw [ht', pushNode_eq_grow, heq]
  -- a Link is no Component and no interface: nothing to count
  refine hP.growCL h ⟨.single hf (nodeOk_of hlc (ht _ hty)) hE, ⟨?_, ?_, ?_⟩, fun x hx => .inr (List.mem_singleton.mp hx ▸ hlc)⟩ <;>
    intro x hx <;> simp at hx <;> subst hx <;> simp [hlc]

theorem invS_addLink (fl : Flavour) (c : Nat) (name : String) (nid : Option Nid) (ltype : Option String)
    (ifs : Option (List IfArg)) (tech : Option String) (props : List PropArg) (s : Topo) (ht : TypeArgOk .link ltype)
    (hsp : ∀ l, ifs = some l → NoSpIn s l) (h : InvS s) : InvS (addLink fl c name nid ltype ifs tech props s).2 :=
  addLink_stable buildStable_invS fl c name nid ltype ifs tech props s ht hsp h

/-- the new part: a ServicePort under the service and a Link joining it to the interface; the handle cache plays no part -/
theorem connect_growCL (fl : Flavour) (c : Nat) (svc iid : Nid) (iname : String) (cache : Cache) (s : Topo)
    (hsv : HandleOk s svc .networkService) (hcp : HandleOk s iid .connectionPoint)
    (hfr : ∀ m ∈ s.nodes, m.nid ≠ .gen c ∧ m.nid ≠ .gen (c + 1))
    (hnsp : NoSpIn s [.iface iid iname]) (hi : IdsOk s) (hc : ClosedOk s) :
    (connectInterface fl c svc cache (.iface iid iname) s).2 = s ∨
    ∃ cp ln E, GrowCL s [cp, ln] E ∧ cp.cls = .connectionPoint ∧ ln.cls = .link ∧
      (connectInterface fl c svc cache (.iface iid iname) s).2 = grow s [cp, ln] E := by
  rcases connect_spec fl c svc iid iname cache s hi hc hcp hfr with ⟨e, he⟩ |
    ⟨_, _, hres, sv, fi, cp, ln, nm, hsvm, hsvi, hfim, hfii, _, hcc, hci, hct, hlc, hlt, hli, _, rfl⟩
  · rw [he]; exact .inl rfl
  · rw [hres]
    right
    have hsvc : sv.cls = .networkService := hsv sv hsvm hsvi
    have hfic : fi.cls = .connectionPoint := hcp fi hfim hfii
    have hfit : fi.typ ≠ "ServicePort" := fun ht => hnsp fi hfim ht _ (List.mem_singleton.mpr rfl) iid iname rfl hfii
    have hiid : iid ≠ .gen c := by rw [← hfii]; exact (hfr fi hfim).1
    have hcpr : cp.ref = ⟨.connectionPoint, .gen c⟩ := hci ▸ ref_of_cls hcc
    have hlnr : ln.ref = ⟨.link, .gen (c + 1)⟩ := hli ▸ ref_of_cls hlc
    have hfir : fi.ref = ⟨.connectionPoint, iid⟩ := hfii ▸ ref_of_cls hfic
    have hsvr : sv.ref = ⟨.networkService, svc⟩ := hsvi ▸ ref_of_cls hsvc
    have hx : GrowOk s [cp, ln] [⟨sv.ref, cp.ref, .connects⟩, ⟨ln.ref, fi.ref, .connects⟩, ⟨ln.ref, cp.ref, .connects⟩] := by
      refine .intro (fun x hx => ?_) (by simp [hci, hli]) (fun e he => ?_)
      · simp only [List.mem_cons, List.mem_nil_iff, or_false] at hx
        rcases hx with rfl | rfl
        · exact ⟨fun m hm => hci ▸ (hfr m hm).1, nodeOk_of hcc (hct ▸ servicePort_ok)⟩
        · refine ⟨fun m hm => hli ▸ (hfr m hm).2, nodeOk_of hlc ?_⟩
          rw [hlt]; split
          · exact l2path_ok
          · exact patch_ok
      · simp only [List.mem_cons, List.mem_nil_iff, or_false] at he
        rcases he with rfl | rfl | rfl
        · exact .hang hsvm (by simp) (by simp [edgeOk, hsvc, hcc]) (by simp [hsvc])
        · exact .linkToOld hi (by simp) hlc hfim hfic hfit
        · exact .linkToNew (by simp) hlc (by simp) hcc
    -- owners, parents, peers among the three new edges, for `cp` then `ln` each (`ln` is no Component and no interface); then the classes
    refine ⟨cp, ln, _, ⟨hx, ⟨?_, ?_, ?_⟩, ?_⟩, hcc, hlc, rfl⟩ <;> intro x hx' <;> simp at hx' <;> rcases hx' with rfl | rfl
    · simp [hcc]
    · simp [hlc]
    · intro _
      -- the one parent of `cp` is the service
      simp [parentsOf, hcpr, hlnr, hfir, hsvr, isIfParentCls, hiid]
    · simp [hlc]
    · intro _ _
      -- the one link of `cp` is `ln`, whose other end is `fi` (`fi ≠ cp` as `iid ≠ gen c`)
      simp [spPeers, linksOf, hcpr, hlnr, hfir, hsvr, List.filter_cons, hiid]
    · simp [hlc]
    · exact .inl hcc
    · exact .inr hlc

theorem connect_grow_spec (fl : Flavour) (c : Nat) (svc iid : Nid) (iname : String) (cache : Cache) (s : Topo)
    (hsv : HandleOk s svc .networkService) (hcp : HandleOk s iid .connectionPoint)
    (hfr : ∀ m ∈ s.nodes, m.nid ≠ .gen c ∧ m.nid ≠ .gen (c + 1))
    (hnsp : NoSpIn s [.iface iid iname]) (h : InvD s) :
    (connectInterface fl c svc cache (.iface iid iname) s).2 = s ∨
    ∃ cp ln E, GrowOk s [cp, ln] E ∧ cp.cls = .connectionPoint ∧ ln.cls = .link ∧
      (connectInterface fl c svc cache (.iface iid iname) s).2 = grow s [cp, ln] E := by
  rcases connect_growCL fl c svc iid iname cache s hsv hcp hfr hnsp h.ids h.closed with he | ⟨cp, ln, E, g, hcc, hlc, he⟩
  · exact .inl he
  · exact .inr ⟨cp, ln, E, g.ok, hcc, hlc, he⟩

theorem connect_stable {P : Topo → Prop} (hP : BuildStable P) (fl : Flavour) (c : Nat) (svc iid : Nid) (iname : String) (cache : Cache)
    (s : Topo) (hsv : HandleOk s svc .networkService) (hcp : HandleOk s iid .connectionPoint)
    (hfr : ∀ m ∈ s.nodes, m.nid ≠ .gen c ∧ m.nid ≠ .gen (c + 1)) (hnsp : NoSpIn s [.iface iid iname]) (h : P s) :
    P (connectInterface fl c svc cache (.iface iid iname) s).2 := by
  rcases connect_growCL fl c svc iid iname cache s hsv hcp hfr hnsp (hP.ids _ h) (hP.closed _ h) with he | ⟨cp, ln, E, g, _, _, he⟩
  · rw [he]; exact h
  · rw [he]; exact hP.growCL h g

theorem invS_connect (fl : Flavour) (c : Nat) (svc iid : Nid) (iname : String) (cache : Cache) (s : Topo)
    (hsv : HandleOk s svc .networkService) (hcp : HandleOk s iid .connectionPoint)
    (hfr : ∀ m ∈ s.nodes, m.nid ≠ .gen c ∧ m.nid ≠ .gen (c + 1))
    (hnsp : NoSpIn s [.iface iid iname]) (h : InvS s) :
    InvS (connectInterface fl c svc cache (.iface iid iname) s).2 :=
  connect_stable buildStable_invS fl c svc iid iname cache s hsv hcp hfr hnsp h

end FimVerif.Topo
