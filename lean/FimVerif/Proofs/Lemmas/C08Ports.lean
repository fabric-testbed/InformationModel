import FimVerif.Proofs.Lemmas.C08Owned
import FimVerif.Proofs.Lemmas.C08Api
/-! The service-side ports.  Up to `OwnedLink`, shared by both developments: the peering invariant `InvPeer`, `PortOf` against what
the disconnect loop finds (`spPeers`) and deletes, and the interfaces the loop visits (`deepIfs` of the interface lists) as the
connection points below the element.  From `mem_discDel` on, the separation development only: the closed forms of the user-level calls
against the declarative `Owned`. -/
namespace FimVerif.Remove

/-- **peering invariant** (decidable): a connection point is attached to at most one link (`connect_interface` refuses an interface
that has a peer already; the `Link` constructor behind `add_link` makes no such test); a ServicePort has no connection-point neighbours; a link with a ServicePort end joins exactly two
connection points (`connect_interface` / `peer` create the port together with its link) -/
def InvPeer (g : G) : Bool :=
  g.nodes.all (fun n =>
    (n.cls != .cp || ((g.nbrs n.id .connects .link).length ≤ 1 &&
        (n.kind != kServicePort || (g.nbrs n.id .connects .cp).isEmpty))) &&
    (n.cls != .link || !((g.nbrs n.id .connects .cp).any (fun p => g.kind? p == some kServicePort)) ||
        (g.nbrs n.id .connects .cp).length == 2))

theorem invPeer_cp {g : G} (hP : InvPeer g = true) {i : Nat} (hc : g.cls? i = some .cp) :
    (g.nbrs i .connects .link).length ≤ 1 ∧ (g.kind? i = some kServicePort → g.nbrs i .connects .cp = []) := by
  obtain ⟨n, hn, hid, hcl, hk⟩ := elem_of_cls hc
  have := List.all_eq_true.mp hP n hn
  simp only [hid, hcl, bne_self_eq_false, Bool.false_or, Bool.and_eq_true, decide_eq_true_eq, Bool.or_eq_true,
    bne_iff_ne, ne_eq, List.isEmpty_iff] at this
  refine ⟨this.1.1, fun hk' => ?_⟩
  rw [hk] at hk'
  rcases this.1.2 with h | h
  · exact absurd (Option.some.inj hk') h
  · exact h

theorem sp_cps {g : G} (hP : InvPeer g = true) {p : Nat} (hc : g.cls? p = some .cp) (hk : g.kind? p = some kServicePort) :
    g.nbrs p .connects .cp = [] := (invPeer_cp hP hc).2 hk

theorem invPeer_link {g : G} (hP : InvPeer g = true) {l p : Nat} (hc : g.cls? l = some .link)
    (hp : p ∈ g.nbrs l .connects .cp) (hk : g.kind? p = some kServicePort) : (g.nbrs l .connects .cp).length = 2 := by
  obtain ⟨n, hn, hid, hcl, _⟩ := elem_of_cls hc
  have := List.all_eq_true.mp hP n hn
  simp only [hid, hcl, bne_self_eq_false, Bool.false_or, Bool.and_eq_true, Bool.or_eq_true, Bool.not_eq_true',
    List.any_eq_false, beq_iff_eq] at this
  rcases this.2 with h | h
  · have := h p hp; simp [hk] at this
  · exact h

theorem PortOf.cls {g : G} {i p : Nat} (h : PortOf g i p) : g.cls? i = some .cp := h.elim fun _ h => h.1.1

theorem PortOf.port_cls {g : G} {i p : Nat} (h : PortOf g i p) : g.cls? p = some .cp := h.elim fun _ h => mem_nbrs_cls h.2.1

theorem PortOf.ne {g : G} {i p : Nat} (h : PortOf g i p) : p ≠ i := h.elim fun _ h => h.2.2.1

theorem PortOf.port_kind {g : G} {i p : Nat} (h : PortOf g i p) : g.kind? p = some kServicePort := h.elim fun _ h => h.2.2.2

theorem portOf_of_mem_spPeers {g : G} (hP : InvPeer g = true) {i p : Nat} (hc : g.cls? i = some .cp) (h : p ∈ spPeers g i) :
    PortOf g i p := by
  obtain ⟨l, hl, hpl, hne, hk⟩ := mem_spPeers.mp h
  exact ⟨l, ⟨hc, hl, invPeer_link hP (mem_nbrs_cls hl) hpl hk⟩, hpl, hne, hk⟩

theorem link_eq {g : G} (hP : InvPeer g = true) {i l : Nat} (hc : g.cls? i = some .cp) (hl : l ∈ g.nbrs i .connects .link) :
    g.nbrs i .connects .link = [l] :=
  eq_singleton_of_mem_of_length_le_one hl (invPeer_cp hP hc).1

/-- a ServicePort on the Link `l` has no sub-interfaces and no other Link -/
theorem mem_cpDel_sp {g : G} (hP : InvPeer g = true) {l p : Nat} (hc : g.cls? l = some .link) (hp : p ∈ g.nbrs l .connects .cp)
    (hk : g.kind? p = some kServicePort) (z : Nat) :
    z ∈ cpDel g p true ↔ z = p ∨ (z = l ∧ (g.nbrs l .connects .cp).length = 2) := by
  have hcp := mem_nbrs_cls hp
  have hfam : cpFamily g p true = [p] := by simp only [cpFamily, sp_cps hP hcp hk, List.filter_nil]
  simp only [mem_cpDel_fam, hfam, List.mem_singleton, exists_eq_left, link_eq hP hcp (nbrs_symm hp hc)]
  exact or_congr_right (and_congr_right fun e => by rw [e])

theorem mem_cpDel_port {g : G} (hP : InvPeer g = true) {i p : Nat} (h : PortOf g i p) (y : Nat) :
    y ∈ cpDel g p true ↔ y = p ∨ LinkOf g i y := by
  obtain ⟨l, ⟨hc, hl, h2⟩, hpl, _, hk⟩ := h
  rw [mem_cpDel_sp hP (mem_nbrs_cls hl) hpl hk, LinkOf, link_eq hP hc hl, List.mem_singleton]
  exact or_congr_right ⟨fun ⟨e, h⟩ => ⟨hc, e, e ▸ h⟩, fun ⟨_, e, h⟩ => ⟨e, e ▸ h⟩⟩

theorem filter_ne_pair {l : List Nat} {i p : Nat} (h2 : l.length = 2) (hi : i ∈ l) (hp : p ∈ l) (hne : p ≠ i) :
    l.filter (fun q => q != i) = [p] := by
  match l, h2 with
  | [a, b], _ =>
    simp only [List.mem_cons, List.not_mem_nil, or_false] at hi hp
    rcases hi with rfl | rfl <;> rcases hp with rfl | rfl
    · exact absurd rfl hne
    · simp [hne]
    · simp [hne]
    · exact absurd rfl hne

theorem spPeers_of_portOf {g : G} (hP : InvPeer g = true) {i p : Nat} (h : PortOf g i p) : spPeers g i = [p] := by
  obtain ⟨l, ⟨hc, hl, h2⟩, hpl, hne, hk⟩ := h
  simp only [spPeers, peers, link_eq hP hc hl, List.flatMap_cons, List.flatMap_nil, List.append_nil,
    filter_ne_pair h2 (nbrs_symm hl hc) hpl hne]
  simp [hk]

theorem PortOf.unique {g : G} (hP : InvPeer g = true) {i p q : Nat} (h : PortOf g i p) (h' : PortOf g i q) : q = p :=
  (List.cons.inj ((spPeers_of_portOf hP h').symm.trans (spPeers_of_portOf hP h))).1

theorem spPeers_cases {g : G} (hP : InvPeer g = true) {i : Nat} (hc : g.cls? i = some .cp) :
    (spPeers g i = [] ∧ ∀ p, ¬ PortOf g i p) ∨ ∃ p, spPeers g i = [p] ∧ PortOf g i p :=
  match h : spPeers g i with
  | [] => Or.inl ⟨rfl, fun _ hp => nomatch (spPeers_of_portOf hP hp).symm.trans h⟩
  | p :: _ =>
    have hp := portOf_of_mem_spPeers hP hc (h ▸ List.mem_cons_self)
    Or.inr ⟨p, h ▸ spPeers_of_portOf hP hp, hp⟩

theorem port_children {g : G} (hP : InvPeer g = true) {i p : Nat} (h : PortOf g i p) : children g p = [] := by
  simp only [children, h.port_cls, sp_cps hP h.port_cls h.port_kind]
  split <;> rfl

theorem not_portOf_below {g : G} (hP : InvPeer g = true) {x j : Nat} (hb : Below g x j) : ¬ PortOf g j x :=
  fun hp => hp.ne ((below_leaf (port_children hP hp)).mp hb).symm

theorem portOf_back {g : G} (hP : InvPeer g = true) {j p y : Nat} (h1 : PortOf g j p) (h2 : PortOf g p y) : y = j := by
  obtain ⟨l, ⟨hjc, hjl, hl2⟩, hpl, hne, _⟩ := h1
  obtain ⟨l', ⟨hpc, hpl', _⟩, hyl, hyne, _⟩ := h2
  rw [link_eq hP hpc (nbrs_symm hpl (mem_nbrs_cls hjl)), List.mem_singleton] at hpl'; subst hpl'
  have hy : y ∈ (g.nbrs l' .connects .cp).filter (fun q => q != p) := by simp [hyl, hyne]
  rw [filter_ne_pair hl2 hpl (nbrs_symm hjl hjc) (fun h => hne h.symm)] at hy; simpa using hy

/-- the connection points below an interface attached to a service are what `_disconnect_interfaces([i])` visits -/
theorem mem_withSubs_below {g : G} (hI : InvCP g = true) {a : Nat} (hc : g.cls? a = some .cp) (hs : isSub g a = false) (i : Nat) :
    i ∈ withSubs g a ↔ Below g a i ∧ g.cls? i = some .cp := by
  have hcls : (i = a ∨ i ∈ g.nbrs a .connects .cp) → g.cls? i = some .cp := fun h => h.elim (· ▸ hc) mem_nbrs_cls
  rw [mem_withSubs, below_cp_top hI hc hs, and_iff_left_of_imp hcls]
  -- a port with sub-interfaces is a DedicatedPort
  exact or_congr_right (and_iff_right_of_imp fun h => (invCP_at hI hc hs).2.resolve_left (List.ne_nil_of_mem h))

theorem mem_deepIfs_cp {g : G} (hI : InvCP g = true) {i : Nat} (hc : g.cls? i = some .cp) (hs : isSub g i = false) (j : Nat) :
    j ∈ deepIfs g [i] ↔ Below g i j ∧ g.cls? j = some .cp := by
  rw [deepIfs_singleton, mem_withSubs_below hI hc hs j]

theorem cps_below_iff {g : G} {x : Nat} {k : Cls} (hc : g.cls? x = some k) (hk : k ≠ .cp) (i : Nat) :
    Below g x i ∧ g.cls? i = some .cp ↔ ∃ y ∈ children g x, Below g y i ∧ g.cls? i = some .cp := by
  rw [below_iff]
  constructor
  · rintro ⟨rfl | ⟨y, hy, hb⟩, hcp⟩
    · rw [hc] at hcp; exact absurd (Option.some.inj hcp) hk
    · exact ⟨y, hy, hb, hcp⟩
  · rintro ⟨y, hy, hb, hcp⟩; exact ⟨Or.inr ⟨y, hy, hb⟩, hcp⟩

/-- the connection points below a network service are what `_disconnect_interfaces(ns.interface_list)` visits -/
theorem mem_deepIfs_ns {g : G} (hI : InvCP g = true) {s : Nat} (hc : g.cls? s = some .ns) (i : Nat) :
    i ∈ deepIfs g (g.nbrs s .connects .cp) ↔ Below g s i ∧ g.cls? i = some .cp := by
  rw [cps_below_iff hc (by decide)]
  simp only [children_ns hc, deepIfs, List.mem_flatMap]
  exact exists_congr fun a => and_congr_right fun ha => mem_withSubs_below hI (mem_nbrs_cls ha) (port_not_sub hc ha) i

theorem mem_directIfs {g : G} {p a : Nat} :
    a ∈ directIfs g p ↔ ∃ s ∈ g.nbrs p .has .ns, a ∈ g.nbrs s .connects .cp := by
  simp [directIfs, List.mem_flatMap]

theorem directIfs_port {g : G} {p a : Nat} (h : a ∈ directIfs g p) : g.cls? a = some .cp ∧ isSub g a = false := by
  obtain ⟨s, hs, ha⟩ := mem_directIfs.mp h
  exact ⟨mem_nbrs_cls ha, port_not_sub (mem_nbrs_cls hs) ha⟩

theorem ifaceListNode_port {g : G} {n a : Nat} (h : a ∈ ifaceListNode g n) : g.cls? a = some .cp ∧ isSub g a = false := by
  rcases List.mem_append.mp h with h | h
  · exact directIfs_port h
  · obtain ⟨c, _, h⟩ := List.mem_flatMap.mp h
    exact directIfs_port h

theorem mem_deepIfs_direct {g : G} (hI : InvCP g = true) (p i : Nat) :
    i ∈ deepIfs g (directIfs g p) ↔ ∃ s ∈ g.nbrs p .has .ns, Below g s i ∧ g.cls? i = some .cp := by
  rw [directIfs, deepIfs_flatMap, List.mem_flatMap]
  exact exists_congr fun s => and_congr_right fun hs => mem_deepIfs_ns hI (mem_nbrs_cls hs) i

theorem mem_deepIfs_comp {g : G} (hI : InvCP g = true) {c : Nat} (hc : g.cls? c = some .comp) (i : Nat) :
    i ∈ deepIfs g (ifaceListComp g c) ↔ Below g c i ∧ g.cls? i = some .cp := by
  rw [cps_below_iff hc (by decide), children_comp hc]
  exact mem_deepIfs_direct hI c i

theorem mem_deepIfs_node {g : G} (hI : InvCP g = true) {n : Nat} (hc : g.cls? n = some .node) (i : Nat) :
    i ∈ deepIfs g (ifaceListNode g n) ↔ Below g n i ∧ g.cls? i = some .cp := by
  simp only [cps_below_iff hc (by decide), children_node hc, ifaceListNode, deepIfs_append, deepIfs_flatMap, List.mem_append,
    List.mem_flatMap, or_and_right, exists_or]
  rw [or_comm]
  exact or_congr (exists_congr fun c => and_congr_right fun hc' => mem_deepIfs_comp hI (mem_nbrs_cls hc') i)
    (mem_deepIfs_direct hI n i)

/-- a removed Link and the ServicePorts it peered -/
def OwnedLink (g : G) (l y : Nat) : Prop := y = l ∨ (y ∈ g.nbrs l .connects .cp ∧ g.kind? y = some kServicePort)

theorem mem_discDel {g : G} (hP : InvPeer g = true) {i : Nat} (hc : g.cls? i = some .cp) (y : Nat) :
    y ∈ discDel g i ↔ ∃ p, PortOf g i p ∧ (y = p ∨ LinkOf g i y) := by
  unfold discDel
  rcases spPeers_cases hP hc with ⟨h0, hno⟩ | ⟨p, hp, hport⟩
  · simp [h0, hno]
  · simp only [hp, mem_cpDel_port hP hport]
    exact ⟨fun h => ⟨p, hport, h⟩, fun ⟨q, hq, h⟩ => hport.unique hP hq ▸ h⟩

/-- **the closed form of a user-level call**: what the disconnect loop over exactly the connection points below `x` deletes, then a
list `del` that is `OwnedG g x`, make `Owned g x` -/
theorem owned_iff_disc {g : G} (hP : InvPeer g = true) {I del : List Nat} {x : Nat}
    (hI : ∀ i, i ∈ I ↔ Below g x i ∧ g.cls? i = some .cp) (hdel : ∀ y, y ∈ del ↔ OwnedG g x y) (y : Nat) :
    y ∈ I.flatMap (discDel g) ++ del ↔ Owned g x y := by
  rw [List.mem_append, hdel, List.mem_flatMap]
  constructor
  · rintro (⟨i, hi, hy⟩ | ⟨i, hb, h⟩)
    · obtain ⟨hb, hc⟩ := (hI i).mp hi
      obtain ⟨p, hp, rfl | hl⟩ := (mem_discDel hP hc y).mp hy
      · exact ⟨i, hb, Or.inr (Or.inr hp)⟩
      · exact ⟨i, hb, Or.inr (Or.inl hl)⟩
    · exact ⟨i, hb, h.imp id Or.inl⟩
  · rintro ⟨i, hb, (h | h | h)⟩
    · exact Or.inr ⟨i, hb, Or.inl h⟩
    · exact Or.inr ⟨i, hb, Or.inr h⟩
    · exact Or.inl ⟨i, (hI i).mpr ⟨hb, h.cls⟩, (mem_discDel hP h.cls y).mpr ⟨y, h, Or.inl rfl⟩⟩

theorem mem_nodeApiDel_iff_owned {g : G} (hI : InvCP g = true) (hP : InvPeer g = true) {n : Nat}
    (hc : g.cls? n = some .node) (y : Nat) : y ∈ nodeApiDel g n ↔ Owned g n y :=
  owned_iff_disc hP (mem_deepIfs_node hI hc) (mem_nodeDel_iff_ownedG hI hc) y

theorem mem_compApiDel_iff_owned {g : G} (hI : InvCP g = true) (hP : InvPeer g = true) {c : Nat}
    (hc : g.cls? c = some .comp) (y : Nat) : y ∈ compApiDel g c ↔ Owned g c y :=
  owned_iff_disc hP (mem_deepIfs_comp hI hc) (mem_compDel_iff_ownedG hI hc) y

theorem mem_nsApiDel_iff_owned {g : G} (hI : InvCP g = true) (hP : InvPeer g = true) {s : Nat}
    (hc : g.cls? s = some .ns) (y : Nat) : y ∈ nsApiDel g s ↔ Owned g s y :=
  owned_iff_disc hP (mem_deepIfs_ns hI hc) (mem_nsDel_iff_ownedG hI hc) y

theorem mem_ifaceApiDel_iff_owned {g : G} (hI : InvCP g = true) (hP : InvPeer g = true) {i : Nat}
    (hc : g.cls? i = some .cp) (hs : isSub g i = false) (y : Nat) : y ∈ ifaceApiDel g i ↔ Owned g i y :=
  owned_iff_disc hP (mem_deepIfs_cp hI hc hs) (mem_cpDel_iff_ownedG hI hc hs) y

theorem mem_linkApiDel_iff_owned {g : G} (hP : InvPeer g = true) {l : Nat} (hc : g.cls? l = some .link) (y : Nat) :
    y ∈ linkApiDel g l ↔ OwnedLink g l y := by
  simp only [linkApiDel, List.mem_cons, List.mem_flatMap, OwnedLink, mem_spEnds]
  constructor
  · rintro (rfl | ⟨p, hp, hy⟩)
    · exact Or.inl rfl
    · rcases (mem_cpDel_sp hP hc hp.1 hp.2 y).mp hy with rfl | ⟨rfl, _⟩
      · exact Or.inr hp
      · exact Or.inl rfl
  · exact Or.imp_right fun h => ⟨y, h, self_mem_cpDel g y true⟩

theorem mem_childDel_iff_owned {g : G} (hP : InvPeer g = true) {c : Nat} (hc : g.cls? c = some .cp)
    (hs : isSub g c = true) (hk : g.kind? c ≠ some kDedicatedPort) (y : Nat) :
    y ∈ childDel g c ↔ Owned g c y := by
  refine owned_iff_disc hP (fun i => ?_) (mem_cpDel_false_iff_ownedG hc hs) y
  rw [deepIfs_singleton, withSubs_of_ne hk, below_leaf (children_cp_sub hc hs), List.mem_singleton]
  exact ⟨fun e => ⟨e, e ▸ hc⟩, And.left⟩

end FimVerif.Remove
