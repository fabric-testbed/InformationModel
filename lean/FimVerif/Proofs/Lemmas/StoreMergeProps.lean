import FimVerif.Model.Store
/-! C05: a successful `mergeProps` is a `List.map` of `policyVal` over the caller's dictionary (`mergeProps_eq`). -/
namespace FimVerif.Store
open FimVerif FimVerif.Gen.StoreConsts

def policyVal (pol : Option (List (String × Policy))) (theirs : Props) (k : String) (v : Val) : Val :=
  match pol with
  | none => v
  | some pol =>
    match AMap.get k pol with
    | none => v
    | some .discard => v
    | some .overwrite => (AMap.get k theirs).getD .none
    | some .combine => .pair v ((AMap.get k theirs).getD .none)
    | some .other => .none

/-- the merge policy leaves property `k` alone -/
def polKeeps (k : String) (pol : List (String × Policy)) : Bool :=
  match AMap.get k pol with
  | none => true
  | some .discard => true
  | _ => false

def polKeepsClass (pol : List (String × Policy)) : Bool :=
  match AMap.get propClass pol with
  | none => true
  | some .discard => true
  | _ => false

theorem polKeepsClass_eq (pol : List (String × Policy)) : polKeepsClass pol = polKeeps propClass pol := rfl

theorem policyVal_of_polKeeps {k : String} {pol : List (String × Policy)} (hk : polKeeps k pol = true) (theirs : Props) (v : Val) :
    policyVal (some pol) theirs k v = v := by
  unfold polKeeps at hk
  unfold policyVal
  split at hk <;> simp_all

theorem mergeProps_eq {theirs : Props} {pol : List (String × Policy)} {l np : Props} (h : mergeProps theirs pol l = .ok np) :
    np = l.map fun p => (p.1, policyVal (some pol) theirs p.1 p.2) := by
  induction l generalizing np with
  | nil => cases h; rfl
  | cons x l ih =>
    obtain ⟨k, v⟩ := x
    simp only [mergeProps] at h
    split at h
    · cases h
    · rename_i rest hrest
      rw [List.map_cons, ← ih hrest]
      simp only [policyVal]
      split at h
      · rename_i hp; cases h; rw [hp]
      · rename_i hp; cases h; rw [hp]
      · rename_i hp
        split at h
        · cases h
        · rename_i w hw; cases h; rw [hp, hw]; rfl
      · rename_i hp
        split at h
        · cases h
        · rename_i w hw; cases h; rw [hp, hw]; rfl
      · rename_i hp; cases h; rw [hp]

theorem mergeProps_keys {theirs : Props} {pol : List (String × Policy)} {l np : Props} (h : mergeProps theirs pol l = .ok np) :
    AMap.keys np = AMap.keys l := by
  rw [mergeProps_eq h, AMap.keys_map_val]

theorem mergeProps_policy {theirs : Props} {pol : List (String × Policy)} {l np : Props} (h : mergeProps theirs pol l = .ok np)
    (k : String) : AMap.get k np = (AMap.get k l).map (policyVal (some pol) theirs k) := by
  rw [mergeProps_eq h, AMap.get_map_val]

theorem mergeProps_get {theirs : Props} {pol : List (String × Policy)} {l np : Props} (h : mergeProps theirs pol l = .ok np)
    {k : String} (hk : polKeeps k pol = true) : AMap.get k np = AMap.get k l := by
  rw [mergeProps_policy h]
  cases AMap.get k l with
  | none => rfl
  | some v => exact congrArg some (policyVal_of_polKeeps hk theirs v)

end FimVerif.Store
