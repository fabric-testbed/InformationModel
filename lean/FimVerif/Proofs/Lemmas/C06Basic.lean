import FimVerif.Model.Query
import FimVerif.Proofs.Lemmas.ListAux
import FimVerif.Proofs.Lemmas.ExceptAux
/-!
# Edges of a view and the look-ups that find them (C06)

`Edge g u v r` is the notion the contracts are stated with.  The model never asks for it: it looks edges up with `joins` and
`other` (`nbrs`, `adjB`, `relOf`), and the lemmas here translate each look-up to `Edge`.  Then the parts of `wf` by name, and
`prologue`: when a query answers.
-/
namespace FimVerif.Query
open FimVerif.Gen

/-- an undirected edge of relation `r` between `u` and `v` -/
def Edge (g : TGraph) (u v r : String) : Prop := (u, v, r) ∈ g.edges ∨ (v, u, r) ∈ g.edges

theorem Edge.symm {g : TGraph} {u v r : String} (h : Edge g u v r) : Edge g v u r := Or.symm h

theorem joins_iff {e : EdgeT} {u v : String} :
    joins e u v = true ↔ (e.1 = u ∧ e.2.1 = v) ∨ (e.1 = v ∧ e.2.1 = u) := by
  simp [joins]

theorem joins_symm (e : EdgeT) (u v : String) : joins e u v = joins e v u := by
  simp [joins, Bool.or_comm]

theorem other_eq_some {u m : String} {e : EdgeT} : other u e = some m ↔ joins e u m = true := by
  simp only [other, joins, Bool.or_eq_true, Bool.and_eq_true, beq_iff_eq]
  split
  · simp_all
  · split <;> simp_all

theorem edge_iff_joins {g : TGraph} {u v r : String} :
    Edge g u v r ↔ ∃ e ∈ g.edges, joins e u v = true ∧ e.2.2 = r := by
  constructor
  · rintro (h | h)
    · exact ⟨_, h, joins_iff.2 (.inl ⟨rfl, rfl⟩), rfl⟩
    · exact ⟨_, h, joins_iff.2 (.inr ⟨rfl, rfl⟩), rfl⟩
  · rintro ⟨⟨a, b, r'⟩, he, hj, rfl⟩
    rcases joins_iff.1 hj with ⟨rfl, rfl⟩ | ⟨rfl, rfl⟩
    · exact .inl he
    · exact .inr he

theorem adjB_iff {g : TGraph} {u v : String} : adjB g u v = true ↔ ∃ r, Edge g u v r := by
  simp only [adjB, List.any_eq_true, edge_iff_joins]
  exact ⟨fun ⟨e, he, hj⟩ => ⟨_, e, he, hj, rfl⟩, fun ⟨_, e, he, hj, _⟩ => ⟨e, he, hj⟩⟩

theorem mem_nbrs {g : TGraph} {n m : String} : m ∈ nbrs g n ↔ ∃ r, Edge g n m r := by
  simp only [nbrs, List.mem_filterMap, other_eq_some, ← adjB_iff, adjB, List.any_eq_true]

def UniqEdges (g : TGraph) : Prop := g.edges.Pairwise (fun e f => joins f e.1 e.2.1 = false)

def EndsIn (g : TGraph) : Prop := ∀ e ∈ g.edges, e.1 ∈ verts g ∧ e.2.1 ∈ verts g

theorem joins_of_joins {e x : EdgeT} {u v : String} (hx : joins x u v = true) (he : joins e u v = true) :
    joins e x.1 x.2.1 = true := by
  rw [joins_iff] at hx he ⊢
  rcases hx with ⟨a, b⟩ | ⟨a, b⟩ <;> rcases he with ⟨c, d⟩ | ⟨c, d⟩
  · exact .inl ⟨c.trans a.symm, d.trans b.symm⟩
  · exact .inr ⟨c.trans b.symm, d.trans a.symm⟩
  · exact .inr ⟨c.trans b.symm, d.trans a.symm⟩
  · exact .inl ⟨c.trans a.symm, d.trans b.symm⟩

theorem joins_comm (e f : EdgeT) : joins f e.1 e.2.1 = joins e f.1 f.2.1 := by
  rw [Bool.eq_iff_iff, joins_iff, joins_iff]
  constructor <;> rintro (⟨h1, h2⟩ | ⟨h1, h2⟩) <;> simp_all

theorem find?_of_pairwise {α} {l : List α} {R : α → α → Prop} {p : α → Bool} (hl : l.Pairwise R)
    (hR : ∀ x y, p x = true → p y = true → ¬ R x y) {e : α} (he : e ∈ l) (hp : p e = true) : l.find? p = some e := by
  obtain ⟨x, hx⟩ := Option.isSome_iff_exists.1 (List.find?_isSome.2 ⟨e, he, hp⟩)
  have huniq : ∀ ⦃x⦄, x ∈ l → ∀ ⦃y⦄, y ∈ l → p x = true → p y = true → x = y :=
    List.Pairwise.forall_of_forall_of_flip (fun _ _ _ _ => rfl) (hl.imp fun hr hx hy => absurd hr (hR _ _ hx hy))
      (hl.imp fun hr hy hx => absurd hr (hR _ _ hx hy))
  rw [hx, huniq (List.mem_of_find?_eq_some hx) he (List.find?_some hx) hp]

theorem relOf_iff {g : TGraph} (hu : UniqEdges g) {u v r : String} : relOf g u v = some r ↔ Edge g u v r := by
  constructor
  · intro h
    obtain ⟨e, hf, rfl⟩ := Option.map_eq_some_iff.1 h
    exact edge_iff_joins.2 ⟨e, List.mem_of_find?_eq_some hf, List.find?_some (p := (joins · u v)) hf, rfl⟩
  · intro h
    obtain ⟨e, he, hj, rfl⟩ := edge_iff_joins.1 h
    -- two edges that join `u` and `v` join each other's ends, which `UniqEdges` excludes
    rw [relOf, find?_of_pairwise hu (fun _ _ hx hy h => by rw [joins_of_joins hx hy] at h; cases h) he hj]
    rfl

theorem classOf_iff {g : TGraph} (hn : (verts g).Nodup) {m c : String} : classOf g m = some c ↔ (m, c) ∈ g.nodes := by
  constructor
  · intro h
    obtain ⟨x, hx, rfl⟩ := Option.map_eq_some_iff.1 h
    exact beq_iff_eq.1 (List.find?_some (p := fun x : String × String => x.1 == m) hx) ▸ List.mem_of_find?_eq_some hx
  · intro h
    rw [classOf, List.find?_key_of_nodup (fun x : String × String => x.1) hn h]
    rfl

theorem edge_rel_unique {g : TGraph} (hu : UniqEdges g) {u v r r' : String} (h : Edge g u v r) (h' : Edge g u v r') : r = r' := by
  have a := (relOf_iff hu).2 h
  have b := (relOf_iff hu).2 h'
  rw [a] at b
  exact Option.some.inj b

theorem Edge.ends {g : TGraph} (hends : EndsIn g) {u v r : String} (h : Edge g u v r) : u ∈ verts g ∧ v ∈ verts g :=
  h.elim (hends _) fun h => (hends _ h).symm

theorem wf_iff {g : TGraph} : wf g = true ↔ (verts g).Nodup ∧ EndsIn g ∧ UniqEdges g := by
  simp [wf, UniqEdges, EndsIn, and_assoc]

theorem wf_nodup {g : TGraph} (hw : wf g = true) : (verts g).Nodup := (wf_iff.1 hw).1

theorem wf_ends {g : TGraph} (hw : wf g = true) : EndsIn g := (wf_iff.1 hw).2.1

theorem wf_uniq {g : TGraph} (hw : wf g = true) : UniqEdges g := (wf_iff.1 hw).2.2

theorem seq_ok {α} {m : Except Err Unit} {k : Except Err α} {l : α} :
    (do m; k) = .ok l ↔ m = .ok () ∧ k = .ok l := by
  cases m <;> simp [bind, Except.bind]

theorem pure_ok {α} {x l : α} : (pure x : Except Err α) = .ok l ↔ l = x :=
  ⟨fun h => (Except.ok.inj h).symm, fun h => h ▸ rfl⟩

theorem findNode_ok {g : TGraph} {n : String} : findNode g n = .ok () ↔ n ∈ verts g := by
  unfold findNode; split <;> simp_all

theorem prologue {α} {g : TGraph} {n : String} {k : Except Err α} {l : α} :
    (do extract g; findNode g n; k) = .ok l ↔ n ∈ verts g ∧ k = .ok l := by
  rw [seq_ok, seq_ok, findNode_ok, and_iff_right_of_imp]
  -- a view with a node is not empty
  intro h
  cases hg : g.nodes with
  | nil => simp [verts, hg] at h
  | cons => simp [extract, hg]

end FimVerif.Query
