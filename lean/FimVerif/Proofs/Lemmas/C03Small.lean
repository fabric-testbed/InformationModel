import FimVerif.Generated.Fields
import FimVerif.Proofs.Lemmas.ListAux
/-! The small codecs of C03: Tags, MaintenanceInfo entries, PathInfo/ERO, typed tuples (and what `str.strip()` does to `type:value`). -/
namespace FimVerif.C03
open FimVerif FimVerif.Codec JVal

theorem tagsArg_ok (okTag : String → Bool) (a : JVal) (ts : List String) (h : tagsArg okTag a = .ok ts) :
    ∀ t ∈ ts, okTag t = true := by
  cases a with
  | arr xs =>
    -- `mapM` stops at the first element that is not a str passing `okTag`; when there is none, `ts` are those strs
    simp only [tagsArg] at h
    induction xs generalizing ts with
    | nil => cases h; simp
    | cons x r ih =>
      rw [List.mapM_cons] at h
      match x, h with
      | .str s, h =>
        cases hs : okTag s <;> simp only [hs, if_true, if_false, Bool.false_eq_true] at h
        · cases h
        · generalize hr : List.mapM (m := Except Err) _ r = res at h
          cases res with
          | error e => cases h
          | ok us => cases h; exact List.forall_mem_cons.2 ⟨hs, ih us hr⟩
  | str s =>
    simp only [tagsArg] at h
    split at h
    · injection h with h; subst h; simpa
    · cases h
  | _ => simp [tagsArg] at h

theorem tagsArg_arr (okTag : String → Bool) (ts : List String) (h : ∀ t ∈ ts, okTag t = true) :
    tagsArg okTag (.arr (ts.map .str)) = .ok ts := by
  simp only [tagsArg]
  induction ts with
  | nil => rfl
  | cons t r ih =>
    have ht := h t (List.mem_cons_self)
    have := ih (fun u hu => h u (List.mem_cons_of_mem _ hu))
    simp only [List.map_cons, List.mapM_cons, ht, if_true, this]
    rfl

theorem tagsNew_ok (okTag : String → Bool) (args : List JVal) (ts : List String) (h : tagsNew okTag args = .ok ts) :
    ∀ t ∈ ts, okTag t = true := by
  fun_induction tagsNew okTag args generalizing ts with
  | case1 => cases h; simp
  | case2 a rest e he => cases h
  | case3 a rest us hus e he => cases h
  | case4 a rest us hus vs hvs ih =>
    cases h
    intro t ht
    rcases List.mem_append.1 ht with ht | ht
    · exact tagsArg_ok okTag a us hus t ht
    · exact ih vs hvs t ht

/-- an entry whose state is a member of the enum (or None) and whose dates are canonical ISO texts -/
def EntryOK (iso : String → Option String) (e : MEntry) : Prop :=
  (∀ s, e.state = some s → s ∈ stateNames) ∧
  (∀ d, e.deadline = some d → d ≠ "" ∧ iso d = some d) ∧
  (∀ d, e.expectedEnd = some d → d ≠ "" ∧ iso d = some d)

theorem dateOf_optStr (iso : String → Option String) (d : Option String)
    (h : ∀ s, d = some s → s ≠ "" ∧ iso s = some s) : dateOf iso (some (optStr d)) = .ok d := by
  cases d with
  | none => simp [dateOf, optStr, truthy]
  | some s =>
    obtain ⟨h1, h2⟩ := h s rfl
    simp [dateOf, optStr, truthy, h1, h2]

theorem stateOf_optStr (st : Option String) (h : ∀ s, st = some s → s ∈ stateNames) : stateOf (optStr st) = st := by
  cases st with
  | none => rfl
  | some s =>
    have := h s rfl
    simp [stateOf, optStr, this]

theorem entry_roundtrip (iso : String → Option String) (e : MEntry) (h : EntryOK iso e) :
    entryOf iso (entryJson e) = .ok e := by
  obtain ⟨h1, h2, h3⟩ := h
  have a := dateOf_optStr iso e.deadline h2
  have b := dateOf_optStr iso e.expectedEnd h3
  have c := stateOf_optStr e.state h1
  simp [entryOf, entryJson, entryFields, lookup, List.filter, a, b, c]

theorem entries_roundtrip (iso : String → Option String) (l : List (String × MEntry))
    (h : ∀ p ∈ l, EntryOK iso p.2) : entriesOf iso (l.map fun p => (p.1, entryJson p.2)) = .ok l := by
  induction l with
  | nil => rfl
  | cons p t ih =>
    have hp := entry_roundtrip iso p.2 (h p List.mem_cons_self)
    have ht := ih (fun q hq => h q (List.mem_cons_of_mem _ hq))
    simp [entriesOf, hp, ht]

/-- values the constructor and `set()` can build: a Path-typed value with no payload or a `Path`, a
Graph-typed value with no payload or a (non-None) graph id -/
def PIDomain (p : PathInfo) : Prop :=
  match p.type, p.payload with
  | some .path, .unset => True
  | some .path, .path _ _ => True
  | some .graph, .unset => True
  | some .graph, .raw j => j ≠ .null
  | _, _ => False

theorem payloadJson_domain (p : PathInfo) (h : PIDomain p) :
    ∃ pl, payloadJson p = .ok pl ∧
      piCoreOf (some (.str (typeStr p.type))) (some pl) = .ok (some { type := p.type, payload := p.payload }) := by
  obtain ⟨t, pay, st⟩ := p
  match t, pay, h with
  | some .path, .unset, _ => exact ⟨_, rfl, rfl⟩
  | some .path, .path a z, _ => exact ⟨_, rfl, rfl⟩
  | some .graph, .unset, _ => exact ⟨_, rfl, rfl⟩
  | some .graph, .raw j, h =>
    cases j with
    | null => exact absurd rfl h
    | _ => exact ⟨_, rfl, rfl⟩

theorem lookup_insert (a b : List (String × JVal)) (k k' : String) (v : JVal) (h : k ≠ k') :
    lookup (a ++ (k, v) :: b) k' = lookup (a ++ b) k' := by
  simp [lookup, List.find?_append, h]

theorem splitFirst_append (a b : List Char) (h : ':' ∉ a) : splitFirst (a ++ ':' :: b) = some (a, b) := by
  induction a with
  | nil => simp [splitFirst]
  | cons c t ih =>
    simp only [List.mem_cons, not_or] at h
    have hc : c ≠ ':' := fun e => h.1 e.symm
    simp [splitFirst, hc, ih h.2]

/-- `parse_from_string(t.get_as_string())` -/
theorem ttParse_encode (types : List (List Char)) (t : TTuple) (ht : t.type ∈ types) (hc : ':' ∉ t.type) :
    ttParse types (ttEncode t) = .ok ⟨t.type, .str t.val.pyStr⟩ := by
  simp only [ttParse, ttOf, ttEncode, splitFirst_append t.type _ hc]
  simp [ht]

theorem strip_id (ws : Char → Bool) (l : List Char) (h1 : ∀ c, l.head? = some c → ws c = false)
    (h2 : ∀ c, l.getLast? = some c → ws c = false) : strip ws l = l := by
  unfold strip
  rw [(List.dropWhile_eq_self_iff ws l).2 h1, (List.dropWhile_eq_self_iff ws l.reverse).2 (by simpa using h2), List.reverse_reverse]

def wsGen (c : Char) : Bool := Gen.Fields.whitespace.contains c.toNat
def labelTypes : List (List Char) := (Gen.Fields.tupleTypes.find? (·.1 == "Label")).get!.2.map String.toList
def capTypes : List (List Char) := (Gen.Fields.tupleTypes.find? (·.1 == "Capacity")).get!.2.map String.toList

/-- `str.rstrip()` -/
def rstrip (ws : Char → Bool) (l : List Char) : List Char := (l.reverse.dropWhile ws).reverse

theorem dropWhile_append_stop (p : Char → Bool) (a b : List Char) (c : Char) (hc : p c = false) :
    (a ++ c :: b).dropWhile p = a.dropWhile p ++ c :: b := by
  rw [List.dropWhile_append]
  split
  · rename_i h; rw [List.isEmpty_iff.1 h, List.dropWhile_cons, hc]; rfl
  · rfl

theorem strip_encode (ws : Char → Bool) (hsep : ws ':' = false) (ty v : List Char)
    (hl : ∀ c, ty.head? = some c → ws c = false) : strip ws (ty ++ ':' :: v) = ty ++ ':' :: rstrip ws v := by
  unfold strip rstrip
  have h1 : (ty ++ ':' :: v).dropWhile ws = ty ++ ':' :: v := by
    apply (List.dropWhile_eq_self_iff ws _).2
    intro c hcq
    cases ty with
    | nil => simp at hcq; subst hcq; exact hsep
    | cons a t => simp at hcq; subst hcq; exact hl a rfl
  rw [h1]
  have h2 : (ty ++ ':' :: v).reverse = v.reverse ++ ':' :: ty.reverse := by simp
  rw [h2, dropWhile_append_stop ws _ _ _ hsep]
  simp

theorem rstrip_eq_self (ws : Char → Bool) (l : List Char) : rstrip ws l = l ↔ ∀ c, l.getLast? = some c → ws c = false := by
  unfold rstrip
  rw [← List.reverse_inj, List.reverse_reverse, List.dropWhile_eq_self_iff, List.getLast?_eq_head?_reverse]

end FimVerif.C03
