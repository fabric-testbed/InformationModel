/-! Append-if-absent (`if v not in l: l.append(v)`, `set.add` on a duplicate-free list). `Authz.addSet` (Model/Authz.lean),
`Authz.ins` (Lemmas/C11Attrs.lean) and `Deleg.addSet` (Model/Deleg.lean) have this body at their own types, so the lemmas apply to
them by unfolding. -/
namespace FimVerif

section addNew
variable {α : Type} [DecidableEq α]

def addNew (l : List α) (v : α) : List α := if v ∈ l then l else l ++ [v]

theorem addNew_ne_nil (l : List α) (v : α) : addNew l v ≠ [] := by
  unfold addNew; split
  · rename_i h; intro e; rw [e] at h; simp at h
  · simp

theorem mem_addNew (l : List α) (v x : α) : x ∈ addNew l v ↔ x ∈ l ∨ x = v := by
  unfold addNew; split
  · rename_i h; constructor
    · exact Or.inl
    · rintro (h' | rfl) <;> assumption
  · simp

theorem nodup_addNew (l : List α) (v : α) (h : l.Nodup) : (addNew l v).Nodup := by
  unfold addNew; split
  · exact h
  · rename_i hv
    rw [List.nodup_append]; refine ⟨h, by simp, ?_⟩
    intro a ha b hb; simp at hb; subst hb; intro e; subst e; exact hv ha

theorem mem_foldl_addNew (l0 xs : List α) (x : α) : x ∈ xs.foldl addNew l0 ↔ x ∈ l0 ∨ x ∈ xs := by
  induction xs generalizing l0 with
  | nil => simp
  | cons y ys ih =>
    rw [List.foldl_cons, ih, mem_addNew]; simp only [List.mem_cons]
    constructor
    · rintro ((h | h) | h) <;> simp [h]
    · rintro (h | h | h) <;> simp [h]

theorem nodup_foldl_addNew (l0 xs : List α) (h : l0.Nodup) : (xs.foldl addNew l0).Nodup := by
  induction xs generalizing l0 with
  | nil => exact h
  | cons y ys ih => exact ih (addNew l0 y) (nodup_addNew l0 y h)

theorem perm_foldl_addNew {l l' xs xs' : List α} (hl : l.Perm l') (hn : l.Nodup) (hx : xs.Perm xs') :
    (xs.foldl addNew l).Perm (xs'.foldl addNew l') :=
  (List.perm_ext_iff_of_nodup (nodup_foldl_addNew l xs hn) (nodup_foldl_addNew l' xs' (hl.nodup_iff.mp hn))).mpr fun x => by
    rw [mem_foldl_addNew, mem_foldl_addNew, hl.mem_iff, hx.mem_iff]

end addNew

end FimVerif
