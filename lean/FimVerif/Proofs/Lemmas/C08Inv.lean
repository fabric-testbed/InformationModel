import FimVerif.Proofs.Lemmas.C08Ports
/-!
# C08 — invariant-based exactness (no separation hypotheses, links with any number of ends)

One hypothesis on the pre-state `g`, the decidable well-formedness `WF g`; everything else is stated in the pre-state relative to the
list `A` of elements deleted so far.  `LinkOK g A` ties the links of `A` to its connection points; it is an invariant of every
`remove_cp_and_links` call whose family has at most one end on any link, whatever the number of ends of the link.  The invariant
grows with the level of the call: `InvC` (connection points: `LinkOK` and family closure), `InvD` (`C08Gen`: and downward closure, for
components and nodes), `InvA` (`C08Disc`: and port closure, between two user-level calls); `InvJ g x` (`C08Disc`) holds inside the
disconnect loop of a call that removes `x`.
-/
namespace FimVerif.Remove

/-- well-formedness of links (decidable): the ends of a link are distinct, and no two of them belong to one interface
family (they are not connection-point neighbours and have no common connection-point neighbour).  This is what `linkOK_step` needs of a
`remove_cp_and_links` call: the family it deletes has at most one end on any link. -/
def WFLink (g : G) : Bool :=
  g.nodes.all (fun n => n.cls != .link ||
    (decide (g.nbrs n.id .connects .cp).Nodup &&
     (g.nbrs n.id .connects .cp).all (fun e1 => (g.nbrs n.id .connects .cp).all (fun e2 =>
        e1 == e2 || (!(g.nbrs e1 .connects .cp).contains e2 &&
                     (g.nbrs e1 .connects .cp).all (fun q => !(g.nbrs e2 .connects .cp).contains q))))))

/-- neighbour lists have no duplicates (a NetworkX `Graph` has no parallel edges) -/
def WFNodup (g : G) : Bool :=
  g.nodes.all (fun n => [Rel.has, Rel.connects].all (fun r => [Cls.node, Cls.comp, Cls.ns, Cls.cp, Cls.link].all
    (fun c => decide (g.nbrs n.id r c).Nodup)))

/-- every ServicePort is attached to exactly one network service -/
def WFPort (g : G) : Bool :=
  g.nodes.all (fun n => n.cls != .cp || n.kind != kServicePort || (g.nbrs n.id .connects .ns).length == 1)

/-- a sub-interface is not itself a DedicatedPort (it has no sub-interfaces of its own to visit) -/
def WFSub (g : G) : Bool :=
  g.nodes.all (fun n => n.cls != .cp || !isSub g n.id || n.kind != kDedicatedPort)

def WF (g : G) : Bool := InvCP g && InvPeer g && WFLink g && WFNodup g && WFPort g && WFSub g

theorem wf_iff {g : G} : WF g = true ↔
    InvCP g = true ∧ InvPeer g = true ∧ WFLink g = true ∧ WFNodup g = true ∧ WFPort g = true ∧ WFSub g = true := by
  simp only [WF, Bool.and_eq_true, and_assoc]

theorem wf_cp {g : G} (h : WF g = true) : InvCP g = true := (wf_iff.mp h).1

theorem wf_peer {g : G} (h : WF g = true) : InvPeer g = true := (wf_iff.mp h).2.1

theorem wf_link {g : G} (h : WF g = true) {l : Nat} (hc : g.cls? l = some .link) :
    ∀ e1 ∈ g.nbrs l .connects .cp, ∀ e2 ∈ g.nbrs l .connects .cp, e1 ≠ e2 →
      e2 ∉ g.nbrs e1 .connects .cp ∧ ∀ q ∈ g.nbrs e1 .connects .cp, q ∉ g.nbrs e2 .connects .cp := by
  obtain ⟨_, _, hL, _⟩ := wf_iff.mp h
  obtain ⟨n, hn, hid, hcl, _⟩ := elem_of_cls hc
  have := List.all_eq_true.mp hL n hn
  simp only [hid, hcl, bne_self_eq_false, Bool.false_or, Bool.and_eq_true, decide_eq_true_eq] at this
  intro e1 h1 e2 h2 hne
  have h' := List.all_eq_true.mp (List.all_eq_true.mp this.2 e1 h1) e2 h2
  simp only [Bool.or_eq_true, beq_iff_eq, Bool.and_eq_true, Bool.not_eq_true', List.contains_eq_mem,
    decide_eq_false_iff_not, List.all_eq_true] at h'
  rcases h' with h' | h'
  · exact absurd h' hne
  · exact ⟨h'.1, fun q hq => by simpa using h'.2 q hq⟩

theorem wf_nodup {g : G} (h : WF g = true) {x : Nat} {k : Cls} (hx : g.cls? x = some k) {r : Rel} {c : Cls} :
    (g.nbrs x r c).Nodup := by
  obtain ⟨_, _, _, hN, _⟩ := wf_iff.mp h
  obtain ⟨n, hn, hid, _, _⟩ := elem_of_cls hx
  have := List.all_eq_true.mp hN n hn
  rw [hid] at this
  exact of_decide_eq_true (List.all_eq_true.mp (List.all_eq_true.mp this r (by cases r <;> simp)) c (by cases c <;> simp))

theorem wf_port {g : G} (h : WF g = true) {p : Nat} (hc : g.cls? p = some .cp) (hk : g.kind? p = some kServicePort) :
    (g.nbrs p .connects .ns).length = 1 := by
  obtain ⟨_, _, _, _, hPt, _⟩ := wf_iff.mp h
  obtain ⟨n, hn, hid, hcl, hkk⟩ := elem_of_cls hc
  have := List.all_eq_true.mp hPt n hn
  rw [hkk] at hk
  simp only [hid, hcl, bne_self_eq_false, Bool.false_or, Bool.or_eq_true, bne_iff_ne, ne_eq, beq_iff_eq] at this
  rcases this with h' | h'
  · exact absurd (Option.some.inj hk) h'
  · exact h'

theorem sp_not_sub {g : G} (h : WF g = true) {p : Nat} (hc : g.cls? p = some .cp) (hk : g.kind? p = some kServicePort) :
    isSub g p = false := by
  have := wf_port h hc hk
  simp only [isSub, List.isEmpty_eq_false_iff]
  intro h'; rw [h'] at this; cases this

theorem wf_sub {g : G} (h : WF g = true) {c : Nat} (hc : g.cls? c = some .cp) (hs : isSub g c = true) :
    g.kind? c ≠ some kDedicatedPort := by
  obtain ⟨_, _, _, _, _, hS⟩ := wf_iff.mp h
  obtain ⟨n, hn, hid, hcl, hkk⟩ := elem_of_cls hc
  have := List.all_eq_true.mp hS n hn
  simp only [hid, hcl, hs, bne_self_eq_false, Bool.false_or, Bool.not_true, bne_iff_ne, ne_eq] at this
  rw [hkk]; intro h'; exact this (Option.some.inj h')

def live (g : G) (A : List Nat) (l : Nat) : List Nat := (g.nbrs l .connects .cp).filter (fun e => !A.contains e)

/-- **the link part of a deletion set is determined by its connection-point part** -/
def LinkOK (g : G) (A : List Nat) : Prop :=
  ∀ l, g.cls? l = some .link →
    (l ∈ A ↔ 2 ≤ (g.nbrs l .connects .cp).length ∧ (∃ e ∈ g.nbrs l .connects .cp, e ∈ A) ∧ (live g A l).length ≤ 1)

theorem length_filter_drop_one {l : List Nat} {p q : Nat → Bool} {f : Nat} (hn : l.Nodup) (hf : f ∈ l)
    (hp : p f = true) (hq : q f = false) (hrest : ∀ x ∈ l, x ≠ f → q x = p x) :
    (l.filter q).length + 1 = (l.filter p).length := by
  -- without duplicates, filtering `f` out is erasing it
  have hfp : f ∈ l.filter p := List.mem_filter.mpr ⟨hf, hp⟩
  have : l.filter q = (l.filter p).erase f := by
    rw [List.Nodup.erase_eq_filter (hn.filter p), List.filter_filter]
    refine List.filter_congr fun x hx => ?_
    by_cases hxf : x = f
    · simp [hxf, hq]
    · simp [hxf, hrest x hx hxf]
  rw [this, List.length_erase_of_mem hfp]
  have := List.length_pos_of_mem hfp
  omega

/-- **`LinkOK` is preserved by one `remove_cp_and_links` call** deleting the family `F` -/
theorem linkOK_step (g : G) (hW : WF g = true) (A F : List Nat) {A' : List Nat}
    (hF : ∀ f ∈ F, A.contains f = false)
    (hone : ∀ l, g.cls? l = some .link → ∀ e1 ∈ g.nbrs l .connects .cp, ∀ e2 ∈ g.nbrs l .connects .cp,
      e1 ∈ F → e2 ∈ F → e1 = e2)
    (hOK : LinkOK g A)
    (hcp : ∀ y, g.cls? y = some .cp → (y ∈ A' ↔ y ∈ A ∨ y ∈ F))
    (hlk : ∀ y, g.cls? y = some .link →
      (y ∈ A' ↔ y ∈ A ∨ (y ∉ A ∧ (∃ f ∈ F, f ∈ g.nbrs y .connects .cp) ∧ (live g A y).length = 2))) :
    LinkOK g A' := by
  intro l hl
  have hnd : (g.nbrs l .connects .cp).Nodup := wf_nodup hW hl
  have hends : ∀ e ∈ g.nbrs l .connects .cp, g.cls? e = some .cp := fun e he => mem_nbrs_cls he
  -- an end outside the family is deleted after the call iff it was before
  have hout : ∀ x ∈ g.nbrs l .connects .cp, x ∉ F → (!A'.contains x) = (!A.contains x) := fun x hx hxF => by
    simp only [List.contains_eq_mem, hcp x (hends x hx), hxF, or_false]
  -- in counts: some end is deleted iff fewer ends are live than there are
  have hex : ∀ B, (∃ e ∈ g.nbrs l .connects .cp, e ∈ B) ↔ (live g B l).length < (g.nbrs l .connects .cp).length := fun B => by
    rw [live, List.length_filter_lt_length_iff_exists]; simp [List.contains_eq_mem]
  -- and `k ≤ 1` of the live ends are in the family: the call takes exactly these
  obtain ⟨k, hk, hkF, hlen⟩ : ∃ k, k ≤ 1 ∧ ((∃ f ∈ F, f ∈ g.nbrs l .connects .cp) ↔ k = 1) ∧
      (live g A' l).length + k = (live g A l).length := by
    by_cases hF' : ∃ f ∈ F, f ∈ g.nbrs l .connects .cp
    · obtain ⟨f, hfF, hfl⟩ := hF'
      refine ⟨1, Nat.le_refl _, ⟨fun _ => rfl, fun _ => ⟨f, hfF, hfl⟩⟩, ?_⟩
      apply length_filter_drop_one hnd hfl (by rw [hF f hfF]; rfl)
      · simpa [List.contains_eq_mem] using (hcp f (hends f hfl)).mpr (Or.inr hfF)
      · exact fun x hx hne => hout x hx fun h => hne (hone l hl x hx f hfl h hfF)
    · exact ⟨0, Nat.zero_le _, ⟨fun h => absurd h hF', fun h => nomatch h⟩,
        congrArg _ (List.filter_congr fun x hx => hout x hx fun h => hF' ⟨x, h, hx⟩)⟩
  have hn : (live g A l).length ≤ (g.nbrs l .connects .cp).length := List.length_filter_le _ _
  -- membership of `l` before and after, and the claim, are now statements about these three counts
  rw [hlk l hl, hOK l hl, hex A', hex A, hkF]
  omega

/-- family closure -/
def FamC (g : G) (A : List Nat) : Prop :=
  ∀ i, g.cls? i = some .cp → isSub g i = false → ∀ c ∈ g.nbrs i .connects .cp, (c ∈ A ↔ i ∈ A)

/-- the invariant of the `remove_cp_and_links` calls on interfaces attached to a service -/
def InvC (g : G) (A : List Nat) : Prop := LinkOK g A ∧ FamC g A

theorem invC_nil (g : G) : InvC g [] := ⟨fun l _ => by simp, fun _ _ _ _ _ => by simp⟩

theorem invC_congr {g : G} {A A' : List Nat}
    (h : ∀ y, g.cls? y = some .cp ∨ g.cls? y = some .link → (y ∈ A' ↔ y ∈ A)) (hInv : InvC g A) : InvC g A' := by
  have hcp : ∀ l, ∀ e ∈ g.nbrs l .connects .cp, (e ∈ A' ↔ e ∈ A) := fun l e he => h e (Or.inl (mem_nbrs_cls he))
  refine ⟨fun l hl => ?_, fun i hi his c hcn => by rw [hcp i c hcn, h i (Or.inl hi)]; exact hInv.2 i hi his c hcn⟩
  have hlive : live g A' l = live g A l := List.filter_congr fun e he => by simp only [List.contains_eq_mem, hcp l e he]
  rw [h l (Or.inr hl), hInv.1 l hl, hlive]
  exact and_congr_right fun _ => and_congr_left fun _ => exists_congr fun e => and_congr_right fun he => (hcp l e he).symm

/-- not a link: the elements whose membership in the deletion list the results state directly; that of the links follows from `LinkOK` -/
def NL (g : G) (y : Nat) : Prop := g.cls? y ≠ some .link

/-- `r` is the pre-state minus a list that extends `A`; among the elements that `N` speaks of (everywhere but in the disconnect
loop: all but links) it holds those of `A` and those satisfying `P`; and it satisfies `I` again (so its links are determined too) -/
def Res (I : List Nat → Prop) (N : Nat → Prop) (g : G) (A : List Nat) (P : Nat → Prop) (r : Except Err G) : Prop :=
  ∃ A', r = .ok (g.minus A') ∧ (∀ y, y ∈ A → y ∈ A') ∧ (∀ y, N y → (y ∈ A' ↔ y ∈ A ∨ P y)) ∧ I A'

def Removes (I : List Nat → Prop) (P : Nat → Nat → Prop) (g : G) (f : G → Nat → Except Err G) (c : Nat) : Prop :=
  ∀ A, I A → c ∉ A → Res I (NL g) g A (P c) (f (g.minus A) c)

section
variable {I J : List Nat → Prop} {N : Nat → Prop} {g : G} {A : List Nat} {P Q : Nat → Prop} {r : Except Err G}

theorem Res.skip (hA : I A) (hP : ∀ y, N y → P y → y ∈ A) : Res I N g A P (.ok (g.minus A)) :=
  ⟨A, rfl, fun _ h => h, fun y hy => ⟨Or.inl, fun h => h.elim id (hP y hy)⟩, hA⟩

theorem Res.congr (h : Res I N g A P r) (hPQ : ∀ y, N y → (y ∈ A ∨ P y ↔ y ∈ A ∨ Q y)) : Res I N g A Q r := by
  obtain ⟨A', h1, h2, h3, h4⟩ := h
  exact ⟨A', h1, h2, fun y hy => (h3 y hy).trans (hPQ y hy), h4⟩

/-- sequencing: the second call may rely on what the first has deleted -/
theorem Res.bind {k : G → Except Err G} (h1 : Res I N g A P r)
    (h2 : ∀ A', I A' → (∀ y, N y → (y ∈ A' ↔ y ∈ A ∨ P y)) → Res J N g A' Q (k (g.minus A'))) :
    Res J N g A (fun y => P y ∨ Q y) (r >>= k) := by
  obtain ⟨A1, rfl, hsub1, hmem1, hI1⟩ := h1
  obtain ⟨A2, hr2, hsub2, hmem2, hI2⟩ := h2 A1 hI1 hmem1
  exact ⟨A2, hr2, fun y hy => hsub2 y (hsub1 y hy), fun y hy => by rw [hmem2 y hy, hmem1 y hy, or_assoc], hI2⟩

/-- **loop rule**: an iteration may rely on what the earlier ones have deleted -/
theorem Res.fold {α : Type} (f : G → α → Except Err G) (P : α → Nat → Prop) (xs : List α) (hA : I A)
    (hstep : ∀ pfx x sfx, xs = pfx ++ x :: sfx → ∀ A', I A' →
      (∀ y, N y → (y ∈ A' ↔ y ∈ A ∨ ∃ x' ∈ pfx, P x' y)) → Res I N g A' (P x) (f (g.minus A') x)) :
    Res I N g A (fun y => ∃ x ∈ xs, P x y) (xs.foldlM f (g.minus A)) := by
  induction xs generalizing A with
  | nil => exact Res.skip hA fun _ _ ⟨_, hx, _⟩ => nomatch hx
  | cons x xs ih =>
    rw [List.foldlM_cons]
    refine ((hstep [] x xs rfl A hA (fun y _ => by simp)).bind fun A1 hA1 hmem1 =>
      ih hA1 fun pfx x' sfx hxs A' hA' hmem' => ?_).congr fun y _ => by simp
    refine hstep (x :: pfx) x' sfx (by rw [hxs]; rfl) A' hA' fun y hy => ?_
    rw [hmem' y hy, hmem1 y hy]
    simp only [List.mem_cons, exists_eq_or_imp, or_assoc]

theorem Res.weaken {B : List Nat} (h : Res I N g (A ++ B) P r) : Res I N g A (fun y => y ∈ B ∨ P y) r := by
  obtain ⟨A', h1, h2, h3, h4⟩ := h
  exact ⟨A', h1, fun y hy => h2 y (List.mem_append_left _ hy), fun y hy => by rw [h3 y hy, List.mem_append, or_assoc], h4⟩

/-- a further invariant that the non-link part of the result determines -/
theorem Res.and (h : Res I N g A P r) (hJ : ∀ A', (∀ y, N y → (y ∈ A' ↔ y ∈ A ∨ P y)) → J A') :
    Res (fun A' => I A' ∧ J A') N g A P r := by
  obtain ⟨A', h1, h2, h3, h4⟩ := h
  exact ⟨A', h1, h2, h3, h4, hJ A' h3⟩

end

theorem mem_cpDelA (g : G) (A : List Nat) (i : Nat) (dp : Bool) (y : Nat) :
    y ∈ cpDelA g A i dp ↔ y ∈ cpFamily g i dp ∨
      ∃ f ∈ cpFamily g i dp, y ∈ g.nbrs f .connects .link ∧ y ∉ A ∧ (live g A y).length = 2 := by
  simp only [cpDelA, mem_dedup, List.mem_append, cpLinksA, List.mem_flatMap, List.mem_filter, Bool.and_eq_true,
    Bool.not_eq_true', List.contains_eq_mem, decide_eq_false_iff_not, beq_iff_eq, live]

theorem mem_append_cpDelA_nonlink {g : G} {A : List Nat} {i : Nat} {dp : Bool} {y : Nat} (hy : g.cls? y ≠ some .link) :
    y ∈ A ++ cpDelA g A i dp ↔ y ∈ A ∨ y ∈ cpFamily g i dp := by
  rw [List.mem_append, mem_cpDelA]
  exact ⟨fun h => h.imp_right fun h => h.elim id fun ⟨f, _, hl, _⟩ => absurd (mem_nbrs_cls hl) hy,
    fun h => h.imp_right Or.inl⟩

theorem mem_append_cpDelA_link {g : G} {A : List Nat} {i : Nat} {dp : Bool} {y : Nat}
    (hF : ∀ f ∈ cpFamily g i dp, g.cls? f = some .cp) (hy : g.cls? y = some .link) :
    y ∈ A ++ cpDelA g A i dp ↔
      y ∈ A ∨ (y ∉ A ∧ (∃ f ∈ cpFamily g i dp, f ∈ g.nbrs y .connects .cp) ∧ (live g A y).length = 2) := by
  rw [List.mem_append, mem_cpDelA]
  constructor
  · rintro (h | h | ⟨f, hf, hl, hnA, h2⟩)
    · exact Or.inl h
    · have := hF y h; rw [hy] at this; cases this
    · exact Or.inr ⟨hnA, ⟨f, hf, nbrs_symm hl (hF f hf)⟩, h2⟩
  · rintro (h | ⟨hnA, ⟨f, hf, hfl⟩, h2⟩)
    · exact Or.inl h
    · exact Or.inr (Or.inr ⟨f, hf, nbrs_symm hfl hy, hnA, h2⟩)

/-- **one `remove_cp_and_links(i, dp)` after `A`**: the family goes, `LinkOK` stays -/
theorem removeCp_res (g : G) (hW : WF g = true) (A : List Nat) (hOK : LinkOK g A) (i : Nat) (dp : Bool)
    (hi : g.has i = true) (hsep : SepFam g A i = true) (hF : ∀ f ∈ cpFamily g i dp, g.cls? f = some .cp)
    (hone : ∀ l, g.cls? l = some .link → ∀ e1 ∈ g.nbrs l .connects .cp, ∀ e2 ∈ g.nbrs l .connects .cp,
      e1 ∈ cpFamily g i dp → e2 ∈ cpFamily g i dp → e1 = e2) :
    Res (LinkOK g) (NL g) g A (· ∈ cpFamily g i dp) (removeCp (g.minus A) i dp) :=
  ⟨A ++ cpDelA g A i dp, removeCp_after' hi hsep, fun _ hy => List.mem_append_left _ hy,
    fun _ hy => mem_append_cpDelA_nonlink hy,
    linkOK_step g hW A (cpFamily g i dp) (fam_notin hsep) hone hOK
      (fun _ hy => mem_append_cpDelA_nonlink (cls_ne_link hy)) (fun _ hy => mem_append_cpDelA_link hF hy)⟩

/-- **one `remove_cp_and_links(i)` for an interface attached to a service** (a port with its sub-interfaces, or a ServicePort) -/
theorem removeCpTop_res (g : G) (hW : WF g = true) (i : Nat) (hc : g.cls? i = some .cp) (hs : isSub g i = false) :
    Removes (InvC g) (Below g) g (fun g i => removeCp g i true) i := by
  intro A ⟨hOK, hFam⟩ hiA
  have hI := wf_cp hW
  have hfam := cpFamily_top hI hc hs
  have hchild : ∀ c ∈ g.nbrs i .connects .cp, c ∉ A := fun c hcn h => hiA ((hFam i hc hs c hcn).mp h)
  have hsep : SepFam g A i = true := sepFam_iff.mpr ⟨hiA, fun p hp => ⟨hchild p hp, fun q hq => by
    rw [child_nbrs hI hc hs hp, List.mem_singleton] at hq; exact hq ▸ hiA⟩⟩
  have hbelow : ∀ y, y ∈ cpFamily g i true ↔ Below g i y := fun y => by rw [hfam, List.mem_cons, below_cp_top hI hc hs]
  refine ((removeCp_res g hW A hOK i true (cls_has hc) hsep (fun f hf => ?_) ?_).congr fun y _ => by rw [hbelow]).and
    fun A' hmem j hj hjs c hcj => ?_
  · rw [hfam] at hf
    exact (List.mem_cons.mp hf).elim (· ▸ hc) mem_nbrs_cls
  · -- at most one end of a link in the family
    intro l hl e1 he1 e2 he2 h1 h2
    apply Classical.byContradiction
    intro hne
    have w12 := wf_link hW hl e1 he1 e2 he2 hne
    have w21 := wf_link hW hl e2 he2 e1 he1 (fun h => hne h.symm)
    rw [hfam] at h1 h2
    rcases List.mem_cons.mp h1 with rfl | h1 <;> rcases List.mem_cons.mp h2 with rfl | h2
    · exact hne rfl
    · exact w12.1 h2
    · exact w21.1 h1
    · have hi1 : i ∈ g.nbrs e1 .connects .cp := by rw [child_nbrs hI hc hs h1]; simp
      have hi2 : i ∈ g.nbrs e2 .connects .cp := by rw [child_nbrs hI hc hs h2]; simp
      exact w12.2 i hi1 hi2
  · -- family closure: the family of `i` went as a whole, and no other port shares a sub-interface with it
    rw [hmem c (cls_ne_link (mem_nbrs_cls hcj)), hmem j (cls_ne_link hj), hFam j hj hjs c hcj, below_cp_top hI hc hs,
      below_cp_top hI hc hs]
    constructor
    · rintro (h | rfl | h)
      · exact Or.inl h
      · rw [child_sub hI hj hjs hcj] at hs; cases hs
      · right; left
        have : i ∈ g.nbrs c .connects .cp := nbrs_symm h hc
        rw [child_nbrs hI hj hjs hcj] at this; simp only [List.mem_singleton] at this; exact this.symm
    · rintro (h | rfl | h)
      · exact Or.inl h
      · exact Or.inr (Or.inr hcj)
      · have := child_sub hI hc hs h; rw [hjs] at this; cases this

/-- a ServicePort has no sub-interfaces: it goes alone -/
theorem removeSp_res (g : G) (hW : WF g = true) (A : List Nat) (hInv : InvC g A) (p : Nat) (hc : g.cls? p = some .cp)
    (hk : g.kind? p = some kServicePort) (hpA : p ∉ A) :
    Res (InvC g) (NL g) g A (· = p) (removeCp (g.minus A) p true) :=
  (removeCpTop_res g hW p hc (sp_not_sub hW hc hk) A hInv hpA).congr fun y _ => by
    rw [below_cp_top (wf_cp hW) hc (sp_not_sub hW hc hk), sp_cps (wf_peer hW) hc hk]; simp

/-- a sub-interface `c` of `p` removed alone (`delete_parent = False`), port and siblings still there: family closure is lost, `LinkOK`
stays -/
theorem removeCpSub_res (g : G) (hW : WF g = true) (A : List Nat) (hOK : LinkOK g A) (c p : Nat) (hc : g.cls? c = some .cp)
    (hcn : g.nbrs c .connects .cp = [p]) (hcA : c ∉ A) (hpA : p ∉ A) (hsib : ∀ q ∈ g.nbrs p .connects .cp, q ∉ A) :
    Res (LinkOK g) (NL g) g A (· = c) (removeCp (g.minus A) c false) := by
  have hfam := cpFamily_false g c
  have hsep : SepFam g A c = true := sepFam_iff.mpr ⟨hcA, fun q hq => by
    rw [hcn, List.mem_singleton] at hq; subst hq; exact ⟨hpA, hsib⟩⟩
  refine (removeCp_res g hW A hOK c false (cls_has hc) hsep (by simp [hfam, hc]) fun l _ e1 _ e2 _ h1 h2 => ?_).congr fun y _ => by
    rw [hfam, List.mem_singleton]
  rw [hfam, List.mem_singleton] at h1 h2
  rw [h1, h2]

end FimVerif.Remove
