import FimVerif.Proofs.Lemmas.ARefBasic
import FimVerif.Proofs.Lemmas.ARefLocal
/-! C05: the per-graph reference `AGraph.step` is the store-level reference `ARef.step` seen through `ARef.view`: an operation
    of the single-graph interface that writes no key does to the view of its graph what `AGraph.step` says (`viewR_step`).  Two
    reference models, no store: nodes are found by key on both sides, so no invariant is needed.  Last, for C04: the view of a
    graph after a successful import is the imported content (`view_addGraph_ok`). -/
namespace FimVerif.Store.ARef
open FimVerif FimVerif.Gen.StoreConsts

/-- what `view` keeps of a link inside the graph -/
def ends (e : Key × Key × Props) : Option Val × Option Val × Props := (e.1.2, e.2.1.2, e.2.2)

theorem view_eq (R : ARef) (g : String) :
    R.view g = ⟨(R.restrict g).nodes.map (AMap.erase graphId), (R.restrict g).edges.map ends⟩ := rfl

theorem propClass_ne_graphId : propClass ≠ graphId := by decide
theorem propType_ne_graphId : propType ≠ graphId := by decide
theorem propName_ne_graphId : propName ≠ graphId := by decide
theorem nxLabel_ne_graphId : nxLabel ≠ graphId := by decide

theorem get_eraseG {k : String} (hk : k ≠ graphId) (a : Props) : AMap.get k (AMap.erase graphId a) = AMap.get k a :=
  AMap.get_erase_ne _ _ _ hk

theorem nidIs_eraseG (nid : String) (a : Props) : AGraph.nidIs nid (AMap.erase graphId a) = hasNidP nid a := by
  unfold AGraph.nidIs hasNidP; rw [get_eraseG nodeId_ne_graphId]

theorem attrIs_eraseG {k : String} (hk : k ≠ graphId) (v : String) (a : Props) :
    AGraph.attrIs k v (AMap.erase graphId a) = hasAttrP k v a := by
  unfold AGraph.attrIs hasAttrP; rw [get_eraseG hk]

theorem length_view_nodes (R : ARef) (g : String) : (R.view g).nodes.length = (nodesOf R g).length := List.length_map _

theorem view_filter (R : ARef) (g : String) (p q : Props → Bool) (h : ∀ a, p (AMap.erase graphId a) = q a) :
    (R.view g).nodes.filter p = ((nodesOf R g).filter q).map (AMap.erase graphId) :=
  List.filter_map_pred _ p q _ fun a _ => h a

theorem nodesOf_filter_nid (R : ARef) (g nid : String) :
    (nodesOf R g).filter (hasNidP nid) = R.nodes.filter fun a => hasNidP nid a && inGP g a :=
  List.filter_filter

/-- a result of the store-level reference as the per-graph reference shows it: what `viewR_step` says is the equation
    `viewR g (step op R) = AGraph.step op … (R.view g)`.  `AGraph.withN` hands nothing to its continuation, so for the operations
    that do not read the found dictionary the view is pushed through the control flow by equations (`viewR_ite`, `viewR_withN_const`,
    `viewR_withL`, `viewR_assertVal`, `viewR_nidList`) down to the primitive, where it is one of the `view_*` lemmas -/
def viewR (g : String) (r : AR) : AGraph.AR := (outAbs r.1, r.2.view g)

theorem viewR_mk (g : String) (x : Except Err Out) (R : ARef) : viewR g (x, R) = (outAbs x, R.view g) := rfl

theorem viewR_ite (g : String) (c : Prop) [Decidable c] (a b : AR) :
    viewR g (if c then a else b) = if c then viewR g a else viewR g b :=
  apply_ite _ _ _ _

/-- `h`: for the found dictionary `a`, which is the one the per-graph reference reads -/
theorem viewR_withN (R : ARef) (g nid : String) (k : Props → AR) (k' : AGraph.AR)
    (h : ∀ a, (R.view g).nodes.find? (AGraph.nidIs nid) = some (AMap.erase graphId a) → viewR g (k a) = k') :
    viewR g (withN R g nid k) = AGraph.withN (R.view g) nid k' := by
  unfold withN AGraph.withN AGraph.find find
  rw [view_filter R g _ _ (nidIs_eraseG nid), ← nodesOf_filter_nid]
  cases hc : (nodesOf R g).filter (hasNidP nid) with
  | nil => rfl
  | cons a l =>
    cases l with
    | nil =>
      exact h a (List.find?_of_filter_single _ _ _ (by rw [view_filter R g _ _ (nidIs_eraseG nid), hc]; rfl))
    | cons b l => rfl

theorem viewR_withN_const (R : ARef) (g nid : String) (r : AR) :
    viewR g (withN R g nid fun _ => r) = AGraph.withN (R.view g) nid (viewR g r) :=
  viewR_withN R g nid _ _ fun _ _ => rfl

theorem viewR_assertVal (g : String) (v : Val) (R : ARef) (r : AR) :
    viewR g (assertVal v R r) = AGraph.assertVal v (R.view g) (viewR g r) := by
  unfold assertVal AGraph.assertVal
  split <;> rfl

theorem rekey_self (k : Key) : rekey k k = id := by
  funext x; unfold rekey; split <;> simp_all

theorem view_updK (g nid : String) (f : Props → Props) (R : ARef)
    (hg : ∀ a, AMap.get graphId (f a) = AMap.get graphId a)
    (he : ∀ a, AMap.erase graphId (f a) = f (AMap.erase graphId a)) :
    (updK (K g nid) f (K g nid) R).view g = AGraph.updNode nid f (R.view g) := by
  have hN : nodesOf (updK (K g nid) f (K g nid) R) g = (nodesOf R g).map fun a => if isK (K g nid) a then f a else a :=
    List.filter_map_comm _ _ _ fun a _ => by unfold inGP; split <;> simp [hg]
  unfold view AGraph.updNode
  rw [hN]
  simp only [updK, rekey_self, id, List.map_map, AGraph.mk.injEq, List.map_id', and_true]
  refine List.map_congr_left fun a ha => ?_
  simp only [Function.comp, nidIs_eraseG, isK_K, (List.mem_filter.1 ha).2, Bool.and_true]
  split
  · exact he a
  · rfl

theorem setKey_of_ne (k : String) (v : Val) (key : Key) (h1 : k ≠ graphId) (h2 : k ≠ nodeId) : setKey k v key = key := by
  simp [setKey, h1, h2]

theorem updKey_of_not_has (p : Props) (key : Key) (h1 : AMap.has graphId p = false) (h2 : AMap.has nodeId p = false) :
    updKey p key = key := by
  simp [updKey, h1, h2]

theorem has_eraseG {k : String} (hk : k ≠ graphId) (a : Props) : AMap.has k (AMap.erase graphId a) = AMap.has k a := by
  unfold AMap.has; rw [get_eraseG hk]

theorem viewR_unsetNodeProperty (g nid k : String) (R : ARef) :
    viewR g (unsetNodeProperty g nid k R) = AGraph.unsetNodeProperty nid k (R.view g) := by
  unfold unsetNodeProperty AGraph.unsetNodeProperty
  rw [viewR_ite, viewR_ite]
  split
  · rfl
  · split
    · rfl
    · next _ hn =>
      have hk : k ≠ graphId := fun e => hn (e ▸ graphId_mem_noUnset)
      refine viewR_withN _ _ _ _ _ fun a ha => ?_
      rw [ha]
      simp only [has_eraseG hk, viewR_ite, viewR_mk,
        view_updK g nid _ R (fun a => AMap.get_erase_ne _ _ _ (Ne.symm hk)) fun a => AMap.erase_erase_comm _ _ _]
      rfl

theorem viewR_getNodeProperties (g nid : String) (R : ARef) :
    viewR g (getNodeProperties g nid R) = AGraph.getNodeProperties nid (R.view g) := by
  unfold getNodeProperties AGraph.getNodeProperties
  refine viewR_withN _ _ _ _ _ fun a ha => ?_
  rw [ha]
  simp only [get_eraseG nxLabel_ne_graphId]
  cases AMap.get nxLabel a with
  | none => rfl
  | some l => exact congrArg (fun p => (Except.ok (Out.nodeProps l p), R.view g)) (AMap.erase_erase_comm _ _ _)

theorem view_updGraphK (g k : String) (v : Val) (R : ARef) (h1 : k ≠ graphId) (h2 : k ≠ nodeId) :
    (updGraphK g (AMap.set k v) (setKey k v) R).view g =
      { R.view g with nodes := (R.view g).nodes.map (AMap.set k v) } := by
  have hN : nodesOf (updGraphK g (AMap.set k v) (setKey k v) R) g =
      (nodesOf R g).map fun a => if inGP g a then AMap.set k v a else a :=
    List.filter_map_comm _ _ _ fun a _ => by split <;> simp [inGP_set g k v a h1]
  have hE : (updGraphK g (AMap.set k v) (setKey k v) R).edges = R.edges := by
    simp [updGraphK, setKey_of_ne k v _ h1 h2]
  unfold view
  rw [hN, hE]
  simp only [List.map_map, AGraph.mk.injEq, and_true]
  refine List.map_congr_left fun a ha => ?_
  simp only [Function.comp, (List.mem_filter.1 ha).2, if_true]
  exact AMap.erase_set_ne _ _ _ _ (Ne.symm h1)

theorem viewR_nidList (g : String) (ns : List Props) (R : ARef) :
    viewR g (nidList ns R) = AGraph.nidList (ns.map (AMap.erase graphId)) (R.view g) := by
  unfold nidList AGraph.nidList
  simp only [List.any_map, List.map_map, Function.comp_def, has_eraseG nodeId_ne_graphId, get_eraseG nodeId_ne_graphId]
  split <;> rfl

theorem viewR_listAllNodeIds (g : String) (R : ARef) : viewR g (listAllNodeIds g R) = AGraph.listAllNodeIds (R.view g) := by
  unfold listAllNodeIds AGraph.listAllNodeIds
  rw [length_view_nodes, viewR_ite, viewR_nidList]
  rfl

theorem viewR_nodeExists (g nid label : String) (R : ARef) :
    viewR g (nodeExists g nid label R) = AGraph.nodeExists nid label (R.view g) := by
  unfold nodeExists AGraph.nodeExists
  rw [view_filter R g _ (fun a => hasNidP nid a && hasAttrP propClass label a) fun a => by
    rw [nidIs_eraseG, attrIs_eraseG propClass_ne_graphId]]
  have : R.nodes.filter (fun a => inGP g a && hasNidP nid a && hasAttrP propClass label a) =
      (nodesOf R g).filter fun a => hasNidP nid a && hasAttrP propClass label a := by
    rw [nodesOf, List.filter_filter]
    exact List.filter_congr fun a _ => by rw [Bool.and_assoc, Bool.and_comm]
  rw [this]
  cases (nodesOf R g).filter fun a => hasNidP nid a && hasAttrP propClass label a with
  | nil => rfl
  | cons a l => cases l <;> rfl

theorem viewR_findMatchingNodes (g other : String) (R : ARef) :
    viewR g (findMatchingNodes g other R) = AGraph.findMatchingNodes (R.view other) (R.view g) := by
  rw [findMatchingNodes_eq, AGraph.findMatchingNodes_eq, ← congrArg Prod.fst (viewR_listAllNodeIds g R), viewR_mk]
  show (outAbs _, _) = (fmnReply (outAbs _) _, _)
  rw [fmnReply_outAbs, outAbs_fmnReply]
  simp only [view, List.map_map, Function.comp_def, get_eraseG nodeId_ne_graphId]

theorem viewR_addNode (g nid label : String) (props : Option Props) (R : ARef) (hp : AMap.has graphId (props.getD []) = false) :
    viewR g (addNode g nid label props R) = AGraph.addNode nid label props (R.view g) := by
  have guard : (R.view g).nodes.any (AGraph.nidIs nid) = decide ((R.nodes.filter fun a => inGP g a && hasNidP nid a).length > 0) := by
    rw [List.filter_length_pos]
    simp only [view, List.any_map, Function.comp_def, nidIs_eraseG, nodesOf, List.any_filter]
  unfold addNode AGraph.addNode
  simp only [guard, decide_eq_true_eq, viewR_ite, viewR_mk]
  split
  · rfl
  · refine congrArg (Prod.mk _) ?_
    simp only [view, nodesOf, List.filter_append, List.map_append, AGraph.mk.injEq, and_true]
    congr 1
    rw [List.filter_cons_of_pos (by rw [inGP, AMap.get_update_of_not_has _ _ _ hp]; simp [AMap.get]), List.filter_nil,
      List.map_singleton, AMap.erase_update_of_not_has _ _ _ hp]
    simp [AMap.erase, graphId, propClass, nodeId]

theorem beq_K (g nid : String) (k : Key) (h : kIn g k = true) : (k == K g nid) = AGraph.endIs nid k.2 := by
  obtain ⟨k1, k2⟩ := k
  obtain rfl : k1 = some (.str g) := by simpa [kIn] using h
  rw [Bool.eq_iff_iff]
  simp [K, AGraph.endIs]

theorem view_removeK (g nid : String) (R : ARef) :
    (removeK (K g nid) R).view g =
      ⟨(R.view g).nodes.filter fun x => !AGraph.nidIs nid x,
       (R.view g).edges.filter fun e => !AGraph.endIs nid e.1 && !AGraph.endIs nid e.2.1⟩ := by
  rw [view_eq, restrict_removeK, view_eq]
  simp only [removeK, AGraph.mk.injEq]
  constructor
  · refine (List.filter_map_pred _ _ _ _ fun a ha => ?_).symm
    rw [nidIs_eraseG, isK_K, (List.mem_filter.1 ha).2, Bool.and_true]
  · refine (List.filter_map_pred ends _ _ _ fun e he => ?_).symm
    have := (List.mem_filter.1 he).2
    simp only [Bool.and_eq_true] at this
    simp only [ends, bne, beq_K g nid _ this.1, beq_K g nid _ this.2]

theorem view_delGraphK (g : String) (R : ARef) : (delGraphK g R).view g = AGraph.empty := by
  simp only [view, nodesOf, delGraphK, AGraph.empty, AGraph.mk.injEq, List.map_eq_nil_iff, List.filter_filter,
    List.filter_eq_nil_iff]
  exact ⟨fun a _ => by simp, fun e _ => by cases kIn g e.1 <;> simp⟩

theorem edgeIs_ends (g a b : String) (e : Key × Key × Props) (h : (kIn g e.1 && kIn g e.2.1) = true) :
    AGraph.edgeIs a b (ends e) = edgeIsK (K g a) (K g b) e := by
  simp only [Bool.and_eq_true] at h
  simp only [AGraph.edgeIs, edgeIsK, ends, beq_K g _ _ h.1, beq_K g _ _ h.2]

theorem view_updEdgeK (g a b : String) (f : Props → Props) (R : ARef) :
    (updEdgeK (K g a) (K g b) f R).view g = AGraph.updEdge a b f (R.view g) := by
  rw [view_eq, restrict_updEdgeK, view_eq]
  simp only [updEdgeK, AGraph.updEdge, List.map_map, AGraph.mk.injEq, true_and]
  refine List.map_congr_left fun e he => ?_
  simp only [Function.comp, edgeIs_ends g a b e (List.mem_filter.1 he).2]
  split <;> rfl

theorem view_addEdgeK (g a b : String) (attrs : Props) (R : ARef) :
    (addEdgeK (K g a) (K g b) attrs R).view g = AGraph.addEdge a b attrs (R.view g) := by
  have hany : (R.view g).edges.any (AGraph.edgeIs a b) = R.edges.any (edgeIsK (K g a) (K g b)) := by
    rw [← anyEdge_restrict, view_eq, List.any_map]
    exact List.any_congr' fun e he => edgeIs_ends g a b e (List.mem_filter.1 he).2
  unfold addEdgeK AGraph.addEdge
  rw [hany]
  split
  · exact view_updEdgeK g a b _ R
  · simp [view, nodesOf, List.filter_append, kIn, K]

theorem findEdge_view (g a b : String) (R : ARef) :
    (R.view g).edges.find? (AGraph.edgeIs a b) = (R.edges.find? (edgeIsK (K g a) (K g b))).map ends := by
  rw [← findEdge_restrict, view_eq, List.find?_map]
  exact congrArg _ (List.find?_congr' fun e he => edgeIs_ends g a b e (List.mem_filter.1 he).2)

theorem viewR_withL (g a b kind : String) (R : ARef) (k : AR) :
    viewR g (withL R g a b kind k) = AGraph.withL (R.view g) a b kind (viewR g k) := by
  unfold withL AGraph.withL
  rw [viewR_withN_const, viewR_withN_const, findEdge_view]
  cases R.edges.find? (edgeIsK (K g a) (K g b)) with
  | none => rfl
  | some e =>
    simp only [Option.map_some, ends]
    split <;> rfl

theorem viewR_getLinkProperties (g a b : String) (R : ARef) :
    viewR g (getLinkProperties g a b R) = AGraph.getLinkProperties a b (R.view g) := by
  unfold getLinkProperties AGraph.getLinkProperties
  rw [viewR_withN_const, viewR_withN_const, findEdge_view]
  cases R.edges.find? (edgeIsK (K g a) (K g b)) with
  | none => rfl
  | some e =>
    simp only [Option.map_some, ends]
    cases AMap.get nxLabel e.2.2 <;> rfl

theorem viewR_step (op : Op) (R : ARef) (hc : AGraph.covers op = true) (hk : op.keepsKeys = true) :
    viewR op.target (step op R) = AGraph.step op (R.view op.other) (R.view op.target) := by
  cases op with
  | addNode g nid label props =>
    simp only [Op.keepsKeys_addNode, Bool.and_eq_true, Bool.not_eq_true'] at hk
    exact viewR_addNode g nid label props R hk.1
  | deleteNode g nid =>
    simp only [step, AGraph.step, Op.target, deleteNode, AGraph.deleteNode, viewR_withN_const, viewR_mk, view_removeK, outAbs]
  | addLink g a rel b props =>
    simp only [step, AGraph.step, Op.target, addLink, AGraph.addLink, viewR_withN_const]
    cases props <;> simp only [viewR_ite, viewR_mk, view_addEdgeK, outAbs]
  | updateNodeProperty g nid k v =>
    simp only [Op.keepsKeys, Bool.and_eq_true, bne_iff_ne, ne_eq] at hk
    simp only [step, AGraph.step, Op.target, updateNodeProperty, AGraph.updateNodeProperty, viewR_assertVal, viewR_ite,
      viewR_withN_const, viewR_mk, outAbs, setKey_of_ne k v _ hk.1 hk.2,
      view_updK g nid _ R (fun a => AMap.get_set_ne _ _ _ _ (Ne.symm hk.1)) fun a => AMap.erase_set_ne _ _ _ _ (Ne.symm hk.1)]
  | unsetNodeProperty g nid k => exact viewR_unsetNodeProperty g nid k R
  | updateNodesProperty g k v =>
    simp only [Op.keepsKeys, Bool.and_eq_true, bne_iff_ne, ne_eq] at hk
    simp only [step, AGraph.step, Op.target, updateNodesProperty, AGraph.updateNodesProperty, viewR_assertVal, viewR_ite, viewR_mk,
      outAbs, view_updGraphK g k v R hk.1 hk.2, length_view_nodes]
  | updateNodeProperties g nid p =>
    simp only [Op.keepsKeys, Bool.and_eq_true, Bool.not_eq_true'] at hk
    simp only [step, AGraph.step, Op.target, updateNodeProperties, AGraph.updateNodeProperties, viewR_ite, viewR_withN_const,
      viewR_mk, outAbs, updKey_of_not_has p _ hk.1 hk.2,
      view_updK g nid (fun a => AMap.update a p) R (fun a => AMap.get_update_of_not_has _ _ _ hk.1)
        fun a => AMap.erase_update_of_not_has _ _ _ hk.1]
  | updateLinkProperty g a b kind k v =>
    simp only [step, AGraph.step, Op.target, updateLinkProperty, AGraph.updateLinkProperty, viewR_assertVal, viewR_ite, viewR_withL,
      viewR_mk, view_updEdgeK, outAbs]
  | unsetLinkProperty g a b kind k =>
    simp only [step, AGraph.step, Op.target, unsetLinkProperty, AGraph.unsetLinkProperty, viewR_ite, viewR_withL, viewR_mk,
      view_updEdgeK, outAbs]
  | updateLinkProperties g a b kind p =>
    simp only [step, AGraph.step, Op.target, updateLinkProperties, AGraph.updateLinkProperties, viewR_ite, viewR_withL, viewR_mk,
      view_updEdgeK, outAbs]
  | deleteGraph g => exact congrArg (Prod.mk _) (view_delGraphK g R)
  | addGraph g ig => cases hc
  | addGraphDirect g ig => cases hc
  | clone g g2 => cases hc
  | mergeNodes g nid g2 pol => cases hc
  | delAllGraphs => cases hc
  | getNodeProperties g nid => exact viewR_getNodeProperties g nid R
  | getLinkProperties g a b => exact viewR_getLinkProperties g a b R
  | listAllNodeIds g => exact viewR_listAllNodeIds g R
  | nodesByClass g label =>
    simp only [step, AGraph.step, Op.target, nodesByClass, AGraph.nodesByClass, viewR_nidList,
      view_filter R g _ _ (attrIs_eraseG propClass_ne_graphId label)]
  | nodesByClassAndType g label ntype =>
    simp only [step, AGraph.step, Op.target, nodesByClassAndType, AGraph.nodesByClassAndType, viewR_nidList]
    rw [view_filter R g _ (fun a => hasAttrP propClass label a && hasAttrP propType ntype a) fun a => by
      rw [attrIs_eraseG propClass_ne_graphId, attrIs_eraseG propType_ne_graphId]]
  | nodeExists g nid label => exact viewR_nodeExists g nid label R
  | graphExists g =>
    simp only [step, AGraph.step, Op.target, graphExists, AGraph.graphExists, viewR_mk, outAbs,
      length_view_nodes]
  | checkNodeUnique g label name =>
    show viewR g (checkNodeUnique g label name R) = AGraph.checkNodeUnique label name (R.view g)
    unfold checkNodeUnique AGraph.checkNodeUnique
    rw [view_filter R g _ (fun a => hasAttrP propName name a && hasAttrP propClass label a) fun a => by
      rw [attrIs_eraseG propName_ne_graphId, attrIs_eraseG propClass_ne_graphId], List.length_map]
    rfl
  | findMatchingNodes g other => exact viewR_findMatchingNodes g other R

/-- what was under the id is dropped first, every new node carries the id, and the links of a well-formed graph join positions
    that exist -/
theorem view_addGraph_ok (g : String) (ig : IGraph) (R : ARef) (hwf : ig.WF = true) (hok : (addGraph g ig R).1 = .ok .unit) :
    (addGraph g ig R).2.view g = igContent ig := by
  have key : ∀ k, k < ig.nodes.length →
      (((ig.nodes.map (AMap.set graphId (.str g)))[k]?).map keyP).getD (none, none) =
        (some (.str g), (ig.nodes[k]?).bind (AMap.get nodeId)) := by
    intro k hk
    rw [List.getElem?_map, List.getElem?_eq_getElem hk]
    simp only [Option.map_some, Option.getD_some, keyP_set_graphId]
    rfl
  unfold addGraph at hok ⊢
  simp only at hok ⊢
  split at hok
  · cases hok
  · rw [if_neg ‹_›]
    have hN : (delGraphK g R).nodes.filter (inGP g) = [] := by
      simp [delGraphK, List.filter_filter]
    have hE : (delGraphK g R).edges.filter (fun e => kIn g e.1 && kIn g e.2.1) = [] := by
      simp only [delGraphK, List.filter_filter, List.filter_eq_nil_iff]
      intro e _; cases kIn g e.1 <;> simp
    rw [IGraph.WF_iff] at hwf
    simp only [view, nodesOf, appendK, List.filter_append, hN, hE, List.nil_append, igContent, AGraph.mk.injEq]
    constructor
    · rw [List.filter_eq_self.2 fun a ha => show inGP g a = true from beq_iff_eq.2 (gid_of_tagged ha), List.map_map]
      exact List.map_congr_left fun a _ => AMap.erase_set_eq _ _ _
    · rw [List.filter_eq_self.2, List.map_map]
      · refine List.map_congr_left fun e he => ?_
        simp only [Function.comp, key _ (hwf e he).1, key _ (hwf e he).2]
      · intro e he
        obtain ⟨e0, he0, rfl⟩ := List.mem_map.1 he
        simp only [key _ (hwf e0 he0).1, key _ (hwf e0 he0).2, kIn, beq_self_eq_true, Bool.and_self]

end FimVerif.Store.ARef
