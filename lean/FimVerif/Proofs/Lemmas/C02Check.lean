import FimVerif.Proofs.Lemmas.C02Tree
/-! Bool versions of the hypotheses of the C02 tree theorems (`wfB` for `WF`), each sound for its `Prop`: the example trees get their
`WF` by evaluating them; `fieldLawB` compares `Except` values, hence the instance `instDecEqExcept` (global).  `rsplitComma_join` is
what the codec law of the two-attribute `ImageRef` row comes to in either value model (`concrete`, `rich`). -/
namespace FimVerif.C02
open FimVerif.Sliver FimVerif.Gen.SliverMap

instance instDecEqExcept {ε α : Type} [DecidableEq ε] [DecidableEq α] : DecidableEq (Except ε α) := fun a b =>
  match a, b with
  | .ok x, .ok y => if h : x = y then isTrue (by rw [h]) else isFalse (by intro e; cases e; exact h rfl)
  | .error x, .error y => if h : x = y then isTrue (by rw [h]) else isFalse (by intro e; cases e; exact h rfl)
  | .ok _, .error _ => isFalse (by intro e; cases e)
  | .error _, .ok _ => isFalse (by intro e; cases e)

theorem rsplit_none (b : List Char) (hb : ',' ∉ b) : rsplitCommaChars b = none := by
  induction b with
  | nil => rfl
  | cons c cs ih =>
    simp only [List.mem_cons, not_or] at hb
    simp only [rsplitCommaChars, ih hb.2]
    rw [if_neg]
    exact fun h => hb.1 h.symm

theorem rsplit_join (a b : List Char) (hb : ',' ∉ b) : rsplitCommaChars (a ++ ',' :: b) = some (a, b) := by
  induction a with
  | nil => simp [rsplitCommaChars, rsplit_none b hb]
  | cons c cs ih => simp [rsplitCommaChars, ih]

theorem rsplitComma_join (a b : String) (hb : ',' ∉ b.toList) : rsplitComma (a ++ "," ++ b) = some (a, b) := by
  unfold rsplitComma
  have : (a ++ "," ++ b).toList = a.toList ++ ',' :: b.toList := by
    simp [String.toList_append]
  rw [this, rsplit_join _ _ hb]
  simp

section
variable {V P : Type} [DecidableEq V]

def fieldLawB (C : Codecs V P) (T : KindTable) (s : Fields V) : Bool :=
  T.toRows.all fun r => T.fromRows.all fun f =>
    f.gprop != r.gprop ||
      (match rowVals s r.keys with
       | some vs => decide (readVal C f (C.enc r.enc vs) = .ok (s f.key))
       | none => !r.always || decide (readVal C f (C.encNone r.enc) = .ok (s f.key)))

def fateSharedB (T : KindTable) (s : Fields V) : Bool :=
  T.toRows.all fun r => (rowVals s r.keys).isSome || r.always || r.keys.all (fun k => (s k).isNone)

def requiredB (T : KindTable) (s : Fields V) : Bool :=
  T.fromRows.all fun f => f.noneOk || T.toRows.all fun r => r.gprop != f.gprop || (rowVals s r.keys).isSome

theorem fieldLawB_sound (C : Codecs V P) (T : KindTable) (s : Fields V) (h : fieldLawB C T s = true) : FieldLaw C T s := by
  intro r hr f hf hg
  simp only [fieldLawB, List.all_eq_true] at h
  have := h r hr f hf
  simp only [Bool.or_eq_true, bne_iff_ne, ne_eq] at this
  rcases this with h1 | h1
  · exact absurd hg h1
  · cases hv : rowVals s r.keys with
    | some vs => rw [hv] at h1; simpa using h1
    | none =>
      rw [hv] at h1
      simp only [Bool.or_eq_true, Bool.not_eq_true', decide_eq_true_eq] at h1
      intro ha
      rcases h1 with h2 | h2
      · rw [ha] at h2; cases h2
      · exact h2

omit [DecidableEq V] in
theorem fateSharedB_sound (T : KindTable) (s : Fields V) (h : fateSharedB T s = true) : FateShared T s := by
  intro r hr hv ha k hk
  simp only [fateSharedB, List.all_eq_true] at h
  have := h r hr
  rw [hv, ha] at this
  simp only [Option.isSome_none, Bool.or_self, Bool.false_or, List.all_eq_true, Option.isNone_iff_eq_none] at this
  exact this k hk

omit [DecidableEq V] in
theorem requiredB_sound (T : KindTable) (s : Fields V) (h : requiredB T s = true) : Required T s := by
  intro f hf hn r hr hg hv
  simp only [requiredB, List.all_eq_true] at h
  have := h f hf
  rw [hn] at this
  simp only [Bool.false_or, List.all_eq_true, Bool.or_eq_true, bne_iff_ne, ne_eq] at this
  rcases this r hr with h1 | h1
  · exact h1 hg
  · rw [hv] at h1; cases h1

mutual
def wfB (C : Codecs V P) : Sliver V → Bool
  | .mk k _ f ks => tableOK (tableOf k) && fieldLawB C (tableOf k) f && fateSharedB (tableOf k) f &&
      requiredB (tableOf k) f && wfKidsB C k ks && decide (ks.map keyOf).Nodup
def wfKidsB (C : Codecs V P) (parent : Kind) : List (Sliver V) → Bool
  | [] => true
  | c :: cs => (slotOf parent c.kind).isSome && childOk c && wfB C c && wfKidsB C parent cs
end

mutual
theorem wfB_sound (C : Codecs V P) : ∀ (s : Sliver V), wfB C s = true → WF C s
  | .mk k i f ks, h => by
    simp only [wfB, Bool.and_eq_true, decide_eq_true_eq] at h
    simp only [WF]
    exact ⟨h.1.1.1.1.1, fieldLawB_sound C _ f h.1.1.1.1.2, fateSharedB_sound _ f h.1.1.1.2, requiredB_sound _ f h.1.1.2,
      wfKidsB_sound C k ks h.1.2, h.2⟩
theorem wfKidsB_sound (C : Codecs V P) (parent : Kind) : ∀ (ks : List (Sliver V)), wfKidsB C parent ks = true → WFKids C parent ks
  | [], _ => by simp [WFKids]
  | c :: cs, h => by
    simp only [wfKidsB, Bool.and_eq_true] at h
    simp only [WFKids]
    exact ⟨h.1.1.1, h.1.1.2, wfB_sound C c h.1.2, wfKidsB_sound C parent cs h.2⟩
end

end
end FimVerif.C02
