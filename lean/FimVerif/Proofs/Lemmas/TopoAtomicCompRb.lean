import FimVerif.Proofs.Lemmas.TopoAtomicFac
/-! `add_component_sliver` with its clean-up (`Topo.compGuard`): the states the catalogue expansion of a component
passes through once the Component node exists (`comp0`: the node under its parent; `comp1`: plus its network service and
some of its interfaces), and what `remove_component_with_nss_cps_and_links` does to such a state: it gives back exactly
the state the call started from.  Whichever id is taken - the service's, the k-th interface's, one repeated inside the
call - the failing `add_node` leaves one of these states behind.

`compTail_cases` says how the writing part ends whatever `Gen.Rules.componentRollback` is (C07 needs every outcome); the
atomicity statements take `Gen.Rules.componentRollback = true` as a hypothesis.
`compNew` and `compNewMT` differ only in how they find the catalogue entry; from there on both are `compRest`. -/
namespace FimVerif.Topo
open FimVerif FimVerif.M

theorem compGuard_ok {id : Nid} {body : M Topo Unit} {t t' : Topo} {u : Unit} (h : body t = (.ok u, t')) :
    compGuard id body t = (.ok u, t') := by
  unfold compGuard
  split
  · exact tryCatch_ok h
  · exact h

theorem compGuard_total_step {β : Type} {id : Nid} {body : M Topo Unit} {f : Unit → M Topo β} {t s : Topo}
    (hb : ¬ failed (body t)) (hf : ∀ u t', ¬ failed (f u t')) : FS s ((compGuard id body >>= f) t) := by
  rcases cases_run body t with ⟨u, t', h⟩ | ⟨e, t', h⟩
  · rw [bind_ok (compGuard_ok h)]; intro hfail; exact absurd hfail (hf u t')
  · exact absurd (by rw [h]; simp) hb

theorem compGuard_cases {id : Nid} {body : M Topo Unit} {t s : Topo} {R : Topo → Prop} (hst : R (body t).2)
    (hrm : ∀ B, R B → removeCompGraph id B = (.ok (), s)) :
    (∃ e, compGuard id body t = (.error e, s)) ∨
    (R (compGuard id body t).2 ∧ (failed (compGuard id body t) → Gen.Rules.componentRollback = false)) := by
  rcases cases_run body t with ⟨u, t', h⟩ | ⟨e, t', h⟩
  · rw [compGuard_ok h]; rw [h] at hst
    exact .inr ⟨hst, fun hf => absurd hf (failed_ok u t')⟩
  · rw [h] at hst
    unfold compGuard
    cases hf : Gen.Rules.componentRollback
    · rw [if_neg (by simp), h]; exact .inr ⟨hst, fun _ => rfl⟩
    · rw [if_pos rfl, tryCatch_err h rfl, bind_ok (hrm _ hst)]; exact .inl ⟨e, rfl⟩

/-- one interface of the catalogue expansion -/
def compPort (sn : Nid) (cname : String) (x : Gen.Rules.CatIface × Nid) : M Topo Unit := do
  addGNode ⟨.connectionPoint, x.2, cname ++ "-" ++ x.1.port, x.1.itype, x.1.props⟩
  addEdge sn .connects x.2

/-- what `add_component_sliver` does once the Component node exists -/
def compAttach (parent id : Nid) (b : Bool) (sn : GNode) (cname : String) (cl : List (Gen.Rules.CatIface × Nid)) : M Topo Unit := do
  addEdge parent .has id
  if b then do
    addGNode sn
    addEdge id .has sn.nid
    forEach cl (compPort sn.nid cname)
  else Pure.pure ()

def comp0 (s : Topo) (pn cn : GNode) : Topo := hung s cn [⟨pn.ref, cn.ref, .has⟩] none

def comp1 (s : Topo) (pn cn sn : GNode) (cps : List GNode) : Topo := hung s cn [⟨pn.ref, cn.ref, .has⟩] (some (sn, cps))

/-- the component seen as the head node of a `fac` construct (only its id matters there) -/
def asNode (cn : GNode) : GNode := { cn with cls := .networkNode }

theorem asNode_nid (cn : GNode) : (asNode cn).nid = cn.nid := rfl

structure CompOk (s : Topo) (pn cn sn : GNode) (cps : List GNode) : Prop where
  fo : FacOk s (asNode cn) sn cps
  pm : pn ∈ s.nodes
  ccls : cn.cls = .component
  pcls : pn.cls ≠ .networkService

structure CompNew (s : Topo) (pn cn : GNode) : Prop where
  closed : Closed s
  ds : IdsDistinct s
  pm : pn ∈ s.nodes
  ccls : cn.cls = .component
  pcls : pn.cls ≠ .networkService
  fcn : ∀ m ∈ s.nodes, m.nid ≠ cn.nid

theorem comp0_eq (s : Topo) (pn cn : GNode) : comp0 s pn cn = grow s [cn] [⟨pn.ref, cn.ref, .has⟩] := rfl

theorem comp1_eq (s : Topo) (pn cn sn : GNode) (cps : List GNode) :
    comp1 s pn cn sn cps = grow s (cn :: sn :: cps) (⟨pn.ref, cn.ref, .has⟩ :: ⟨cn.ref, sn.ref, .has⟩ :: ports sn cps) := rfl

section
variable {s : Topo} {pn cn sn : GNode} {cps : List GNode}

theorem comp1_dist (h : CompOk s pn cn sn cps) : IdsDistinct (comp1 s pn cn sn cps) := by
  have e : (comp1 s pn cn sn cps).nodes.map (·.nid) = (fac s (asNode cn) sn cps).nodes.map (·.nid) := by simp [comp1_eq, fac_eq, asNode]
  unfold IdsDistinct; rw [e]; exact h.fo.dist

theorem sn_mem1 : sn ∈ (comp1 s pn cn sn cps).nodes := by simp [comp1_eq]

theorem closed_comp1 (h : CompOk s pn cn sn cps) : Closed (comp1 s pn cn sn cps) :=
  closed_hung h.fo.closed fun _ he => by rw [List.mem_singleton.mp he]; exact ⟨rfl, pn, h.pm, rfl⟩

theorem removeCompGraph_comp1 (h : CompOk s pn cn sn cps) : removeCompGraph cn.nid (comp1 s pn cn sn cps) = (.ok (), s) :=
  removeCompGraph_new (o := some (sn, cps)) (Hx := [⟨pn.ref, cn.ref, .has⟩]) h.fo.closed (comp1_dist h) h.ccls
    (fun _ _ e => by cases e; exact ⟨h.fo.scls, h.fo.ccls⟩) fun _ he => by rw [List.mem_singleton.mp he]; exact ⟨rfl, h.pcls⟩

end

section
variable {s : Topo} {pn cn : GNode}

theorem comp0_dist (h : CompNew s pn cn) : IdsDistinct (comp0 s pn cn) := idsDistinct_push h.ds h.fcn

theorem closed_comp0 (h : CompNew s pn cn) : Closed (comp0 s pn cn) :=
  closed_hung h.closed fun _ he => by rw [List.mem_singleton.mp he]; exact ⟨rfl, pn, h.pm, rfl⟩

theorem removeCompGraph_comp0 (h : CompNew s pn cn) : removeCompGraph cn.nid (comp0 s pn cn) = (.ok (), s) :=
  removeCompGraph_new (o := none) (Hx := [⟨pn.ref, cn.ref, .has⟩]) h.closed (comp0_dist h) h.ccls (fun _ _ e => nomatch e)
    fun _ he => by rw [List.mem_singleton.mp he]; exact ⟨rfl, h.pcls⟩

end

/-- where the expansion can stop (`b`: the entry has interfaces) -/
def CompAt (s : Topo) (pn cn sn : GNode) (T : String → Prop) (b : Bool) (t : Topo) : Prop :=
  t = comp0 s pn cn ∨ ∃ cps, b = true ∧ CompOk s pn cn sn cps ∧ (∀ c ∈ cps, T c.typ) ∧ t = comp1 s pn cn sn cps

theorem rollback_compAt {s : Topo} {pn cn sn : GNode} {T : String → Prop} {b : Bool} (hn : CompNew s pn cn) {B : Topo}
    (h : CompAt s pn cn sn T b B) : removeCompGraph cn.nid B = (.ok (), s) := by
  rcases h with rfl | ⟨cps, _, hok, _, rfl⟩
  · exact removeCompGraph_comp0 hn
  · exact removeCompGraph_comp1 hok

theorem compPorts_state {s : Topo} {pn cn sn : GNode} {T : String → Prop} (cname : String) :
    ∀ (cl : List (Gen.Rules.CatIface × Nid)) (cps : List GNode), CompOk s pn cn sn cps → (∀ c ∈ cps, T c.typ) →
      (∀ x ∈ cl, T x.1.itype) → CompAt s pn cn sn T true (M.forEach cl (compPort sn.nid cname) (comp1 s pn cn sn cps)).2 := by
  intro cl
  induction cl with
  | nil => intro cps h hT _; exact .inr ⟨cps, rfl, h, hT, rfl⟩
  | cons x rest ih =>
    intro cps h hT hcl
    rcases addGNode_cases ⟨.connectionPoint, x.2, cname ++ "-" ++ x.1.port, x.1.itype, x.1.props⟩ (comp1 s pn cn sn cps) with he | ⟨he, hfr⟩
    · have he' : compPort sn.nid cname x (comp1 s pn cn sn cps) = (.error .query, comp1 s pn cn sn cps) := bind_err he
      rw [forEach_cons_err he']; exact .inr ⟨cps, rfl, h, hT, rfl⟩
    · generalize hn : (⟨.connectionPoint, x.2, cname ++ "-" ++ x.1.port, x.1.itype, x.1.props⟩ : GNode) = n at he hfr
      have hnid : n.nid = x.2 := by rw [← hn]
      have hncls : n.cls = .connectionPoint := by rw [← hn]
      have hstep : compPort sn.nid cname x (comp1 s pn cn sn cps) = (.ok (), comp1 s pn cn sn (cps ++ [n])) := by
        unfold compPort
        rw [hn, bind_ok he, ← hnid]
        rw [addEdge_fresh (closed_comp1 h) (findNode_of_mem (comp1_dist h) sn_mem1) hfr]
        exact congrArg _ (grow_port [cn, sn] [⟨pn.ref, cn.ref, .has⟩, ⟨cn.ref, sn.ref, .has⟩] sn n cps)
      rw [forEach_cons_ok hstep]
      refine ih _ ⟨h.fo.snoc hncls ?_, h.pm, h.ccls, h.pcls⟩ ?_ (fun y hy => hcl y (List.mem_cons_of_mem _ hy))
      · intro m hm
        simp only [fac_eq, grow_nodes, List.mem_append, List.mem_cons] at hm
        rcases hm with hm | rfl | rfl | hm
        · exact hfr m (by simp [comp1_eq, hm])
        · exact hfr cn mem_hung          -- the head node of the `fac` view is the component itself: same id
        · exact hfr _ sn_mem1
        · exact hfr m (by simp [comp1_eq, hm])
      · intro c hc
        rcases List.mem_append.mp hc with hc | hc
        · exact hT c hc
        · rw [List.mem_singleton.mp hc, ← hn]; exact hcl x (List.mem_cons_self ..)

theorem compAttach_state {s : Topo} {pn cn sn : GNode} {parent : Nid} {T : String → Prop} (hn : CompNew s pn cn)
    (hp : findNode parent s = (.ok pn, s)) (hscls : sn.cls = .networkService) (b : Bool) (cname : String)
    (cl : List (Gen.Rules.CatIface × Nid)) (hcl : ∀ x ∈ cl, T x.1.itype) :
    CompAt s pn cn sn T b (compAttach parent cn.nid b sn cname cl (pushNode cn s)).2 := by
  unfold compAttach
  rw [bind_ok (addEdge_fresh hn.closed hp hn.fcn), ← comp0_eq]
  cases b with
  | false => exact .inl rfl
  | true =>
    simp only [if_true]
    rcases addGNode_cases sn (comp0 s pn cn) with he | ⟨he, hfr⟩
    · rw [bind_err he]; exact .inl rfl
    · rw [bind_ok he, bind_ok (addEdge_fresh (closed_comp0 hn) (findNode_of_mem (comp0_dist hn) mem_hung) hfr),
        show grow (comp0 s pn cn) [sn] [⟨cn.ref, sn.ref, .has⟩] = comp1 s pn cn sn [] from grow_grow ..]
      refine compPorts_state cname cl [] ⟨?_, hn.pm, hn.ccls, hn.pcls⟩ (fun _ hc => nomatch hc) hcl
      refine .of_dist hn.closed ?_ rfl hscls fun _ hc' => nomatch hc'
      have := idsDistinct_push (comp0_dist hn) hfr
      simpa [IdsDistinct, fac_eq, comp0_eq, pushNode, asNode] using this

/-- the writing part of `compNew` / `compNewMT`: the join point after their validations (`b` is `e.hasIfaces`) -/
def compTail (b : Bool) (parent id : Nid) (c1 : Nat) (a : CompArgs) (p : GNode) (e : Gen.Rules.CatEntry) : M Topo Nid :=
  match (if b = true then ifaceIds a.ifNids e.ifaces.length c1 else ([], c1)) with
  | (ifIds, c2) =>
    match (if b = true then pick a.nsNid c2 else (id, c2)) with
    | (nsId, _) => do
      let kw ← M.ofExcept (validateProps a.props)
      addGNode ⟨.component, id, a.name, e.ctype, dictUpdate [("Model", e.model), ("Details", e.details), ("StitchNode", "false")] kw⟩
      compGuard id (compAttach parent id b ⟨.networkService, nsId, p.name ++ "-" ++ a.name ++ e.nsSuffix, e.nsType,
        [("StitchNode", "false"), ("Layer", "L2")]⟩ a.name (e.ifaces.zip ifIds))
      Pure.pure id

/-- what `add_component_sliver` has built in `t` for the catalogue entry `e` under `p` -/
def CompBuilt (s : Topo) (p : GNode) (a : CompArgs) (e : Gen.Rules.CatEntry) (b : Bool) (id : Nid) (t : Topo) : Prop :=
  ∃ cn sn, CompNew s p cn ∧ cn.nid = id ∧ cn.name = a.name ∧ cn.typ = e.ctype ∧ sn.typ = e.nsType ∧
    CompAt s p cn sn (fun ty => ∃ ci ∈ e.ifaces, ty = ci.itype) b t

/-- how the writing part ends.  The first disjunct: its own `add_node` was refused, or the clean-up ran; a raise with the component
built in part is possible only when the clean-up is absent from the code -/
def CompEnd (s : Topo) (p : GNode) (a : CompArgs) (e : Gen.Rules.CatEntry) (b : Bool) (id : Nid) (r : Except Err Nid × Topo) : Prop :=
  (∃ er, r = (.error er, s)) ∨ (CompBuilt s p a e b id r.2 ∧ (r.1 = .ok id ∨ Gen.Rules.componentRollback = false))

theorem CompEnd.err {s p a e b id} (er : Err) : CompEnd s p a e b id (.error er, s) := .inl ⟨er, rfl⟩

theorem CompEnd.outcome {s p a e b id r} (hflag : Gen.Rules.componentRollback = true) (h : CompEnd s p a e b id r) :
    Outcome s (CompBuilt s p a e b) r := by
  rcases h with h | ⟨hb, hr | hr⟩
  · exact .inl h
  · obtain ⟨r1, t⟩ := r
    cases hr
    exact .ok hb
  · rw [hflag] at hr; cases hr

theorem compTail_cases (b : Bool) (parent id : Nid) (c1 : Nat) (a : CompArgs) (p : GNode) (e : Gen.Rules.CatEntry) (s : Topo)
    (hd : IdsDistinct s) (hc : Closed s) (hpn : findNode parent s = (.ok p, s)) (hpc : p.cls ≠ .networkService) :
    CompEnd s p a e b id (compTail b parent id c1 a p e s) := by
  unfold compTail
  rcases (if b = true then ifaceIds a.ifNids e.ifaces.length c1 else ([], c1)) with ⟨ifIds, c2⟩
  dsimp only
  rcases (if b = true then pick a.nsNid c2 else (id, c2)) with ⟨nsId, c3⟩
  dsimp only
  refine ro_step (readOnly_ofExcept _) CompEnd.err (fun kw _ => ?_)
  refine addGNode_step (CompEnd.err _) (fun cn hcn hn => ?_)
  have hcid : cn.nid = id := by rw [hcn]
  subst hcid
  have hnew : CompNew s p cn := ⟨hc, hd, (findNode_ok hpn).1, by rw [hcn], hpc, hn⟩
  generalize hsn : (⟨.networkService, nsId, _, e.nsType, _⟩ : GNode) = sn
  rcases compGuard_cases (compAttach_state (sn := sn) (T := fun ty => ∃ ci ∈ e.ifaces, ty = ci.itype) hnew hpn (by rw [← hsn]) b a.name
      (e.ifaces.zip ifIds) fun x hx => ⟨x.1, (List.of_mem_zip hx).1, rfl⟩) (fun _ => rollback_compAt hnew) with ⟨er, h⟩ | ⟨hat, hfl⟩
  · rw [bind_err h]; exact CompEnd.err er
  · have built {t} (h : CompAt s p cn sn _ b t) : CompBuilt s p a e b cn.nid t :=
      ⟨cn, sn, hnew, rfl, by rw [hcn], by rw [hcn], by rw [← hsn], h⟩
    rcases cases_run (compGuard cn.nid (compAttach parent cn.nid b sn a.name (e.ifaces.zip ifIds))) (pushNode cn s) with
      ⟨u, t, h⟩ | ⟨er, t, h⟩
    · rw [bind_ok h]; rw [h] at hat
      exact .inr ⟨built hat, .inl rfl⟩
    · rw [bind_err h]; rw [h] at hat hfl
      exact .inr ⟨built hat, .inr (hfl (failed_error er t))⟩

/-- `compNew` / `compNewMT` from the catalogue entry `e` on: the checks `generate_component` makes on the caller's
interface ids and labels, then the writing part -/
def compRest (parent id : Nid) (c1 : Nat) (a : CompArgs) (p : GNode) (e : Gen.Rules.CatEntry) : M Topo Nid := do
  M.guard (validName .component a.name) .value
  if e.hasIfaces then
    match a.ifNids with
    | some l => do
        M.guard (l.length == e.ifaces.length) .runtime
        match a.nLabels with
        | some n => M.guard (n == e.ifaces.length) .runtime
        | none => raise .typ
    | none => Pure.pure ()
  else Pure.pure ()
  compTail e.hasIfaces parent id c1 a p e

theorem compNew_eq (fl : Flavour) (c : Nat) (parent : Nid) (a : CompArgs) : compNew fl c parent a = (do
    M.guard (!(fl == .substrate && a.nid.isNone)) .topology
    M.guard (a.model.isSome && a.ctype.isSome) .topology
    M.guard (!(fl == .substrate && (a.ctype.getD "" == "SharedNIC" || a.ctype.getD "" == "SmartNIC") &&
      (a.nsNid.isNone || a.ifNids.isNone || a.nLabels.isNone))) .topology
    let p ← findNode parent
    let e ← need (catalogFind (a.model.getD "") (a.ctype.getD "")) (.named "catalog")
    compRest parent (pick a.nid c).1 (pick a.nid c).2 a p e) := rfl

theorem compNewMT_eq (fl : Flavour) (c : Nat) (parent : Nid) (a : CompArgs) (mt : String × String) :
    compNewMT fl c parent a mt = (do
    M.guard (!(fl == .substrate && a.nid.isNone)) .topology
    M.guard (!(fl == .substrate && (a.ctype.getD "" == "SharedNIC" || a.ctype.getD "" == "SmartNIC") &&
      (a.nsNid.isNone || a.ifNids.isNone || a.nLabels.isNone))) .topology
    let p ← findNode parent
    let e ← need (catalogFind mt.1 mt.2) (.named "catalog")
    compRest parent (pick a.nid c).1 (pick a.nid c).2 a p e) := rfl

section
variable {Q : Except Err Nid × Topo → Prop} {fl : Flavour} {c : Nat} {parent : Nid} {a : CompArgs} {s : Topo}

/-- the checks only read; `do` has pushed the writing part into each of their branches -/
theorem compRest_cases {id : Nid} {c1 : Nat} {p : GNode} {e : Gen.Rules.CatEntry} (herr : ∀ er, Q (.error er, s))
    (h : Q (compTail e.hasIfaces parent id c1 a p e s)) : Q (compRest parent id c1 a p e s) := by
  obtain ⟨nm, nid, ctype, model, nsNid, ifNids, nLabels, props⟩ := a
  unfold compRest
  refine ro_step (readOnly_guard ..) herr fun _ _ => ?_
  split
  · cases ifNids with
    | none => exact h
    | some l =>
      refine ro_step (readOnly_guard ..) herr fun _ _ => ?_
      cases nLabels with
      | none => exact ro_step (readOnly_raise _) herr fun _ hr => nomatch hr
      | some n => exact ro_step (readOnly_guard ..) herr fun _ _ => h
  · exact h

theorem compNew_cases (herr : ∀ er, Q (.error er, s))
    (h : ∀ p e, findNode parent s = (.ok p, s) → catalogFind (a.model.getD "") (a.ctype.getD "") = some e →
      Q (compTail e.hasIfaces parent (pick a.nid c).1 (pick a.nid c).2 a p e s)) : Q (compNew fl c parent a s) := by
  rw [compNew_eq]
  refine ro_step (readOnly_guard ..) herr fun _ _ => ?_
  refine ro_step (readOnly_guard ..) herr fun _ _ => ?_
  refine ro_step (readOnly_guard ..) herr fun _ _ => ?_
  refine ro_step (readOnly_findNode _) herr fun p hp => ?_
  exact ro_step (readOnly_need ..) herr fun e he => compRest_cases herr (h p e hp (need_ok he))

theorem compNewMT_cases {mt : String × String} (herr : ∀ er, Q (.error er, s))
    (h : ∀ p e, findNode parent s = (.ok p, s) → catalogFind mt.1 mt.2 = some e →
      Q (compTail e.hasIfaces parent (pick a.nid c).1 (pick a.nid c).2 a p e s)) : Q (compNewMT fl c parent a mt s) := by
  rw [compNewMT_eq]
  refine ro_step (readOnly_guard ..) herr fun _ _ => ?_
  refine ro_step (readOnly_guard ..) herr fun _ _ => ?_
  refine ro_step (readOnly_findNode _) herr fun p hp => ?_
  exact ro_step (readOnly_need ..) herr fun e he => compRest_cases herr (h p e hp (need_ok he))
end

theorem compTail_fs (hflag : Gen.Rules.componentRollback = true) {parent : Nid} {a : CompArgs} {p : GNode} {s : Topo}
    (hd : IdsDistinct s) (hc : Closed s) (hpar : ∀ m ∈ s.nodes, m.nid = parent → m.cls ≠ .networkService)
    (hpn : findNode parent s = (.ok p, s)) {b : Bool} {id : Nid} {c1 : Nat} {e : Gen.Rules.CatEntry} :
    FS s (compTail b parent id c1 a p e s) :=
  have ⟨hpm, hpi, _⟩ := findNode_ok hpn
  ((compTail_cases b parent id c1 a p e s hd hc hpn (hpar p hpm hpi)).outcome hflag).fs

/-- `Component(..., etype=NEW)`, caller-supplied ids for its service and interfaces included -/
theorem compNew_fs_rb (hflag : Gen.Rules.componentRollback = true) (fl : Flavour) (c : Nat) (parent : Nid) (a : CompArgs) (s : Topo)
    (hd : IdsDistinct s) (hc : Closed s) (hpar : ∀ m ∈ s.nodes, m.nid = parent → m.cls ≠ .networkService) :
    FS s (compNew fl c parent a s) :=
  compNew_cases FS.err fun _ _ hpn _ => compTail_fs hflag hd hc hpar hpn

theorem compNewMT_fs_rb (hflag : Gen.Rules.componentRollback = true) (fl : Flavour) (c : Nat) (parent : Nid) (a : CompArgs)
    (mt : String × String) (s : Topo)
    (hd : IdsDistinct s) (hc : Closed s) (hpar : ∀ m ∈ s.nodes, m.nid = parent → m.cls ≠ .networkService) :
    FS s (compNewMT fl c parent a mt s) :=
  compNewMT_cases FS.err fun _ _ hpn _ => compTail_fs hflag hd hc hpar hpn

theorem ifaceIds_none (n c : Nat) :
    (ifaceIds none n c).2 = c + n ∧ (ifaceIds none n c).1.Nodup ∧ (ifaceIds none n c).1.length = n ∧
      ∀ x ∈ (ifaceIds none n c).1, ∃ k, c ≤ k ∧ k < c + n ∧ x = .gen k := by
  induction n generalizing c with
  | zero => simp [ifaceIds]
  | succ n ih =>
    obtain ⟨h1, h2, h3, h4⟩ := ih (c + 1)
    simp only [ifaceIds]
    refine ⟨by rw [h1]; omega, ?_, by simp [h3], ?_⟩
    · rw [List.nodup_cons]
      refine ⟨fun hm => ?_, h2⟩
      obtain ⟨k, hk1, _, hk3⟩ := h4 _ hm
      injection hk3 with e; omega
    · intro x hx
      rcases List.mem_cons.mp hx with rfl | hx
      · exact ⟨c, Nat.le_refl _, by omega, rfl⟩
      · obtain ⟨k, a1, a2, a3⟩ := h4 x hx
        exact ⟨k, by omega, by omega, a3⟩

theorem ports_ok (nsId : Nid) (name : String) :
    ∀ (l : List (Gen.Rules.CatIface × Nid)) (u : Topo), (∃ nsn, findNode nsId u = (.ok nsn, u)) → (l.map (·.2)).Nodup →
      (∀ x ∈ l, ∀ m ∈ u.nodes, m.nid ≠ x.2) → ∃ u', M.forEach l (compPort nsId name) u = (.ok (), u') := by
  intro l
  induction l with
  | nil => intro u _ _ _; exact ⟨u, rfl⟩
  | cons x l ih =>
    intro u ⟨nsn, hns⟩ hnd hfr
    simp only [List.map_cons, List.nodup_cons, List.mem_map, not_exists, not_and] at hnd
    generalize hn' : (⟨.connectionPoint, x.2, name ++ "-" ++ x.1.port, x.1.itype, x.1.props⟩ : GNode) = n
    have hni : n.nid = x.2 := by rw [← hn']
    have hn : ∀ m ∈ u.nodes, m.nid ≠ n.nid := hni ▸ hfr x (List.mem_cons_self ..)
    have h1 : compPort nsId name x u = (.ok (), setEdge nsn.ref n.ref .connects (pushNode n u)) := by
      unfold compPort
      rw [hn', bind_ok (addGNode_run hn), ← hni]
      exact addEdge_run (findNode_push_old hns hn) (findNode_push_new hn)
    rw [forEach_cons_ok h1]
    refine ih _ ⟨nsn, findNode_setEdge (findNode_push_old hns hn)⟩ hnd.2 fun y hy m hm => ?_
    rcases List.mem_append.mp (show m ∈ u.nodes ++ [n] from hm) with hm' | hm'
    · exact hfr y (List.mem_cons_of_mem _ hy) m hm'
    · rw [List.mem_singleton.mp hm', hni]
      exact fun e => hnd.1 y hy e.symm

theorem compAttach_total {s : Topo} {p cn sn : GNode} {parent : Nid} {cname : String} {cl : List (Gen.Rules.CatIface × Nid)}
    (hpn : findNode parent s = (.ok p, s)) (hn : ∀ m ∈ s.nodes, m.nid ≠ cn.nid) (hsn : ∀ m ∈ s.nodes ++ [cn], m.nid ≠ sn.nid)
    (hnd : (cl.map (·.2)).Nodup) (hcl : ∀ x ∈ cl, ∀ m ∈ s.nodes ++ [cn, sn], m.nid ≠ x.2) :
    ¬ failed (compAttach parent cn.nid true sn cname cl (pushNode cn s)) := by
  have hfn := findNode_push_new hn
  unfold compAttach
  rw [bind_ok (addEdge_run (r := .has) (findNode_push_old hpn hn) hfn)]
  simp only [if_true]
  generalize hU : setEdge p.ref cn.ref Rel.has (pushNode cn s) = U
  have hUn : U.nodes = s.nodes ++ [cn] := by subst hU; rfl
  have hfnU : findNode cn.nid U = (.ok cn, U) := by subst hU; exact findNode_setEdge hfn
  have hsn' : ∀ m ∈ U.nodes, m.nid ≠ sn.nid := by rw [hUn]; exact hsn
  have hfns := findNode_push_new hsn'
  rw [bind_ok (addGNode_run hsn'), bind_ok (addEdge_run (r := .has) (findNode_push_old hfnU hsn') hfns)]
  obtain ⟨u', hu'⟩ := ports_ok sn.nid cname cl _ ⟨_, findNode_setEdge hfns⟩ hnd fun x hx m hm => hcl x hx m (by
    have : m ∈ (s.nodes ++ [cn]) ++ [sn] := by rw [← hUn]; exact hm
    simpa [List.append_assoc] using this)
  rw [hu']
  simp

/-- with library-generated ids nothing can fail once the Component node is created, so there is nothing to clean up -/
theorem compTail_fresh {b : Bool} {parent id : Nid} {c1 : Nat} {a : CompArgs} {p : GNode} {e : Gen.Rules.CatEntry} {s : Topo}
    (hpn : findNode parent s = (.ok p, s)) (hfresh : ∀ m ∈ s.nodes, ∀ k, c1 ≤ k → m.nid ≠ .gen k)
    (hid : ∀ k, c1 ≤ k → id ≠ .gen k) (hgen : a.ifNids = none ∧ a.nsNid = none) :
    FS s (compTail b parent id c1 a p e s) := by
  unfold compTail
  simp only [hgen.1, hgen.2]
  cases b with
  | false =>
    simp only [Bool.false_eq_true, if_false]
    refine ro_step (readOnly_ofExcept _) FS.err (fun kw _ => ?_)
    refine addGNode_step (FS.err _) (fun cn hcn hn => ?_)
    obtain rfl : cn.nid = id := by rw [hcn]
    refine compGuard_total_step ?_ (fun _ _ => by simp)
    unfold compAttach
    rw [bind_ok (addEdge_run (r := .has) (findNode_push_old hpn hn) (findNode_push_new hn))]
    simp
  | true =>
    simp only [if_true]
    refine ro_step (readOnly_ofExcept _) FS.err (fun kw _ => ?_)
    refine addGNode_step (FS.err _) (fun cn hcn hn => ?_)
    obtain rfl : cn.nid = id := by rw [hcn]
    obtain ⟨i1, i2, i3, i4⟩ := ifaceIds_none e.ifaces.length c1
    simp only [pick, i1]
    refine compGuard_total_step (compAttach_total hpn hn ?_ ?_ ?_) (fun _ _ => by simp)
    · intro m hm
      rcases List.mem_append.mp hm with hm | hm
      · exact hfresh m hm _ (by omega)
      · rw [List.mem_singleton.mp hm]; exact hid _ (by omega)
    · rw [List.map_snd_zip (by omega)]; exact i2
    · intro x hx m hm
      obtain ⟨k, k1, k2, k3⟩ := i4 _ (List.of_mem_zip hx).2
      rw [k3]
      simp only [List.mem_append, List.mem_cons, List.mem_nil_iff, or_false] at hm
      rcases hm with hm | rfl | rfl
      · exact hfresh m hm k (by omega)
      · exact hid k k1
      · simp; omega

/-- `Component(..., etype=NEW)` when the library generates the ids of its service and interfaces (the experiment flavour) -/
theorem compNew_atomic (fl : Flavour) (c : Nat) (parent : Nid) (a : CompArgs) (s : Topo)
    (hfresh : ∀ m ∈ s.nodes, ∀ k, c ≤ k → m.nid ≠ .gen k) (hnid : ∀ k, c ≤ k → a.nid ≠ some (.gen k))
    (hgen : a.ifNids = none ∧ a.nsNid = none) : FS s (compNew fl c parent a s) :=
  compNew_cases FS.err fun _ _ hpn _ => compTail_fresh hpn (fun m hm k hk => hfresh m hm k (Nat.le_trans (le_pick ..) hk))
    (pick_fst_ne_gen hnid) hgen

theorem compNewMT_atomic (fl : Flavour) (c : Nat) (parent : Nid) (a : CompArgs) (mt : String × String) (s : Topo)
    (hfresh : ∀ m ∈ s.nodes, ∀ k, c ≤ k → m.nid ≠ .gen k) (hnid : ∀ k, c ≤ k → a.nid ≠ some (.gen k))
    (hgen : a.ifNids = none ∧ a.nsNid = none) : FS s (compNewMT fl c parent a mt s) :=
  compNewMT_cases FS.err fun _ _ hpn _ => compTail_fresh hpn (fun m hm k hk => hfresh m hm k (Nat.le_trans (le_pick ..) hk))
    (pick_fst_ne_gen hnid) hgen

end FimVerif.Topo
