import FimVerif.Proofs.Lemmas.C12Back
import FimVerif.Proofs.Lemmas.C12Codec
/-! `annotate_delegations_and_pools` (C12): merging the elements' own single-resource delegations into the generated dictionaries,
and the text of every node (`to_json` / `from_json` node by node) for dictionaries made of a family's entries. -/
namespace FimVerif.C12
open FimVerif.Deleg

variable {D : Type}

theorem lookup_isSome_iff {α : Type} (n : String) (r : List (String × α)) : (lookup n r).isSome ↔ ∃ e ∈ r, e.1 = n := by
  fun_induction lookup n r with
  | case1 => simp
  | case2 a r h => exact ⟨fun _ => ⟨a, List.mem_cons_self, h⟩, fun _ => rfl⟩
  | case3 a r h ih => simp only [ih, List.mem_cons, or_and_right, exists_or, exists_eq_left, h, false_or]

theorem mergeSingles_ok (r dels : NodeDelegs D) (hdis : ∀ e ∈ dels, ∀ b ∈ r, b.1 ≠ e.1)
    (hpw : dels.Pairwise (fun a b => a.1 ≠ b.1)) : mergeSingles r dels = .ok (r ++ dels) := by
  fun_induction mergeSingles r dels with
  | case1 r => simp
  | case2 r e rest hl =>
    obtain ⟨b, hb, hbe⟩ := (lookup_isSome_iff e.1 r).mp hl
    exact absurd hbe (hdis e (by simp) b hb)
  | case3 r e rest hl ih =>
    have hp := List.pairwise_cons.mp hpw
    rw [ih ?_ hp.2]
    · simp
    · intro x hx b hb
      rcases List.mem_append.mp hb with hb | hb
      · exact hdis x (by simp [hx]) b hb
      · rw [List.mem_singleton.mp hb]
        exact hp.1 x hx

theorem mergeSingles_clash (r dels : NodeDelegs D) (e : String × Delegations D) (he : e ∈ dels)
    (b : String × Delegations D) (hb : b ∈ r) (hbe : b.1 = e.1) : mergeSingles r dels = .error .query := by
  fun_induction mergeSingles r dels with
  | case1 r => cases he
  | case2 r x rest hl => rfl
  | case3 r x rest hl ih =>
    rcases List.mem_cons.mp he with rfl | he'
    · exact absurd ((lookup_isSome_iff e.1 r).mpr ⟨b, hb, hbe⟩) hl
    · exact ih he' (by simp [hb])

theorem generated_wf (ops : DetailOps D) (ty : DType) (P : List (Pool D)) (R : NodeDelegs D) (hF : Family ops ty P)
    (hT : ∀ p ∈ P, DetOk ops ty p.details)
    (hinv : RInv ty R) (hperm : (flat R).Perm (allEntries ty P)) : ∀ e ∈ R, WF ops e.2 := by
  intro e he
  refine ⟨fun d hd => ?_, items_ids_distinct R hinv.keys e he⟩
  rw [hinv.ty_ e he]
  obtain ⟨p, hp, hep⟩ := mem_allEntries.mp (hperm.mem_iff.mp (mem_flat.mpr ⟨e, he, rfl, hd⟩))
  obtain h | ⟨n, -, h⟩ := mem_entriesOf.mp hep <;> cases (Prod.mk.inj h).2
  · exact ⟨rfl, (hF.ok p hp).name, hT p hp⟩
  · exact ⟨rfl, (hF.ok p hp).name, rfl⟩

theorem recode_id (ops : DetailOps D) (ty : DType) (R : NodeDelegs D) (hty : ∀ e ∈ R, e.2.ty = ty)
    (hwf : ∀ e ∈ R, WF ops e.2) : recode ops ty R = .ok R := by
  unfold recode
  rw [List.mapM_ok_of_forall id, List.map_id]
  intro e he
  rw [encode_wf ops e.2 (hwf e he), ← hty e he]
  show decode ops e.2.ty _ >>= _ = _
  rw [decode_encoded ops e.2 (hwf e he)]
  rfl

theorem recode_generated (ops : DetailOps D) (ty : DType) (P : List (Pool D)) (R R' : NodeDelegs D) (hF : Family ops ty P)
    (hT : ∀ p ∈ P, DetOk ops ty p.details) (hinv : RInv ty R) (hperm : (flat R).Perm (allEntries ty P)) (hR' : R'.Perm R) :
    recode ops ty R' = .ok R' :=
  have hinv' := rinv_perm ty hR' hinv
  recode_id ops ty R' hinv'.ty_
    (generated_wf ops ty P R' hF hT hinv' ((flat_perm hR').trans hperm))

theorem write_read (ops : DetailOps D) (ty : DType) (L : NodeDelegs D) (hty : ∀ e ∈ L, e.2.ty = ty)
    (hwf : ∀ e ∈ L, WF ops e.2) :
    ∃ w, L.mapM (writeNode ops) = .ok w ∧ readAll ops ty w = .ok L := by
  refine ⟨_, List.mapM_ok_of_forall (fun e => (e.1, .obj (e.2.items.map (encPure ops e.2.ty)))) fun e he => ?_, ?_⟩
  · rw [writeNode, encode_wf ops e.2 (hwf e he)]
    rfl
  · unfold readAll
    rw [List.mapM_map, List.mapM_ok_of_forall id, List.map_id]
    intro e he
    show decode ops ty _ >>= _ = _
    rw [← hty e he, decode_encoded ops e.2 (hwf e he)]
    rfl

theorem annotate_builtPools (ops : DetailOps D) (ty : DType) (P : List (Pool D)) (dels : NodeDelegs D)
    (hF : Family ops ty P) (hN : NoClash P) (hT : ∀ p ∈ P, DetOk ops ty p.details) (hty : ∀ e ∈ dels, e.2.ty = ty)
    (hnodes : dels.Pairwise (fun a b => a.1 ≠ b.1)) (hapart : ∀ e ∈ dels, ∀ p ∈ P, some e.1 ≠ p.on_ ∧ e.1 ∉ p.for_)
    (hW : ∀ e ∈ dels, WF ops e.2) :
    ∃ w, annotate ops (builtPools ty P) dels = .ok (ty, w) ∧ readAll ops ty w = .ok (genOf ty P ++ dels) := by
  obtain ⟨hg, hinv, hperm⟩ := generate_family ops ty P hF hN
  have hmerge : mergeSingles (genOf ty P) dels = .ok (genOf ty P ++ dels) := by
    refine mergeSingles_ok _ dels (fun e he b hb hbe => ?_) hnodes
    obtain ⟨p, hp, h | h⟩ := genOf_node_pool ops ty P hF b hb
    · exact (hapart e he p hp).1 (hbe ▸ h)
    · exact (hapart e he p hp).2 (hbe ▸ h)
  obtain ⟨w, hw, hr⟩ := write_read ops ty (genOf ty P ++ dels)
    (fun e he => (List.mem_append.mp he).elim (hinv.ty_ e) (hty e))
    (fun e he => (List.mem_append.mp he).elim (generated_wf ops ty P _ hF hT hinv hperm e) (hW e))
  exact ⟨w, by simp only [annotate, hg, hmerge, hw, bind, Except.bind, pure, Except.pure]; rfl, hr⟩

theorem pool_entries_merged (ty : DType) (P : List (Pool D)) (R dels R' : NodeDelegs D) (hperm : (flat R).Perm (allEntries ty P))
    (hS : ∀ e ∈ dels, ∀ d ∈ e.2.items, d.fmt = .single) (hR' : R'.Perm (R ++ dels)) :
    ((flat R').filter nonSingle).Perm (allEntries ty P) := by
  refine ((flat_perm hR').filter _).trans ?_
  rw [flat_append, List.filter_append, filter_flat_singles dels hS, List.append_nil,
    filter_nonSingle hperm.subset]
  exact hperm

end FimVerif.C12
