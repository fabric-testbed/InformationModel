import FimVerif.Proofs.Lemmas.C16Validate
import FimVerif.Proofs.Lemmas.ListAux
/-! The range predicates and `int()` in readable terms; `digits_domain` is the common shape of the `vlan` and `asn` domains. -/
namespace FimVerif.V16
open FimVerif.Regex FimVerif.Gen.Validators

theorem evalRange_true_iff (s : List Char) (cs : List Cmp) :
    evalRange s cs = .ok true ↔ ∀ c ∈ cs, ∃ a b, evalInt s c.l = .ok a ∧ evalInt s c.r = .ok b ∧ cmpOp c.op a b = true := by
  induction cs with
  | nil => simp [evalRange, pure_eq]
  | cons c t ih =>
    rw [List.forall_mem_cons, ← ih]
    simp only [evalRange]
    cases evalInt s c.l with
    | error e => simp
    | ok a =>
      cases evalInt s c.r with
      | error e => simp
      | ok b => by_cases hc : cmpOp c.op a b = true <;> simp [hc, pure_eq]

/-- positional value of a digit string (any Unicode decimal digits) -/
def decVal (s : List Char) : Nat := s.foldl (fun acc c => acc * 10 + (digitVal c).getD 0) 0

theorem inRanges_iff_digitValIn (t : List (Nat × Nat)) (n : Nat) : inRanges t n = true ↔ (digitValIn t n).isSome = true := by
  fun_induction inRanges t n <;> simp [digitValIn, *]

theorem inRanges_mem (t : List (Nat × Nat)) (n : Nat) : inRanges t n = true → ∃ x ∈ t, x.1 ≤ n ∧ n ≤ x.2 := by
  fun_induction inRanges t n with
  | case1 | case2 => nofun
  | case3 lo hi t n h1 h2 => exact fun _ => ⟨(lo, hi), List.mem_cons_self, Nat.le_of_not_lt h1, h2⟩
  | case4 lo hi t n _ _ ih =>
    intro h
    obtain ⟨x, hx, hb⟩ := ih h
    exact ⟨x, List.mem_cons_of_mem _ hx, hb⟩

theorem disjoint_sound {a b : List (Nat × Nat)} (hd : ∀ x ∈ a, ∀ y ∈ b, x.2 < y.1 ∨ y.2 < x.1) {n : Nat}
    (ha : inRanges a n = true) : inRanges b n = false := by
  refine Bool.eq_false_iff.mpr fun hb => ?_
  obtain ⟨x, hx, h1, h2⟩ := inRanges_mem a n ha
  obtain ⟨y, hy, h3, h4⟩ := inRanges_mem b n hb
  have := hd x hx y hy
  omega

/-- table fact: no decimal digit is stripped by int() -/
theorem digit_not_space (c : Char) (h : isDigit c = true) : isSpace c = false :=
  disjoint_sound (a := digitDecades) (b := spaceRanges) (by decide +kernel) h

theorem digit_val (c : Char) (h : isDigit c = true) : digitVal c ≠ none :=
  Option.isSome_iff_ne_none.mp ((inRanges_iff_digitValIn digitDecades c.toNat).mp h)

theorem digit_not_punct (c : Char) (h : isDigit c = true) : c ≠ '_' ∧ c ≠ '-' ∧ c ≠ '+' := by
  refine ⟨?_, ?_, ?_⟩ <;> (intro hc; subst hc; revert h; decide)

theorem digitsGo_digits (s : List Char) (acc n : Nat) (h : ∀ c ∈ s, isDigit c = true) :
    digitsGo s acc n = some (s.foldl (fun acc c => acc * 10 + (digitVal c).getD 0) acc, n + s.length) := by
  fun_induction digitsGo s acc n with
  | case1 => rfl
  -- the three branches for a leading `_`
  | case2 | case3 | case4 => exact absurd rfl (digit_not_punct _ (h _ List.mem_cons_self)).1
  | case5 c r acc n _ v hv ih =>
    rw [ih fun x hx => h x (List.mem_cons_of_mem _ hx)]
    simp [hv]; omega
  | case6 c r acc n _ hv =>
    exact absurd hv (digit_val c (h c List.mem_cons_self))

theorem dropWhile_space {s : List Char} (h : ∀ c ∈ s, isDigit c = true) : s.dropWhile isSpace = s :=
  (List.dropWhile_eq_self_iff _ _).2 fun x hx => digit_not_space x (h x (List.mem_of_mem_head? hx))

theorem strip_digits (s : List Char) (h : ∀ c ∈ s, isDigit c = true) : strip s = s := by
  rw [strip, dropWhile_space h, dropWhile_space fun c hc => h c (List.mem_reverse.mp hc), List.reverse_reverse]

theorem pyInt_digits (s : List Char) (hne : s ≠ []) (h : ∀ c ∈ s, isDigit c = true) (hlen : s.length ≤ intMaxStrDigits) :
    pyInt s = some (Int.ofNat (decVal s)) := by
  unfold pyInt
  rw [strip_digits s h]
  cases s with
  | nil => exact absurd rfl hne
  | cons c r =>
    have hc := h c (List.mem_cons_self ..)
    obtain ⟨h_, hm, hp⟩ := digit_not_punct c hc
    have hnat : pyNat (c :: r) = some (decVal (c :: r)) := by
      unfold pyNat
      simp only [h_, if_false]
      rw [digitsGo_digits (c :: r) 0 0 h]
      have : ¬ (0 + (c :: r).length > intMaxStrDigits) := by omega
      simp only [this, if_false]; rfl
    split
    · rename_i r' heq; cases heq; exact absurd rfl hm
    · rename_i r' heq; cases heq; exact absurd rfl hp
    · rw [hnat]; rfl

theorem evalRange_bounds {s : List Char} {v : Int} (hv : pyInt s = some v) (op1 op2 : CmpOp) (a b : Int) :
    evalRange s [⟨.lit a, op1, .ofStr⟩, ⟨.ofStr, op2, .lit b⟩] = .ok true ↔ cmpOp op1 a v = true ∧ cmpOp op2 v b = true := by
  simp [evalRange_true_iff, evalInt, hv, pure_eq]

theorem digits_domain {k : String} {r : Re} {a b : Int} {op₁ op₂ : CmpOp} (hr : labelRegex.lookup k = some r)
    (hc : labelRange.lookup k = some [⟨.lit a, op₁, .ofStr⟩, ⟨.ofStr, op₂, .lit b⟩]) {s : List Char}
    (hd : r.L s → 1 ≤ s.length ∧ (∀ c ∈ s, isDigit c = true) ∧ s.length ≤ intMaxStrDigits) :
    InDomain k s ↔ r.L s ∧ cmpOp op₁ a (decVal s) = true ∧ cmpOp op₂ (decVal s) b = true := by
  rw [inDomain_iff hr hc]
  refine and_congr_right fun hL => ?_
  obtain ⟨h1, h2, h3⟩ := hd hL
  exact evalRange_bounds (pyInt_digits s (List.ne_nil_of_length_pos h1) h2 h3) ..

end FimVerif.V16
