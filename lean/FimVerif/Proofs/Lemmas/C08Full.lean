import FimVerif.Proofs.Lemmas.C08ApiInv
/-! `WF` development.  From the invariant to the declarative owned set of a *set of roots* (`OwnedS`: links with any number of ends),
and `prune` for any marking. -/
namespace FimVerif.Remove

/-- owned, links apart: below one of the roots, or the service-side port of an interface below one of them -/
def OwnS (g : G) (R : List Nat) (y : Nat) : Prop := ∃ r ∈ R, Own g r y

/-- **the owned structure of the roots `R`** (written without reference to the removal code): what `OwnS` gives, and every
Link that joined at least two connection points, at least one of them owned, and of which at most one is not owned -/
def OwnedS (g : G) (R : List Nat) (y : Nat) : Prop :=
  OwnS g R y ∨
  (g.cls? y = some .link ∧ 2 ≤ (g.nbrs y .connects .cp).length ∧ (∃ e ∈ g.nbrs y .connects .cp, OwnS g R e) ∧
    ∀ e1 ∈ g.nbrs y .connects .cp, ∀ e2 ∈ g.nbrs y .connects .cp, ¬ OwnS g R e1 → ¬ OwnS g R e2 → e1 = e2)

theorem own_not_link {g : G} {x y : Nat} (hx : NL g x) (h : Own g x y) : NL g y := by
  obtain ⟨i, hb, rfl | hp⟩ := h
  · exact below_nl hx hb
  · exact cls_ne_link hp.port_cls

theorem length_filter_le_one_iff {l : List Nat} (p : Nat → Bool) (hn : l.Nodup) :
    (l.filter p).length ≤ 1 ↔ ∀ a ∈ l, ∀ b ∈ l, p a = true → p b = true → a = b := by
  constructor
  · intro h a ha b hb hpa hpb
    apply Classical.byContradiction
    intro hne
    have := two_le_length_of_mem (l := l.filter p) (a := a) (b := b) (by simp [ha, hpa]) (by simp [hb, hpb]) hne
    omega
  · intro h
    have hnd : (l.filter p).Nodup := hn.filter p
    match hf : l.filter p, hnd with
    | [], _ => simp
    | [_], _ => simp
    | a :: b :: _, hnd =>
      exfalso
      have ha : a ∈ l.filter p := by rw [hf]; simp
      have hb : b ∈ l.filter p := by rw [hf]; simp
      simp only [List.mem_filter] at ha hb
      have := h a ha.1 b hb.1 ha.2 hb.2
      subst this
      simp at hnd

/-- **from the invariant to full membership**: the non-link part `P` fixes the whole list -/
theorem mem_iff_closure (g : G) (hW : WF g = true) (P : Nat → Prop) (A : List Nat) (hOK : LinkOK g A)
    (hnl : ∀ e, P e → g.cls? e ≠ some .link)
    (hmem : ∀ y, g.cls? y ≠ some .link → (y ∈ A ↔ P y)) (y : Nat) :
    y ∈ A ↔ P y ∨ (g.cls? y = some .link ∧ 2 ≤ (g.nbrs y .connects .cp).length ∧ (∃ e ∈ g.nbrs y .connects .cp, P e) ∧
      ∀ e1 ∈ g.nbrs y .connects .cp, ∀ e2 ∈ g.nbrs y .connects .cp, ¬ P e1 → ¬ P e2 → e1 = e2) := by
  by_cases hy : g.cls? y = some .link
  · -- the ends of `y` are connection points, so `hmem` turns "in `A`" into `P` for each of them
    have hends : ∀ e ∈ g.nbrs y .connects .cp, (e ∈ A ↔ P e) := fun e he => hmem e (cls_ne_link (mem_nbrs_cls he))
    have hq : ∀ e ∈ g.nbrs y .connects .cp, ((!A.contains e) = true ↔ ¬ P e) := fun e he => by
      simp only [Bool.not_eq_true', List.contains_eq_mem, decide_eq_false_iff_not, hends e he]
    have hlive : (live g A y).length ≤ 1 ↔
        ∀ e1 ∈ g.nbrs y .connects .cp, ∀ e2 ∈ g.nbrs y .connects .cp, ¬ P e1 → ¬ P e2 → e1 = e2 := by
      rw [live, length_filter_le_one_iff _ (wf_nodup hW hy)]
      exact forall_congr' fun e1 => forall_congr' fun h1 => forall_congr' fun e2 => forall_congr' fun h2 => by
        rw [hq e1 h1, hq e2 h2]
    have hex : (∃ e ∈ g.nbrs y .connects .cp, e ∈ A) ↔ ∃ e ∈ g.nbrs y .connects .cp, P e :=
      exists_congr fun e => and_congr_right fun he => hends e he
    rw [hOK y hy, hlive, hex]
    exact ⟨fun h => Or.inr ⟨hy, h⟩, fun h => h.elim (fun h => absurd hy (hnl y h)) (·.2)⟩
  · rw [hmem y hy]
    exact ⟨Or.inl, fun h => h.elim id fun h => absurd h.1 hy⟩

theorem mem_iff_ownedS (g : G) (hW : WF g = true) (R A : List Nat) (hOK : LinkOK g A) (hRl : ∀ r ∈ R, NL g r)
    (hmem : ∀ y, g.cls? y ≠ some .link → (y ∈ A ↔ OwnS g R y)) (y : Nat) : y ∈ A ↔ OwnedS g R y :=
  mem_iff_closure g hW (OwnS g R) A hOK (fun _ ⟨r, hr, ho⟩ => own_not_link (hRl r hr) ho) hmem y

theorem mem_iff_ownedS_one (g : G) (hW : WF g = true) {x : Nat} {A : List Nat} (hOK : LinkOK g A) (hx : NL g x)
    (hmem : ∀ y, g.cls? y ≠ some .link → (y ∈ A ↔ Own g x y)) (y : Nat) : y ∈ A ↔ OwnedS g [x] y :=
  mem_iff_ownedS g hW [x] A hOK (List.forall_mem_singleton.mpr hx)
    (fun y hy => by simp only [hmem y hy, OwnS, List.mem_singleton, exists_eq_left]) y

theorem resA_exact (g : G) (hW : WF g = true) (R : List Nat) (hRl : ∀ r ∈ R, NL g r)
    {r : Except Err G} (h : ResA g [] (OwnS g R) r) : ∃ D, r = .ok (g.minus D) ∧ ∀ y, y ∈ D ↔ OwnedS g R y := by
  obtain ⟨A', hr, _, hmem, hA'⟩ := h
  exact ⟨A', hr, mem_iff_ownedS g hW R A' hA'.linkOK hRl fun y hy => by rw [hmem y hy]; exact or_iff_right (fun h => nomatch h)⟩

theorem removes_exact (g : G) (hW : WF g = true) {x : Nat} (hx : NL g x) {f : G → Nat → Except Err G}
    (h : Removes (InvA g) (Own g) g f x) : ∃ D, f g x = .ok (g.minus D) ∧ ∀ y, y ∈ D ↔ OwnedS g [x] y := by
  obtain ⟨A', hr, _, hmem, hA'⟩ := h [] (invA_nil g) (by simp)
  rw [minus_nil] at hr
  exact ⟨A', hr, mem_iff_ownedS_one g hW hA'.linkOK hx fun y hy => by rw [hmem y hy]; exact or_iff_right (fun h => nomatch h)⟩

theorem own_absorbed {g : G} {A : List Nat} (hA : InvA g A) {x y : Nat} (hx : x ∈ A) (h : Own g x y) : y ∈ A := by
  obtain ⟨i, hb, rfl | hp⟩ := h
  · exact downC_below hA.downC hx hb
  · exact hA.portC i (downC_below hA.downC hx hb) y hp

theorem ResA.congr {g : G} {A : List Nat} {P Q : Nat → Prop} {r : Except Err G} (h : ResA g A P r)
    (hPQ : ∀ y, g.cls? y ≠ some .link → (y ∈ A ∨ P y ↔ y ∈ A ∨ Q y)) : ResA g A Q r :=
  Res.congr h hPQ

/-- **guarded loop of `prune`** (`if still_present(e): prune e`), for any list of marked elements (`key` gives the element
an entry stands for: components are kept as (component, parent) pairs): an element that is gone took all it owns with it -/
theorem foldResA_guard {α : Type} (g : G) (key : α → Nat) (f : G → α → Except Err G) (xs : List α)
    (hstep : ∀ x ∈ xs, ∀ A, InvA g A → key x ∉ A → ResA g A (Own g (key x)) (f (g.minus A) x))
    (hhas : ∀ x ∈ xs, g.has (key x) = true) (A : List Nat) (hA : InvA g A) :
    ResA g A (OwnS g (xs.map key)) (xs.foldlM (fun g' x => if g'.has (key x) then f g' x else .ok g') (g.minus A)) := by
  refine (Res.fold _ (fun x => Own g (key x)) xs hA fun pfx x sfx hs A' hA' _ => ?_).congr fun y _ => by
    simp only [OwnS, List.mem_map]
    exact or_congr_right ⟨fun ⟨x, hx, ho⟩ => ⟨key x, ⟨x, hx, rfl⟩, ho⟩, fun ⟨_, ⟨x, hx, e⟩, ho⟩ => ⟨x, hx, e ▸ ho⟩⟩
  have hx : x ∈ xs := hs ▸ List.mem_append_right _ (List.mem_cons_self ..)
  by_cases hxA : key x ∈ A'
  · rw [if_neg (by rw [has_minus]; simp [List.contains_eq_mem, hxA])]
    exact Res.skip hA' fun y _ => own_absorbed hA' hxA
  · rw [if_pos (by rw [has_minus, hhas x hx]; simp [List.contains_eq_mem, hxA])]
    exact hstep x hx A' hA' hxA

theorem ownS_append (g : G) (R1 R2 : List Nat) (y : Nat) : OwnS g (R1 ++ R2) y ↔ OwnS g R1 y ∨ OwnS g R2 y := by
  simp only [OwnS, List.mem_append, or_and_right, exists_or]

/-- **the four loops of `prune`** on a well-formed topology: `fN` is any function that behaves as `remove_node` on the marked nodes
and `fC` any function that behaves as `remove_component` on the marked components (`key` gives the component an entry stands for),
whatever has been deleted before - the by-id calls of `prune`, the by-name calls of `pruneApi`.  The `do` block is the body of
`Remove.prune` and of `pruneApi` with `fN`, `fC` for the first two loop bodies; both users match it by unfolding, so it has to follow
any change of those two definitions. -/
theorem pruneLoops_exact {α : Type} (g : G) (hW : WF g = true) (fN : G → Nat → Except Err G) (key : α → Nat)
    (fC : G → α → Except Err G)
    (ns : List Nat) (cs : List α) (ss is : List Nat) (hnd : ns.Nodup)
    (hfN : ∀ A, ∀ n ∈ ns, InvA g A → n ∉ A → fN (g.minus A) n = removeNodeApi (g.minus A) n)
    (hfC : ∀ A, ∀ x ∈ cs, InvA g A → key x ∉ A → fC (g.minus A) x = removeComponentApi (g.minus A) (key x))
    (hn : ∀ n ∈ ns, g.cls? n = some .node ∧ g.kind? n ≠ some kFacility) (hc : ∀ c ∈ cs, g.cls? (key c) = some .comp)
    (hs : ∀ s ∈ ss, g.cls? s = some .ns) (hi : ∀ i ∈ is, g.cls? i = some .cp ∧ isSub g i = false) :
    ∃ D, (do
        let g1 ← ns.foldlM fN g
        let g2 ← cs.foldlM (fun (g : G) c => if g.has (key c) then fC g c else .ok g) g1
        let g3 ← ss.foldlM (fun (g : G) s => if g.has s then removeNsApi g s else .ok g) g2
        is.foldlM (fun (g : G) i => if g.has i then (disconnectDeep g [i]).bind (fun g1 => removeCp g1 i true) else .ok g) g3)
        = .ok (g.minus D) ∧
      ∀ y, y ∈ D ↔ OwnedS g (ns ++ cs.map key ++ ss ++ is) y := by
  refine resA_exact g hW _ (fun r hr => ?_) ?_
  · simp only [List.mem_append, List.mem_map] at hr
    rcases hr with ((h | ⟨c, h, rfl⟩) | h) | h
    · exact cls_ne_link (hn r h).1
    · exact cls_ne_link (hc c h)
    · exact cls_ne_link (hs r h)
    · exact cls_ne_link (hi r h).1
  have hlvl : ∀ n ∈ ns, lvl g n = 5 := fun n h => by simp [lvl, (hn n h).1]
  have hN := siblings_res (I := InvA g) (P := Own g) (f := fN) ns hnd (fun n h => cls_ne_link (hn n h).1)
    (fun n h n' h' ⟨i, hb, ho⟩ => ho.elim (fun e => below_same_lvl (hlvl n h) (hlvl n' h') (e ▸ hb))
      fun hp => nomatch hp.port_cls.symm.trans (hn n h).1)
    (fun n h A hA hnA => hfN A n h hA hnA ▸ removeNodeApi_resA g hW n (hn n h).1 (hn n h).2 A hA hnA)
    (invA_nil g) fun _ _ h => nomatch h
  rw [show ns.filter (fun y => !([] : List Nat).contains y) = ns from List.filter_eq_self.mpr fun _ _ => rfl, minus_nil] at hN
  refine Res.congr (P := fun y => OwnS g ns y ∨ OwnS g (cs.map key) y ∨ OwnS g (ss.map id) y ∨ OwnS g (is.map id) y) ?_
    fun y _ => by simp only [ownS_append, List.map_id, or_assoc]
  exact Res.bind hN fun A1 hA1 _ => Res.bind (foldResA_guard g key fC cs
      (fun x hx A hA hxA => by rw [hfC A x hx hA hxA]; exact removeComponentApi_resA g hW (key x) (hc x hx) A hA hxA)
      (fun x hx => cls_has (hc x hx)) A1 hA1) fun A2 hA2 _ =>
    Res.bind (foldResA_guard g id removeNsApi ss (fun s h => removeNsApi_resA g hW s (hs s h)) (fun s h => cls_has (hs s h)) A2 hA2)
      fun A3 hA3 _ =>
    foldResA_guard g id (fun g' i => (disconnectDeep g' [i]).bind (fun g1 => removeCp g1 i true)) is
      (fun i h => pruneIface_resA g hW i (hi i h).1 (hi i h).2) (fun i h => cls_has (hi i h).1) A3 hA3

end FimVerif.Remove
