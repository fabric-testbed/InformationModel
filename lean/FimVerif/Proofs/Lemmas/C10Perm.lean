import FimVerif.Proofs.Lemmas.C10
/-! C10, two facts about `validate` on a changed slice.  (1) It reads the interfaces of a service only through the node-side
interfaces they resolve to, and those only up to order (`validate_reorder`): relabelling the interfaces and permuting
`interface_list`, whose order is the order in which they were connected, change nothing.  (2) The sites it records are the sites it
would infer again (`recordedSite_idem`), so a validated slice meets the specification as it stands (`specOK_recorded`). -/
namespace FimVerif.Validate
open FimVerif.Gen.Constraints (SvcRow NodeRow)

def Svc.reorder (f : List SIface → List SIface) (s : Svc) : Svc := { s with ifs := f s.ifs }

def Topo.reorder (f : List SIface → List SIface) (t : Topo) : Topo := { t with svcs := t.svcs.map (Svc.reorder f) }

theorem recordedSiteOf_perm (row : SvcRow) (s : Svc) {n n' : List NIface} (h : n'.Perm n) :
    recordedSiteOf row s n' = recordedSiteOf row s n := by
  have hs := perm_singleton_congr (dedup_perm (h.filterMap (·.owner)))
  unfold recordedSiteOf
  split
  · split
    · rename_i x hx; rw [(hs x).mp hx]
    · rename_i hx
      split
      · rename_i y hy; exact absurd ((hs y).mpr hy) (hx y)
      · rfl
  · rfl

theorem nstypeOK_perm (exp : Bool) (row : SvcRow) (s : Svc) {n n' : List NIface} (h : n'.Perm n) :
    NstypeOK exp row s n' ↔ NstypeOK exp row s n := by
  have imp : ∀ {n n' : List NIface}, n'.Perm n → NstypeOK exp row s n' → NstypeOK exp row s n := fun {n n'} h k =>
    ⟨fun e => by rw [← h.length_eq]; exact k.minIfs e, fun e => by rw [← h.length_eq]; exact k.maxIfs e,
      fun e i hi => k.owners e i (h.mem_iff.mpr hi),
      fun e => by rw [← (dedup_perm (h.filterMap (·.owner))).length_eq]; exact k.maxSites e,
      fun e ht i hi => k.siteAgrees e ht i (h.mem_iff.mpr hi)⟩
  exact ⟨imp h, imp h.symm⟩

theorem nstype_perm (exp : Bool) (row : SvcRow) (s : Svc) {n n' : List NIface} (h : n'.Perm n) :
    nstypeConstraints exp row s n' = nstypeConstraints exp row s n := by
  have hok := nstypeOK_perm exp row s h
  rcases nstype_spec exp row s n' with ⟨k', e'⟩ | ⟨k', e'⟩ <;> rcases nstype_spec exp row s n with ⟨k, e⟩ | ⟨k, e⟩
  · rw [e', e, recordedSiteOf_perm row s h]
  · exact absurd (hok.mp k') k
  · exact absurd (hok.mpr k) k'
  · rw [e', e]

theorem validateConstraints_perm (c : Cfg) (exp : Bool) (row : SvcRow) (s : Svc) {n n' : List NIface} (h : n'.Perm n) :
    validateConstraints c exp row s n' = validateConstraints c exp row s n := by
  simp only [validateConstraints_eq, nstype_perm exp row s h, checkIfTypes, h.all_eq]

section
variable (c : Cfg) (f : List SIface → List SIface)

/-- `hf` asks for a permutation of the *resolved* interfaces, not of `ifs`: a relabelling (`nifOf_rename`) and a permutation of the
interface list are both instances. -/
theorem validateSvc_reorder (exp : Bool) (s : Svc) (hf : ((f s.ifs).map (nifOf s)).Perm (s.ifs.map (nifOf s))) :
    validateSvc c exp (s.reorder f) = ((validateSvc c exp s).1, (validateSvc c exp s).2.reorder f) := by
  have hn : nifOf (s.reorder f) = nifOf s := nifOf_congr rfl
  have hall : ((s.reorder f).ifs.all fun i => (nifOf (s.reorder f) i).isSome) = s.ifs.all fun i => (nifOf s i).isSome := by
    have := hf.all_eq (f := Option.isSome)
    rwa [List.all_map, List.all_map, ← hn] at this
  have hnifs : (nifs (s.reorder f)).Perm (nifs s) := by
    have := hf.filterMap id
    rwa [List.filterMap_map, List.filterMap_map, ← hn] at this
  have hvc : ∀ row, validateConstraints c exp row (s.reorder f) (nifs (s.reorder f)) = validateConstraints c exp row s (nifs s) :=
    fun row => by
      rw [← validateConstraints_perm c exp row s hnifs]
      simp only [validateConstraints_eq, checkReq_checkForb_eq]; rfl
  rw [validateSvc_eq, validateSvc_eq, hall]
  show (match c.svc.lookup s.ty with | none => _ | some row => _) = _
  cases c.svc.lookup s.ty with
  | none => rfl
  | some row => simp only [hvc row]; split <;> rfl

variable (hf : ∀ s l, ((f l).map (nifOf s)).Perm (l.map (nifOf s)))
include hf

theorem validateSvcs_reorder (exp : Bool) (l : List Svc) :
    validateSvcs c exp (l.map (Svc.reorder f)) = ((validateSvcs c exp l).1, (validateSvcs c exp l).2.map (Svc.reorder f)) := by
  induction l with
  | nil => rfl
  | cons s rest ih =>
    simp only [List.map_cons, validateSvcs, validateSvc_reorder c f exp s (hf s s.ifs)]
    match validateSvc c exp s with
    | (.error e, s') => rfl
    | (.ok u, s') => simp only [ih, List.map_cons]

theorem validate_reorder (t : Topo) : validate c (t.reorder f) = ((validate c t).1, (validate c t).2.reorder f) := by
  have hi : ∀ l, instances c (l.map (Svc.reorder f)) = instances c l :=
    instances_map c (Svc.reorder f) (fun _ => rfl) (fun _ => rfl) fun s =>
      (by simpa using (hf s s.ifs).isEmpty_eq : (f s.ifs).isEmpty = s.ifs.isEmpty)
  have hv : validateSvcs c (t.reorder f).exp (t.reorder f).svcs =
      ((validateSvcs c t.exp t.svcs).1, (validateSvcs c t.exp t.svcs).2.map (Svc.reorder f)) :=
    validateSvcs_reorder c f hf t.exp t.svcs
  have hn : visibleNodes c (t.reorder f) = visibleNodes c t := rfl
  rw [validate_eq, validate_eq, hv, hn, hi]
  split <;> rfl

end

theorem recordedSite_idem (row : SvcRow) (s : Svc) :
    recordedSite row (withSite s (recordedSite row s)) = recordedSite row s := by
  unfold recordedSite
  rw [nifs_withSite]
  rcases recordedSiteOf_cases row s (nifs s) with h | ⟨y, hd, h⟩
  · rw [h]; exact h
  · rw [h]
    unfold recordedSiteOf
    split
    · rw [hd]
    · rfl

theorem svcOK_recorded (c : Cfg) (exp : Bool) (row : SvcRow) (s : Svc) (h : SvcOK c exp row s) :
    SvcOK c exp row (withSite s (recordedSite row s)) := by
  have hn := nifs_withSite s (recordedSite row s)
  have hr := recordedSite_idem row s
  have hport : nifOf (withSite s (recordedSite row s)) = nifOf s := nifOf_congr rfl
  refine ⟨fun i hi => by rw [hport]; exact h.ports i hi, ?_, h.getters, fun p hp => ?_, fun p hp => ?_, by rw [hn]; exact h.ifTypes⟩
  · rw [hn]
    refine ⟨h.nstype.minIfs, h.nstype.maxIfs, h.nstype.owners, h.nstype.maxSites, fun h0 ht i hi => ?_⟩
    show i.owner = recordedSite row s
    -- the site agrees with the owners: either it is the declared one, which did, or it was inferred from them
    rcases recordedSiteOf_cases row s (nifs s) with e | ⟨y, hd, e⟩
    · have ht' : truthy (recordedSite row s) = true := ht
      rw [recordedSite, e] at ht' ⊢
      exact h.nstype.siteAgrees h0 ht' i hi
    · rw [recordedSite, e]
      exact (owners_agree (h.nstype.owners h0) (some y)).mpr (by rw [hd]; simp) i hi
  · rw [hr]; exact h.required p hp
  · rw [hr]; exact h.forbidden p hp

theorem recordSite_idem (c : Cfg) : recordSite c ∘ recordSite c = recordSite c := by
  funext s
  show recordSite c (recordSite c s) = _
  cases hl : c.svc.lookup s.ty with
  | none => simp [recordSite, hl]
  | some row =>
    rw [recordSite_eq c s row hl]
    have hl' : c.svc.lookup (withSite s (recordedSite row s)).ty = some row := hl
    rw [recordSite_eq c _ row hl', recordedSite_idem]
    rfl

theorem specOK_recorded (c : Cfg) (t : Topo) (h : SpecOK c t) : SpecOK c { t with svcs := t.svcs.map (recordSite c) } := by
  refine ⟨h.nodes, fun s' hs' => ?_, ?_⟩
  · obtain ⟨s, hs, rfl⟩ := List.mem_map.mp hs'
    obtain ⟨row, hl, hk⟩ := h.svcs s hs
    rw [recordSite_eq c s row hl]
    exact ⟨row, hl, svcOK_recorded c t.exp row s hk⟩
  · show InstOK c ((t.svcs.map (recordSite c)).map (recordSite c))
    rw [List.map_map, recordSite_idem]
    exact h.instances

end FimVerif.Validate
