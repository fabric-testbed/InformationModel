import FimVerif.Model.Topo
/-! Which lookups of `Model/Topo.lean` only read the model, the tactic `ro` that discharges `ReadOnly` goals by the
shape of the program, and the graph primitives that are validate-before-mutate. -/
namespace FimVerif.Topo
open FimVerif FimVerif.M

theorem readOnly_findNode (nid : Nid) : ReadOnly (findNode nid) := by
  constructor; intro s; unfold findNode; split <;> rfl

theorem readOnly_need {α : Type} (o : Option α) (e : Err) : ReadOnly (need o e) := by
  cases o
  · exact readOnly_raise e
  · exact readOnly_pure _

theorem readOnly_firstNeighbor (nid : Nid) (rel : Rel) (l : Cls) : ReadOnly (firstNeighbor nid rel l) :=
  .bind (readOnly_findNode nid) fun _ => readOnly_read _

theorem readOnly_secondNeighbors (nid : Nid) (r : Rel) (a b : Cls) : ReadOnly (secondNeighbors nid r a b) :=
  .bind (readOnly_findNode nid) fun _ => readOnly_read _

theorem readOnly_peersOf (nid : Nid) : ReadOnly (peersOf nid) :=
  .bind (readOnly_secondNeighbors ..) fun _ => readOnly_pure _

theorem readOnly_getParent (nid : Nid) (rel : Rel) (l : Cls) : ReadOnly (getParent nid rel l) := by
  refine .bind (readOnly_firstNeighbor ..) fun ps => ?_
  split
  · exact .bind (readOnly_findNode _) fun _ => readOnly_pure _
  · exact readOnly_pure _

theorem readOnly_typeOf (nid : Nid) : ReadOnly (typeOf nid) :=
  .bind (readOnly_findNode nid) fun _ => readOnly_pure _

theorem readOnly_ownerOfService (n : GNode) : ReadOnly (ownerOfService n) := by
  refine .bind (readOnly_getParent ..) fun comp => ?_
  cases comp with
  | some c =>
    refine .bind (readOnly_getParent ..) fun node => ?_
    cases node
    · exact readOnly_raise _
    · exact readOnly_pure _
  | none =>
    refine .bind (readOnly_getParent ..) fun node => ?_
    cases node
    · exact readOnly_getParent ..
    · exact readOnly_pure _

theorem readOnly_parentService (nid : Nid) : ReadOnly (parentService nid) := by
  refine .bind (readOnly_getParent ..) fun ns => ?_
  cases ns
  · exact readOnly_raise _
  · exact readOnly_pure _

theorem readOnly_ownerNode (nid : Nid) : ReadOnly (ownerNode nid) := by
  have viaService (i : Nid) : ReadOnly (parentService i >>= ownerOfService) :=
    .bind (readOnly_parentService i) readOnly_ownerOfService
  refine .bind (readOnly_typeOf nid) fun t => .ite ?_ (viaService nid)
  refine .bind (readOnly_getParent ..) fun p => ?_
  cases p
  · exact readOnly_raise _
  · exact viaService _

theorem readOnly_listNames (c : Cls) (k : GNode → Bool) : ReadOnly (listNames c k) := by
  constructor; intro s; simp only [listNames]; split <;> rfl

theorem readOnly_findByName (c : Cls) (n : String) : ReadOnly (findByName c n) := by
  constructor; intro s; unfold findByName; split <;> rfl

theorem readOnly_childrenOf (p : Nid) (ok : List Cls) (r : Rel) (l : Cls) : ReadOnly (childrenOf p ok r l) :=
  .bind (readOnly_findNode p) fun _ => .bind (readOnly_guard ..) fun _ =>
    .bind (readOnly_firstNeighbor ..) fun _ => readOnly_mapM' readOnly_findNode

theorem readOnly_guardrails (t : String) (i : IfArg) : ReadOnly (guardrails t i) := by
  refine .ite ?_ (readOnly_pure _)
  cases i
  · exact .bind (readOnly_typeOf _) fun _ => readOnly_guard ..
  · exact readOnly_raise _

theorem readOnly_nodeInterfaces (n : Nid) : ReadOnly (nodeInterfaces n) :=
  .bind (readOnly_findNode n) fun _ => .bind (readOnly_guard ..) fun _ =>
    .bind (readOnly_secondNeighbors ..) fun _ => .bind (readOnly_childrenOf ..) fun _ =>
      .bind (readOnly_mapM' fun _ => .bind (readOnly_secondNeighbors ..) fun _ => readOnly_pure _) fun _ =>
        readOnly_pure _

theorem readOnly_findPeering (ids : List Nid) : ∀ cache : Cache, ReadOnly (findPeering ids cache) := by
  intro cache
  induction cache with
  | nil => unfold findPeering; exact readOnly_pure _
  | cons x rest ih =>
    obtain ⟨nm, own⟩ := x
    unfold findPeering
    refine ReadOnly.bind (readOnly_typeOf _) (fun t => ?_)
    split
    · exact ih
    · refine ReadOnly.bind (readOnly_peersOf _) (fun _ => ?_)
      refine ReadOnly.bind (readOnly_mapM' (fun _ => readOnly_findNode _)) (fun _ => ?_)
      split
      · exact readOnly_pure _
      · exact ih

/-- reducible unification, so that a lemma about another function fails at once instead of unfolding both -/
syntax "ro_base" : tactic
macro_rules | `(tactic| ro_base) => `(tactic| with_reducible first
  | apply readOnly_pure | apply readOnly_pure' | apply readOnly_raise | apply readOnly_read
  | apply readOnly_guard | apply readOnly_ofExcept
  | apply readOnly_findNode | apply readOnly_need | apply readOnly_firstNeighbor
  | apply readOnly_secondNeighbors | apply readOnly_peersOf | apply readOnly_getParent
  | apply readOnly_typeOf | apply readOnly_ownerOfService | apply readOnly_parentService
  | apply readOnly_ownerNode | apply readOnly_listNames | apply readOnly_findByName
  | apply readOnly_childrenOf | apply readOnly_guardrails | apply readOnly_nodeInterfaces | apply readOnly_findPeering)

/-- structural decomposition of a `ReadOnly` goal down to `ro_base` leaves -/
syntax "ro" : tactic
macro_rules | `(tactic| ro) => `(tactic| repeat' (first
  | intro _
  | ro_base
  | with_reducible (first
      | apply ReadOnly.bind | apply ReadOnly.bind' | apply ReadOnly.ite
      | apply readOnly_mapM' | apply readOnly_filterMapM' | apply readOnly_forEach)
  | split))

theorem total_pure' {α : Type} (a : α) : Total (Pure.pure a : M Topo α) := total_pure a

theorem atomic_addEdge (a : Nid) (r : Rel) (b : Nid) : Atomic (addEdge a r b) := by
  unfold addEdge
  refine Atomic.bind_readOnly (readOnly_findNode _) (fun _ => ?_)
  refine Atomic.bind_readOnly (readOnly_findNode _) (fun _ => ?_)
  exact (total_modify _).atomic

theorem atomic_deleteNode (n : Nid) : Atomic (deleteNode n) := by
  unfold deleteNode
  exact Atomic.bind_readOnly (readOnly_findNode _) (fun _ => (total_modify _).atomic)

theorem atomic_updateProps (n : Nid) (p : Props) : Atomic (updateProps n p) := by
  unfold updateProps
  exact Atomic.bind_readOnly (readOnly_findNode _) (fun _ => (total_modify _).atomic)

end FimVerif.Topo
