import FimVerif.Model.IsoDate
/-! `fromisoformat(isoformat(t)) = t` on the concrete model of `datetime` texts (C03, MaintenanceEntry dates). -/
namespace FimVerif.Iso

theorem d_isDigit (n : Nat) : (d n).isDigit = true := by
  simp [d, Nat.isDigit_digitChar, Nat.mod_lt]

theorem d_val (n : Nat) : (d n).toNat - 48 = n % 10 :=
  Nat.toNat_digitChar_sub_48_of_lt_ten (Nat.mod_lt _ (by decide))

/-- `pad2`, `pad4`, `pad6` at any width -/
def pad : Nat → Nat → List Char
  | 0, _ => []
  | k + 1, n => d (n / 10 ^ k) :: pad k n

theorem num_pad (k n : Nat) (h : n < 10 ^ k) (r : List Char) : num k (pad k n ++ r) = some (n, r) := by
  suffices num k (pad k n ++ r) = some (n % 10 ^ k, r) by rwa [Nat.mod_eq_of_lt h] at this
  clear h
  induction k with
  | zero => simp [pad, num, Nat.mod_one]
  | succ k ih =>
    simp only [pad, List.cons_append, num, d_isDigit, if_true, ih, d_val]
    rw [Nat.pow_succ, Nat.mod_mul, Nat.add_comm, Nat.mul_comm]

theorem pad2_eq (n : Nat) : pad2 n = pad 2 n := by simp [pad, pad2]
theorem pad4_eq (n : Nat) : pad4 n = pad 4 n := by simp [pad, pad4]
theorem pad6_eq (n : Nat) : pad6 n = pad 6 n := by simp [pad, pad6]

theorem frac_iso (n : Nat) (h : n < 1000000) (r : List Char) (hr : ∀ t, r ≠ '.' :: t) :
    frac ((if n ≠ 0 then '.' :: pad6 n else []) ++ r) = some (n, r) := by
  by_cases hn : n = 0
  · subst hn
    simp only [ne_eq, not_true_eq_false, if_false, List.nil_append]
    unfold frac
    split
    · rename_i s; exact absurd rfl (hr s)
    · rfl
  · simp only [ne_eq, hn, not_false_eq_true, if_true, List.cons_append, frac, pad6_eq, num_pad 6 n h]

theorem mkTZ_valid (z : TZ) (hz : z.Valid) : mkTZ z.neg z.hh z.mm z.ss z.us = some (some z) := by
  obtain ⟨h1, h2, h3, _, h5⟩ := hz
  obtain ⟨neg, hh, mm, ss, us⟩ := z
  simp only at h1 h2 h3 h5 ⊢
  unfold mkTZ
  by_cases h0 : (hh * 60 + mm) * 60 + ss = 0
  · have : hh = 0 ∧ mm = 0 ∧ ss = 0 := by omega
    obtain ⟨hu, hn⟩ := h5 this
    obtain ⟨rfl, rfl, rfl⟩ := this
    simp [hu, hn]
  · have hb : (hh * 60 + mm) * 60 + ss < 86400 := by omega
    simp only [h0, if_false, hb, if_true]
    have e1 : ((hh * 60 + mm) * 60 + ss) / 3600 = hh := by omega
    have e2 : ((hh * 60 + mm) * 60 + ss) / 60 % 60 = mm := by omega
    have e3 : ((hh * 60 + mm) * 60 + ss) % 60 = ss := by omega
    rw [e1, e2, e3]

theorem offset_iso (z : TZ) (hz : z.Valid) : offset z.iso = some (some z) := by
  have hm := mkTZ_valid z hz
  obtain ⟨h1, h2, h3, h4, _⟩ := hz
  obtain ⟨neg, hh, mm, ss, us⟩ := z
  simp only at h1 h2 h3 h4 hm
  have hsg : ((if neg = true then '-' else '+') = '+' ∨ (if neg = true then '-' else '+') = '-') := by cases neg <;> simp
  have hneg : decide ((if neg = true then '-' else '+') = '-') = neg := by cases neg <;> simp
  simp only [TZ.iso, pad2_eq, List.cons_append, List.append_assoc, offset, hsg, if_true, num_pad 2 hh (by omega), lit, num_pad 2 mm (by omega)]
  by_cases hs : ss ≠ 0 ∨ us ≠ 0
  · simp only [hs, if_true, num_pad 2 ss (by omega)]
    have := frac_iso us h4 [] (by simp)
    simp only [List.append_nil, ne_eq, ite_not] at this
    simp only [ne_eq, ite_not, this, hneg, hm]
  · have h0 : ss = 0 ∧ us = 0 := by omega
    obtain ⟨rfl, rfl⟩ := h0
    simp only [ne_eq, not_true_eq_false, or_self, if_false, List.append_nil, hneg, hm]

theorem TZ.iso_ne_dot (z : TZ) (t : List Char) : z.iso ≠ '.' :: t := by
  unfold TZ.iso; cases z.neg <;> simp

theorem parseIso_iso (t : DT) (h : t.Valid) : parseIso t.iso = some t := by
  obtain ⟨hy1, hy, hmo1, hmo, hd1, hd, hh, hmi, hs, hus, htz⟩ := h
  obtain ⟨year, month, day, hour, minute, second, micro, tz⟩ := t
  simp only at hy1 hy hmo1 hmo hd1 hd hh hmi hs hus htz
  have hoff : offset (tzIso tz) = some tz := by
    cases tz with
    | none => rfl
    | some z => exact offset_iso z (htz z rfl)
  have hfr := frac_iso micro hus (tzIso tz)
    (by intro t; cases tz with
        | none => simp [tzIso]
        | some z => exact TZ.iso_ne_dot z t)
  have hday : day < 100 := by
    have : daysIn year month ≤ 31 := by unfold daysIn; split <;> (try split) <;> omega
    omega
  simp only [DT.iso, pad2_eq, pad4_eq, List.cons_append, List.append_assoc, parseIso, num_pad 4 year hy, num_pad 2 month (by omega), num_pad 2 day hday,
    num_pad 2 hour (by omega), num_pad 2 minute (by omega), num_pad 2 second (by omega), lit, bind, Option.bind, if_true, hfr, hoff]
  simp [hy1, hmo1, hmo, hd1, hd, hh, hmi, hs]

theorem isoCanon_isoStr (t : DT) (h : t.Valid) : isoCanon t.isoStr = some t.isoStr := by
  simp [isoCanon, DT.isoStr, parseIso_iso t h]

theorem isoStr_ne_empty (t : DT) : t.isoStr ≠ "" := by
  intro h
  have := congrArg String.toList h
  simp [DT.isoStr, DT.iso, pad4] at this

end FimVerif.Iso
