import FimVerif.Model.Authz
import FimVerif.Proofs.Lemmas.C10
import FimVerif.Proofs.Lemmas.AddNew
/-! C11 ↔ C10: the site inference the ASM path of the collectors relies on (`Authz.inferSite`, `Authz.recordSites`) is what C10's
model of `Topology.validate()` leaves on the services: per service `C11.inferSite_is_c10_recordedSite`, which stands here, hence
`rawOf_recordSite`, from which `C11.validate_records_inferred_sites` proves `H_validate_records_sites` of `C11.Layers.Hyp`.
`G10`, `present10`, `validate10` are the graph, `present` and `validate` of `C11.Layers` built on C10's model. -/
namespace FimVerif.Authz
open FimVerif.Validate
open FimVerif.Gen.Constraints (SvcRow)

/-- `None` and `''` are both "no site" for the collectors -/
def siteStr (o : Option String) : String := o.getD ""

theorem truthy_false_iff (o : Option String) : truthy o = false ↔ siteStr o = "" := by
  cases o with
  | none => simp [truthy, siteStr]
  | some s => simp [truthy, siteStr]

/-- the owner sites as the collectors gather them (first occurrences) and as C10 does (last occurrences) -/
theorem foldl_addSet_singleton_iff (xs : List String) (x : String) :
    xs.foldl addSet [] = [x] ↔ Validate.dedup xs = [x] :=
  perm_singleton_congr ((List.perm_ext_iff_of_nodup (nodup_foldl_addNew [] xs List.nodup_nil) (Validate.nodup_dedup xs)).mpr
    fun y => (mem_foldl_addNew [] xs y).trans ((Validate.mem_dedup xs y).trans (by simp)).symm) x

end FimVerif.Authz

namespace FimVerif.C11
open FimVerif.Authz FimVerif.Gen.Authz

/-- **C10 tie, per service**: the site `Authz.inferSite` gives a service is the site C10's model of
`__validate_nstype_constraints` leaves on it (`recordedSiteOf`; `None` and `''` both read as "no site"). -/
theorem inferSite_is_c10_recordedSite (row : Gen.Constraints.SvcRow) (s : Validate.Svc) (n : List Validate.NIface) (sv : SvcS)
    (hsite : sv.site = siteStr s.site) :
    (inferSite ⟨sv, n.filterMap (·.owner), row.numSites != 0⟩).site = siteStr (FimVerif.Validate.recordedSiteOf row s n) := by
  unfold inferSite Validate.recordedSiteOf
  by_cases h0 : row.numSites = 0
  · simp [h0, hsite]
  · have hb : (row.numSites != 0) = true := by simpa using h0
    simp only [hb, if_true, ne_eq, h0, not_false_eq_true, true_and]
    by_cases ht : Validate.truthy s.site = false
    · have he : sv.site = "" := by rw [hsite]; exact (truthy_false_iff _).mp ht
      simp only [ht, if_true]
      split
      · rename_i x hx
        rw [(foldl_addSet_singleton_iff _ x).mp hx]
        simp [he, siteStr]
      · rename_i hx
        split
        · rename_i x hx'
          exact absurd ((foldl_addSet_singleton_iff _ x).mpr hx') (hx x)
        · exact hsite
    · have hne' : siteStr s.site ≠ "" := fun h => ht ((truthy_false_iff _).mpr h)
      simp only [ht]
      split
      · simp [hsite, hne']
      · exact hsite

example : (⟨"v4a", "FABNetv4Ext", "", none, none⟩ : SvcS).site = siteStr (none : Option String) := rfl

end FimVerif.C11

namespace FimVerif.Authz
open FimVerif.Validate
open FimVerif.Gen.Constraints (SvcRow)

/-- what only the collectors read of a service (`validate()` neither reads nor writes it) -/
structure SvcExtra where
  name : String
  bw : Option Int
  mport : Option String
  deriving Repr

/-- `ServiceConstraints[type].num_sites != NO_LIMIT` on the table `c` -/
def limitedIn (c : Cfg) (ty : String) : Bool :=
  match c.svc.lookup ty with
  | some row => row.numSites != 0
  | none => false

/-- the collectors' raw view of a C10 service -/
def rawOf (c : Cfg) (s : Svc) (e : SvcExtra) : RawSvc :=
  ⟨⟨e.name, s.ty, siteStr s.site, e.bw, e.mport⟩, (nifs s).filterMap (·.owner), limitedIn c s.ty⟩

theorem rawOf_withSite (c : Cfg) (s : Svc) (x : Option String) (e : SvcExtra) :
    rawOf c (withSite s x) e = { rawOf c s e with svc := { (rawOf c s e).svc with site := siteStr x } } := by
  unfold rawOf; rw [nifs_withSite]; rfl

theorem inferSite_cases (r : RawSvc) :
    inferSite r = r.svc ∨
      r.limited = true ∧ ∃ x, r.osites.foldl addSet [] = [x] ∧ inferSite r = { r.svc with site := x } := by
  unfold inferSite
  split
  · rename_i hl
    split
    · rename_i x hx
      split
      · exact Or.inr ⟨hl, x, hx, rfl⟩
      · exact Or.inl rfl
    · exact Or.inl rfl
  · exact Or.inl rfl

theorem inferSite_eq (r : RawSvc) : inferSite r = { r.svc with site := (inferSite r).site } := by
  rcases inferSite_cases r with h | ⟨_, x, _, h⟩ <;> rw [h]

theorem rawOf_recordSite (c : Cfg) (s : Svc) (e : SvcExtra) :
    rawOf c (recordSite c s) e = { rawOf c s e with svc := inferSite (rawOf c s e) } := by
  have hsite : siteStr (recordSite c s).site = (inferSite (rawOf c s e)).site := by
    unfold recordSite rawOf limitedIn
    cases hl : c.svc.lookup s.ty with
    | none => simp [inferSite]
    | some row => exact (C11.inferSite_is_c10_recordedSite row s (nifs s) ⟨e.name, s.ty, siteStr s.site, e.bw, e.mport⟩ rfl).symm
  rw [recordSite_withSite, rawOf_withSite, hsite, ← inferSite_eq]

/-- a slice graph as `validate()` (C10) and the collectors (C11) read it together -/
structure G10 where
  topo : Topo
  nodes : List NodeS
  extras : List SvcExtra
  facs : List String
  ifaces : List Iface

/-- what the topology API presents of it to the collectors -/
def present10 (c : Cfg) (g : G10) : RawSlice :=
  { nodes := g.nodes, svcs := List.zipWith (rawOf c) g.topo.svcs g.extras, facs := g.facs, ifaces := g.ifaces }

/-- `Topology.validate()` as modelled for C10, on this graph: `none` = it raises -/
def validate10 (c : Cfg) (g : G10) : Option G10 :=
  if (Validate.validate c g.topo).1 = .ok () then some { g with topo := (Validate.validate c g.topo).2 } else none

end FimVerif.Authz
