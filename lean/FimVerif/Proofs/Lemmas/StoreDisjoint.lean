import FimVerif.Proofs.Lemmas.StoreInv
/-! C04 on the one-graph-per-id store: invariant and frame. -/
namespace FimVerif.DStore
open FimVerif FimVerif.Store FimVerif.Gen.StoreConsts

/-- every stored graph satisfies the shared-store invariant on its own: within one graph internal ids
    are distinct and below that graph's counter (a node's identity is the pair (graph key, id)) -/
def Inv (d : DStore) : Prop := ∀ g, Store.Inv (sub d g)

theorem inv_empty (n : Nat) : Store.Inv ⟨[], [], n⟩ := by simp [Store.Inv]

theorem inv_init : Inv init := by
  intro g; simp only [sub, init, AMap.get]; exact inv_empty _

theorem sub_put_eq (d : DStore) (g : String) (st : Store) : sub (put d g st) g = st := by
  simp [sub, put, AMap.get_set_eq]

theorem sub_put_ne (d : DStore) (g g' : String) (st : Store) (h : g' ≠ g) : sub (put d g st) g' = sub d g' := by
  simp [sub, put, AMap.get_set_ne _ _ _ _ h]

theorem inv_put (d : DStore) (g : String) (st : Store) (h : Inv d) (hs : Store.Inv st) : Inv (put d g st) := by
  intro g'
  by_cases e : g' = g
  · subst e; rw [sub_put_eq]; exact hs
  · rw [sub_put_ne d g g' st e]; exact h g'

theorem extractGraph_wf (d : DStore) (h : Inv d) (g : String) : (extractGraph d g).WF = true := by
  simp only [extractGraph, IGraph.WF, List.all_eq_true, List.mem_map, Bool.and_eq_true, decide_eq_true_eq, List.length_map]
  rintro e ⟨e0, he0, rfl⟩
  have := (h g).2.2 e0 he0
  exact ⟨Store.posOf_lt _ _ this.1, Store.posOf_lt _ _ this.2⟩

theorem inv_addGraph (d : DStore) (g : String) (ig : IGraph) (h : Inv d) (hwf : ig.WF = true) : Inv (addGraph g ig d).2 := by
  unfold addGraph
  split
  · exact h
  · split
    · exact h
    · exact inv_put d g _ h (Store.inv_import _ ig _ (inv_empty 1) hwf)

theorem sub_delAll (d : DStore) (g : String) : sub ⟨[], d.ids⟩ g = ⟨[], [], (AMap.get g d.ids).getD 1⟩ := by
  simp [sub, AMap.get]

theorem findMatchingNodes_snd (g other : String) (d : DStore) : (findMatchingNodes g other d).2 = d := by
  simp only [findMatchingNodes]
  split
  · rfl
  · split <;> rfl
  · rfl

theorem inv_step (op : Op) (d : DStore) (h : Inv d) : Inv (step op d).2 := by
  have lifted : ∀ (o : Op), Inv (lift o.target (Store.step o) d).2 :=
    fun o => inv_put d _ _ h (Store.inv_step o _ (h _))
  cases op with
  | addGraph g ig => exact inv_addGraph d g ig.close h ig.close_WF
  | delAllGraphs => intro g; simp only [step, delAllGraphs]; exact inv_empty _
  | addGraphDirect g ig =>
    exact inv_put d g _ h (Store.inv_appendGraph _ _ _ (inv_empty 1) ((Store.IGraph.WF_iff _).1 ig.close_WF))
  | deleteGraph g => exact inv_put d g _ h (inv_empty _)
  | clone g g2 => exact inv_addGraph d g2 _ h (extractGraph_wf d h g)
  | mergeNodes g nid g2 pol => exact h
  | findMatchingNodes g other => exact (findMatchingNodes_snd g other d).symm ▸ h
  | _ => exact lifted _

theorem run_induction {P : DStore → Prop} (ops : List Op) (d : DStore) (h0 : P d)
    (hstep : ∀ o ∈ ops, ∀ t, P t → P (step o t).2) : P (run ops d) :=
  List.foldl_invariant P h0 fun t ht o ho => hstep o ho t ht

theorem inv_run (ops : List Op) (d : DStore) (h : Inv d) : Inv (run ops d) :=
  run_induction ops d h fun o _ t ht => inv_step o t ht

theorem frame_addGraph (d : DStore) (g g' : String) (ig : IGraph) (hne : g' ≠ g) : sub (addGraph g ig d).2 g' = sub d g' := by
  unfold addGraph
  split
  · rfl
  · split
    · rfl
    · exact sub_put_ne d g g' _ hne

theorem frame_step (op : Op) (d : DStore) (g' : String) (hne : g' ≠ op.target) (hall : op.isDelAll = false) :
    sub (step op d).2 g' = sub d g' := by
  have lifted : ∀ (o : Op), g' ≠ o.target → sub (lift o.target (Store.step o) d).2 g' = sub d g' :=
    fun o ho => sub_put_ne d _ g' _ ho
  cases op with
  | delAllGraphs => simp [Op.isDelAll] at hall
  | addGraph g ig => exact frame_addGraph d g g' ig.close hne
  | addGraphDirect g ig => exact sub_put_ne d g g' _ hne
  | deleteGraph g => exact sub_put_ne d g g' _ hne
  | clone g g2 => exact frame_addGraph d g2 g' _ hne
  | mergeNodes g nid g2 pol => rfl
  | findMatchingNodes g other => exact congrArg (sub · g') (findMatchingNodes_snd g other d)
  | _ => exact lifted _ hne

end FimVerif.DStore
