import FimVerif.Proofs.Lemmas.TopoAtomic
/-! `FS s r` ("if `r` is a raise, its state is `s`") is atomicity of a call for one start state, where `M.Atomic` states it for
all (`Atomic.fs`); `Outcome s P r` is the shape in which the post-state of a creating call is stated once for C09 and C07 alike
(the removals have `Rm`, TopoAtomicDrop).

Suffixes in the `TopoAtomic*` files, for a model function `X`: `X_run` is the equation `X … t = (.ok a, t')` on inputs where `X`
returns and `X_ok` its inversion; `X_spec` the whole post-state (`Outcome` or `Rm`); `X_cases` how `X` can end (an elimination
rule where the user needs the states in between); `X_state` where a loop or a prefix of a call can stop, whatever the outcome;
`X_step` one step: past `X` at the head of a bind, or one pass of a loop; `X_fs` and `X_atomic` are `FS s (X … s)`, `X_fs_rb` when
it rests on the call's clean-up. -/
namespace FimVerif.Topo
open FimVerif FimVerif.M

theorem ro_step {α β : Type} {m : M Topo α} {f : α → M Topo β} {t : Topo} {Q : Except Err β × Topo → Prop}
    (hm : ReadOnly m) (herr : ∀ e, Q (.error e, t)) (hok : ∀ a, m t = (.ok a, t) → Q (f a t)) : Q ((m >>= f) t) :=
  hm.step herr hok

theorem need_ok {α : Type} {o : Option α} {e : Err} {t t' : Topo} {a : α} (h : need o e t = (.ok a, t')) : o = some a := by
  cases o <;> simp [need] at h ⊢
  exact h.1

def FS (s : Topo) {α : Type} (r : Except Err α × Topo) : Prop := failed r → r.2 = s
theorem FS.err {s : Topo} {α : Type} (e : Err) : FS s ((.error e, s) : Except Err α × Topo) := fun _ => rfl
theorem _root_.FimVerif.M.Atomic.fs {α : Type} {m : M Topo α} (h : Atomic m) (s : Topo) : FS s (m s) := h.h s

/-- the first disjunct is C09 (`Outcome.fs`), the second is what C07 reasons about -/
def Outcome {α : Type} (s : Topo) (P : α → Topo → Prop) (r : Except Err α × Topo) : Prop :=
  (∃ e, r = (.error e, s)) ∨ ∃ a t, r = (.ok a, t) ∧ P a t

section
variable {α β : Type} {s : Topo} {P P' : α → Topo → Prop} {r : Except Err α × Topo}

theorem Outcome.err (e : Err) : Outcome s P (.error e, s) := .inl ⟨e, rfl⟩
theorem Outcome.ok {a : α} {t : Topo} (h : P a t) : Outcome s P (.ok a, t) := .inr ⟨a, t, rfl, h⟩

theorem Outcome.fs (h : Outcome s P r) : FS s r := by
  rcases h with ⟨e, rfl⟩ | ⟨a, t, rfl, _⟩
  · exact FS.err e
  · intro hf; simp at hf

theorem Outcome.mono (h : Outcome s P r) (hP : ∀ a t, P a t → P' a t) : Outcome s P' r :=
  h.imp id fun ⟨a, t, hr, hp⟩ => ⟨a, t, hr, hP a t hp⟩

theorem Outcome.step {m : M Topo α} {f : α → M Topo β} {B : Topo} {Q : Except Err β × Topo → Prop} (h : Outcome s P (m B))
    (herr : ∀ e, Q (.error e, s)) (hok : ∀ a t, P a t → Q (f a t)) : Q ((m >>= f) B) := by
  rcases h with ⟨e, he⟩ | ⟨a, t, hr, hp⟩
  · rw [bind_err he]; exact herr e
  · rw [bind_ok hr]; exact hok a t hp
end

theorem FS_bind_pure {s B : Topo} {α β : Type} {m : M Topo α} {g : α → β} (h : FS s (m B)) :
    FS s ((m >>= fun x => Pure.pure (g x)) B) := by
  rcases cases_run m B with ⟨x, X, hx⟩ | ⟨e, X, hx⟩
  · rw [bind_ok hx]; intro hf; simp at hf
  · rw [bind_err hx]; rw [hx] at h; intro _; exact h ⟨e, rfl⟩

end FimVerif.Topo
