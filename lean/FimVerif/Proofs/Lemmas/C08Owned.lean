import FimVerif.Proofs.Lemmas.C08Sep
import FimVerif.Proofs.Lemmas.C08Spec
/-! Up to `cpFamily_top`, shared by both developments: `Below`, and the decidable containment invariant `InvCP`, by which what is below
an interface of a service is its family.  From `exists_below_iff` on, the separation development only: the closed forms of the
graph-level removal functions against the declarative ownership relation `OwnedG`. -/
namespace FimVerif.Remove

theorem Below.trans {g : G} {x a y : Nat} (h1 : Below g x a) (h2 : Below g a y) : Below g x y := by
  induction h2 with
  | refl => exact h1
  | step _ hb ih => exact Below.step ih hb

theorem below_iff {g : G} {x y : Nat} : Below g x y ↔ y = x ∨ ∃ a ∈ children g x, Below g a y := by
  constructor
  · intro h
    induction h with
    | refl => exact Or.inl rfl
    | @step a b _ hb ih =>
      rcases ih with rfl | ⟨c, hc, hca⟩
      · exact Or.inr ⟨b, hb, Below.refl⟩
      · exact Or.inr ⟨c, hc, Below.step hca hb⟩
  · rintro (rfl | ⟨a, ha, h⟩)
    · exact Below.refl
    · exact (Below.step Below.refl ha).trans h

theorem below_leaf {g : G} {x y : Nat} (h : children g x = []) : Below g x y ↔ y = x := by
  rw [below_iff, h]; simp

theorem children_node {g : G} {x : Nat} (h : g.cls? x = some .node) : children g x = g.nbrs x .has .comp ++ g.nbrs x .has .ns := by
  simp only [children, h]

theorem children_comp {g : G} {x : Nat} (h : g.cls? x = some .comp) : children g x = g.nbrs x .has .ns := by
  simp only [children, h]

theorem children_ns {g : G} {x : Nat} (h : g.cls? x = some .ns) : children g x = g.nbrs x .connects .cp := by
  simp only [children, h]

theorem children_cp_sub {g : G} {p : Nat} (hc : g.cls? p = some .cp) (hs : isSub g p = true) : children g p = [] := by
  simp [children, hc, hs]

theorem port_not_sub {g : G} {s i : Nat} (hc : g.cls? s = some .ns) (hi : i ∈ g.nbrs s .connects .cp) :
    isSub g i = false := by
  have := nbrs_symm hi hc
  simp only [isSub, List.isEmpty_eq_false_iff]
  exact List.ne_nil_of_mem this

/-- **containment invariant for connection points** (decidable): a connection point attached to a network service
has only sub-interfaces as connection-point neighbours, each of them attached to nothing else (no service, one
connection-point neighbour), and it is a DedicatedPort if it has any -/
def InvCP (g : G) : Bool :=
  g.nodes.all (fun n => n.cls != .cp || isSub g n.id ||
    ((g.nbrs n.id .connects .cp).all (fun p => isSub g p && (g.nbrs p .connects .cp).length == 1) &&
     ((g.nbrs n.id .connects .cp).isEmpty || n.kind == kDedicatedPort)))

theorem invCP_at {g : G} (hI : InvCP g = true) {i : Nat} (hc : g.cls? i = some .cp) (hs : isSub g i = false) :
    (∀ p ∈ g.nbrs i .connects .cp, isSub g p = true ∧ (g.nbrs p .connects .cp).length = 1) ∧
    (g.nbrs i .connects .cp = [] ∨ g.kind? i = some kDedicatedPort) := by
  obtain ⟨n, hn, hid, hcl, hk⟩ := elem_of_cls hc
  have := List.all_eq_true.mp hI n hn
  simp only [hid, hcl, hs, bne_self_eq_false, Bool.false_or, Bool.and_eq_true, Bool.or_eq_true,
    List.isEmpty_iff, beq_iff_eq] at this
  exact ⟨fun p hp => by simpa using List.all_eq_true.mp this.1 p hp, this.2.imp id fun h => by rw [hk, h]⟩

theorem child_sub {g : G} (hI : InvCP g = true) {i c : Nat} (hc : g.cls? i = some .cp) (hs : isSub g i = false)
    (hcn : c ∈ g.nbrs i .connects .cp) : isSub g c = true :=
  ((invCP_at hI hc hs).1 c hcn).1

theorem child_nbrs {g : G} (hI : InvCP g = true) {i c : Nat} (hc : g.cls? i = some .cp) (hs : isSub g i = false)
    (hcn : c ∈ g.nbrs i .connects .cp) : g.nbrs c .connects .cp = [i] :=
  eq_singleton_of_mem_of_length_le_one (nbrs_symm hcn hc) (Nat.le_of_eq ((invCP_at hI hc hs).1 c hcn).2)

theorem children_cp_top {g : G} (hI : InvCP g = true) {i : Nat} (hc : g.cls? i = some .cp) (hs : isSub g i = false) :
    children g i = g.nbrs i .connects .cp := by
  simp only [children, hc, hs]
  exact List.filter_eq_self.2 fun p hp => child_sub hI hc hs hp

theorem below_cp_top {g : G} (hI : InvCP g = true) {i : Nat} (hc : g.cls? i = some .cp) (hs : isSub g i = false) (y : Nat) :
    Below g i y ↔ y = i ∨ y ∈ g.nbrs i .connects .cp := by
  rw [below_iff, children_cp_top hI hc hs]
  refine or_congr_right ⟨fun ⟨c, hc', hb⟩ => ?_, fun h => ⟨y, h, Below.refl⟩⟩
  rwa [(below_leaf (children_cp_sub (mem_nbrs_cls hc') (child_sub hI hc hs hc'))).mp hb]

theorem cpFamily_top {g : G} (hI : InvCP g = true) {i : Nat} (hc : g.cls? i = some .cp) (hs : isSub g i = false) :
    cpFamily g i true = i :: g.nbrs i .connects .cp := by
  simp only [cpFamily, Bool.and_true]
  congr 1
  exact List.filter_eq_self.mpr fun p hp => by simp [child_nbrs hI hc hs hp]

theorem exists_below_iff {g : G} {x : Nat} {P : Nat → Prop} :
    (∃ i, Below g x i ∧ P i) ↔ P x ∨ ∃ a ∈ children g x, ∃ i, Below g a i ∧ P i := by
  constructor
  · rintro ⟨i, hi, hp⟩
    rcases below_iff.mp hi with rfl | ⟨a, ha, h⟩
    · exact Or.inl hp
    · exact Or.inr ⟨a, ha, i, h, hp⟩
  · rintro (hp | ⟨a, ha, i, h, hp⟩)
    · exact ⟨x, Below.refl, hp⟩
    · exact ⟨i, below_iff.mpr (Or.inr ⟨a, ha, h⟩), hp⟩

/-- an element other than a connection point has no Link of its own -/
theorem ownedG_iff {g : G} {x y : Nat} {k : Cls} (hc : g.cls? x = some k) (hk : k ≠ .cp) :
    OwnedG g x y ↔ y = x ∨ ∃ a ∈ children g x, OwnedG g a y :=
  exists_below_iff.trans (or_congr_left (or_iff_left fun h => hk (Option.some.inj (hc.symm.trans h.1))))

theorem owned_iff (g : G) (x y : Nat) :
    Owned g x y ↔ (y = x ∨ LinkOf g x y ∨ PortOf g x y) ∨ ∃ a ∈ children g x, Owned g a y :=
  exists_below_iff

theorem mem_cpDel_iff_ownedG {g : G} (hI : InvCP g = true) {i : Nat} (hc : g.cls? i = some .cp) (hs : isSub g i = false) (y : Nat) :
    y ∈ cpDel g i true ↔ OwnedG g i y := by
  simp only [mem_cpDel_fam, OwnedG, LinkOf, below_cp_top hI hc hs, cpFamily_top hI hc hs, List.mem_cons]
  refine exists_congr fun f => and_congr_right fun hf => or_congr_right ?_
  have : g.cls? f = some .cp := hf.elim (fun e => e ▸ hc) mem_nbrs_cls
  simp only [this, true_and]

theorem mem_cpDel_false_iff_ownedG {g : G} {c : Nat} (hc : g.cls? c = some .cp) (hs : isSub g c = true) (y : Nat) :
    y ∈ cpDel g c false ↔ OwnedG g c y := by
  simp only [OwnedG, below_leaf (children_cp_sub hc hs), mem_cpDel_fam, cpFamily_false, List.mem_singleton, exists_eq_left, LinkOf, hc,
    true_and]

theorem mem_nsDel_iff_ownedG {g : G} (hI : InvCP g = true) {s : Nat} (hc : g.cls? s = some .ns) (y : Nat) :
    y ∈ nsDel g s ↔ OwnedG g s y := by
  simp only [ownedG_iff hc (by decide), children_ns hc, nsDel, List.mem_cons, List.mem_flatMap]
  exact or_congr_right (exists_congr fun i => and_congr_right fun hi =>
    mem_cpDel_iff_ownedG hI (mem_nbrs_cls hi) (port_not_sub hc hi) y)

theorem mem_compDel_iff_ownedG {g : G} (hI : InvCP g = true) {c : Nat} (hc : g.cls? c = some .comp) (y : Nat) :
    y ∈ compDel g c ↔ OwnedG g c y := by
  simp only [ownedG_iff hc (by decide), children_comp hc, compDel, List.mem_cons, List.mem_flatMap]
  exact or_congr_right (exists_congr fun s => and_congr_right fun hs => mem_nsDel_iff_ownedG hI (mem_nbrs_cls hs) y)

theorem mem_nodeDel_iff_ownedG {g : G} (hI : InvCP g = true) {n : Nat} (hc : g.cls? n = some .node) (y : Nat) :
    y ∈ nodeDel g n ↔ OwnedG g n y := by
  simp only [ownedG_iff hc (by decide), children_node hc, nodeDel, List.mem_append, List.mem_cons, List.mem_flatMap,
    or_and_right, exists_or]
  rw [or_left_comm]
  exact or_congr_right (or_congr
    (exists_congr fun c => and_congr_right fun h => mem_compDel_iff_ownedG hI (mem_nbrs_cls h) y)
    (exists_congr fun s => and_congr_right fun h => mem_nsDel_iff_ownedG hI (mem_nbrs_cls h) y))

end FimVerif.Remove
