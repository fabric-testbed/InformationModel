import FimVerif.Proofs.Lemmas.C01Doc
/-! `import_graph_from_string` and `import_graph_from_string_direct` (and their `_file` twins) are the same code on both stores;
only the `add_graph` / `add_graph_direct` they end in differs. -/
namespace FimVerif.C01
open FimVerif.GraphML

variable {κ : Type}

theorem getGraphId_of_all [DecidableEq κ] (d : Doc κ) (G : Graph κ) (hr : readDoc d = some G) (hne : G.nodes ≠ []) (g : Val)
    (hg : ∀ p ∈ G.nodes, p.2.get? "GraphID" = some g) : getGraphId d = .ok g := by
  have hm : ∀ (l : List (κ × Attrs)), (∀ p ∈ l, p.2.get? "GraphID" = some g) →
      mapOpt (fun p : κ × Attrs => p.2.get? "GraphID") l = some (l.map fun _ => g) := by
    intro l
    induction l with
    | nil => intro _; rfl
    | cons a t ih =>
      intro h
      simp [mapOpt, h a List.mem_cons_self, ih (fun p hp => h p (List.mem_cons_of_mem _ hp))]
  unfold getGraphId
  rw [hr]
  cases hn : G.nodes with
  | nil => exact absurd hn hne
  | cons a t =>
    have := hm G.nodes hg
    rw [hn] at this
    simp only [hn, this]
    simp

theorem getGraphId_ok [DecidableEq κ] (d : Doc κ) (g : Val) (h : getGraphId d = .ok g) :
    ∃ G, readDoc d = some G ∧ ∀ p ∈ G.nodes, p.2.get? "GraphID" = some g := by
  revert h
  fun_cases getGraphId d with
  | case5 G hr _ g' rest hall hids =>
    intro h
    cases h
    refine ⟨G, hr, fun p hp => ?_⟩
    obtain ⟨v, hv, hm⟩ := mapOpt_mem _ _ _ hids p hp
    rw [hv]
    rcases List.mem_cons.mp hm with rfl | hm'
    · rfl
    · rw [eq_of_beq (List.all_eq_true.mp hall v hm')]
  | _ => intro h; cases h

theorem getGraphId_error [DecidableEq κ] (d : Doc κ) (e : String) (h : getGraphId d = .error e) : e = "import" := by
  revert h
  fun_cases getGraphId d <;> intro h <;> cases h <;> rfl

section
variable {σ : Type} [DecidableEq κ]

/-- the reassigning entry point over a store's `add_graph` -/
def importVia (add : σ → Val → Graph κ → Except String Unit × σ) (s : σ) (d : Doc κ) (g : Val) : Except String Val × σ :=
  match readDoc d with
  | none => (.error "import", s)
  | some G =>
    if G.nodes.isEmpty then (.error "import", s)
    else match add s g G with
      | (.ok _, s') => (.ok g, s')
      | (.error e, s') => (.error e, s')

/-- the id-keeping entry point over a store's `add_graph_direct` -/
def directVia (add : σ → Val → Graph κ → σ) (s : σ) (d : Doc κ) : Except String Val × σ :=
  match getGraphId d with
  | .error e => (.error e, s)
  | .ok g =>
    match readDoc d with
    | none => (.error "import", s)
    | some G => (.ok g, add s g G)

theorem importString_eq_via (s : Store) (d : Doc κ) (g : Val) : importString s d g = importVia Store.addGraph s d g := by
  fun_cases importString s d g <;> simp only [importVia, *, if_true, Bool.false_eq_true, if_false]

theorem dImportString_eq_via (s : DStore) (d : Doc κ) (g : Val) : dImportString s d g = importVia DStore.addGraph s d g := by
  fun_cases dImportString s d g <;> simp only [importVia, *, if_true, Bool.false_eq_true, if_false]

theorem importDirect_eq_via (s : Store) (d : Doc κ) : importDirect s d = directVia Store.addGraphDirect s d := by
  fun_cases importDirect s d <;> simp only [directVia, *]

theorem dImportDirect_eq_via (s : DStore) (d : Doc κ) : dImportDirect s d = directVia DStore.addGraphDirect s d := by
  fun_cases dImportDirect s d <;> simp only [directVia, *]

variable {add : σ → Val → Graph κ → Except String Unit × σ} {addD : σ → Val → Graph κ → σ} {s : σ} {d : Doc κ}

theorem importVia_of_read {g : Val} {G : Graph κ} (hr : readDoc d = some G) (hne : G.nodes ≠ []) :
    importVia add s d g = ((add s g G).1.map fun _ => g, (add s g G).2) := by
  simp only [importVia, hr, List.isEmpty_eq_false_iff.2 hne, Bool.false_eq_true, if_false]
  rcases add s g G with ⟨_ | _, _⟩ <;> rfl

theorem importVia_cases (add : σ → Val → Graph κ → Except String Unit × σ) (s : σ) (d : Doc κ) (g : Val) :
    importVia add s d g = (.error "import", s) ∨
    ∃ G, readDoc d = some G ∧ importVia add s d g = ((add s g G).1.map fun _ => g, (add s g G).2) := by
  cases hr : readDoc d with
  | none => left; simp only [importVia, hr]
  | some G =>
    by_cases hne : G.nodes = []
    · left; simp only [importVia, hr, hne, List.isEmpty_nil, if_true]
    · exact Or.inr ⟨G, rfl, importVia_of_read hr hne⟩

theorem importVia_state {g : Val} (P : σ → Prop) (hs : P s) (hadd : ∀ G, readDoc d = some G → P (add s g G).2) :
    P (importVia add s d g).2 := by
  rcases importVia_cases add s d g with h | ⟨G, hr, h⟩ <;> rw [h]
  · exact hs
  · exact hadd G hr

theorem importVia_refused {g : Val} {e : String} (Q : σ → Prop) (hs : Q s)
    (hadd : ∀ G e', (add s g G).1 = .error e' → Q (add s g G).2) (h : (importVia add s d g).1 = .error e) :
    Q (importVia add s d g).2 := by
  rcases importVia_cases add s d g with h' | ⟨G, _, h'⟩ <;> rw [h'] at h ⊢
  · exact hs
  · cases ha : (add s g G).1 with
    | ok _ => rw [ha] at h; cases h
    | error e' => exact hadd G e' ha

theorem directVia_of_read {g : Val} {G : Graph κ} (hr : readDoc d = some G) (hne : G.nodes ≠ [])
    (hg : ∀ p ∈ G.nodes, p.2.get? "GraphID" = some g) : directVia addD s d = (.ok g, addD s g G) := by
  simp only [directVia, getGraphId_of_all d G hr hne g hg, hr]

theorem directVia_state (P : σ → Prop) (hs : P s)
    (hadd : ∀ g G, readDoc d = some G → (∀ p ∈ G.nodes, p.2.get? "GraphID" = some g) → (directVia addD s d).1 = .ok g →
      P (addD s g G)) : P (directVia addD s d).2 := by
  cases hg : getGraphId d with
  | error e => simp only [directVia, hg]; exact hs
  | ok g =>
    obtain ⟨G, hr, hall⟩ := getGraphId_ok d g hg
    have h : directVia addD s d = (.ok g, addD s g G) := by simp only [directVia, hg, hr]
    rw [h]
    exact hadd g G hr hall (by rw [h])

end

end FimVerif.C01
