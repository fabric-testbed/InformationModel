import FimVerif.Proofs.Lemmas.TopoInvCreate
/-!
# C07 — the four name scopes no creating call breaks: nodes, components of a node, services of a node / component,
top-level services (`NamesCore`).  Links and interfaces of a service are the scopes the code does break (known findings).
`InvSN` = `InvS` with these scopes is `BuildStable`.  All six scopes survive a rewrite that keeps the names (`mapStable_inv`).
-/
namespace FimVerif.Topo
open FimVerif FimVerif.M FimVerif.Gen

structure NamesCore (s : Topo) : Prop where
  nodes : NodeNames s
  comps : CompNames s
  svcs : SvcNames s
  topSvcs : TopSvcNames s

instance (s : Topo) : Decidable (NamesCore s) :=
  if h : NodeNames s ∧ CompNames s ∧ SvcNames s ∧ TopSvcNames s then isTrue ⟨h.1, h.2.1, h.2.2.1, h.2.2.2⟩
  else isFalse (fun n => h ⟨n.nodes, n.comps, n.svcs, n.topSvcs⟩)

theorem NamesOk.core {s : Topo} (h : NamesOk s) : NamesCore s := ⟨h.nodes, h.comps, h.svcs, h.topSvcs⟩

/-- a scope that the new element `n` enters when `p n` holds -/
theorem nodup_names_snoc {l : List GNode} {n : GNode} {p : GNode → Bool} (hl : (l.map (·.name)).Nodup)
    (hd : p n = true → ∀ m ∈ l, m.name ≠ n.name) : ((l ++ [n].filter p).map (·.name)).Nodup := by
  rw [List.filter_cons, List.filter_nil]
  split
  · rename_i hp
    rw [List.map_append, List.nodup_append]
    refine ⟨hl, by simp, ?_⟩
    intro a ha b hb
    simp at hb; subst hb
    obtain ⟨m, hm, rfl⟩ := List.mem_map.mp ha
    exact hd hp m hm
  · rw [List.append_nil]; exact hl

theorem kids_fresh {s : Topo} (hc : ClosedOk s) {n : GNode} (hf : ∀ m ∈ s.nodes, m.nid ≠ n.nid) (rel : Rel) (c : Cls) :
    kids s n.ref rel c = [] := by
  simp only [kids, List.filter_eq_nil_iff]
  intro m _
  have : s.edges.any (fun e => e.rel == rel && e.a == n.ref && e.b == m.ref) = false := by
    rw [List.any_eq_false]; intro e he; simp [(Absent.edge hc (absent_of_fresh hf) he).1]
  simp [this]

theorem kids_grow {s : Topo} {N : List GNode} {E : List GEdge} (hc : ClosedOk s) (hf : ∀ n ∈ N, ∀ m ∈ s.nodes, m.nid ≠ n.nid) {rel : Rel}
    (hrel : ∀ e ∈ E, e.rel = rel → ∀ m ∈ s.nodes, e.b ≠ m.ref) (q : Ref) (c : Cls) :
    kids (grow s N E) q rel c =
      kids s q rel c ++ N.filter (fun n => n.cls == c && E.any (fun e => e.rel == rel && e.a == q && e.b == n.ref)) := by
  unfold kids grow
  simp only [List.filter_append]
  congr 1 <;> apply List.filter_congr <;> intro m hm <;> congr 1 <;> rw [List.any_append]
  · have : E.any (fun e => e.rel == rel && e.a == q && e.b == m.ref) = false := by
      rw [List.any_eq_false]; intro e he hx
      simp only [Bool.and_eq_true, beq_iff_eq] at hx
      exact hrel e he hx.1.1 m hm hx.2
    rw [this, Bool.or_false]
  · have : s.edges.any (fun e => e.rel == rel && e.a == q && e.b == m.ref) = false := by
      rw [List.any_eq_false]; intro e he; simp [(Absent.edge hc (absent_of_fresh (hf m hm)) he).2]
    rw [this, Bool.false_or]

theorem hasParent_grow_old {s : Topo} {N : List GNode} {E : List GEdge} (hhas : ∀ e ∈ E, e.rel = .has → ∀ m ∈ s.nodes, e.b ≠ m.ref)
    {m : GNode} (hm : m ∈ s.nodes) : hasParent (grow s N E) m.ref = hasParent s m.ref := by
  simp only [hasParent, grow, List.any_append]
  have : E.any (fun e => e.rel == Rel.has && e.b == m.ref) = false := by
    rw [List.any_eq_false]; intro e he hx
    simp only [Bool.and_eq_true, beq_iff_eq] at hx
    exact hhas e he hx.1 m hm hx.2
  rw [this, Bool.or_false]

theorem hasParent_grow_new {s : Topo} {N : List GNode} {E : List GEdge} (hc : ClosedOk s) {n : GNode} (hf : ∀ m ∈ s.nodes, m.nid ≠ n.nid) :
    hasParent (grow s N E) n.ref = E.any (fun e => e.rel == Rel.has && e.b == n.ref) := by
  simp only [hasParent, grow, List.any_append]
  have : s.edges.any (fun e => e.rel == Rel.has && e.b == n.ref) = false := by
    rw [List.any_eq_false]; intro e he; simp [(Absent.edge hc (absent_of_fresh hf) he).2]
  rw [this, Bool.false_or]

/-- a new edge into an old element comes from a link, so it is no `has` edge -/
theorem GrowOk.hasNew {s : Topo} {N : List GNode} {E : List GEdge} (hx : GrowOk s N E) :
    ∀ e ∈ E, e.rel = .has → ∀ m ∈ s.nodes, e.b ≠ m.ref := by
  intro e he hr m hm hb
  have hl := (hx.into_old he hm hb).1
  have := (hx.edge e he).schema
  simp [edgeOk, hl, hr] at this

theorem kids_pushNode {s : Topo} (hc : ClosedOk s) {n : GNode} (hf : ∀ m ∈ s.nodes, m.nid ≠ n.nid) (q : Ref) (rel : Rel) (c : Cls) :
    kids (pushNode n s) q rel c = kids s q rel c := by
  rw [pushNode_eq_grow, kids_grow hc (by simpa using hf) (fun _ he => by cases he)]; simp

theorem namesCore_grow_cp_link {s : Topo} {N : List GNode} {E : List GEdge} (hc : ClosedOk s) (hx : GrowOk s N E)
    (hN : ∀ n ∈ N, n.cls = .connectionPoint ∨ n.cls = .link) (h : NamesCore s) : NamesCore (grow s N E) := by
  -- no new element is of a class that enters a scope
  have hnil : ∀ (c : Cls) (f : GNode → Bool), c ≠ .connectionPoint → c ≠ .link → N.filter (fun n => n.cls == c && f n) = [] := by
    intro c f h1 h2
    rw [List.filter_eq_nil_iff]; intro n hn
    rcases hN n hn with h' | h' <;> simp [h', Ne.symm h1, Ne.symm h2]
  have hscope : ∀ c, c ≠ .connectionPoint → c ≠ .link → (∀ q ∈ s.nodes, ((kids s q.ref .has c).map (·.name)).Nodup) →
      ∀ q ∈ (grow s N E).nodes, ((kids (grow s N E) q.ref .has c).map (·.name)).Nodup := by
    intro c h1 h2 hold q hq
    rw [kids_grow hc hx.fresh hx.hasNew, hnil c _ h1 h2, List.append_nil]
    rcases List.mem_append.mp hq with hq | hq
    · exact hold q hq
    · rw [kids_fresh hc (hx.fresh q hq)]; exact List.nodup_nil
  refine ⟨?_, hscope _ (by simp) (by simp) h.comps, hscope _ (by simp) (by simp) h.svcs, ?_⟩
  · show (((s.nodes ++ N).filter _).map (·.name)).Nodup
    have := hnil .networkNode (fun _ => true) (by simp) (by simp)
    simp only [Bool.and_true] at this
    rw [List.filter_append, this, List.append_nil]; exact h.nodes
  · show (((s.nodes ++ N).filter _).map (·.name)).Nodup
    rw [List.filter_append, hnil .networkService _ (by simp) (by simp), List.append_nil,
      List.filter_congr fun m hm => by rw [hasParent_grow_old hx.hasNew hm]]
    exact h.topSvcs

/-- one new element `n`, every new edge ending in it (`add_node`, followed or not by `add_link` from the container): the four scopes
are kept when the name of `n` is free in each scope it enters -/
theorem namesCore_grow1 {s : Topo} {n : GNode} {E : List GEdge} (hc : ClosedOk s) (hf : ∀ m ∈ s.nodes, m.nid ≠ n.nid)
    (hinto : ∀ e ∈ E, e.b = n.ref)
    (hnode : n.cls = .networkNode → ∀ m ∈ s.nodes, m.cls = .networkNode → m.name ≠ n.name)
    (hkid : ∀ e ∈ E, e.rel = .has → ∀ m ∈ kids s e.a .has n.cls, m.name ≠ n.name)
    (htop : n.cls = .networkService → (∀ e ∈ E, e.rel ≠ .has) →
      ∀ m ∈ s.nodes, m.cls = .networkService → hasParent s m.ref = false → m.name ≠ n.name)
    (h : NamesCore s) : NamesCore (grow s [n] E) := by
  have hf' : ∀ x ∈ [n], ∀ m ∈ s.nodes, m.nid ≠ x.nid := by simpa using hf
  have hhas : ∀ e ∈ E, e.rel = .has → ∀ m ∈ s.nodes, e.b ≠ m.ref :=
    fun e he _ m hm hb => absent_of_fresh hf m hm ((hinto e he).symm.trans hb).symm
  have hscope : ∀ c, (∀ q ∈ s.nodes, ((kids s q.ref .has c).map (·.name)).Nodup) →
      ∀ q ∈ (grow s [n] E).nodes, ((kids (grow s [n] E) q.ref .has c).map (·.name)).Nodup := by
    intro c hold q hq
    have hq' : ((kids s q.ref .has c).map (·.name)).Nodup := by
      rcases List.mem_append.mp hq with hq | hq
      · exact hold q hq
      · rw [List.mem_singleton.mp hq, kids_fresh hc hf]; exact List.nodup_nil
    rw [kids_grow hc hf' hhas]
    refine nodup_names_snoc hq' fun hcase m hm => ?_
    simp only [Bool.and_eq_true, beq_iff_eq, List.any_eq_true] at hcase
    obtain ⟨hcls, e, he, ⟨hr, ha⟩, _⟩ := hcase
    exact hkid e he hr m (by rw [ha, hcls]; exact hm)
  refine ⟨?_, hscope _ h.comps, hscope _ h.svcs, ?_⟩
  · show (((s.nodes ++ [n]).filter _).map (·.name)).Nodup
    rw [List.filter_append]
    refine nodup_names_snoc h.nodes fun hk m hm => ?_
    have hm' := List.mem_filter.mp hm
    exact hnode (by simpa using hk) m hm'.1 (by simpa using hm'.2)
  · show (((s.nodes ++ [n]).filter _).map (·.name)).Nodup
    rw [List.filter_append, List.filter_congr fun m hm => by rw [hasParent_grow_old hhas hm]]
    refine nodup_names_snoc h.topSvcs fun hk m hm => ?_
    rw [hasParent_grow_new hc hf] at hk
    simp only [Bool.and_eq_true, beq_iff_eq, Bool.not_eq_true', List.any_eq_false] at hk
    have hm' := List.mem_filter.mp hm
    have h2 := hm'.2
    simp only [Bool.and_eq_true, beq_iff_eq, Bool.not_eq_true'] at h2
    refine htop hk.1 (fun e he hr => ?_) m hm'.1 h2.1 h2.2
    have := hk.2 e he
    simp [hr, hinto e he] at this

theorem namesCore_attach {s : Topo} (hc : ClosedOk s) {p n : GNode} {rel : Rel} (hp : p ∈ s.nodes) (hf : ∀ m ∈ s.nodes, m.nid ≠ n.nid)
    (hv : nodeOk n = true) (he : edgeOk ⟨p.ref, n.ref, rel⟩ = true) (hpl : p.cls ≠ .link) (hnf : NameFree s p.ref rel n)
    (h : NamesCore s) : NamesCore (grow s [n] [⟨p.ref, n.ref, rel⟩]) := by
  have hinto : ∀ e ∈ [(⟨p.ref, n.ref, rel⟩ : GEdge)], e.b = n.ref := fun e he' => by rw [List.mem_singleton.mp he']
  -- the schema: a Component or a NetworkService hangs on a `has` edge, an interface on a `connects` edge
  have hk : (rel = .has ∧ (n.cls = .component ∨ n.cls = .networkService)) ∨ (rel = .connects ∧ n.cls = .connectionPoint) := by
    rcases edgeOk_rows he with ⟨hr, _, hb⟩ | ⟨hr, _, hb⟩ | ⟨hr, _, hb⟩
    · exact .inl ⟨hr, hb⟩
    · exact .inl ⟨hr, .inr hb⟩
    · exact .inr ⟨hr, hb⟩
  rcases hk with ⟨rfl, hn⟩ | ⟨rfl, hn⟩
  · refine namesCore_grow1 hc hf hinto (fun h' => by rcases hn with hn | hn <;> rw [hn] at h' <;> cases h') (fun e he' _ => ?_)
      (fun _ hno => absurd rfl (hno _ (List.mem_singleton.mpr rfl))) h
    rw [List.mem_singleton.mp he']
    rcases hnf with h' | h' | h'
    · rcases hn with hn | hn <;> rw [hn] at h' <;> cases h'
    · rcases hn with hn | hn <;> rw [hn] at h' <;> cases h'
    · exact h'
  · exact namesCore_grow1 hc hf hinto (fun h' => by rw [hn] at h'; cases h')
      (fun e he' hr => by rw [List.mem_singleton.mp he'] at hr; cases hr) (fun h' _ => by rw [hn] at h'; cases h') h

/-- an element that was just hung under its container has no children yet: anything may be hung under it -/
theorem nameFree_new_parent {s : Topo} (hc : ClosedOk s) {p n x : GNode} {rel rel' : Rel} (hp : p ∈ s.nodes)
    (hf : ∀ m ∈ s.nodes, m.nid ≠ n.nid) : NameFree (grow s [n] [⟨p.ref, n.ref, rel⟩]) n.ref rel' x := by
  refine .inr (.inr ?_)
  have hpn : ¬ p.ref = n.ref := absent_of_fresh hf p hp
  rw [kids_grow hc (by simpa using hf) (fun e he _ m hm hb => absent_of_fresh hf m hm (by rw [← hb, List.mem_singleton.mp he])),
    kids_fresh hc hf]
  simp [hpn]

theorem nameFree_pushed_parent {s : Topo} (hc : ClosedOk s) {n x : GNode} {rel' : Rel}
    (hf : ∀ m ∈ s.nodes, m.nid ≠ n.nid) : NameFree (pushNode n s) n.ref rel' x := by
  refine .inr (.inr ?_)
  rw [kids_pushNode hc hf, kids_fresh hc hf]; intro m hm; cases hm

theorem kids_sub_childrenOf {s : Topo} (hi : IdsOk s) {parent : Nid} {okCls : List Cls} {rel : Rel} {label : Cls} {comps : List GNode}
    (h : childrenOf parent okCls rel label s = (.ok comps, s)) {p : GNode} (hp : findNode parent s = (.ok p, s)) :
    ∀ m ∈ kids s p.ref rel label, m ∈ comps := by
  intro m hm
  obtain ⟨pn, hpn, hpi, rfl, _⟩ := childrenOf_ok hi h
  obtain ⟨hpm, hpp, _⟩ := findNode_ok hp
  rw [eq_of_nid_eq hi hpn hpm (hpi.trans hpp.symm)]
  -- an edge from `p` to `m` makes `m` a neighbour of `p`
  have hm' := List.mem_filter.mp hm
  have h2 := hm'.2
  simp only [Bool.and_eq_true, beq_iff_eq, List.any_eq_true] at h2
  obtain ⟨hcl, e, he, hr, hb⟩ := h2
  refine List.mem_filter.mpr ⟨hm'.1, ?_⟩
  simp only [Bool.and_eq_true, beq_iff_eq]
  exact ⟨hcl, adjacent_iff.mpr ⟨e, he, hr.1, by simp [sameEnds, hr.2, hb]⟩⟩

/-- the guard `name not in [children names]` of add_component / add_storage / Node.add_network_service, read on `kids` -/
theorem sibling_free {s : Topo} (hi : IdsOk s) {parent : Nid} {okCls : List Cls} {rel : Rel} {label : Cls} {comps : List GNode} {name : String}
    (h : childrenOf parent okCls rel label s = (.ok comps, s)) (hg : (!(comps.map (·.name)).contains name) = true) :
    ∀ pn, findNode parent s = (.ok pn, s) → ∀ m ∈ kids s pn.ref rel label, m.name ≠ name := by
  intro pn hpn m hm hmn
  have := kids_sub_childrenOf hi h hpn m hm
  have hc : (comps.map (·.name)).contains name = true := by
    rw [List.contains_iff_mem]; exact List.mem_map.mpr ⟨m, this, hmn⟩
  rw [hc] at hg; cases hg

theorem namesCore_pushNode {s : Topo} {n : GNode} (h : NamesCore s) (hc : ClosedOk s) (hf : ∀ m ∈ s.nodes, m.nid ≠ n.nid)
    (hv : nodeOk n = true) (hcls : n.cls = .networkNode ∨ n.cls = .networkService)
    (hname : ∀ m ∈ s.nodes, m.cls = n.cls → m.name ≠ n.name) : NamesCore (pushNode n s) := by
  rw [pushNode_eq_grow]
  exact namesCore_grow1 hc hf (fun _ he => nomatch he) (fun hk m hm hmc => hname m hm (hmc.trans hk.symm)) (fun _ he => nomatch he)
    (fun hk _ m hm hmc _ => hname m hm (hmc.trans hk.symm)) h

theorem namesOk_pushNode {s : Topo} {n : GNode} (h : NamesOk s) (hc : ClosedOk s) (hf : ∀ m ∈ s.nodes, m.nid ≠ n.nid)
    (hv : nodeOk n = true) (hcls : n.cls = .networkNode) (hname : ∀ m ∈ s.nodes, m.cls = .networkNode → m.name ≠ n.name) :
    NamesOk (pushNode n s) := by
  have core := namesCore_pushNode h.core hc hf hv (.inl hcls) (by rw [hcls]; exact hname)
  refine ⟨core.nodes, ?_, core.comps, core.svcs, core.topSvcs, ?_⟩
  · show (((s.nodes ++ [n]).filter _).map (·.name)).Nodup
    rw [List.filter_append]; exact nodup_names_snoc h.links fun hk => by simp [hcls] at hk
  · intro p hp hpc
    rw [kids_pushNode hc hf]
    simp only [pushNode, List.mem_append, List.mem_singleton] at hp
    rcases hp with hp | rfl
    · exact h.cps p hp hpc
    · rw [kids_fresh hc hf]; exact List.nodup_nil

theorem namesOf_mapNodes {f : GNode → GNode} (hname : ∀ n, (f n).name = n.name) (s : Topo) (p : GNode → Bool)
    (hp : ∀ n, p (f n) = p n) : namesOf (mapNodes f s) p = namesOf s p := by
  show ((s.nodes.map f).filter p).map (·.name) = _
  rw [List.filter_map_comm f p _ fun n _ => hp n, List.map_map]
  exact List.map_congr_left fun n _ => hname n

theorem kids_names_mapNodes {f : GNode → GNode} (hf : KeepsKey f) (hname : ∀ n, (f n).name = n.name) (s : Topo) (p : Ref) (rel : Rel)
    (c : Cls) : (kids (mapNodes f s) p rel c).map (·.name) = (kids s p rel c).map (·.name) :=
  namesOf_mapNodes hname s _ fun n => by simp [hf.ref, hf.cls, mapNodes]

theorem mapStable_namesCore : MapStable NamesCore := by
  intro f hf hname s h
  refine ⟨?_, ?_, ?_, ?_⟩
  · rw [NodeNames, namesOf_mapNodes hname _ _ fun n => by simp [hf.cls]]; exact h.nodes
  · intro p hp
    obtain ⟨m, hm, rfl⟩ := List.mem_map.mp hp
    rw [kids_names_mapNodes hf hname, hf.ref]; exact h.comps m hm
  · intro p hp
    obtain ⟨m, hm, rfl⟩ := List.mem_map.mp hp
    rw [kids_names_mapNodes hf hname, hf.ref]; exact h.svcs m hm
  · rw [TopSvcNames, namesOf_mapNodes hname _ _ fun n => by simp [hf.cls, hf.ref, hasParent, mapNodes]]; exact h.topSvcs

theorem namesOk_mapNodes {f : GNode → GNode} (hf : KeepsKey f) (hname : ∀ n, (f n).name = n.name) {s : Topo} (h : NamesOk s) :
    NamesOk (mapNodes f s) := by
  have core := mapStable_namesCore f hf hname s h.core
  refine ⟨core.nodes, ?_, core.comps, core.svcs, core.topSvcs, ?_⟩
  · rw [LinkNames, namesOf_mapNodes hname _ _ fun n => by simp [hf.cls]]; exact h.links
  · intro p hp hc
    obtain ⟨m, hm, rfl⟩ := List.mem_map.mp hp
    rw [kids_names_mapNodes hf hname, hf.ref]; rw [hf.cls] at hc; exact h.cps m hm hc

theorem mapStable_names : MapStable NamesOk := fun _ hf hn _ h => namesOk_mapNodes hf hn h
theorem mapStable_inv : MapStable Inv := fun _ hf hn _ h => ⟨invS_mapNodes hf h.struct, namesOk_mapNodes hf hn h.names⟩

def InvSN (s : Topo) : Prop := InvS s ∧ NamesCore s
instance (s : Topo) : Decidable (InvSN s) := by unfold InvSN; infer_instance

theorem buildStable_invSN : BuildStable InvSN where
  ids := fun _ h => h.1.ids
  closed := fun _ h => h.1.closed
  attach := fun h hp hf hv he hpl hsp hnf =>
    ⟨invS_attach h.1 hp hf hv he hpl hsp, namesCore_attach h.1.closed hp hf hv he hpl hnf h.2⟩
  push := fun h hf hv hc hcc hnm => by
    subst hc; exact ⟨invS_push h.1 hf hv hcc, namesCore_pushNode h.2 h.1.closed hf hv hcc hnm⟩
  growCL := fun h g => ⟨invS_grow_full h.1 g.ok g.full, namesCore_grow_cp_link h.1.closed g.ok g.cls h.2⟩
  map := fun f hf hn s h => ⟨invS_mapNodes hf h.1, mapStable_namesCore f hf hn s h.2⟩

theorem invSN_connect (fl : Flavour) (c : Nat) (svc iid : Nid) (iname : String) (cache : Cache) (s : Topo)
    (hsv : HandleOk s svc .networkService) (hcp : HandleOk s iid .connectionPoint)
    (hfr : ∀ m ∈ s.nodes, m.nid ≠ .gen c ∧ m.nid ≠ .gen (c + 1)) (hnsp : NoSpIn s [.iface iid iname]) (h : InvSN s) :
    InvSN (connectInterface fl c svc cache (.iface iid iname) s).2 :=
  connect_stable buildStable_invSN fl c svc iid iname cache s hsv hcp hfr hnsp h

end FimVerif.Topo
