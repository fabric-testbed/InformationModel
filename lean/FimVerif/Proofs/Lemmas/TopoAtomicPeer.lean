import FimVerif.Proofs.Lemmas.TopoAtomicCtor
/-! `NetworkService.peer` with the clean-up of commit 277fd8f: a ServicePort on each service, then the link; when the second
port or the link cannot be created the port(s) made so far are removed again, and the model is what it was. -/
namespace FimVerif.Topo
open FimVerif FimVerif.M

def addLeaf (t : Topo) (pn n : GNode) : Topo := grow t [n] [⟨pn.ref, n.ref, .connects⟩]

structure LeafOk (t : Topo) (pn n : GNode) : Prop where
  closed : Closed t
  dt : IdsDistinct t
  fresh : ∀ m ∈ t.nodes, m.nid ≠ n.nid
  pmem : pn ∈ t.nodes
  pcls : pn.cls = .networkService

section
variable {t : Topo} {pn n : GNode}

theorem closed_addLeaf (hc : Closed t) (hp : pn ∈ t.nodes) : Closed (addLeaf t pn n) :=
  closed_grow hc fun e he => by
    rw [List.mem_singleton.mp he]
    exact ⟨⟨pn, by simp [hp], rfl⟩, ⟨n, by simp, rfl⟩⟩

/-- the one edge at a port hung under a service leads to the service, which is neither a ConnectionPoint nor a Link -/
theorem LeafOk.up (h : LeafOk t pn n) {x : Ref} (hs : sameEnds ⟨pn.ref, n.ref, .connects⟩ n.ref x = true) :
    x.cls ≠ .connectionPoint ∧ x.cls ≠ .link := by
  rcases sameEnds_iff.mp hs with ⟨h1, _⟩ | ⟨h1, _⟩
  · exact absurd h1 (ref_ne_of_nid_ne (h.fresh pn h.pmem))
  · rw [← h1, ref_cls, h.pcls]; exact ⟨by decide, by decide⟩

theorem removeLeaf (h : LeafOk t pn n) : removeCpAndLinks n.nid true (addLeaf t pn n) = (.ok (), t) := by
  rw [addLeaf, removeCp_new h.closed (idsDistinct_push (n := n) h.dt h.fresh) (List.mem_singleton.mpr rfl)
    (fun e he x hs => by rw [List.mem_singleton.mp he] at hs; exact h.up hs) true]
  simp [grow_nil]

end
theorem nsAddInterface_leaf (fl : Flavour) (c : Nat) (svc : Nid) (cache : Cache) (name : String) (ty : Option String)
    (props : List PropArg) (u : Topo) (hc : Closed u) :
    Outcome u (fun v t => ∃ pn n, pn ∈ u.nodes ∧ pn.nid = svc ∧ (∀ m ∈ u.nodes, m.nid ≠ n.nid) ∧ n.cls = .connectionPoint ∧
        ty = some n.typ ∧ n.nid = .gen c ∧ v = (.gen c, c + 1) ∧ t = addLeaf u pn n)
      (nsAddInterface fl c svc cache name none ty props u) := by
  unfold nsAddInterface
  refine ro_step (readOnly_guard ..) Outcome.err (fun _ _ => ?_)
  refine (ifaceNew_spec fl c name none (some svc) ty props u).mono fun _ _ ⟨n, hfr, hcls, hnid, _, hty, _, hv, pn, hpn, ht⟩ => ?_
  obtain ⟨hpm, hpi, _⟩ := findNode_ok hpn
  rw [setEdge_pushNew hc hfr] at ht
  exact ⟨pn, n, hpm, hpi, hfr, hcls, hty, by simpa [pick] using hnid, hv, ht⟩

/-- what `peer` has added when it returns: a ServicePort under each of the two services and the L2Path link joining them -/
structure PeerAdded (s : Topo) (c : Nat) (svc other : Nid) (pn po n1 n2 ln : GNode) : Prop where
  pm : pn ∈ s.nodes
  pi : pn.nid = svc
  om : po ∈ s.nodes
  oi : po.nid = other
  c1 : n1.cls = .connectionPoint
  t1 : n1.typ = "ServicePort"
  i1 : n1.nid = .gen c
  c2 : n2.cls = .connectionPoint
  t2 : n2.typ = "ServicePort"
  i2 : n2.nid = .gen (c + 1)
  cl : ln.cls = .link
  tl : ln.typ = "L2Path"
  il : ln.nid = .gen (c + 2)
  fresh : ∀ m ∈ s.nodes, m.nid ≠ .gen c ∧ m.nid ≠ .gen (c + 1) ∧ m.nid ≠ .gen (c + 2)

/-- That both handles refer to NetworkServices is what lets `remove_cp_and_links` see the port(s) made so far as leaves.  The two
class hypotheses stand inside the conclusion of `herr` and not before the theorem, so that a user who only reads the state of a
return needs none (`herr` is then closed without them) -/
theorem peer_cases {fl : Flavour} {c : Nat} {svc : Nid} {sname : String} {cache : Cache} {o : SvcHandle} {props : List PropArg}
    {s : Topo} {Q : Except Err (Cache × Cache) × Topo → Prop} (hd : IdsDistinct s) (hc : Closed s) (hogen : o.nid ≠ .gen c)
    (herr : ∀ e t, ((∀ m ∈ s.nodes, m.nid = svc → m.cls = .networkService) →
      (∀ m ∈ s.nodes, m.nid = o.nid → m.cls = .networkService) → t = s) → Q (.error e, t))
    (hok : ∀ pn po n1 n2 ln, PeerAdded s c svc o.nid pn po n1 n2 ln →
      Q (.ok (cache ++ [(sname ++ "-" ++ o.name, .gen c)], o.cache ++ [(o.name ++ "-" ++ sname, .gen (c + 1))]),
        ⟨s.nodes ++ [n1, n2, ln], s.edges ++ [⟨pn.ref, n1.ref, .connects⟩, ⟨po.ref, n2.ref, .connects⟩,
          ⟨ln.ref, n1.ref, .connects⟩, ⟨ln.ref, n2.ref, .connects⟩]⟩)) :
    Q (peer fl c svc sname cache (some o) props s) := by
  unfold peer
  simp only [flag_peerRollback, if_true]
  -- an `except` clause that removes the ports in `l` and re-raises: an error in any case, in `s` when the removal gives `s` back
  have undo {l : List Nid} {B : Topo} {e : Err} {m : M Topo (Nid × Nat)} {f : Nid × Nat → M Topo (Cache × Cache)}
      (he : m B = (.error e, B))
      (hrm : (∀ m ∈ s.nodes, m.nid = svc → m.cls = .networkService) → (∀ m ∈ s.nodes, m.nid = o.nid → m.cls = .networkService) →
        M.forEach l (fun i => removeCpAndLinks i true) B = (.ok (), s)) :
      Q ((M.tryCatch m (fun _ => true) (fun e => do M.forEach l (fun i => removeCpAndLinks i true); raise e) >>= f) B) := by
    obtain ⟨e', t', h⟩ := bind_raise_failed (β := Nid × Nat) (M.forEach l (fun i => removeCpAndLinks i true)) e B
    rw [bind_err ((tryCatch_err he rfl).trans h)]
    refine herr e' t' fun h1 h2 => ?_
    rw [bind_ok (hrm h1 h2)] at h
    exact (Prod.mk.inj h).2.symm
  refine (nsAddInterface_leaf fl c svc cache _ (some "ServicePort") props s hc).step (fun e => herr e s fun _ _ => rfl)
    fun v t ⟨pn, n1, hpm, hpi, hfr1, hc1, ht1, hn1, hv, ht⟩ => ?_
  subst hv ht
  have hcl1 : Closed (addLeaf s pn n1) := closed_addLeaf hc hpm
  have hd1 : IdsDistinct (addLeaf s pn n1) := idsDistinct_push (n := n1) hd hfr1
  have L1 (h : ∀ m ∈ s.nodes, m.nid = svc → m.cls = .networkService) : LeafOk s pn n1 := ⟨hc, hd, hfr1, hpm, h pn hpm hpi⟩
  rcases nsAddInterface_leaf fl (c + 1) o.nid o.cache (o.name ++ "-" ++ sname) (some "ServicePort") [] (addLeaf s pn n1) hcl1
    with ⟨e, he⟩ | ⟨v, t, hr2, po, n2, hpom, hpoi, hfr2, hc2, ht2, hn2, hv, ht⟩
  · refine undo he fun h1 _ => ?_
    rw [forEach_cons_ok (f := fun i => removeCpAndLinks i true) (x := Nid.gen c) (by rw [← hn1]; exact removeLeaf (L1 h1))]; rfl
  · subst hv ht
    have hpo_old : po ∈ s.nodes := by
      simp only [addLeaf, grow_nodes, List.mem_append, List.mem_singleton] at hpom
      rcases hpom with h | h
      · exact h
      · subst h; exact absurd (hpoi.symm.trans hn1) hogen
    have hne : n2.nid ≠ n1.nid := fun e => hfr2 n1 (by simp [addLeaf]) e.symm
    have hfr2' : ∀ m ∈ s.nodes, m.nid ≠ n2.nid := fun m hm => hfr2 m (by simp [addLeaf, hm])
    have L2 (h : ∀ m ∈ s.nodes, m.nid = o.nid → m.cls = .networkService) : LeafOk s po n2 := ⟨hc, hd, hfr2', hpo_old, h po hpo_old hpoi⟩
    have hd2 : IdsDistinct (addLeaf (addLeaf s pn n1) po n2) := idsDistinct_push (n := n2) hd1 hfr2
    rw [bind_ok (tryCatch_ok hr2)]
    rcases linkNew_spec fl (c + 1 + 1) (sname ++ "-" ++ o.name ++ "-link") none (some "L2Path")
        (some [.iface (.gen c) (sname ++ "-" ++ o.name), .iface (.gen (c + 1)) (o.name ++ "-" ++ sname)]) none []
        (addLeaf (addLeaf s pn n1) po n2) hd2 with ⟨e, he⟩ | ⟨_, _, hres, _, ln, ⟨rfl⟩, hfl, hcl, hlt, hil, _, rfl, rfl⟩
    · -- the link is rejected: both ports are removed again, oldest first
      refine undo he fun h1 h2 => ?_
      have hrm1 : removeCpAndLinks (Nid.gen c) true (addLeaf (addLeaf s pn n1) po n2) = (.ok (), addLeaf s po n2) := by
        have b1 : n2.ref ≠ n1.ref := ref_ne_of_nid_ne hne
        have b2 : po.ref ≠ n1.ref := ref_ne_of_nid_ne (hfr1 po hpo_old)
        have e : addLeaf (addLeaf s pn n1) po n2 = grow s [n1, n2] [⟨pn.ref, n1.ref, .connects⟩, ⟨po.ref, n2.ref, .connects⟩] :=
          grow_grow ..
        rw [← hn1, e, removeCp_new hc (e ▸ hd2) (List.mem_cons_self ..) (fun e he x hs => ?_) true]
        · simp [addLeaf, b1, b2]
        · simp only [List.mem_cons, List.mem_nil_iff, or_false] at he
          rcases he with rfl | rfl
          · exact (L1 h1).up hs
          · exact absurd (sameEnds_touches_left hs) (by simp [b1, b2])
      rw [forEach_cons_ok (f := fun i => removeCpAndLinks i true) (x := Nid.gen c) hrm1,
        forEach_cons_ok (f := fun i => removeCpAndLinks i true) (x := Nid.gen (c + 1)) (by rw [← hn2]; exact removeLeaf (L2 h2))]
      rfl
    · rw [bind_ok (tryCatch_ok hres)]
      have hil' : ln.nid = .gen (c + 2) := by simpa [pick] using hil
      have hlt' : ¬ touches (pushNode ln (addLeaf (addLeaf s pn n1) po n2)).edges ln.ref :=
        not_touches_of_closed (t := addLeaf (addLeaf s pn n1) po n2) (closed_addLeaf hcl1 hpom) (absent_of_fresh hfl)
      have hr1 : (⟨.connectionPoint, .gen c⟩ : Ref) = n1.ref := by rw [ref_of_cls hc1, hn1]
      have hr2 : (⟨.connectionPoint, .gen (c + 1)⟩ : Ref) = n2.ref := by rw [ref_of_cls hc2, hn2]
      have hst : linkEdges ln [.iface (.gen c) (sname ++ "-" ++ o.name), .iface (.gen (c + 1)) (o.name ++ "-" ++ sname)]
          (pushNode ln (addLeaf (addLeaf s pn n1) po n2)) = ⟨s.nodes ++ [n1, n2, ln], s.edges ++ [⟨pn.ref, n1.ref, .connects⟩,
            ⟨po.ref, n2.ref, .connects⟩, ⟨ln.ref, n1.ref, .connects⟩, ⟨ln.ref, n2.ref, .connects⟩]⟩ := by
        rw [linkEdges_pair hlt' (by simp), hr1, hr2]
        simp [pushNode, addLeaf, grow, List.append_assoc]
      rw [hst]
      refine hok pn po n1 n2 ln ⟨hpm, hpi, hpo_old, hpoi, hc1, (Option.some.inj ht1).symm, hn1, hc2, (Option.some.inj ht2).symm, hn2,
        hcl, (Option.some.inj hlt).symm, hil', fun m hm => ⟨?_, ?_, ?_⟩⟩
      · rw [← hn1]; exact hfr1 m hm
      · rw [← hn2]; exact hfr2' m hm
      · rw [← hil']; exact hfl m (by simp [addLeaf, hm])

end FimVerif.Topo
