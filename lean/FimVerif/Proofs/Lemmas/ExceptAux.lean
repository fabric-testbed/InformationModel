/-! `Except ε` for any error type: what a successful bind or map tells, and `foldlM` / `mapM` over a list.  Imports nothing. -/
namespace Except
variable {ε α β : Type}

theorem bind_eq_ok_iff {m : Except ε α} {f : α → Except ε β} {b : β} : (m >>= f) = .ok b ↔ ∃ a, m = .ok a ∧ f a = .ok b := by
  cases m <;> simp [bind, Except.bind]

theorem map_eq_ok_iff {m : Except ε α} {f : α → β} {b : β} : m.map f = .ok b ↔ ∃ a, m = .ok a ∧ f a = b := by
  cases m <;> simp [Except.map]

end Except

namespace List

theorem mapM_ok_of_forall {ε α β : Type} {f : α → Except ε β} (g : α → β) {l : List α}
    (h : ∀ a ∈ l, f a = .ok (g a)) : l.mapM f = .ok (l.map g) := by
  induction l with
  | nil => rfl
  | cons a l ih =>
    have ha := h a (by simp)
    have hl := ih (fun b hb => h b (by simp [hb]))
    simp [List.mapM_cons, ha, hl, bind, Except.bind, pure, Except.pure]

theorem foldlM_ok_all {ε α β : Type} {f : β → α → Except ε β} {l : List α} {a r : β}
    (h : l.foldlM f a = .ok r) : ∀ x ∈ l, ∃ b b', f b x = .ok b' := by
  induction l generalizing a with
  | nil => simp
  | cons y l ih =>
    rw [List.foldlM_cons] at h
    cases hy : f a y with
    | error e => simp [hy, bind, Except.bind] at h
    | ok b =>
      simp only [hy, bind, Except.bind] at h
      intro x hx
      rcases List.mem_cons.mp hx with rfl | hx
      · exact ⟨a, b, hy⟩
      · exact ih h x hx

theorem foldlM_congr {ε α β : Type} (f g : β → α → Except ε β) (l : List α) (b : β)
    (h : ∀ b, ∀ a ∈ l, f b a = g b a) : l.foldlM f b = l.foldlM g b := by
  induction l generalizing b with
  | nil => rfl
  | cons a l ih =>
    rw [List.foldlM_cons, List.foldlM_cons, h b a (by simp)]
    cases g b a with
    | error e => rfl
    | ok b' => exact ih b' (fun b x hx => h b x (by simp [hx]))

theorem foldlM_flatMap {ε α β γ : Type} (f : α → List β) (g : γ → β → Except ε γ) (l : List α) (c : γ) :
    (l.flatMap f).foldlM g c = l.foldlM (fun c a => (f a).foldlM g c) c := by
  induction l generalizing c with
  | nil => rfl
  | cons a l ih =>
    rw [List.flatMap_cons, List.foldlM_append, List.foldlM_cons]
    cases (f a).foldlM g c with
    | error e => rfl
    | ok c' => exact ih c'

end List
