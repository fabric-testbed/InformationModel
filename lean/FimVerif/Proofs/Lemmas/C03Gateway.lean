import FimVerif.Proofs.Lemmas.C03Class
/-! Gateway: what `Gateway.__init__` keeps of a `Labels` value is `defaults` with two or three fields assigned (`gwPick`): the
address pair it selects (`GwPair`) and the mac if set.  The constructor returns exactly that (`gatewayNew_pair`, `gatewayNew_some`). -/
namespace FimVerif.C03
open FimVerif FimVerif.Codec JVal
open Gen.Fields

theorem labels_nodup : (names labels).Nodup := (specs_sane labels (by simp [Gen.Fields.all])).1

theorem labels_dflt : ∀ f ∈ labels.fields, f.dflt = JVal.null := by decide +kernel

theorem labels_defaults (k : String) : defaults labels k = .null := by
  by_cases hk : k ∈ names labels
  · obtain ⟨f, hf, rfl⟩ := List.mem_map.1 hk
    exact (dfltOf_field labels labels_nodup f hf).trans (labels_dflt f hf)
  · exact dfltOf_not_mem labels k hk

def gwPick (a b : String) (l : Fields) : Fields :=
  let g := setF (setF (defaults labels) a (l a)) b (l b)
  if isSet (l "mac") then setF g "mac" (l "mac") else g

theorem labels_field_set (valid) (l : Fields) (hl : WellTyped labels valid l) (a : String)
    (ha : a ∈ names labels) (hs : isSet (l a) = true) :
    inDomain labels.guard (l a) = true ∧ valid a (l a) = true := by
  obtain ⟨f, hf, rfl⟩ := List.mem_map.1 ha
  rcases hl.1 f hf with ⟨he, _⟩ | h
  · rw [he, labels_dflt f hf] at hs; cases hs
  · exact h

theorem gwPick_wellTyped (valid) (a b : String) (l : Fields) (hl : WellTyped labels valid l)
    (ha : a ∈ names labels) (hb : b ∈ names labels)
    (hsa : isSet (l a) = true) (hsb : isSet (l b) = true) : WellTyped labels valid (gwPick a b l) := by
  have w0 := wellTyped_defaults labels valid labels_nodup (fun f hf => by rw [labels_dflt f hf]; rfl)
  have w1 := wellTyped_setF labels valid _ w0 a (l a) ha (labels_field_set valid l hl a ha hsa)
  have w2 := wellTyped_setF labels valid _ w1 b (l b) hb (labels_field_set valid l hl b hb hsb)
  unfold gwPick
  split
  · rename_i hm
    exact wellTyped_setF labels valid _ w2 "mac" (l "mac") (by decide) (labels_field_set valid l hl "mac" (by decide) hm)
  · exact w2

theorem gwPick_apply (a b : String) (l : Fields) (ham : a ≠ "mac") (hbm : b ≠ "mac") (k : String) :
    gwPick a b l k = if k = "mac" then l "mac" else if k = b then l b else if k = a then l a else .null := by
  have hmac : isSet (l "mac") = false → l "mac" = .null := by
    cases l "mac" <;> simp [isSet, isNull]
  unfold gwPick
  by_cases hk : k = "mac"
  · subst hk
    cases hm : isSet (l "mac")
    · simp [setF, ham.symm, hbm.symm, labels_defaults, hmac hm]
    · simp [setF]
  · cases hm : isSet (l "mac") <;> simp [setF, hk, labels_defaults]

theorem gwPick_values (a b : String) (l : Fields) (hab : a ≠ b) (ham : a ≠ "mac") (hbm : b ≠ "mac") :
    gwPick a b l a = l a ∧ gwPick a b l b = l b ∧
    (∀ k, k ≠ a → k ≠ b → k ≠ "mac" → gwPick a b l k = .null) := by
  refine ⟨?_, ?_, fun k h1 h2 h3 => ?_⟩ <;> simp [gwPick_apply a b l ham hbm, *]

theorem gwPick_idem (a b : String) (l : Fields) (hab : a ≠ b) (ham : a ≠ "mac") (hbm : b ≠ "mac") :
    gwPick a b (gwPick a b l) = gwPick a b l := by
  funext k
  simp only [gwPick_apply a b _ ham hbm]
  simp [ham, hbm, hab]

/-- the address pair `Gateway.__init__` keeps: the IPv4 pair, or the IPv6 pair when the IPv4 pair is not complete -/
inductive GwPair (l : Fields) : String → String → Prop
  | v4 : GwPair l "ipv4_subnet" "ipv4"
  | v6 (h : (isSet (l "ipv4_subnet") && isSet (l "ipv4")) = false) : GwPair l "ipv6_subnet" "ipv6"

theorem GwPair.names {l : Fields} {a b : String} (h : GwPair l a b) :
    a ∈ names labels ∧ b ∈ names labels ∧ a ≠ b ∧ a ≠ "mac" ∧ b ≠ "mac" := by
  cases h <;> decide

theorem gatewayNew_pair (valid) (l : Fields) (hl : WellTyped labels valid l) (a b : String) (hp : GwPair l a b)
    (hsa : isSet (l a) = true) (hsb : isSet (l b) = true) :
    gatewayNew labels valid (some l) = .ok (some (gwPick a b l)) := by
  obtain ⟨ha, hb, _⟩ := hp.names
  have keep : gwFinish l (construct labels valid [(a, l a), (b, l b)]) = .ok (some (gwPick a b l)) := by
    rw [construct_pair labels valid a b _ _ ha hb (labels_field_set valid l hl a ha hsa) (labels_field_set valid l hl b hb hsb)]
    unfold gwPick gwFinish
    cases hm : isSet (l "mac") <;> simp
  rw [← keep]
  cases hp with
  | v4 => simp only [gatewayNew, hsa, hsb, Bool.and_self, if_true]
  | v6 h4 => simp only [gatewayNew, h4, hsa, hsb, Bool.and_self, Bool.false_eq_true, if_false, if_true]

theorem gatewayNew_some (valid) (l g : Fields) (hl : WellTyped labels valid l)
    (hg : gatewayNew labels valid (some l) = .ok (some g)) :
    ∃ a b, GwPair l a b ∧ isSet (l a) = true ∧ isSet (l b) = true ∧ g = gwPick a b l := by
  have key : ∀ {a b}, GwPair l a b → (isSet (l a) && isSet (l b)) = true →
      isSet (l a) = true ∧ isSet (l b) = true ∧ g = gwPick a b l := by
    intro a b hp h
    obtain ⟨hsa, hsb⟩ := Bool.and_eq_true_iff.1 h
    rw [gatewayNew_pair valid l hl a b hp hsa hsb] at hg
    exact ⟨hsa, hsb, (Option.some.inj (Except.ok.inj hg)).symm⟩
  cases h4 : isSet (l "ipv4_subnet") && isSet (l "ipv4")
  · cases h6 : isSet (l "ipv6_subnet") && isSet (l "ipv6")
    · simp [gatewayNew, h4, h6, gwFinish] at hg
    · exact ⟨_, _, .v6 h4, key (.v6 h4) h6⟩
  · exact ⟨_, _, .v4, key .v4 h4⟩

end FimVerif.C03
