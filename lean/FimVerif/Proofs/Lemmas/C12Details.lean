import FimVerif.Model.DelegDet
import FimVerif.Proofs.Lemmas.C12Codec
import FimVerif.Proofs.C03
/-! The C03 round trip of `Capacities` / `Labels` discharges C12's hypothesis `DetOk` (`to_dict()` then `Cls(**d)`). -/
namespace FimVerif.C12
open FimVerif.Deleg FimVerif.Codec

theorem construct_kept (c : ClassSpec) (valid : String → CVal → Bool) (hn : (names c).Nodup) (x : Fields)
    (hx : WellTyped c valid x) :
    construct c valid (keptBy c.drop c x) = .ok (readBack c x) :=
  setFields_kept c valid false x hx _ (fun _ => Iff.rfl) ((kept_keys_sublist _ c x).nodup hn)

theorem toDict_some {c : ClassSpec} {x : Fields} {kvs : List (String × CVal)} (h : toDict c x = some kvs) :
    kvs = keptBy c.dictDrop c x := by
  simp only [toDict] at h
  split at h
  · cases h
  · exact (Option.some.inj h).symm

/-- **`Cls(**x.to_dict()) == x`** for every class whose text round trip is lossless (C03) and whose `to_dict` drops what
`to_json` drops: the dictionary form loses nothing either -/
theorem dict_roundtrip (c : ClassSpec) (valid : String → CVal → Bool) (hn : (names c).Nodup) (hdd : c.dictDrop = c.drop)
    (x : Fields) (hx : WellTyped c valid x) (hrt : RoundTrips c valid x) :
    (toDict c x = none → x = defaults c) ∧ (∀ kvs, toDict c x = some kvs → construct c valid kvs = .ok x) := by
  have hnl : C03.NoLoss c x := (C03.roundtrip_iff c valid hn x hx).mp hrt
  have hrb := (C03.readBack_eq_iff c valid hn x hx).2 hnl
  constructor
  · intro h
    have hk : keptBy c.drop c x = [] := by
      simp only [toDict, hdd] at h
      cases hkk : keptBy c.drop c x with
      | nil => rfl
      | cons a l => simp [hkk] at h
    rw [← hrb, readBack_kept_nil c x hk]
  · intro kvs h
    rw [toDict_some h, hdd, construct_kept c valid hn x hx, hrb]

theorem downL_upL_strs (xs : List CVal) (h : xs.all FimVerif.JVal.isStr = true) : downL (upL xs) = xs := by
  induction xs with
  | nil => simp [upL, downL]
  | cons a l ih =>
    simp only [List.all_cons, Bool.and_eq_true] at h
    obtain ⟨ha, hl⟩ := h
    cases a <;> simp [FimVerif.JVal.isStr] at ha
    simp [upL, downL, up, down, ih hl]

theorem down_up_inDomain (ty : DType) (v : CVal) (h : inDomain (specOf ty).guard v = true) : down (up v) = v := by
  -- a fact of the generated table `Gen.Fields` (as `hk`, `hdd` below): the two classes guard by these two domains
  have hg : (specOf ty).guard = .natOrNone ∨ (specOf ty).guard = .strOrStrList := by
    cases ty
    · exact Or.inl (by decide)
    · exact Or.inr (by decide)
  rcases hg with hg | hg <;> rw [hg] at h <;> cases v <;> simp [inDomain] at h <;> simp [up, down]
  exact downL_upL_strs _ (by simpa using h)

theorem downK_upK (kvs : List (String × CVal)) (h : ∀ p ∈ kvs, down (up p.2) = p.2) : downK (upK kvs) = kvs := by
  induction kvs with
  | nil => simp [upK, downK]
  | cons a l ih =>
    obtain ⟨k, v⟩ := a
    simp only [upK, downK, h (k, v) (by simp), ih (fun p hp => h p (by simp [hp]))]

/-- a details object of the property's quantifier: the right class, every field at its default or at a value of the
documented domain that the label validators accept (`Codec.WellTyped`, C03's quantifier), and not the empty object -/
structure RealDetails (valid : String → CVal → Bool) (ty : DType) (x : CDet) : Prop where
  kind : x.kind = ty
  wellTyped : WellTyped (specOf ty) (validFor valid ty) x.fields
  notEmpty : x.fields ≠ defaults (specOf ty)

theorem specOf_mem (ty : DType) : specOf ty ∈ Gen.Fields.all := by
  cases ty
  · exact List.mem_cons_self
  · exact List.mem_cons_of_mem _ (List.mem_cons_of_mem _ List.mem_cons_self)

theorem real_defaults_wellTyped (valid : String → CVal → Bool) (ty : DType) :
    WellTyped (specOf ty) (validFor valid ty) (defaults (specOf ty)) := by
  obtain ⟨hn, _, hd⟩ := C03.specs_sane _ (specOf_mem ty)
  have hk : ((specOf ty).drop == .keepAll) = false := by cases ty <;> rfl
  rw [C03.DefaultsDropped, hk, Bool.false_or] at hd
  exact C03.wellTyped_defaults _ _ hn (List.all_eq_true.mp hd)

theorem detOk_real (valid : String → CVal → Bool) (ty : DType) (x : CDet) (h : RealDetails valid ty x) :
    DetOk (cOps valid) ty (some x) := by
  obtain ⟨ty', f⟩ := x
  obtain ⟨hk, hx, hne⟩ := h
  simp only at hk hx hne
  subst hk
  have hn := (C03.specs_sane _ (specOf_mem ty')).1
  have hdd : (specOf ty').dictDrop = (specOf ty').drop := by cases ty' <;> rfl
  obtain ⟨h0, h1⟩ := dict_roundtrip (specOf ty') (validFor valid ty') hn hdd f hx (C03.all_classes_lossless _ (specOf_mem ty') _ f hx)
  refine ⟨rfl, ?_⟩
  show match cToDict ⟨ty', f⟩ with | none => False | some j => cFromDict valid ty' j = .ok ⟨ty', f⟩
  cases hd : toDict (specOf ty') f with
  | none => exact absurd (h0 hd) hne
  | some kvs =>
    have hdu : downK (upK kvs) = kvs := by
      apply downK_upK
      rintro ⟨k, v⟩ hp
      rw [toDict_some hd, hdd] at hp
      obtain ⟨fs, hf, hdr, rfl, rfl⟩ := (kept_mem _ _ f _ _).1 hp
      rcases hx.1 fs hf with ⟨he, hdf⟩ | ⟨hdom, _⟩
      · rw [he, hdf] at hdr; cases hdr
      · exact down_up_inDomain ty' _ hdom
    simp only [cToDict, hd, cFromDict, hdu, h1 kvs hd]

theorem detOk_of_real {valid : String → CVal → Bool} {ty : DType} {o : Option CDet}
    (h : ∃ x, o = some x ∧ RealDetails valid ty x) : DetOk (cOps valid) ty o :=
  let ⟨x, hx, hr⟩ := h; hx ▸ detOk_real valid ty x hr

end FimVerif.C12
