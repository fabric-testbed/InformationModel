import FimVerif.Model.CbmStore
import FimVerif.Proofs.Lemmas.ListAux
/-! C14: frame lemmas on the shared store - a broker call only touches the graphs it addresses. With unique keys what graph `g` sees is
a function of its own nodes and of the edges between their keys (`view_frame`). A primitive of the store that is not addressed to `g`
rewrites nodes of other graphs in place (`Rel`), drops nodes of other graphs with the edges at them (`frame_filter`), or adds nodes of
another graph under fresh keys (`frame_appendFresh`); the interpreters of the plans compose such steps (`Frames`). -/
namespace FimVerif.Cbm

structure Store.KeysOK (s : Store) : Prop where
  nodup : (s.nodes.map (·.key)).Nodup
  below : ∀ n ∈ s.nodes, n.key < s.next

/-- the edge `e` as seen through the nodes `ns` of one graph -/
def viewEdgeN (ns : List SNode) (e : SEdge) : Option Edge :=
  match ns.find? (fun n => n.key == e.ka), ns.find? (fun n => n.key == e.kb) with
  | some x, some y => some ⟨x.n.id, y.n.id, e.props⟩
  | _, _ => none

theorem find?_nodesOf {s : Store} (hk : s.KeysOK) (g : String) (k : Nat) :
    (s.nodesOf g).find? (fun n => n.key == k) = (s.find k).filter (fun n => n.gid == g) := by
  unfold Store.nodesOf Store.find
  cases hf : s.nodes.find? (fun n => n.key == k) with
  | none => exact List.find?_eq_none.mpr fun y hy => List.find?_eq_none.mp hf y (List.mem_filter.mp hy).1
  | some x =>
    obtain rfl : x.key = k := by simpa using List.find?_some hf
    rw [← List.head?_filter, List.filter_filter,
      show (fun a : SNode => a.key == x.key && a.gid == g) = (fun a => a.gid == g && a.key == x.key) from funext fun a => Bool.and_comm _ _,
      ← List.filter_filter, List.filter_eq_singleton_of_nodup_map (·.key) hk.nodup (List.mem_of_find?_eq_some hf)]
    cases hg : (x.gid == g) <;> simp [Option.filter, hg]

theorem viewEdge_eq {s : Store} (hk : s.KeysOK) (g : String) (e : SEdge) : s.viewEdge g e = viewEdgeN (s.nodesOf g) e := by
  unfold Store.viewEdge viewEdgeN
  rw [find?_nodesOf hk, find?_nodesOf hk]
  cases s.find e.ka with
  | none => rfl
  | some x =>
    cases s.find e.kb with
    | none => cases hx : (x.gid == g) <;> simp [Option.filter, hx]
    | some y => cases hx : (x.gid == g) <;> cases hy : (y.gid == g) <;> simp [Option.filter, hx, hy]

theorem view_frame {s s' : Store} {g : String} (hk : s.KeysOK) (hk' : s'.KeysOK) (hn : s'.nodesOf g = s.nodesOf g)
    (he : s'.edges.filterMap (viewEdgeN (s.nodesOf g)) = s.edges.filterMap (viewEdgeN (s.nodesOf g))) :
    s'.view g = s.view g ∧ s'.KeysOK := by
  refine ⟨?_, hk'⟩
  unfold Store.view
  rw [funext (viewEdge_eq hk' g), funext (viewEdge_eq hk g), hn, he]

/-- `s'` is `s` as far as graph `g` can see (and its keys are still in order) -/
def Frames (g : String) (s s' : Store) : Prop := s.KeysOK → s'.view g = s.view g ∧ s'.KeysOK

theorem Frames.refl {g : String} {s : Store} : Frames g s s := fun hk => ⟨rfl, hk⟩

theorem Frames.trans {g : String} {s s' s'' : Store} (h1 : Frames g s s') (h2 : Frames g s' s'') : Frames g s s'' := fun hk =>
  ⟨((h2 (h1 hk).2).1).trans (h1 hk).1, (h2 (h1 hk).2).2⟩

/-- how the interpreters go on: a step that frames `g`, then - unless it raised - a continuation that frames `g` -/
theorem Frames.seq {g : String} {s : Store} {r : Option Err × Store} (h1 : Frames g s r.2) {k : Store → Option Err × Store}
    (h2 : ∀ s', Frames g s' (k s').2) : Frames g s (match r with | (none, s') => k s' | r => r).2 := by
  split
  · exact h1.trans (h2 _)
  · exact h1

/-- the same for a primitive that returns the new store or raises leaving the old one -/
theorem Frames.seqE {g : String} {s : Store} {r : Except Err Store} (h1 : ∀ s', r = .ok s' → Frames g s s')
    {k : Store → Option Err × Store} (h2 : ∀ s', Frames g s' (k s').2) :
    Frames g s (match r with | .error x => (some x, s) | .ok s' => k s').2 := by
  split
  · exact .refl
  · exact (h1 _ rfl).trans (h2 _)

inductive Rel (g : String) : List SNode → List SNode → Prop
  | nil : Rel g [] []
  | cons {x x' : SNode} {l l' : List SNode} : x'.key = x.key → (x'.gid == g) = (x.gid == g) → ((x.gid == g) = true → x' = x) →
      Rel g l l' → Rel g (x :: l) (x' :: l')

theorem Rel.refl (g : String) : ∀ l, Rel g l l
  | [] => .nil
  | _ :: l => .cons rfl rfl (fun _ => rfl) (Rel.refl g l)

theorem Rel.filter {g : String} {l l' : List SNode} (h : Rel g l l') :
    l'.filter (fun n => n.gid == g) = l.filter (fun n => n.gid == g) := by
  induction h with
  | nil => rfl
  | cons hk hg he _ ih =>
    rw [List.filter_cons, List.filter_cons, hg]
    split
    · rename_i hx; rw [he hx, ih]
    · exact ih

theorem Rel.keys {g : String} {l l' : List SNode} (h : Rel g l l') : l'.map (·.key) = l.map (·.key) := by
  induction h with
  | nil => rfl
  | cons hk _ _ _ ih => simp [hk, ih]

theorem Store.KeysOK.of_sublist {s : Store} (hk : s.KeysOK) {ns : List SNode} (h : (ns.map (·.key)).Sublist (s.nodes.map (·.key)))
    (es : List SEdge) : ({ s with nodes := ns, edges := es } : Store).KeysOK :=
  ⟨h.nodup hk.nodup, fun n hn => by
    obtain ⟨m, hm, e⟩ := List.mem_map.mp (h.subset (List.mem_map_of_mem hn))
    exact e ▸ hk.below m hm⟩

theorem frames_of_rel {s : Store} {g : String} {ns : List SNode} (h : Rel g s.nodes ns) : Frames g s { s with nodes := ns } :=
  fun hk => view_frame hk (hk.of_sublist (h.keys ▸ .refl _) _) h.filter rfl

theorem Rel.map_if {g : String} (c : SNode → Bool) (u : SNode → SNode) (hk : ∀ x, (u x).key = x.key)
    (hout : ∀ x, c x = true → g ≠ x.gid ∧ g ≠ (u x).gid) : ∀ l, Rel g l (l.map fun x => if c x then u x else x)
  | [] => .nil
  | x :: l => by
    rw [List.map_cons]
    split
    · rename_i hx
      exact .cons (hk x) (by rw [beq_false_of_ne (hout x hx).1.symm, beq_false_of_ne (hout x hx).2.symm])
        (fun h => absurd (eq_of_beq h).symm (hout x hx).1) (Rel.map_if c u hk hout l)
    · exact .cons rfl rfl (fun _ => rfl) (Rel.map_if c u hk hout l)

theorem rewriteFrom_rel {g h : String} (hne : g ≠ h) (aid : String) : ∀ ns, Rel g ns (rewriteFrom h aid ns).2
  | [] => .nil
  | n :: ns => by
    unfold rewriteFrom
    split
    · rename_i hn
      split
      · exact Rel.refl g _
      · refine .cons rfl rfl ?_ (rewriteFrom_rel hne aid ns)
        intro hx
        have e1 : n.gid = h := by simpa using hn
        have e2 : n.gid = g := by simpa using hx
        exact absurd (e2.symm.trans e1) hne
    · exact .cons rfl rfl (fun _ => rfl) (rewriteFrom_rel hne aid ns)

theorem find?_nodesOf_none {s : Store} (hk : s.KeysOK) {g h : String} (hne : g ≠ h) {x : SNode} (hx : x ∈ s.nodes) (hg : x.gid = h) :
    (s.nodesOf g).find? (fun n => n.key == x.key) = none := by
  rw [find?_nodesOf hk, Store.find, List.find?_key_of_nodup (·.key) hk.nodup hx, Option.filter_some, hg, beq_false_of_ne (Ne.symm hne)]
  rfl

theorem filterMap_filter_none {α β : Type} {f : α → Option β} {p : α → Bool} {l : List α} (h : ∀ e ∈ l, p e = false → f e = none) :
    (l.filter p).filterMap f = l.filterMap f := by
  rw [List.filterMap_filter]
  refine List.filterMap_congr' fun e he => ?_
  cases hp : p e with
  | true => rfl
  | false => exact (h e he hp).symm

theorem findNode_foreign {s : Store} (hk : s.KeysOK) {g h i : String} (hne : g ≠ h) {x : SNode} (hf : s.findNode h i = some x) :
    (s.nodesOf g).find? (fun n => n.key == x.key) = none := by
  have := List.find?_some hf
  simp only [Bool.and_eq_true, beq_iff_eq] at this
  exact find?_nodesOf_none hk hne (List.mem_of_find?_eq_some hf) this.1

theorem viewEdgeN_none_of_end {ns : List SNode} {k : Nat} (h : ns.find? (fun n => n.key == k) = none) {e : SEdge}
    (ht : e.ka = k ∨ e.kb = k) : viewEdgeN ns e = none := by
  unfold viewEdgeN
  rcases ht with h1 | h1
  · rw [h1, h]
  · rw [h1, h]; cases ns.find? (fun n => n.key == e.ka) <;> rfl

theorem frame_filter {s : Store} {g : String} {p : SNode → Bool} {es : List SEdge}
    (hp : ∀ x ∈ s.nodes, (x.gid == g) = true → p x = true)
    (he : es.filterMap (viewEdgeN (s.nodesOf g)) = s.edges.filterMap (viewEdgeN (s.nodesOf g))) :
    Frames g s { s with nodes := s.nodes.filter p, edges := es } := fun hk =>
  view_frame hk (hk.of_sublist (List.filter_sublist.map _) _) (List.filter_filter_of_imp _ p s.nodes hp) he

/-- `extra`: edges put in at the same time that `g` does not see either (`contract` re-attaches the deleted node's edges at the
surviving node) -/
theorem frame_delKey {s : Store} {g : String} {k : Nat} (h : (s.nodesOf g).find? (fun n => n.key == k) = none)
    (extra : List SEdge) (hx : ∀ e ∈ extra, viewEdgeN (s.nodesOf g) e = none) :
    Frames g s { s with nodes := s.nodes.filter (fun n => n.key != k), edges := s.edges.filter (fun e => !e.touches k) ++ extra } :=
  frame_filter (fun x hx hg => by simpa using List.find?_eq_none.mp h x (List.mem_filter.mpr ⟨hx, hg⟩)) (by
    rw [List.filterMap_append, List.filterMap_eq_nil_iff.mpr hx, List.append_nil]
    exact filterMap_filter_none fun e _ hp => viewEdgeN_none_of_end h (by simpa [SEdge.touches, -Bool.not_or] using hp))

theorem frame_delNode {s : Store} {g h : String} (hne : g ≠ h) (i : String) : Frames g s (s.delNode h i) := by
  intro hk
  unfold Store.delNode
  cases hf : s.findNode h i with
  | none => exact ⟨rfl, hk⟩
  | some x =>
    simpa [Store.delKey] using frame_delKey (findNode_foreign hk hne hf) [] (fun _ h => nomatch h) hk

theorem contractAdd_ka {u v : Nat} {rest : List SEdge} : ∀ (mine acc : List SEdge),
    (∀ e ∈ acc, e.ka = u) → ∀ e ∈ contractAdd u v rest acc mine, e.ka = u
  | [], acc, h => by simpa [contractAdd] using h
  | m :: mine, acc, h => by
    unfold contractAdd
    split
    · exact contractAdd_ka mine acc h
    · apply contractAdd_ka mine
      intro e he
      rcases List.mem_append.mp he with h1 | h1
      · exact h e h1
      · simp at h1; rw [h1]

theorem frame_contract {s : Store} {g h other : String} (hne : g ≠ h) (hno : g ≠ other) (i : String) :
    Frames g s (s.contract h other i) := by
  intro hk
  unfold Store.contract
  cases hu : s.findNode h i with
  | none => exact ⟨rfl, hk⟩
  | some u =>
    cases hv : s.findNode other i with
    | none => exact ⟨rfl, hk⟩
    | some v =>
      exact frame_delKey (findNode_foreign hk hno hv) _ (fun e he => viewEdgeN_none_of_end (findNode_foreign hk hne hu)
        (.inl (contractAdd_ka _ [] (fun _ h => nomatch h) e he))) hk

theorem frame_delGraph {s : Store} {g h : String} (hne : g ≠ h) : Frames g s (s.delGraph h) := by
  intro hk
  refine frame_filter (fun x _ hg => by rw [eq_of_beq hg]; simpa using hne) (filterMap_filter_none fun e _ hp => ?_) hk
  -- an end of `e` is the key of a node of `h`, which `g` does not see
  simp only [Bool.and_eq_false_iff, Bool.not_eq_false', List.contains_iff_mem, Store.nodesOf, List.mem_map, List.mem_filter] at hp
  rcases hp with ⟨x, ⟨hx, hxg⟩, hxk⟩ | ⟨x, ⟨hx, hxg⟩, hxk⟩
  · exact viewEdgeN_none_of_end (find?_nodesOf_none hk hne hx (eq_of_beq hxg)) (.inl hxk.symm)
  · exact viewEdgeN_none_of_end (find?_nodesOf_none hk hne hx (eq_of_beq hxg)) (.inr hxk.symm)

theorem frame_appendFresh {s : Store} {g : String} {new : List SNode} {es : List SEdge} {n : Nat}
    (hk' : s.KeysOK → ({ nodes := s.nodes ++ new, edges := s.edges ++ es, next := n } : Store).KeysOK)
    (hg : ∀ x ∈ new, g ≠ x.gid) (hfresh : ∀ e ∈ es, s.next ≤ e.ka) :
    Frames g s { nodes := s.nodes ++ new, edges := s.edges ++ es, next := n } := by
  intro hk
  refine view_frame hk (hk' hk) ?_ ?_
  · show (s.nodes ++ new).filter _ = s.nodes.filter _
    exact List.filter_append_right_nil fun x hx => by simp [(hg x hx).symm]
  · show (s.edges ++ es).filterMap _ = _
    rw [List.filterMap_append, List.append_right_eq_self, List.filterMap_eq_nil_iff]
    intro e he
    have : (s.nodesOf g).find? (fun n => n.key == e.ka) = none :=
      List.find?_eq_none.mpr fun x hx hxe => by
        have h1 := hk.below x (List.mem_filter.mp hx).1
        have h2 := hfresh e he
        have : x.key = e.ka := by simpa using hxe
        omega
    exact viewEdgeN_none_of_end this (.inl rfl)

/-- `add_graph`: new nodes get the keys `next + position`, positions taken in a duplicate-free list of tags -/
theorem keysOK_append {s : Store} (hk : s.KeysOK) {α β : Type} [BEq β] [LawfulBEq β] (src : List α) (tag : α → β)
    (htag : (src.map tag).Nodup) (mk : α → SNode) (hmk : ∀ x, (mk x).key = s.next + (src.map tag).idxOf (tag x))
    {es : List SEdge} : ({ nodes := s.nodes ++ src.map mk, edges := es, next := s.next + src.length } : Store).KeysOK := by
  have hlt : ∀ x ∈ src, (src.map tag).idxOf (tag x) < src.length := fun x hx => by
    have := List.idxOf_lt_length_of_mem (List.mem_map.mpr ⟨x, hx, rfl⟩ : tag x ∈ src.map tag)
    rwa [List.length_map] at this
  refine ⟨?_, ?_⟩
  · rw [List.map_append, List.map_map]
    refine List.nodup_append.mpr ⟨hk.nodup, ?_, ?_⟩
    · apply List.pairwise_map.mpr
      refine List.Pairwise.imp_of_mem ?_ (List.pairwise_map.mp htag)
      intro a b ha hb hab heq
      simp only [Function.comp_apply, hmk] at heq
      exact hab (List.idxOf_inj (List.mem_map.mpr ⟨a, ha, rfl⟩) (by omega))
    · intro a ha b hb hab
      obtain ⟨x, hx, rfl⟩ := List.mem_map.mp ha
      obtain ⟨y, hy, rfl⟩ := List.mem_map.mp hb
      have := hk.below x hx
      simp only [Function.comp_apply, hmk] at hab
      omega
  · intro n hn
    rcases List.mem_append.mp hn with h | h
    · have := hk.below n h
      show n.key < s.next + src.length
      omega
    · obtain ⟨x, hx, rfl⟩ := List.mem_map.mp h
      have := hlt x hx
      show (mk x).key < s.next + src.length
      rw [hmk]
      omega

theorem frame_clone {s s' : Store} {g src dst : String} (hne : g ≠ dst) (h : s.clone src dst = .ok s') : Frames g s s' := by
  intro hk
  unfold Store.clone at h
  simp only at h
  split at h
  · cases h
  · injection h with h
    subst h
    have h0 : Frames g s (if s.graphExists dst = true then s.delGraph dst else s) := by
      split
      · exact frame_delGraph hne
      · exact .refl
    generalize (if s.graphExists dst = true then s.delGraph dst else s) = s0 at h0 ⊢
    have hsrc : ((s.nodesOf src).map (·.key)).Nodup := (List.filter_sublist.map _).nodup hk.nodup
    refine (h0.trans (frame_appendFresh (fun hk0 => keysOK_append hk0 (s.nodesOf src) (·.key) hsrc
      (fun n => { n with key := s0.next + ((s.nodesOf src).map (·.key)).idxOf n.key, gid := dst }) (fun _ => rfl)) ?_ ?_)) hk
    · intro x hx
      obtain ⟨y, _, rfl⟩ := List.mem_map.mp hx
      exact hne
    · intro e he
      obtain ⟨f, _, rfl⟩ := List.mem_map.mp he
      simp only
      omega

theorem frame_rehome {s s' : Store} {g h to : String} (hne : g ≠ h) (hto : g ≠ to) (hr : s.rehome h to = .ok s') :
    Frames g s s' := by
  unfold Store.rehome at hr
  split at hr
  · injection hr with hr
    subst hr
    exact frames_of_rel (Rel.map_if (fun n => n.gid == h) (fun n => { n with gid := to }) (fun _ => rfl)
      (fun x hx => by rw [eq_of_beq hx]; exact ⟨hne, hto⟩) s.nodes)
  · cases hr

theorem frame_updNode {s : Store} {g h : String} (hne : g ≠ h) (i : String) (f : Node → Node) : Frames g s (s.updNode h i f) :=
  frames_of_rel (Rel.map_if (fun n => n.gid == h && n.n.id == i) (fun n => { n with n := f n.n }) (fun _ => rfl)
    (fun x hx => by rw [eq_of_beq (Bool.and_eq_true_iff.mp hx).1]; exact ⟨hne, hne⟩) s.nodes)

theorem frame_mapGraph {s : Store} {g h : String} (hne : g ≠ h) (f : Node → Node) : Frames g s (s.mapGraph h f) :=
  frames_of_rel (Rel.map_if (fun n => n.gid == h) (fun n => { n with n := f n.n }) (fun _ => rfl)
    (fun x hx => by rw [eq_of_beq hx]; exact ⟨hne, hne⟩) s.nodes)

/-- the call is not addressed to graph `g` -/
def LStep.avoids (e : Env) (g : String) : LStep → Prop
  | .updateDelegations on _ => g ≠ e.get on
  | .mergeNodes on other => g ≠ e.get on ∧ g ≠ e.get other
  | .appendProvenance on _ => g ≠ e.get on

def MStep.avoids (e : Env) (g : String) : MStep → Prop
  | .clone _ dst => g ≠ e.get dst
  | .rewriteDelegations h _ => g ≠ e.get h
  | .setProvenance h _ => g ≠ e.get h
  | .rehome h to => g ≠ e.get h ∧ g ≠ e.get to
  | .forCommon _ _ body => ∀ st ∈ body, st.avoids e g

def RStep.avoids (e : Env) (g : String) : RStep → Prop
  | .deleteGraph h => g ≠ e.get h
  | .assertExists _ => True
  | .rehome h to => g ≠ e.get h ∧ g ≠ e.get to

theorem execL_frame {e : Env} {g : String} (i : String) (s : Store) {st : LStep} (ha : st.avoids e g) :
    Frames g s (execL e i s st).2 := by
  cases st with
  | updateDelegations on frm =>
    simp only [execL]
    split
    · split
      · exact .refl
      · exact frame_updNode ha i _
    · exact .refl
  | mergeNodes on other =>
    simp only [execL]
    split
    · exact frame_contract ha.1 ha.2 i
    · exact .refl
  | appendProvenance on by_ =>
    simp only [execL]
    split
    · exact frame_updNode ha i _
    · exact .refl

theorem execBody_frame {e : Env} {g : String} (i : String) (body : List LStep) (ha : ∀ st ∈ body, st.avoids e g) (s : Store) :
    Frames g s (execBody e i s body).2 := by
  induction body generalizing s with
  | nil => exact .refl
  | cons st rest ih =>
    unfold execBody
    exact (execL_frame i s (ha st List.mem_cons_self)).seq (ih fun x hx => ha x (List.mem_cons_of_mem _ hx))

theorem execLoop_frame {e : Env} {g : String} (body : List LStep) (ha : ∀ st ∈ body, st.avoids e g) (is : List String) (s : Store) :
    Frames g s (execLoop e body s is).2 := by
  induction is generalizing s with
  | nil => exact .refl
  | cons i is ih =>
    unfold execLoop
    exact (execBody_frame i body ha s).seq ih

theorem execM_frame {e : Env} {g : String} {order : List String} {plan : List MStep} (ha : ∀ st ∈ plan, st.avoids e g) (s : Store) :
    Frames g s (execM e order s plan).2 := by
  induction plan generalizing s with
  | nil => exact .refl
  | cons st rest ih =>
    have ih := ih fun x hx => ha x (List.mem_cons_of_mem _ hx)
    have hst := ha st List.mem_cons_self
    unfold execM
    cases st with
    | clone src dst => exact Frames.seqE (fun _ => frame_clone hst) ih
    | rewriteDelegations h real =>
      simp only
      have h1 := frames_of_rel (s := s) (rewriteFrom_rel (g := g) hst (e.get real) s.nodes)
      split
      · rename_i x ns hr
        rwa [hr] at h1
      · rename_i ns hr
        rw [hr] at h1
        exact h1.trans (ih _)
    | setProvenance h by_ => exact (frame_mapGraph hst _).trans (ih _)
    | rehome h to => exact Frames.seqE (fun _ => frame_rehome hst.1 hst.2) ih
    | forCommon a b body => exact (execLoop_frame body hst _ s).seq ih

theorem execR_frame {e : Env} {g : String} {plan : List RStep} (ha : ∀ st ∈ plan, st.avoids e g) (s : Store) :
    Frames g s (execR e s plan).2 := by
  induction plan generalizing s with
  | nil => exact .refl
  | cons st rest ih =>
    have ih := ih fun x hx => ha x (List.mem_cons_of_mem _ hx)
    have hst := ha st List.mem_cons_self
    unfold execR
    cases st with
    | deleteGraph h => exact (frame_delGraph hst).trans (ih _)
    | assertExists h =>
      simp only
      split
      · exact ih s
      · exact .refl
    | rehome h to => exact Frames.seqE (fun _ => frame_rehome hst.1 hst.2) ih

theorem unmergeLoop_frame (P : Plans) {g cbm : String} (hne : g ≠ cbm) (gid : String) (is dels : List String) (s : Store) :
    Frames g s (unmergeLoop P cbm gid s is dels).2.1 := by
  induction is generalizing dels s with
  | nil => exact .refl
  | cons i is ih =>
    unfold unmergeLoop
    split
    · exact .refl
    · split
      · exact frame_updNode hne i _
      · rename_i n' del _
        have h1 := frame_updNode (s := s) hne i (fun _ => n')
        split
        · split
          · exact h1.trans (ih _ _)
          · exact (h1.trans (frame_delNode hne i)).trans (ih _ _)
        · exact h1.trans (ih _ _)

/-- **`unmerge_adm` touches the combined model only** (whatever the plan) -/
theorem unmergeAdm_frame (P : Plans) {g cbm : String} (hne : g ≠ cbm) (gid : String) {s : Store} (hk : s.KeysOK) :
    (s.unmergeAdm P cbm gid).2.view g = s.view g ∧ (s.unmergeAdm P cbm gid).2.KeysOK := by
  unfold Store.unmergeAdm
  split
  · exact ⟨rfl, hk⟩
  · have h1 := unmergeLoop_frame P hne gid ((s.nodesOf cbm).map (·.n.id)) [] s
    split
    · rename_i e s' d hr
      rw [hr] at h1
      exact h1 hk
    · rename_i s' dels hr
      rw [hr] at h1
      exact List.foldl_invariant (Frames g s) h1 (fun _ ht i _ => ht.trans (frame_delNode hne i)) hk

/-- the calls of a plan address the combined model and the temporary graph only -/
def Plans.Safe (P : Plans) : Prop :=
  ∀ (e : Env) (g : String), g ≠ e.cbm → g ≠ e.tmp →
    (∀ st ∈ P.mergeEmpty, st.avoids e g) ∧ (∀ st ∈ P.mergeNonEmpty, st.avoids e g) ∧
    (∀ st ∈ P.snapshot, st.avoids e g) ∧ (∀ st ∈ P.rollback, st.avoids e g)

theorem modelPlans_safe : modelPlans.Safe := by
  intro e g hc ht
  simp only [modelPlans, List.mem_cons, List.not_mem_nil, or_false, forall_eq_or_imp, forall_eq, MStep.avoids, LStep.avoids,
    RStep.avoids, Env.get]
  simp [hc, ht]

/-- **`merge_adm` touches the combined model and its temporary graph only**, also when it raises half-way -/
theorem mergeAdm_frame {P : Plans} (hP : P.Safe) (e : Env) (order : List String) {s : Store} (hk : s.KeysOK) {g : String}
    (hc : g ≠ e.cbm) (ht : g ≠ e.tmp) :
    (s.mergeAdm P e order).2.view g = s.view g ∧ (s.mergeAdm P e order).2.KeysOK := by
  obtain ⟨h1, h2, _, _⟩ := hP e g hc ht
  unfold Store.mergeAdm
  split
  · exact ⟨rfl, hk⟩
  · split
    · exact execM_frame h2 s hk
    · exact execM_frame h1 s hk

theorem Store.empty_keysOK : Store.empty.KeysOK := ⟨by simp [Store.empty], by simp [Store.empty]⟩

theorem load_keysOK {s : Store} (hk : s.KeysOK) (a : Adm) (hn : a.g.ids.Nodup) : (s.load a).KeysOK := by
  unfold Store.load
  have h0 : (if s.graphExists a.id = true then s.delGraph a.id else s).KeysOK := by
    split
    · exact hk.of_sublist (List.filter_sublist.map _) _
    · exact hk
  exact keysOK_append h0 a.g.nodes (·.id) hn _ (fun _ => rfl)

/-- **Frame over all histories on the shared store**, calls that raise included, for every plan that is `Safe` -/
theorem srun_frame {P : Plans} (hP : P.Safe) (N : Names) {g : String} (hc : g ≠ N.cbm) (ht : ∀ n, g ≠ N.tmp n)
    (hs : ∀ k, g ≠ N.snap k) : ∀ (ops : List SOp) {w : SWorld}, w.s.KeysOK →
    (srun P N w ops).s.view g = w.s.view g ∧ (srun P N w ops).s.KeysOK
  | [], _, hk => ⟨rfl, hk⟩
  | op :: ops, w, hk => by
    have h1 : (sstep P N w op).2.s.view g = w.s.view g ∧ (sstep P N w op).2.s.KeysOK := by
      cases op with
      | merge adm order => exact mergeAdm_frame hP _ order hk hc (ht _)
      | unmerge gid => exact unmergeAdm_frame P hc gid hk
      | snapshot => exact execM_frame (hP ⟨N.cbm, N.snap w.next, N.cbm⟩ g hc (hs _)).2.2.1 _ hk
      | rollback k => exact execR_frame (hP ⟨N.cbm, N.snap k, N.cbm⟩ g hc (hs _)).2.2.2 _ hk
    have h2 := srun_frame hP N hc ht hs ops h1.2
    exact ⟨h2.1.trans h1.1, h2.2⟩

end FimVerif.Cbm
