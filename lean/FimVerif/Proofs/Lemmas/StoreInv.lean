import FimVerif.Model.ARef
import FimVerif.Proofs.Lemmas.StoreMergeProps
import FimVerif.Proofs.Lemmas.StoreEffect
import FimVerif.Proofs.Lemmas.ListAux
/-! C04/C05: the invariant `Store.Inv` and the vocabulary the later files share: lookups by internal id, the node list an import
    appends (`relabel`), what a successful `_find_node` found (`candS`, `IsNode`), the re-attachment of links by `merge_nodes`
    (`rm`, `addIfAbsent`).  `Inv` is preserved by each primitive transformer, hence by every effect of a call (`Effect.inv`) and
    along histories (`run_induction`). -/
namespace FimVerif.Store
open FimVerif FimVerif.Gen.StoreConsts

theorem nodeId_ne_graphId : nodeId ≠ graphId := by decide
theorem graphId_mem_noUnset : graphId ∈ noUnset := by decide
theorem nodeId_mem_noUnset : nodeId ∈ noUnset := by decide
/-- the model writes `nxLabel` where it reads the networkx label and `propClass` where it reads the `Class` property: one string -/
theorem nxLabel_eq : nxLabel = propClass := by decide

/-- C04 invariant of the shared store: internal ids pairwise distinct and below the allocator,
    every edge endpoint is a stored node. -/
def Inv (s : Store) : Prop :=
  (s.nodes.map (·.iid)).Nodup ∧ (∀ n ∈ s.nodes, n.iid < s.nextId) ∧
  (∀ e ∈ s.edges, idIn s.nodes e.a = true ∧ idIn s.nodes e.b = true)

theorem idIn_iff {ns : List SNode} {i : Nat} : idIn ns i = true ↔ ∃ n ∈ ns, n.iid = i := by
  simp [idIn]

theorem idIn_false_iff {ns : List SNode} {i : Nat} : idIn ns i = false ↔ ∀ n ∈ ns, n.iid ≠ i := by
  simp [idIn]

theorem mem_nodesOf {s : Store} {g : String} {n : SNode} : n ∈ nodesOf s g ↔ n ∈ s.nodes ∧ inG g n = true := List.mem_filter

theorem inG_of_ne {n : SNode} {g g' : String} (hg : inG g n = true) (hne : g' ≠ g) : inG g' n = false := by
  simp only [inG, beq_iff_eq] at hg
  simp [inG, hg, hne.symm]

theorem idIn_nodesOf (s : Store) (h : Inv s) (g : String) (m : SNode) (hm : m ∈ s.nodes) : idIn (nodesOf s g) m.iid = inG g m := by
  rw [Bool.eq_iff_iff, idIn_iff]
  constructor
  · rintro ⟨n, hn, e⟩
    rw [mem_nodesOf] at hn
    exact List.eq_of_nodup_map (·.iid) h.1 hn.1 hm e ▸ hn.2
  · exact fun hg => ⟨m, mem_nodesOf.2 ⟨hm, hg⟩, rfl⟩

theorem map_iid_updNodes (ns : List SNode) (c : SNode → Bool) (f : Props → Props) :
    (ns.map (fun n => if c n then { n with attrs := f n.attrs } else n)).map (·.iid) = ns.map (·.iid) := by
  rw [List.map_map]
  apply List.map_congr_left
  intro n _
  show (if c n = true then _ else n).iid = n.iid
  split <;> rfl

theorem idIn_eq (ns : List SNode) (i : Nat) : idIn ns i = (ns.map (·.iid)).any (· == i) := by
  rw [List.any_map]; rfl

theorem idIn_map_upd (ns : List SNode) (c : SNode → Bool) (f : Props → Props) (i : Nat) :
    idIn (ns.map (fun n => if c n then { n with attrs := f n.attrs } else n)) i = idIn ns i := by
  rw [idIn_eq, map_iid_updNodes, ← idIn_eq]

/-- what `updNode` (`updNode_eq`) and `updGraphNodes` (`updGraphNodes_eq`, by definition: the `*_updNodes` lemmas apply to
    `updGraphNodes g f s` as they stand) both are -/
def updNodes (c : SNode → Bool) (f : Props → Props) (s : Store) : Store :=
  { s with nodes := s.nodes.map (fun n => if c n then { n with attrs := f n.attrs } else n) }

theorem updNode_eq (i : Nat) (f : Props → Props) (s : Store) : updNode i f s = updNodes (fun n => decide (n.iid = i)) f s := by
  simp [updNode, updNodes]

theorem updGraphNodes_eq (g : String) (f : Props → Props) (s : Store) : updGraphNodes g f s = updNodes (inG g) f s := rfl

theorem inv_updNodes (s : Store) (c : SNode → Bool) (f : Props → Props) (h : Inv s) :
    Inv (updNodes c f s) := by
  unfold updNodes
  obtain ⟨h1, h2, h3⟩ := h
  refine ⟨?_, ?_, ?_⟩
  · have := map_iid_updNodes s.nodes c f
    simp only at this ⊢
    rw [this]; exact h1
  · intro n hn
    simp only [List.mem_map] at hn
    obtain ⟨m, hm, rfl⟩ := hn
    by_cases hc : c m <;> simp [hc] <;> exact h2 m hm
  · intro e he
    simpa [idIn_map_upd] using h3 e he

theorem inv_updNode (s : Store) (i : Nat) (f : Props → Props) (h : Inv s) : Inv (updNode i f s) :=
  updNode_eq i f s ▸ inv_updNodes s _ f h

theorem inv_updEdge (s : Store) (a b : Nat) (f : Props → Props) (h : Inv s) : Inv (updEdge a b f s) := by
  obtain ⟨h1, h2, h3⟩ := h
  refine ⟨h1, h2, ?_⟩
  intro e he
  simp only [updEdge, List.mem_map] at he
  obtain ⟨e0, he0, rfl⟩ := he
  by_cases hc : edgeMatch a b e0 <;> simp [hc] <;> exact h3 e0 he0

theorem inv_drop (s : Store) (keep : SNode → Bool) (q : SEdge → Bool) (h : Inv s)
    (hends : ∀ e ∈ s.edges, q e = true → ∀ n ∈ s.nodes, n.iid = e.a ∨ n.iid = e.b → keep n = true) :
    Inv ⟨s.nodes.filter keep, s.edges.filter q, s.nextId⟩ := by
  refine ⟨List.Nodup.sublist (List.Sublist.map _ List.filter_sublist) h.1, fun n hn => h.2.1 n (List.mem_filter.1 hn).1,
    fun e he => ?_⟩
  obtain ⟨hes, hq⟩ := List.mem_filter.1 he
  obtain ⟨ea, eb⟩ := h.2.2 e hes
  obtain ⟨na, hna, ea⟩ := idIn_iff.1 ea
  obtain ⟨nb, hnb, eb⟩ := idIn_iff.1 eb
  exact ⟨idIn_iff.2 ⟨na, List.mem_filter.2 ⟨hna, hends e hes hq na hna (.inl ea)⟩, ea⟩,
    idIn_iff.2 ⟨nb, List.mem_filter.2 ⟨hnb, hends e hes hq nb hnb (.inr eb)⟩, eb⟩⟩

theorem removeNode_ends (s : Store) (i : Nat) :
    ∀ e ∈ s.edges, (e.a != i && e.b != i) = true → ∀ n ∈ s.nodes, n.iid = e.a ∨ n.iid = e.b → (n.iid != i) = true := by
  intro e _ he n _ hn
  simp only [Bool.and_eq_true, bne_iff_ne, ne_eq] at he
  rcases hn with hn | hn <;> simp [hn, he.1, he.2]

/-- a node of `g` at an end of `e` would be among the nodes the filter on the links excludes -/
theorem delGraphNl_ends (s : Store) (h : Inv s) (g : String) :
    ∀ e ∈ s.edges, (!idIn (nodesOf s g) e.a && !idIn (nodesOf s g) e.b) = true →
      ∀ n ∈ s.nodes, n.iid = e.a ∨ n.iid = e.b → (!inG g n) = true := by
  intro e _ he n hn hne
  simp only [Bool.and_eq_true, Bool.not_eq_true'] at he
  rcases hne with e1 | e1 <;> rw [← e1, idIn_nodesOf s h g n hn] at he
  · simp [he.1]
  · simp [he.2]

theorem inv_removeNode (s : Store) (i : Nat) (h : Inv s) : Inv (removeNode i s) :=
  inv_drop s _ _ h (removeNode_ends s i)

theorem inv_delGraphNl (s : Store) (g : String) (h : Inv s) : Inv (delGraphNl g s) :=
  inv_drop s _ _ h (delGraphNl_ends s h g)

theorem inv_addEdge (s : Store) (a b : Nat) (attrs : Props) (h : Inv s)
    (ha : idIn s.nodes a = true) (hb : idIn s.nodes b = true) : Inv (addEdge a b attrs s) := by
  unfold addEdge
  split
  · exact inv_updEdge s a b _ h
  · obtain ⟨h1, h2, h3⟩ := h
    refine ⟨h1, h2, ?_⟩
    intro e he
    simp only [List.mem_append, List.mem_singleton] at he
    rcases he with he | rfl
    · exact h3 e he
    · exact ⟨ha, hb⟩

theorem addEdge_nodes (a b : Nat) (attrs : Props) (s : Store) :
    (addEdge a b attrs s).nodes = s.nodes ∧ (addEdge a b attrs s).nextId = s.nextId := by
  unfold addEdge; split <;> exact ⟨rfl, rfl⟩

theorem relabel_iids (base : Nat) (l : List Props) : (relabel base l).map (·.iid) = List.range' base l.length := by
  induction l generalizing base with
  | nil => rfl
  | cons a l ih => simp [relabel, ih, List.range'_succ]

theorem relabel_attrs (base : Nat) (l : List Props) : (relabel base l).map (·.attrs) = l := by
  induction l generalizing base with
  | nil => rfl
  | cons a l ih => simp [relabel, ih]

theorem map_attrs_relabel {β : Type} (F : Props → β) (base : Nat) (l : List Props) :
    (relabel base l).map (fun n => F n.attrs) = l.map F := by
  have := congrArg (List.map F) (relabel_attrs base l)
  rwa [List.map_map] at this

theorem mem_relabel_attrs {base : Nat} {l : List Props} {n : SNode} (h : n ∈ relabel base l) : n.attrs ∈ l :=
  relabel_attrs base l ▸ List.mem_map_of_mem (f := (·.attrs)) h

theorem mem_relabel_iid (base : Nat) (l : List Props) (n : SNode) (h : n ∈ relabel base l) :
    base ≤ n.iid ∧ n.iid < base + l.length := by
  have : n.iid ∈ (relabel base l).map (·.iid) := List.mem_map.2 ⟨n, h, rfl⟩
  rw [relabel_iids, List.mem_range'_1] at this
  exact this

theorem idIn_relabel (base : Nat) (l : List Props) (i : Nat) : idIn (relabel base l) i = true ↔ base ≤ i ∧ i < base + l.length := by
  rw [idIn_iff]
  constructor
  · rintro ⟨n, hn, rfl⟩; exact mem_relabel_iid base l n hn
  · intro h
    have : i ∈ (relabel base l).map (·.iid) := by rw [relabel_iids, List.mem_range'_1]; exact h
    obtain ⟨n, hn, e⟩ := List.mem_map.1 this
    exact ⟨n, hn, e⟩

theorem idIn_append (l1 l2 : List SNode) (i : Nat) : idIn (l1 ++ l2) i = (idIn l1 i || idIn l2 i) := by
  simp [idIn]

theorem IGraph.WF_iff (ig : IGraph) : ig.WF = true ↔ ∀ e ∈ ig.edges, e.1 < ig.nodes.length ∧ e.2.1 < ig.nodes.length := by
  simp [IGraph.WF]

theorem inv_appendGraph (s : Store) (ns : List Props) (es : List (Nat × Nat × Props)) (h : Inv s)
    (hwf : ∀ e ∈ es, e.1 < ns.length ∧ e.2.1 < ns.length) : Inv (appendGraph ns es s) := by
  obtain ⟨h1, h2, h3⟩ := h
  refine ⟨?_, ?_, ?_⟩
  · simp only [appendGraph, List.map_append]
    rw [List.nodup_append]
    refine ⟨h1, by rw [relabel_iids]; exact List.nodup_range', ?_⟩
    intro x hx y hy
    obtain ⟨n, hn, rfl⟩ := List.mem_map.1 hx
    rw [relabel_iids, List.mem_range'_1] at hy
    have := h2 n hn
    omega
  · intro n hn
    simp only [appendGraph, List.mem_append] at hn
    rcases hn with hn | hn
    · have := h2 n hn; simp only [appendGraph]; omega
    · have := mem_relabel_iid _ _ _ hn; simp only [appendGraph]; omega
  · intro e he
    simp only [appendGraph, List.mem_append, List.mem_map] at he
    simp only [appendGraph, idIn_append, Bool.or_eq_true]
    rcases he with he | ⟨e0, he0, rfl⟩
    · exact ⟨Or.inl (h3 e he).1, Or.inl (h3 e he).2⟩
    · have := hwf e0 he0
      exact ⟨Or.inr ((idIn_relabel _ _ _).2 ⟨by simp, by simp; omega⟩), Or.inr ((idIn_relabel _ _ _).2 ⟨by simp, by simp; omega⟩)⟩

theorem inv_import (s : Store) (ig : IGraph) (f : Props → Props) (h : Inv s) (hwf : ig.WF = true) :
    Inv (appendGraph (ig.nodes.map f) ig.edges s) :=
  inv_appendGraph s _ _ h (by rw [List.length_map]; exact (IGraph.WF_iff ig).1 hwf)

theorem gid_of_tagged {g : String} {ns : List Props} {a : Props} (ha : a ∈ ns.map (AMap.set graphId (.str g))) :
    AMap.get graphId a = some (.str g) := by
  obtain ⟨a0, _, rfl⟩ := List.mem_map.1 ha
  exact AMap.get_set_eq _ _ _

theorem updNode_fresh (s : Store) (h : Inv s) (a : Props) (f : Props → Props) :
    updNode s.nextId f (appendGraph [a] [] s) = appendGraph [f a] [] s := by
  have old : s.nodes.map (fun n => if n.iid = s.nextId then { n with attrs := f n.attrs } else n) = s.nodes := by
    rw [List.map_congr_left, List.map_id]
    intro n hn
    rw [if_neg (Nat.ne_of_lt (h.2.1 n hn))]; rfl
  simp [updNode, appendGraph, relabel, old]

theorem addNodeGuard_eq_any (g nid : String) (s : Store) :
    addNodeGuard g nid s = s.nodes.any (fun n => inG g n && hasNid nid n) :=
  List.filter_length_pos _ _

theorem addNode_eq_append (s : Store) (h : Inv s) (g nid label : String) (props : Option Props)
    (hg : addNodeGuard g nid s = false) :
    addNode g nid label props s = (.ok .unit,
      appendGraph [AMap.update [(graphId, .str g), (propClass, .str label), (nodeId, .str nid)] (props.getD [])] [] s) := by
  unfold addNode
  rw [hg, if_neg Bool.false_ne_true]
  cases props with
  | none => exact congrArg (Prod.mk _) (addBlankNode_eq_append g label nid s)
  | some p => simp only; rw [addBlankNode_eq_append, updNode_fresh s h]; rfl

/-- the candidates `_find_node` looks at -/
def candS (s : Store) (g nid : String) : List SNode := s.nodes.filter (fun n => hasNid nid n && inG g n)

theorem findNode_candS (s : Store) (g nid : String) :
    findNode s g nid = match candS s g nid with | [] => .error .query | [n] => .ok n.iid | _ => .error .query := rfl

theorem findNode_single (s : Store) (g nid : String) (i : Nat) (hf : findNode s g nid = .ok i) :
    ∃ n, candS s g nid = [n] ∧ n.iid = i := by
  rw [findNode_candS] at hf
  cases hc : candS s g nid with
  | nil => rw [hc] at hf; cases hf
  | cons a l =>
    cases l with
    | nil => rw [hc] at hf; injection hf with hf; exact ⟨a, rfl, hf⟩
    | cons b l => rw [hc] at hf; cases hf

theorem keyP_eq_K (a : Props) (g nid : String) : keyP a = K g nid ↔ (ARef.hasNidP nid a = true ∧ ARef.inGP g a = true) := by
  simp only [keyP, K, Prod.mk.injEq, ARef.hasNidP, ARef.inGP, beq_iff_eq]
  exact ⟨fun h => ⟨h.2, h.1⟩, fun h => ⟨h.2, h.1⟩⟩

/-- `n` is the one stored node with key `k`: what a successful `_find_node` establishes, and what every stored node is
    once the keys are pairwise distinct -/
structure IsNode (s : Store) (k : Key) (n : SNode) : Prop where
  mem : n ∈ s.nodes
  key : keyP n.attrs = k
  only : ∀ m ∈ s.nodes, keyP m.attrs = k → m = n

theorem isNode_of_candS {s : Store} {g nid : String} {n : SNode} (hc : candS s g nid = [n]) : IsNode s (K g nid) n := by
  have mem : ∀ m, m ∈ candS s g nid ↔ m ∈ s.nodes ∧ keyP m.attrs = K g nid := fun m => by
    simp only [candS, List.mem_filter, Bool.and_eq_true, keyP_eq_K]; rfl
  have hn := (mem n).1 (hc ▸ List.mem_singleton_self n)
  exact ⟨hn.1, hn.2, fun m hm e => List.mem_singleton.1 (hc ▸ (mem m).2 ⟨hm, e⟩)⟩

theorem IsNode.inG {s : Store} {g nid : String} {n : SNode} (hn : IsNode s (K g nid) n) : inG g n = true :=
  ((keyP_eq_K n.attrs g nid).1 hn.key).2

theorem findNode_isNode {s : Store} {g nid : String} {i : Nat} (hf : findNode s g nid = .ok i) :
    ∃ n, IsNode s (K g nid) n ∧ n.iid = i := by
  obtain ⟨n, hc, e⟩ := findNode_single s g nid i hf
  exact ⟨n, isNode_of_candS hc, e⟩

theorem findNode_idIn (s : Store) (g nid : String) (i : Nat) (h : findNode s g nid = .ok i) : idIn s.nodes i = true := by
  obtain ⟨n, hn, e⟩ := findNode_isNode h
  exact idIn_iff.2 ⟨n, hn.mem, e⟩

/-- the control-flow facts `gen/storeflow.py` observes on the code are the ones the models mirror -/
theorem flow_is_modelled :
    Gen.StoreFlow.flow = Store.modelFlow ∧ Gen.StoreFlow.gidFiltered = Store.modelFiltered ∧
    Gen.StoreFlow.dgidFiltered = DStore.modelFiltered := by decide +kernel

theorem inv_init : Inv init := by
  simp [Inv, init]

theorem posOf_lt (ns : List SNode) (i : Nat) (h : idIn ns i = true) : posOf ns i < ns.length := by
  unfold posOf
  apply List.findIdx_lt_length_of_exists
  obtain ⟨n, hn, e⟩ := idIn_iff.1 h
  exact ⟨n, hn, by simp [e]⟩

theorem extractGraph_some {s : Store} {g : String} {ig : IGraph} (h : extractGraph s g = some ig) :
    ig = ⟨(nodesOf s g).map (·.attrs),
      (edgesOf s g).map fun e => (posOf (nodesOf s g) e.a, posOf (nodesOf s g) e.b, e.attrs)⟩ := by
  unfold extractGraph at h
  simp only at h
  split at h
  · cases h
  · exact (Option.some.inj h).symm

theorem extractGraph_wf (s : Store) (g : String) (ig : IGraph) (h : extractGraph s g = some ig) : ig.WF = true := by
  rw [extractGraph_some h]
  simp only [IGraph.WF_iff, List.mem_map, List.length_map]
  rintro e ⟨e0, he0, rfl⟩
  simp only [edgesOf, List.mem_filter, Bool.and_eq_true] at he0
  exact ⟨posOf_lt _ _ he0.2.1, posOf_lt _ _ he0.2.2⟩

/-- where an end `i` of a link goes when node `v` is contracted into node `u` -/
def rm (u v i : Nat) : Nat := if i = v then u else i

/-- one round of the remapping loop of `contracted_nodes`: the edge is added unless its ends are joined already -/
def addIfAbsent (w x : Nat) (attrs : Props) (s : Store) : Store :=
  if s.edges.any (edgeMatch w x) then s else { s with edges := s.edges ++ [⟨w, x, attrs⟩] }

theorem remapEdges_cons (u v : Nat) (e : SEdge) (r : List SEdge) (s : Store) :
    remapEdges u v (e :: r) s = remapEdges u v r (addIfAbsent (rm u v e.a) (rm u v e.b) e.attrs s) := rfl

theorem addIfAbsent_nodes (w x : Nat) (attrs : Props) (s : Store) :
    (addIfAbsent w x attrs s).nodes = s.nodes ∧ (addIfAbsent w x attrs s).nextId = s.nextId := by
  unfold addIfAbsent; split <;> exact ⟨rfl, rfl⟩

theorem inv_addIfAbsent (s : Store) (w x : Nat) (attrs : Props) (h : Inv s)
    (hw : idIn s.nodes w = true) (hx : idIn s.nodes x = true) : Inv (addIfAbsent w x attrs s) := by
  unfold addIfAbsent
  split
  · exact h
  · refine ⟨h.1, h.2.1, fun e' he' => ?_⟩
    rcases List.mem_append.1 he' with he' | he'
    · exact h.2.2 e' he'
    · rw [List.mem_singleton.1 he']; exact ⟨hw, hx⟩

theorem inv_remapEdges (u v : Nat) (l : List SEdge) (s : Store) (h : Inv s)
    (hl : ∀ e ∈ l, idIn s.nodes (rm u v e.a) = true ∧ idIn s.nodes (rm u v e.b) = true) :
    Inv (remapEdges u v l s) := by
  induction l generalizing s with
  | nil => exact h
  | cons e r ih =>
    have hh := hl e (by simp)
    rw [remapEdges_cons]
    refine ih (addIfAbsent (rm u v e.a) (rm u v e.b) e.attrs s) (inv_addIfAbsent s _ _ e.attrs h hh.1 hh.2) fun e' he' => ?_
    rw [(addIfAbsent_nodes _ _ _ s).1]
    exact hl e' (by simp [he'])

theorem inv_contract (s : Store) (u v : Nat) (h : Inv s) (hu : idIn s.nodes u = true) (huv : u ≠ v) :
    Inv (contract u v s) := by
  unfold contract
  simp only
  apply inv_remapEdges _ _ _ _ (inv_removeNode s v h)
  intro e he
  simp only [List.mem_filter] at he
  obtain ⟨ea, eb⟩ := h.2.2 e he.1
  have key : ∀ i, idIn s.nodes i = true → idIn (removeNode v s).nodes (rm u v i) = true := by
    intro i hi
    unfold rm
    by_cases hiv : i = v
    · simp only [hiv, if_true]
      obtain ⟨n, hn, e⟩ := idIn_iff.1 hu
      exact idIn_iff.2 ⟨n, by simp [removeNode, hn, e, huv], e⟩
    · simp only [hiv, if_false]
      obtain ⟨n, hn, e⟩ := idIn_iff.1 hi
      exact idIn_iff.2 ⟨n, by simp [removeNode, hn, e, hiv], e⟩
  exact ⟨key _ ea, key _ eb⟩

theorem remapEdges_nodes (u v : Nat) (l : List SEdge) (s : Store) :
    (remapEdges u v l s).nodes = s.nodes ∧ (remapEdges u v l s).nextId = s.nextId := by
  induction l generalizing s with
  | nil => exact ⟨rfl, rfl⟩
  | cons e r ih => rw [remapEdges_cons, (ih _).1, (ih _).2]; exact addIfAbsent_nodes _ _ _ s

theorem contract_nodes (u v : Nat) (s : Store) :
    (contract u v s).nodes = s.nodes.filter (fun n => n.iid != v) ∧ (contract u v s).nextId = s.nextId :=
  remapEdges_nodes u v _ (removeNode v s)

theorem mem_contract_nodes {u v : Nat} {s : Store} {n : SNode} : n ∈ (contract u v s).nodes ↔ n ∈ s.nodes ∧ n.iid ≠ v := by
  rw [(contract_nodes u v s).1, List.mem_filter, bne_iff_ne]

theorem nodeAttrs_of_mem (s : Store) (h : Inv s) (n : SNode) (hn : n ∈ s.nodes) : nodeAttrs s n.iid = some n.attrs := by
  unfold nodeAttrs
  rw [List.find?_key_of_nodup (·.iid) h.1 hn]; rfl

theorem attrs_of_nodeAttrs {s : Store} (h : Inv s) {n : SNode} (hn : n ∈ s.nodes) {a : Props} (ha : nodeAttrs s n.iid = some a) :
    n.attrs = a :=
  Option.some.inj ((nodeAttrs_of_mem s h n hn).symm.trans ha)

theorem Effect.inv {s : Store} {op : Op} {r : R} (e : Effect s op r) (h : Inv s) : Inv r.2 := by
  cases e with
  | refused => exact h
  | answered => exact h
  | addNode g nid label props => exact inv_updNode _ _ _ (inv_appendGraph s _ [] h nofun)
  | deleteNode g nid i => exact inv_removeNode s i h
  | addLink g a rel b props ia ib attrs ha hb =>
    exact inv_addEdge s ia ib _ h (findNode_idIn s g a ia ha) (findNode_idIn s g b ib hb)
  | updateNodeProperty g nid k v i => exact inv_updNode s i _ h
  | unsetNodeProperty g nid k i => exact inv_updNode s i _ h
  | updateNodesProperty g k v => exact inv_updNodes s (inG g) _ h
  | updateNodeProperties g nid p i => exact inv_updNode s i _ h
  | updateLinkProperty g a b kind k v ia ib f => exact inv_updEdge s ia ib f h
  | unsetLinkProperty g a b kind k ia ib f => exact inv_updEdge s ia ib f h
  | updateLinkProperties g a b kind p ia ib f => exact inv_updEdge s ia ib f h
  | deleteGraph g => exact inv_delGraphNl s g h
  | importRefused g ig => exact inv_delGraphNl s g h
  | addGraph g ig =>
    exact inv_import _ ig.close _ (inv_delGraphNl s g h) ig.close_WF
  | addGraphDirect g ig => exact inv_appendGraph _ _ _ (inv_delGraphNl s g h) ((IGraph.WF_iff _).1 ig.close_WF)
  | cloneRefused g g2 => exact inv_delGraphNl s g2 h
  | clone g g2 ig hig =>
    exact inv_import _ ig _ (inv_delGraphNl s g2 h) (extractGraph_wf s g ig hig)
  | mergeNodes g nid g2 pol u v mine theirs np hu hv huv =>
    exact inv_updNode _ _ _ (inv_contract s u v h (findNode_idIn s g nid u hu) huv)
  | delAllGraphs => exact ⟨List.nodup_nil, nofun, nofun⟩

theorem inv_step (op : Op) (s : Store) (h : Inv s) : Inv (step op s).2 := (step_effect op s).inv h

/-- induction along a history with `Inv` carried along, since every step lemma asks for it (`DStore.run_induction` is the plain
    fold invariant: there `Inv` is one more `P`) -/
theorem run_induction {P : Store → Prop} (ops : List Op) (s : Store) (h : Inv s) (h0 : P s)
    (hstep : ∀ o ∈ ops, ∀ t, Inv t → P t → P (step o t).2) : Inv (run ops s) ∧ P (run ops s) :=
  List.foldl_invariant (fun t => Inv t ∧ P t) ⟨h, h0⟩ fun t ht o ho => ⟨inv_step o t ht.1, hstep o ho t ht.1 ht.2⟩

theorem inv_run (ops : List Op) (s : Store) (h : Inv s) : Inv (run ops s) :=
  (run_induction (P := fun _ => True) ops s h trivial fun _ _ _ _ _ => trivial).1

end FimVerif.Store
