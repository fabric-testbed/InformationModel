import FimVerif.Proofs.Lemmas.ARefBasic
/-! C05: the shared store refines the store-level reference model `ARef.step` — node updates (key
    rewrites included) and the queries. -/
namespace FimVerif.Store
open FimVerif FimVerif.Gen.StoreConsts

theorem keyOf_map_upd (s : Store) (h : Inv s) (c : SNode → Bool) (f : Props → Props) (m : SNode) (hm : m ∈ s.nodes) :
    keyOf (s.nodes.map (fun n => if c n then { n with attrs := f n.attrs } else n)) m.iid =
      if c m then keyP (f m.attrs) else keyP m.attrs := by
  have h' := inv_updNodes s c f h
  have hm' : (if c m then { m with attrs := f m.attrs } else m) ∈
      s.nodes.map (fun n => if c n then { n with attrs := f n.attrs } else n) :=
    List.mem_map.2 ⟨m, hm, rfl⟩
  have := keyOf_mem _ h' _ hm'
  by_cases hc : c m = true
  · simp only [hc, if_true] at this ⊢; exact this
  · simp only [hc] at this ⊢; exact this

/-- rewriting the dictionaries of the nodes `c` selects, where `cK` is the same selection read off the key and `fk` is what `f` does
    to a key (`keyP_set`, `keyP_update`, `keyP_erase`): the link ends are re-keyed with the nodes -/
theorem absS_updNodes (s : Store) (h : Inv s) (c : SNode → Bool) (cK : Key → Bool) (f : Props → Props) (fk : Key → Key)
    (hc : ∀ m ∈ s.nodes, cK (keyP m.attrs) = c m) (hfk : ∀ m ∈ s.nodes, c m = true → keyP (f m.attrs) = fk (keyP m.attrs)) :
    absS (updNodes c f s) =
      ⟨(absS s).nodes.map (fun a => if cK (keyP a) then f a else a),
       (absS s).edges.map (fun e => (if cK e.1 then fk e.1 else e.1, if cK e.2.1 then fk e.2.1 else e.2.1, e.2.2))⟩ := by
  have hk : ∀ i, idIn s.nodes i = true →
      keyOf (s.nodes.map (fun m => if c m then { m with attrs := f m.attrs } else m)) i =
        if cK (keyOf s.nodes i) then fk (keyOf s.nodes i) else keyOf s.nodes i := by
    intro i hi
    obtain ⟨m, hm, e, hkm⟩ := keyOf_of_idIn s h i hi
    subst e
    rw [keyOf_map_upd s h c f m hm, hkm, hc m hm]
    split
    · exact hfk m hm ‹_›
    · rfl
  unfold absS updNodes
  simp only [ARef.mk.injEq, List.map_map]
  constructor
  · refine List.map_congr_left fun m hm => ?_
    simp only [Function.comp, hc m hm]
    split <;> rfl
  · refine List.map_congr_left fun e he => ?_
    simp only [Function.comp]
    rw [hk e.a (h.2.2 e he).1, hk e.b (h.2.2 e he).2]

theorem absS_updNode (s : Store) (h : Inv s) {k : Key} {n : SNode} (hn : IsNode s k n) (f : Props → Props) (fk : Key → Key)
    (hfk : keyP (f n.attrs) = fk (keyP n.attrs)) :
    absS (updNode n.iid f s) = ARef.updK k f (fk k) (absS s) := by
  rw [updNode_eq, absS_updNodes s h (fun m => decide (m.iid = n.iid)) (· == k) f fk (isK_eq_iid h hn) fun m hm hm' =>
    (mem_iid_eq_iff s h n hn.mem m hm).1 (of_decide_eq_true hm') ▸ hfk]
  -- at an end with key `k` the general form writes `fk` of that end, `updK` writes `fk k`
  have rk : ∀ key : Key, (if (key == k) = true then fk key else key) = ARef.rekey k (fk k) key := fun key => by
    unfold ARef.rekey
    by_cases e : key = k
    · rw [if_pos (beq_iff_eq.2 e), if_pos e, e]
    · rw [if_neg (mt beq_iff_eq.1 e), if_neg e]
  simp only [rk]
  rfl

theorem absS_updGraphNodes (s : Store) (h : Inv s) (g : String) (f : Props → Props) (fk : Key → Key)
    (hfk : ∀ a, keyP (f a) = fk (keyP a)) : absS (updGraphNodes g f s) = ARef.updGraphK g f fk (absS s) :=
  absS_updNodes s h (inG g) (ARef.kIn g) f fk (fun _ _ => rfl) fun m _ _ => hfk m.attrs

theorem refS_updateNodeProperty (s : Store) (h : Inv s) (g nid k : String) (v : Val) :
    RefS (updateNodeProperty g nid k v s) (ARef.updateNodeProperty g nid k v (absS s)) := by
  unfold updateNodeProperty ARef.updateNodeProperty
  exact refS_ite _ (fun _ => refS_err s _) fun _ =>
    refS_withNode _ _ _ _ _ fun n hn => ⟨rfl, absS_updNode s h hn _ _ (keyP_set k v _)⟩

theorem refS_unsetNodeProperty (s : Store) (h : Inv s) (g nid k : String) :
    RefS (unsetNodeProperty g nid k s) (ARef.unsetNodeProperty g nid k (absS s)) := by
  unfold unsetNodeProperty ARef.unsetNodeProperty
  refine refS_ite _ (fun _ => refS_err s _) fun _ => refS_ite _ (fun _ => refS_err s _) fun hu =>
    refS_withNode _ _ _ _ _ fun n hn => ?_
  have hk1 : k ≠ graphId := fun e => hu (e ▸ graphId_mem_noUnset)
  have hk2 : k ≠ nodeId := fun e => hu (e ▸ nodeId_mem_noUnset)
  rw [nodeAttrs_of_mem s h n hn.mem]
  exact refS_ite _ (fun _ => ⟨rfl, absS_updNode s h hn _ id (keyP_erase k n.attrs hk1 hk2)⟩) fun _ => refS_err s _

theorem refS_updateNodesProperty (s : Store) (h : Inv s) (g k : String) (v : Val) :
    RefS (updateNodesProperty g k v s) (ARef.updateNodesProperty g k v (absS s)) := by
  unfold updateNodesProperty ARef.updateNodesProperty
  rw [nodesOf_absS, List.length_map]
  exact refS_ite _ (fun _ => refS_err s _) fun _ => refS_ite _ (fun _ => refS_err s _) fun _ =>
    ⟨rfl, absS_updGraphNodes s h g _ _ (fun a => keyP_set k v a)⟩

theorem refS_updateNodeProperties (s : Store) (h : Inv s) (g nid : String) (p : Props) :
    RefS (updateNodeProperties g nid p s) (ARef.updateNodeProperties g nid p (absS s)) := by
  unfold updateNodeProperties ARef.updateNodeProperties
  exact refS_ite _ (fun _ => refS_err s _) fun _ =>
    refS_withNode _ _ _ _ _ fun n hn => ⟨rfl, absS_updNode s h hn _ _ (keyP_update _ p)⟩

theorem refS_getNodeProperties (s : Store) (h : Inv s) (g nid : String) :
    RefS (getNodeProperties g nid s) (ARef.getNodeProperties g nid (absS s)) := by
  unfold getNodeProperties ARef.getNodeProperties
  apply refS_withNode
  intro n hn
  rw [nodeAttrs_of_mem s h n hn.mem]
  simp only
  cases hl : AMap.get nxLabel n.attrs with
  | none => exact refS_err s _
  | some l => exact ⟨rfl, rfl⟩

theorem refS_nidList (s : Store) (l : List SNode) : RefS (nidList l s) (ARef.nidList (l.map (·.attrs)) (absS s)) := by
  unfold nidList ARef.nidList
  have e1 : (l.map (·.attrs)).any (fun a => !AMap.has nodeId a) = l.any (fun n => !AMap.has nodeId n.attrs) := by
    rw [List.any_map]; rfl
  have e2 : (l.map (·.attrs)).map (AMap.get nodeId) = l.map (fun n => AMap.get nodeId n.attrs) := by
    rw [List.map_map]; rfl
  rw [e1, e2]
  split
  · exact refS_err s _
  · exact ⟨rfl, rfl⟩

theorem refS_listAllNodeIds (s : Store) (g : String) : RefS (listAllNodeIds g s) (ARef.listAllNodeIds g (absS s)) := by
  unfold listAllNodeIds ARef.listAllNodeIds
  rw [nodesOf_absS, List.length_map]
  split
  · exact refS_err s _
  · exact refS_nidList s _

theorem refS_nodesByClass (s : Store) (g label : String) : RefS (nodesByClass g label s) (ARef.nodesByClass g label (absS s)) := by
  unfold nodesByClass ARef.nodesByClass
  rw [nodesOf_absS, List.filter_map]
  exact refS_nidList s _

theorem refS_nodesByClassAndType (s : Store) (g label ntype : String) :
    RefS (nodesByClassAndType g label ntype s) (ARef.nodesByClassAndType g label ntype (absS s)) := by
  unfold nodesByClassAndType ARef.nodesByClassAndType
  rw [nodesOf_absS, List.filter_map]
  exact refS_nidList s _

theorem refS_nodeExists (s : Store) (g nid label : String) : RefS (nodeExists g nid label s) (ARef.nodeExists g nid label (absS s)) := by
  unfold nodeExists ARef.nodeExists
  rw [absS_nodes, List.filter_map_pred (·.attrs) _ (fun n => inG g n && hasNid nid n && hasAttr propClass label n) _
    (fun _ _ => rfl)]
  cases s.nodes.filter (fun n => inG g n && hasNid nid n && hasAttr propClass label n) with
  | nil => exact ⟨rfl, rfl⟩
  | cons a l => cases l <;> exact ⟨rfl, rfl⟩

theorem refS_graphExists (s : Store) (g : String) : RefS (graphExists g s) (ARef.graphExists g (absS s)) := by
  unfold graphExists ARef.graphExists
  rw [nodesOf_absS, List.length_map]; exact ⟨rfl, rfl⟩

theorem refS_checkNodeUnique (s : Store) (g label name : String) :
    RefS (checkNodeUnique g label name s) (ARef.checkNodeUnique g label name (absS s)) := by
  unfold checkNodeUnique ARef.checkNodeUnique
  rw [nodesOf_absS, List.filter_map, List.length_map]
  exact ⟨rfl, rfl⟩

theorem refS_findMatchingNodes (s : Store) (g other : String) :
    RefS (findMatchingNodes g other s) (ARef.findMatchingNodes g other (absS s)) := by
  rw [findMatchingNodes_eq, ARef.findMatchingNodes_eq, ← (refS_listAllNodeIds s g).1, nodesOf_absS, List.map_map]
  exact ⟨rfl, rfl⟩

end FimVerif.Store
