import FimVerif.Proofs.Lemmas.TopoAtomicGraph
/-! Grown states.  On a closed state every creating call leaves `grow s N E`: the state `s` it found, new nodes `N` under ids `s`
does not have, new edges `E`.  What holds of any such state is proved here once; the `_grow_old` lemmas say that new nodes and edges that do not touch
a key change nothing at it (what is on top of a state is a frame around what is read in it).  Then the removals the clean-ups of
the calls end in: on a new ConnectionPoint, on a new NetworkService with new interfaces, and on `hung s x Hx o`, a new node with at
most such a service under it. -/
namespace FimVerif.Topo
open FimVerif FimVerif.M

def only (E : List GEdge) : Topo := ⟨[], E⟩

section
variable {s : Topo} {N : List GNode} {E : List GEdge} {r : Ref}

@[simp] theorem grow_nodes : (grow s N E).nodes = s.nodes ++ N := rfl
@[simp] theorem grow_edges : (grow s N E).edges = s.edges ++ E := rfl

theorem grow_nil (s : Topo) : grow s [] [] = s := by cases s; simp [grow]

theorem pushNode_eq_grow (n : GNode) (s : Topo) : pushNode n s = grow s [n] [] := by simp [pushNode, grow]

theorem grow_grow (N' : List GNode) (E' : List GEdge) : grow (grow s N E) N' E' = grow s (N ++ N') (E ++ E') := by
  simp [grow, List.append_assoc]

theorem idsDistinct_grow (hd : IdsDistinct s) (hN : (N.map (·.nid)).Nodup) (hf : ∀ n ∈ N, ∀ m ∈ s.nodes, m.nid ≠ n.nid) :
    IdsDistinct (grow s N E) := by
  unfold IdsDistinct
  rw [grow_nodes, List.map_append, List.nodup_append]
  refine ⟨hd, hN, fun a ha b hb => ?_⟩
  obtain ⟨m, hm, rfl⟩ := List.mem_map.mp ha
  obtain ⟨n, hn, rfl⟩ := List.mem_map.mp hb
  exact hf n hn m hm

theorem IdsDistinct.of_grow (h : IdsDistinct (grow s N E)) :
    IdsDistinct s ∧ (N.map (·.nid)).Nodup ∧ ∀ n ∈ N, ∀ m ∈ s.nodes, m.nid ≠ n.nid := by
  unfold IdsDistinct at h
  rw [grow_nodes, List.map_append, List.nodup_append] at h
  exact ⟨h.1, h.2.1, fun n hn m hm => h.2.2 _ (List.mem_map.mpr ⟨m, hm, rfl⟩) _ (List.mem_map.mpr ⟨n, hn, rfl⟩)⟩

theorem closed_grow (hc : Closed s)
    (hE : ∀ e ∈ E, (∃ n ∈ s.nodes ++ N, n.ref = e.a) ∧ (∃ n ∈ s.nodes ++ N, n.ref = e.b)) : Closed (grow s N E) := by
  intro e he
  rcases List.mem_append.mp he with he | he
  · obtain ⟨⟨x, hx, hxe⟩, ⟨y, hy, hye⟩⟩ := hc e he
    exact ⟨⟨x, List.mem_append_left _ hx, hxe⟩, ⟨y, List.mem_append_left _ hy, hye⟩⟩
  · exact hE e he

theorem dropNode_absent (hc : Closed s) (hr : Absent s r) : dropNode r s = s := by
  have hn := not_touches_of_closed hc hr
  cases s with
  | mk ns es =>
    unfold dropNode
    congr 1
    · exact List.filter_eq_self.mpr fun m hm => by simpa using hr m hm
    · exact List.filter_eq_self.mpr fun e he => by
        simpa using (⟨fun h => hn ⟨e, he, .inl h⟩, fun h => hn ⟨e, he, .inr h⟩⟩ : e.a ≠ r ∧ e.b ≠ r)

theorem dropNode_grow (r : Ref) : dropNode r (grow s N E) =
    grow (dropNode r s) (N.filter (fun n => n.ref != r)) (E.filter (fun e => e.a != r && e.b != r)) := by
  simp [dropNode, grow, List.filter_append]

theorem dropNode_grow_new (hc : Closed s) (hr : Absent s r) : dropNode r (grow s N E) =
    grow s (N.filter (fun n => n.ref != r)) (E.filter (fun e => e.a != r && e.b != r)) := by
  rw [dropNode_grow, dropNode_absent hc hr]

theorem dropNode_grow_old (hN : ∀ n ∈ N, n.ref ≠ r) (hE : ¬ touches E r) : dropNode r (grow s N E) = grow (dropNode r s) N E := by
  rw [dropNode_grow, List.filter_eq_self.mpr fun n hn => by simpa using hN n hn, List.filter_eq_self.mpr fun e he => by
    simpa using (⟨fun h => hE ⟨e, he, .inl h⟩, fun h => hE ⟨e, he, .inr h⟩⟩ : e.a ≠ r ∧ e.b ≠ r)]

theorem Absent.edge (hc : Closed s) (hr : Absent s r) {e : GEdge} (he : e ∈ s.edges) : e.a ≠ r ∧ e.b ≠ r :=
  ⟨fun h => not_touches_of_closed hc hr ⟨e, he, .inl h⟩, fun h => not_touches_of_closed hc hr ⟨e, he, .inr h⟩⟩

theorem adjacent_grow_new (hc : Closed s) (hr : Absent s r) (x : Ref) (rel : Rel) :
    adjacent (grow s N E) r x rel = adjacent (only E) r x rel := by
  unfold adjacent
  rw [grow_edges, List.any_append, adjacent_false_of_not_touch (not_touches_of_closed hc hr)]
  rfl

theorem adjacentAny_grow_new (hc : Closed s) (hr : Absent s r) (x : Ref) :
    adjacentAny (grow s N E) r x = adjacentAny (only E) r x := by
  unfold adjacentAny
  rw [grow_edges, List.any_append, List.any_eq_false.mpr fun e he hs =>
    not_touches_of_closed hc hr ⟨e, he, sameEnds_touches_left hs⟩]
  rfl
end

section frame
variable {s : Topo} {N : List GNode} {E : List GEdge} {r : Ref}

theorem adjacent_grow_old (hr : ¬ touches E r) (x : Ref) (rel : Rel) : adjacent (grow s N E) r x rel = adjacent s r x rel := by
  unfold adjacent
  rw [grow_edges, List.any_append, adjacent_false_of_not_touch hr, Bool.or_false]

theorem adjacentAny_grow_old (hr : ¬ touches E r) (x : Ref) : adjacentAny (grow s N E) r x = adjacentAny s r x := by
  unfold adjacentAny
  rw [grow_edges, List.any_append, List.any_eq_false.mpr fun e he hs => hr ⟨e, he, sameEnds_touches_left hs⟩, Bool.or_false]

theorem adjacent_grow_of {x : Ref} {rel : Rel} (h : adjacent s r x rel = true) : adjacent (grow s N E) r x rel = true := by
  unfold adjacent at h ⊢
  rw [grow_edges, List.any_append, h, Bool.true_or]

theorem adjacentAny_grow_of {x : Ref} (h : adjacentAny s r x = true) : adjacentAny (grow s N E) r x = true := by
  unfold adjacentAny at h ⊢
  rw [grow_edges, List.any_append, h, Bool.true_or]

theorem adjacentAny_absent (hc : Closed s) {x : Ref} (hx : Absent s x) (r : Ref) : adjacentAny s r x = false :=
  List.any_eq_false.mpr fun e he hs => not_touches_of_closed hc hx ⟨e, he, sameEnds_touches hs⟩

theorem adjacent_absent (hc : Closed s) {x : Ref} (hx : Absent s x) (r : Ref) (rel : Rel) : adjacent s r x rel = false :=
  List.any_eq_false.mpr fun e he hs => by
    simp only [Bool.and_eq_true] at hs
    exact not_touches_of_closed hc hx ⟨e, he, sameEnds_touches hs.2⟩

theorem neighbors_grow_old (hc : Closed s) (hN : ∀ n ∈ N, Absent s n.ref) (hr : ¬ touches E r) (rel : Rel) (L : Cls) :
    neighbors (grow s N E) r rel L = neighbors s r rel L := by
  unfold neighbors
  rw [grow_nodes, List.filter_append_right_nil]
  · exact List.filter_congr fun n _ => by rw [adjacent_grow_old hr]
  · intro n hn
    rw [adjacent_grow_old hr, adjacent_absent hc (hN n hn), Bool.and_false]

theorem peerNodes_grow_old (hc : Closed s) (hN : ∀ n ∈ N, Absent s n.ref) (hr : ¬ touches E r)
    (hl : ∀ f ∈ s.nodes, f.cls = .link → ¬ touches E f.ref) : peerNodes (grow s N E) r = peerNodes s r := by
  unfold peerNodes
  rw [neighbors_grow_old hc hN hr]
  refine List.flatMap_congr' fun f hf => ?_
  have hfl := hl f (mem_neighbors hf).1 (neighbors_cls hf)
  rw [grow_nodes, List.filter_append_right_nil]
  · exact List.filter_congr fun k _ => by rw [adjacentAny_grow_old hfl]
  · intro k hk
    rw [adjacentAny_grow_old hfl, adjacentAny_absent hc (hN k hk), Bool.and_false, Bool.false_and]
end frame

theorem removeCp_leaf {t : Topo} (hd : IdsDistinct t) {c : GNode} (hc : c ∈ t.nodes)
    (h : ∀ x ∈ t.nodes, x.cls = .connectionPoint ∨ x.cls = .link → adjacent t c.ref x.ref .connects = false) (dp : Bool) :
    removeCpAndLinks c.nid dp t = (.ok (), dropNode c.ref t) := by
  have e1 : ([c.nid] : List Nid).eraseDups = [c.nid] := by simp [List.eraseDups_cons]
  unfold removeCpAndLinks
  rw [bind_ok (firstNeighbor_run hd hc .connects .connectionPoint), neighbors_eq_nil fun x hx hx' => h x hx (.inl hx'), List.map_nil,
    bind_ok (show M.filterMapM' _ [] t = (.ok [], t) from rfl), e1,
    bind_ok (mapM'_singleton (y := []) (by
      rw [bind_ok (firstNeighbor_run hd hc .connects .link), neighbors_eq_nil fun x hx hx' => h x hx (.inr hx')]; rfl))]
  show M.forEach ([c.nid] ++ []).eraseDups deleteNode t = _
  rw [List.append_nil, e1, forEach_cons_ok (deleteNode_run hd hc)]
  rfl

theorem removeCp_linked {t : Topo} (hd : IdsDistinct t) {c l : GNode} (hc : c ∈ t.nodes) (hl : l ∈ t.nodes) (hne : l.nid ≠ c.nid)
    (h1 : neighbors t c.ref .connects .connectionPoint = []) (h2 : neighbors t c.ref .connects .link = [l])
    (h3 : (neighbors t l.ref .connects .connectionPoint).length = 2) :
    removeCpAndLinks c.nid true t = (.ok (), dropNode l.ref (dropNode c.ref t)) := by
  have n1 := firstNeighbor_run hd hc .connects .connectionPoint
  rw [h1] at n1
  have n2 := firstNeighbor_run hd hc .connects .link
  rw [h2] at n2
  have n3 := firstNeighbor_run hd hl .connects .connectionPoint
  have hl' : l ∈ (dropNode c.ref t).nodes :=
    List.mem_filter.mpr ⟨hl, by simpa using fun e => hne (nid_of_ref_eq e)⟩
  have he1 : [c.nid].eraseDups = [c.nid] := by simp [List.eraseDups_cons]
  have he2 : ([c.nid] ++ [[l.nid]].flatten).eraseDups = [c.nid, l.nid] := by simp [List.eraseDups_cons, hne]
  unfold removeCpAndLinks
  simp only [bind_apply', n1, List.map_nil, M.filterMapM', pure_apply, he1]
  rw [mapM'_singleton (y := [l.nid]) (by
    simp only [M.filterMapM', bind_apply, bind_apply', n2, List.map_cons, List.map_nil, n3, List.length_map, h3, pure_apply,
      pure_apply']
    rfl)]
  simp only [he2]
  rw [forEach_cons_ok (deleteNode_run hd hc), forEach_cons_ok (deleteNode_run (idsDistinct_drop hd c.ref) hl')]; rfl

theorem disconnectInterface_run {t : Topo} (hd : IdsDistinct t) {fi p : GNode} (hfi : fi ∈ t.nodes)
    (hsp : (peerNodes t fi.ref).filter (fun n => n.typ == "ServicePort") = [p]) (cache : Cache) (nm : String) :
    disconnectInterface cache (.iface fi.nid nm) t =
      (removeCpAndLinks p.nid true >>= fun _ => Pure.pure (cache.filter (fun x => x.2 != p.nid))) t := by
  unfold disconnectInterface
  simp only []
  rw [bind_ok (peersOf_run hd hfi), bind_ok (mapM'_findNode hd _ (fun x hx => (mem_peerNodes hx).1)), hsp]
  simp only [List.map_cons, List.map_nil]
  rw [bind_ok (guard_run (c := ([] : List Nid).isEmpty) (e := .topology) (t := t) rfl)]

theorem removeCp_new {s : Topo} {N : List GNode} {E : List GEdge} {n : GNode} (hc : Closed s) (hd : IdsDistinct (grow s N E)) (hn : n ∈ N)
    (hE : ∀ e ∈ E, ∀ x, sameEnds e n.ref x = true → x.cls ≠ .connectionPoint ∧ x.cls ≠ .link) (dp : Bool) :
    removeCpAndLinks n.nid dp (grow s N E) =
      (.ok (), grow s (N.filter (fun m => m.ref != n.ref)) (E.filter (fun e => e.a != n.ref && e.b != n.ref))) := by
  have ha : Absent s n.ref := absent_of_fresh (hd.of_grow.2.2 n hn)
  rw [removeCp_leaf hd (List.mem_append_right _ hn) (fun x _ hx => Bool.eq_false_iff.mpr fun hadj => ?_) dp, dropNode_grow_new hc ha]
  rw [adjacent_grow_new hc ha] at hadj
  obtain ⟨e, he, _, hs⟩ := adjacent_iff.mp hadj
  exact hx.elim (hE e he _ hs).1 (hE e he _ hs).2

theorem removeCps_new {s : Topo} (hc : Closed s) : ∀ (cps : List GNode), IdsDistinct (grow s cps []) →
    M.forEach (cps.map (·.nid)) (fun i => removeCpAndLinks i true) (grow s cps []) = (.ok (), s) := by
  intro cps
  induction cps with
  | nil => intro _; rw [grow_nil]; rfl
  | cons c rest ih =>
    intro hd
    obtain ⟨hds, hnd, hfr⟩ := hd.of_grow
    rw [List.map_cons, List.nodup_cons] at hnd
    have hstep := removeCp_new hc hd (List.mem_cons_self ..) (fun _ he => nomatch he) true
    rw [List.filter_cons, if_neg (by simp), List.filter_eq_self.mpr fun x hx => by
      simpa using ref_ne_of_nid_ne fun e => hnd.1 (e ▸ List.mem_map.mpr ⟨x, hx, rfl⟩)] at hstep
    rw [List.map_cons, forEach_cons_ok (f := fun i => removeCpAndLinks i true) (x := c.nid) hstep]
    exact ih (idsDistinct_grow hds hnd.2 fun n hn => hfr n (List.mem_cons_of_mem _ hn))

def ports (sn : GNode) (cps : List GNode) : List GEdge := cps.map fun cp => ⟨sn.ref, cp.ref, .connects⟩

theorem grow_port {s : Topo} (K : List GNode) (F : List GEdge) (sn n : GNode) (cps : List GNode) :
    grow (grow s (K ++ cps) (F ++ ports sn cps)) [n] [⟨sn.ref, n.ref, .connects⟩] =
      grow s (K ++ (cps ++ [n])) (F ++ ports sn (cps ++ [n])) := by
  simp [grow_grow, ports, List.append_assoc]

/-- `H`: the `has` edge the new service hangs by, if it has an owner -/
theorem removeNs_new {s : Topo} {sn : GNode} {cps : List GNode} {H : List GEdge} (hc : Closed s)
    (hd : IdsDistinct (grow s (sn :: cps) (H ++ ports sn cps))) (hscls : sn.cls = .networkService)
    (hccls : ∀ c ∈ cps, c.cls = .connectionPoint) (hH : ∀ e ∈ H, e.rel = .has ∧ e.b = sn.ref) :
    removeNs sn.nid (grow s (sn :: cps) (H ++ ports sn cps)) = (.ok (), s) := by
  obtain ⟨_, hnd, hfr⟩ := hd.of_grow
  rw [List.map_cons, List.nodup_cons] at hnd
  have ha : Absent s sn.ref := absent_of_fresh (hfr sn (List.mem_cons_self ..))
  have hcs : ∀ c ∈ cps, c.ref ≠ sn.ref := fun c hc' => ref_ne_of_nid_ne fun e => hnd.1 (e ▸ List.mem_map.mpr ⟨c, hc', rfl⟩)
  have hmem : sn ∈ (grow s (sn :: cps) (H ++ ports sn cps)).nodes := by simp
  have hnb : neighbors (grow s (sn :: cps) (H ++ ports sn cps)) sn.ref .connects .connectionPoint = cps := by
    unfold neighbors
    rw [grow_nodes, List.filter_append, List.filter_cons, if_neg (by simp [hscls]), List.filter_eq_nil_iff.mpr, List.nil_append,
      List.filter_eq_self]
    · intro c hc'
      simp only [Bool.and_eq_true, beq_iff_eq]
      exact ⟨hccls c hc', (adjacent_of_edge
        (List.mem_append_right _ (List.mem_append_right _ (List.mem_map.mpr ⟨c, hc', rfl⟩)))).1⟩
    · -- an old node is not at the far end of a new edge from `sn`
      intro m hm hp
      simp only [Bool.and_eq_true, beq_iff_eq] at hp
      rw [adjacent_grow_new hc ha] at hp
      obtain ⟨e, he, hr, hs⟩ := adjacent_iff.mp hp.2
      rcases List.mem_append.mp he with he | he
      · rw [(hH e he).1] at hr; cases hr
      · obtain ⟨c, hc', rfl⟩ := List.mem_map.mp he
        rcases sameEnds_iff.mp hs with ⟨_, h2⟩ | ⟨_, h2⟩
        · exact hfr c (List.mem_cons_of_mem _ hc') m hm (nid_of_ref_eq h2).symm
        · exact hcs c hc' h2
  have hdrop : dropNode sn.ref (grow s (sn :: cps) (H ++ ports sn cps)) = grow s cps [] := by
    rw [dropNode_grow_new hc ha]
    congr 1
    · rw [List.filter_cons, if_neg (by simp), List.filter_eq_self]
      intro c hc'; simpa using hcs c hc'
    · rw [List.filter_eq_nil_iff]
      intro e he
      rcases List.mem_append.mp he with he | he
      · simp [(hH e he).2]
      · obtain ⟨c, _, rfl⟩ := List.mem_map.mp he; simp
  unfold removeNs
  rw [bind_ok (findNode_of_mem hd hmem), bind_ok (guard_run (by simp [hscls])),
    bind_ok (firstNeighbor_run hd hmem .connects .connectionPoint), hnb, bind_ok (deleteNode_run hd hmem), hdrop]
  exact removeCps_new hc cps (hdrop ▸ idsDistinct_drop hd _)

/-- what a clean-up finds under a new node `x`: nothing yet, or a new service with its new interfaces -/
def under (x : GNode) : Option (GNode × List GNode) → List GNode × List GEdge
  | none => ([], [])
  | some (sn, cps) => (sn :: cps, ⟨x.ref, sn.ref, .has⟩ :: ports sn cps)

/-- `s` plus a new node `x` hung by the edges `Hx`, with `o` under it: the shape of every partial construct a clean-up of
`add_component_sliver`, `add_facility` or `add_switch` can meet -/
def hung (s : Topo) (x : GNode) (Hx : List GEdge) (o : Option (GNode × List GNode)) : Topo :=
  grow s (x :: (under x o).1) (Hx ++ (under x o).2)

section
variable {s : Topo} {x : GNode} {Hx : List GEdge} {o : Option (GNode × List GNode)}

theorem mem_hung : x ∈ (hung s x Hx o).nodes := by simp [hung]

theorem closed_hung (hc : Closed s) (hHx : ∀ e ∈ Hx, e.b = x.ref ∧ ∃ p ∈ s.nodes, p.ref = e.a) : Closed (hung s x Hx o) := by
  refine closed_grow hc fun e he => ?_
  rcases List.mem_append.mp he with he | he
  · obtain ⟨hb, p, hp, hpa⟩ := hHx e he
    exact ⟨⟨p, List.mem_append_left _ hp, hpa⟩, ⟨x, by simp, hb.symm⟩⟩
  · match o, he with
    | some (sn, cps), he =>
      rcases List.mem_cons.mp he with rfl | he
      · exact ⟨⟨x, by simp, rfl⟩, ⟨sn, by simp [under], rfl⟩⟩
      · obtain ⟨c, hc', rfl⟩ := List.mem_map.mp he
        exact ⟨⟨sn, by simp [under], rfl⟩, ⟨c, by simp [under, hc'], rfl⟩⟩

theorem adj_under (hc : Closed s) (hd : IdsDistinct (hung s x Hx o)) {y : Ref} {rel : Rel}
    (ha : adjacent (hung s x Hx o) x.ref y rel = true) :
    (∃ e ∈ Hx, sameEnds e x.ref y = true) ∨ ∃ sn cps, o = some (sn, cps) ∧ y = sn.ref := by
  obtain ⟨_, hnd, hfr⟩ := hd.of_grow
  rw [hung, adjacent_grow_new hc (absent_of_fresh (hfr x (List.mem_cons_self ..)))] at ha
  obtain ⟨e, he, _, hs⟩ := adjacent_iff.mp ha
  rcases List.mem_append.mp he with he | he
  · exact .inl ⟨e, he, hs⟩
  · match o, he, hnd with
    | some (sn, cps), he, hnd =>
      simp only [under, List.map_cons, List.nodup_cons, List.mem_cons, List.mem_map, not_or, not_exists, not_and] at hnd
      have hsx : sn.ref ≠ x.ref := ref_ne_of_nid_ne fun e => hnd.1.1 e.symm
      refine .inr ⟨sn, cps, rfl, ?_⟩
      rcases List.mem_cons.mp he with rfl | he
      · rcases sameEnds_iff.mp hs with ⟨_, h2⟩ | ⟨_, h2⟩
        · exact h2.symm
        · exact absurd h2 hsx
      · obtain ⟨c, hc', rfl⟩ := List.mem_map.mp he
        rcases sameEnds_iff.mp hs with ⟨h1, _⟩ | ⟨_, h2⟩
        · exact absurd h1 hsx
        · exact absurd h2 (ref_ne_of_nid_ne (hnd.1.2 c hc'))

/-- the tail of `remove_network_node_…` and `remove_component_…`: `x` goes, then the service under it with its interfaces -/
theorem dropThenNs_new (hc : Closed s) (hd : IdsDistinct (hung s x Hx o))
    (ho : ∀ sn cps, o = some (sn, cps) → sn.cls = .networkService ∧ ∀ c ∈ cps, c.cls = .connectionPoint)
    (hHx : ∀ e ∈ Hx, e.b = x.ref ∧ e.a.cls ≠ .networkService) :
    (deleteNode x.nid >>= fun _ => M.forEach
      ((neighbors (hung s x Hx o) x.ref .has .networkService).map (·.nid)) removeNs)
      (hung s x Hx o) = (.ok (), s) := by
  obtain ⟨_, hnd, hfr⟩ := hd.of_grow
  have ha : Absent s x.ref := absent_of_fresh (hfr x (List.mem_cons_self ..))
  have hxm : x ∈ (hung s x Hx o).nodes := mem_hung
  -- a service next to `x` is the one under it: the nodes `x` hangs from are no services
  have hup : ∀ y ∈ (hung s x Hx o).nodes, y.cls = .networkService →
      adjacent (hung s x Hx o) x.ref y.ref .has = true → ∃ sn cps, o = some (sn, cps) ∧ y.ref = sn.ref := by
    intro y _ hy hadj
    refine (adj_under hc hd hadj).resolve_left fun ⟨e, he, hs⟩ => ?_
    rcases sameEnds_iff.mp hs with ⟨h1, h2⟩ | ⟨h1, _⟩
    · have hyx : y.cls = x.cls := cls_of_ref_eq (h2.symm.trans (hHx e he).1)
      exact (hHx e he).2 (by rw [h1, ref_cls, ← hyx, hy])
    · exact (hHx e he).2 (by rw [h1, ref_cls, hy])
  rw [bind_ok (deleteNode_run hd hxm), show dropNode x.ref (hung s x Hx o) = _ from dropNode_grow_new hc ha]
  have hHf : Hx.filter (fun e => e.a != x.ref && e.b != x.ref) = [] :=
    List.filter_eq_nil_iff.mpr fun e he => by simp [(hHx e he).1]
  match o, hd, hnd, ho, hup with
  | none, _, _, _, hup =>
    rw [neighbors_eq_nil fun y hy hc' => Bool.eq_false_iff.mpr fun h => by obtain ⟨_, _, h, _⟩ := hup y hy hc' h; cases h]
    simp only [under, List.append_nil, hHf, List.filter_cons, List.filter_nil, bne_self_eq_false, Bool.false_eq_true, if_false, grow_nil]
    rfl
  | some (sn, cps), hd, hnd, ho, hup =>
    obtain ⟨hscls, hccls⟩ := ho sn cps rfl
    simp only [under, List.map_cons, List.nodup_cons, List.mem_cons, List.mem_map, not_or, not_exists, not_and] at hnd
    have hsx : sn.ref ≠ x.ref := ref_ne_of_nid_ne fun e => hnd.1.1 e.symm
    have hcx : ∀ c ∈ cps, c.ref ≠ x.ref := fun c hc' => ref_ne_of_nid_ne (hnd.1.2 c hc')
    have hns : neighbors (hung s x Hx (some (sn, cps))) x.ref .has .networkService = [sn] := by
      rw [← hscls]
      refine neighbors_eq_singleton hd (by simp [hung, under])
        (adjacent_of_edge (List.mem_append_right _ (List.mem_append_right _ (List.mem_cons_self ..)))).1 fun y hy hc' h => ?_
      obtain ⟨sn', _, h1, h2⟩ := hup y hy (hc'.trans hscls) h
      cases h1; exact h2
    have hN : (x :: (under x (some (sn, cps))).1).filter (fun n => n.ref != x.ref) = sn :: cps := by
      simp only [under]
      rw [List.filter_cons, if_neg (by simp), List.filter_eq_self]
      intro c hc'
      rcases List.mem_cons.mp hc' with rfl | hc'
      · simpa using hsx
      · simpa using hcx c hc'
    have hE : (Hx ++ (under x (some (sn, cps))).2).filter (fun e => e.a != x.ref && e.b != x.ref) = ports sn cps := by
      simp only [under]
      rw [List.filter_append, hHf, List.nil_append, List.filter_cons, if_neg (by simp), List.filter_eq_self]
      intro e he
      obtain ⟨c, hc', rfl⟩ := List.mem_map.mp he
      simpa using ⟨hsx, hcx c hc'⟩
    rw [hns, hN, hE]
    have hd' : IdsDistinct (grow s (sn :: cps) ([] ++ ports sn cps)) := by
      obtain ⟨hds, hnd', hfr'⟩ := hd.of_grow
      exact idsDistinct_grow hds (List.nodup_cons.mp hnd').2 fun n hn => hfr' n (List.mem_cons_of_mem _ hn)
    simp only [List.map_cons, List.map_nil]
    exact (forEach_cons_ok (removeNs_new (H := []) hc hd' hscls hccls fun _ he => by cases he)).trans rfl

theorem removeNodeGraph_new (hc : Closed s) (hd : IdsDistinct (hung s x [] o))
    (hx : x.cls = .networkNode) (ho : ∀ sn cps, o = some (sn, cps) → sn.cls = .networkService ∧ ∀ c ∈ cps, c.cls = .connectionPoint) :
    removeNodeGraph x.nid (hung s x [] o) = (.ok (), s) := by
  have hxm : x ∈ (hung s x [] o).nodes := mem_hung
  have hcomp : neighbors (hung s x [] o) x.ref .has .component = [] :=
    neighbors_eq_nil fun y _ hy => Bool.eq_false_iff.mpr fun hadj => by
      rcases adj_under (Hx := []) hc hd hadj with ⟨_, he, _⟩ | ⟨sn, cps, e, hr⟩
      · cases he
      · have := cls_of_ref_eq hr; rw [hy, (ho sn cps e).1] at this; cases this
  unfold removeNodeGraph
  rw [bind_ok (findNode_of_mem hd hxm), bind_ok (guard_run (by simp [hx])), bind_ok (firstNeighbor_run hd hxm .has .component), hcomp,
    List.map_nil, bind_ok (show M.forEach [] removeCompGraph _ = (.ok (), _) from rfl), bind_ok (firstNeighbor_run hd hxm .has .networkService)]
  exact dropThenNs_new (Hx := []) hc hd ho fun _ he => by cases he

theorem removeCompGraph_new (hc : Closed s) (hd : IdsDistinct (hung s x Hx o))
    (hx : x.cls = .component) (ho : ∀ sn cps, o = some (sn, cps) → sn.cls = .networkService ∧ ∀ c ∈ cps, c.cls = .connectionPoint)
    (hHx : ∀ e ∈ Hx, e.b = x.ref ∧ e.a.cls ≠ .networkService) :
    removeCompGraph x.nid (hung s x Hx o) = (.ok (), s) := by
  have hxm : x ∈ (hung s x Hx o).nodes := mem_hung
  unfold removeCompGraph
  rw [bind_ok (findNode_of_mem hd hxm), bind_ok (guard_run (by simp [hx])), bind_ok (firstNeighbor_run hd hxm .has .networkService)]
  exact dropThenNs_new hc hd ho hHx
end

end FimVerif.Topo
