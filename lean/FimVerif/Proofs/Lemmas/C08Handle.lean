import FimVerif.Proofs.Lemmas.C08Sep
/-! Shared by both developments.  Handle caches: the interface list kept by the handle an operation goes through (`hDrop` by node id)
against what a fresh lookup lists afterwards. -/
namespace FimVerif.Remove

theorem hIds_hDrop (h : List IfH) (p : Nat) : hIds (hDrop h p) = (hIds h).filter (fun z => z != p) := by
  simp only [hIds, hDrop, List.filter_map]; rfl

theorem hDrop_of_not_mem {h : List IfH} {p : Nat} (hp : p ∉ hIds h) : hDrop h p = h :=
  List.filter_eq_self.mpr fun _ hx => bne_iff_ne.mpr fun e => hp (e ▸ List.mem_map_of_mem hx)

theorem fresh_after_minus {g : G} {s c : Nat} {D : List Nat} {h : List IfH} (hs : D.contains s = false)
    (hD : ∀ y ∈ freshIfs g s, y ∈ D ↔ y = c) (hh : ∀ y, y ∈ hIds h ↔ y ∈ freshIfs g s) :
    ∀ y, y ∈ hIds (hDrop h c) ↔ y ∈ freshIfs (g.minus D) s := by
  intro y
  have e : freshIfs (g.minus D) s = (freshIfs g s).filter (fun y => !D.contains y) := nbrs_minus hs
  rw [e, hIds_hDrop]
  simp only [List.mem_filter, hh y, bne_iff_ne, ne_eq, Bool.not_eq_true', List.contains_eq_mem, decide_eq_false_iff_not]
  constructor
  · rintro ⟨hy, hne⟩; exact ⟨hy, fun hm => hne ((hD y hy).mp hm)⟩
  · rintro ⟨hy, hn⟩; exact ⟨hy, fun he => hn ((hD y hy).mpr he)⟩

theorem fresh_after_cpDel {g : G} {s x : Nat} {dp : Bool} {h : List IfH}
    (hfam : cpFamily g x dp = [x]) (hs : (cpDel g x dp).contains s = false)
    (hh : ∀ y, y ∈ hIds h ↔ y ∈ freshIfs g s) :
    ∀ y, y ∈ hIds (hDrop h x) ↔ y ∈ freshIfs (g.minus (cpDel g x dp)) s := by
  refine fresh_after_minus hs (fun y hy => ?_) hh
  simp only [cpDel, hfam, mem_dedup, List.mem_append, List.mem_singleton, cpLinks, List.mem_flatMap, List.mem_filter]
  -- an interface of `s` is not a link
  refine ⟨fun hm => hm.elim id fun ⟨i, _, hl, _⟩ => ?_, Or.inl⟩
  have h1 := mem_nbrs_cls hl
  rw [mem_nbrs_cls hy] at h1; cases h1

theorem disconnect_ok {g : G} {h : List IfH} {i : Nat} {g' : G} {h' : List IfH} (hrun : disconnect g h i = .ok (g', h')) :
    (g' = g ∧ h' = h) ∨ ∃ p, spPeers g i = [p] ∧ removeCp g p true = .ok g' ∧ h' = hDrop h p := by
  obtain ⟨r, hr, heq⟩ := Except.map_eq_ok_iff.1 hrun
  simp only [Prod.mk.injEq] at heq
  obtain ⟨rfl, rfl⟩ := heq
  unfold disconnectG at hr
  split at hr
  · split at hr
    · cases hr; exact Or.inl ⟨rfl, rfl⟩
    · rename_i p hsp
      obtain ⟨g1, hg1, rfl⟩ := Except.map_eq_ok_iff.1 hr
      exact Or.inr ⟨p, hsp, hg1, rfl⟩
    · cases hr
  · cases hr

end FimVerif.Remove
