import FimVerif.Proofs.Lemmas.C08Gen
/-! `WF` development.  One iteration of the disconnect loop of `Topology._disconnect_interfaces` under the invariant: for an interface
still present (`disconnectStep_res`), and inside a call that removes `x` (`disconnectStep_resJ`, invariant `InvJ`).  `Own`, `InvA`,
`ResA`: what a user-level call removes and what holds between two of them. -/
namespace FimVerif.Remove

theorem spPeers_minus_inv {g : G} (hP : InvPeer g = true) {A : List Nat} (hOK : LinkOK g A) {i : Nat}
    (hc : g.cls? i = some .cp) (hiA : i ∉ A) :
    spPeers (g.minus A) i = (spPeers g i).filter (fun p => !A.contains p) := by
  by_cases hl : ∃ l ∈ g.nbrs i .connects .link, l ∈ A
  · -- the link is gone: `LinkOK` leaves it at most one live end, and `i` is one, so every peer is gone too
    obtain ⟨l, hli, hlA⟩ := hl
    have hlk := link_eq hP hc hli
    have h1 : spPeers (g.minus A) i = [] := by
      simp [spPeers, peers, nbrs_minus (contains_false hiA), hlk, hlA]
    rw [h1, eq_comm, List.filter_eq_nil_iff]
    intro p hp hpA0
    obtain ⟨l', hl', hpl, hne, _⟩ := mem_spPeers.mp hp
    rw [hlk, List.mem_singleton] at hl'; subst hl'
    have hpA : p ∉ A := by simpa [List.contains_eq_mem] using hpA0
    have h1 := ((hOK l' (mem_nbrs_cls hli)).mp hlA).2.2
    have : 2 ≤ (live g A l').length :=
      two_le_length_of_mem (a := i) (b := p) (by simp [live, nbrs_symm hli hc, hiA]) (by simp [live, hpl, hpA]) fun h => hne h.symm
    omega
  · exact spPeers_minus_links hiA fun l h hlA => hl ⟨l, h, hlA⟩

theorem disconnectStep_res (g : G) (hW : WF g = true) (i : Nat) (hc : g.cls? i = some .cp) :
    Removes (InvD g) (PortOf g) g disconnectStep i := by
  intro A hA hiA
  have hP := wf_peer hW
  obtain ⟨hInv, hD⟩ := hA
  refine Res.downC ?_ hD fun x y hx hy => by rw [port_children hP hx] at hy; cases hy
  have hsp := spPeers_minus_inv hP hInv.1 hc hiA
  by_cases h : ∃ p, PortOf g i p ∧ p ∉ A
  · obtain ⟨p, hport, hpA⟩ := h
    have hp := spPeers_of_portOf hP hport
    simp only [hp, List.filter_cons, contains_false hpA, Bool.not_false, ite_true, List.filter_nil] at hsp
    have hpc := hport.port_cls
    -- the port's service is still there
    have hsvc : (g.minus A).nbrs p .connects .ns = g.nbrs p .connects .ns := by
      rw [nbrs_minus (contains_false hpA)]
      exact List.filter_eq_self.2 fun s hs => not_contains fun h =>
        hpA (hD s h p (children_ns (mem_nbrs_cls hs) ▸ nbrs_symm hs hpc))
    obtain ⟨A', hr, hsub', hmem, hInv'⟩ := removeSp_res g hW A hInv p hpc hport.port_kind hpA
    have hhas : (g.minus A).has i = true := by
      rw [has_minus, cls_has hc]; simp [List.contains_eq_mem, hiA]
    refine ⟨A', ?_, hsub', fun y hy => ?_, hInv'⟩
    · unfold disconnectStep
      rw [hsp]
      simp only [hsvc, wf_port hW hpc hport.port_kind, beq_self_eq_true, ite_true, disconnectG, hhas, hsp, hr, Except.map]
    · rw [hmem y hy]
      exact or_congr_right ⟨fun e => e ▸ hport, hport.unique hP⟩
  · -- no port, or the port is gone: nothing happens
    have h0 : spPeers (g.minus A) i = [] := by
      rw [hsp, List.filter_eq_nil_iff]
      exact fun p hp hpA => h ⟨p, portOf_of_mem_spPeers hP hc hp, by simpa [List.contains_eq_mem] using hpA⟩
    have : disconnectStep (g.minus A) i = .ok (g.minus A) := by unfold disconnectStep; rw [h0]
    exact this ▸ Res.skip hInv fun y _ hy => Classical.byContradiction fun hyA => h ⟨y, hy, hyA⟩

/-- the element with what is below it and the service-side ports of its interfaces (everything owned but links) -/
def Own (g : G) (x y : Nat) : Prop := ∃ i, Below g x i ∧ (y = i ∨ PortOf g i y)

theorem own_leaf {g : G} {c : Nat} (hleaf : children g c = []) (y : Nat) : Own g c y ↔ y = c ∨ PortOf g c y := by
  simp only [Own, below_leaf hleaf, exists_eq_left]

/-- port closure -/
def PortC (g : G) (A : List Nat) : Prop := ∀ i ∈ A, ∀ y, PortOf g i y → y ∈ A

/-- the invariant between two user-level calls -/
def InvA (g : G) (A : List Nat) : Prop := InvC g A ∧ DownC g A ∧ PortC g A

theorem InvA.linkOK {g : G} {A : List Nat} (h : InvA g A) : LinkOK g A := h.1.1

theorem InvA.famC {g : G} {A : List Nat} (h : InvA g A) : FamC g A := h.1.2

theorem InvA.downC {g : G} {A : List Nat} (h : InvA g A) : DownC g A := h.2.1

theorem InvA.portC {g : G} {A : List Nat} (h : InvA g A) : PortC g A := h.2.2

theorem invA_nil (g : G) : InvA g [] := ⟨invC_nil g, downC_nil g, fun _ h => by cases h⟩

/-- `Res (InvA g) (NL g) g A P r` written out: the rules of `Res` apply to it as they are -/
def ResA (g : G) (A : List Nat) (P : Nat → Prop) (r : Except Err G) : Prop :=
  ∃ A', r = .ok (g.minus A') ∧ (∀ y, y ∈ A → y ∈ A') ∧
    (∀ y, g.cls? y ≠ some .link → (y ∈ A' ↔ y ∈ A ∨ P y)) ∧ InvA g A'

/-- the invariant of the disconnect loop of a call that removes `x`: the port of an interface that is gone is gone too or is
itself below `x` (of two facing ports below `x` the loop deletes the one whose peer it meets first; the other goes with `x`) -/
def InvJ (g : G) (x : Nat) (A : List Nat) : Prop :=
  InvD g A ∧ (∀ i ∈ A, ∀ y, PortOf g i y → y ∈ A ∨ Below g x y) ∧ x ∉ A

/-- **one iteration of `_disconnect_interfaces`** in a call that removes `x`, for an interface below `x`, still present or not:
outside what is below `x`, exactly its service-side port goes -/
theorem disconnectStep_resJ (g : G) (hW : WF g = true) (x : Nat) (hxl : NL g x)
    (A : List Nat) (hA : InvJ g x A) (i : Nat) (hc : g.cls? i = some .cp) (hi : Below g x i) :
    Res (InvJ g x) (fun y => NL g y ∧ ¬ Below g x y) g A (PortOf g i) (disconnectStep (g.minus A) i) := by
  obtain ⟨hD, hPJ, hxA⟩ := hA
  by_cases hiA : i ∈ A
  · have : disconnectStep (g.minus A) i = .ok (g.minus A) := by
      unfold disconnectStep
      rw [spPeers_gone hiA]
    rw [this]
    exact Res.skip ⟨hD, hPJ, hxA⟩ fun y hy hp => (hPJ i hiA y hp).elim id fun hb => absurd hb hy.2
  · obtain ⟨A1, hr, hsub, hmem, hD1⟩ := disconnectStep_res g hW i hc A hD hiA
    refine ⟨A1, hr, hsub, fun y hy => hmem y hy.1, hD1, fun i' hi' y hp => ?_, fun hx1 => ?_⟩
    · rcases (hmem i' (cls_ne_link hp.cls)).mp hi' with h | h
      · exact (hPJ i' h y hp).imp_left (hsub y)
      · rw [portOf_back (wf_peer hW) h hp]; exact Or.inr hi
    · exact ((hmem x hxl).mp hx1).elim hxA (not_portOf_below (wf_peer hW) hi)

end FimVerif.Remove
