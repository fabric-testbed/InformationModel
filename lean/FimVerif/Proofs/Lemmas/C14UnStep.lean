import FimVerif.Proofs.Lemmas.C14Union
/-! C14: what `unmerge` does: `unmerged` is what it returns when it does not raise (`unmerge_ok_iff`, the counterpart of `mergeN_ok_iff`);
`UnmergeStep` is a successful unmerge through the observations. -/
namespace FimVerif.Cbm

theorem provUnmerge_fresh {gid : String} {p : List String} (h : gid ∉ p) : provUnmerge gid p = (p, false) := by
  simp [provUnmerge, h]

theorem provUnmerge_single (gid : String) : provUnmerge gid [gid] = ([gid], true) := by
  simp [provUnmerge]

theorem provUnmerge_appended {gid : String} {p : List String} (h : gid ∉ p) (hp : p ≠ []) :
    provUnmerge gid (p ++ [gid]) = (p, false) := by
  have he : (p ++ [gid]).erase gid = p := by
    rw [List.erase_append_right _ h]; simp
  simp [provUnmerge, he, hp]

theorem provUnmerge_nodup (gid : String) {p : List String} (hp : p.Nodup) :
    provUnmerge gid p = (if (p.filter (fun x => x != gid)).isEmpty then p else p.filter (fun x => x != gid),
      !p.isEmpty && (p.filter (fun x => x != gid)).isEmpty) := by
  unfold provUnmerge
  rw [hp.erase_eq_filter]
  by_cases hc : p.contains gid = true
  · rw [if_pos hc]
    have : p.isEmpty = false := by cases p with
      | nil => cases hc
      | cons _ _ => rfl
    cases (p.filter (fun x => x != gid)).isEmpty <;> simp [this]
  · rw [if_neg hc, List.filter_eq_self.mpr fun x hx => by simpa using fun e => hc (by rw [← e]; exact List.contains_iff_mem.mpr hx)]
    cases p <;> rfl

/-- total version of `unmergeNode` (the node it returns when it does not raise) -/
def unT (gid : String) (n : Node) : Node :=
  { n with prov := (provUnmerge gid n.prov).1, cdel := n.cdel.un gid, ldel := n.ldel.un gid }

/-- the node as `unmerge` keeps it, `none` if it deletes it -/
def unKeep (gid : String) (n : Node) : Option Node :=
  if (provUnmerge gid n.prov).2 then none else some (unT gid n)

/-- the graph a successful unmerge returns -/
def unmerged (g : Graph) (gid : String) : Graph :=
  let keep := g.nodes.filterMap (unKeep gid)
  ⟨keep, g.edges.filter (fun e => (keep.map (·.id)).contains e.a && (keep.map (·.id)).contains e.b)⟩

/-- `unmergeNode` does not raise -/
def Node.unOk (gid : String) (n : Node) : Bool := n.cdel.unOk gid && n.ldel.unOk gid

theorem unmergeNode_iff {gid : String} {n : Node} {r : Node × Bool} :
    unmergeNode gid n = .ok r ↔ n.unOk gid = true ∧ r = (unT gid n, (provUnmerge gid n.prov).2) := by
  simp only [unmergeNode, Node.unOk, Deleg.unmerge_eq]
  cases n.cdel.unOk gid <;> cases n.ldel.unOk gid <;> simp [unT, eq_comm]

theorem unmergeNodes_cons_iff {gid : String} {n : Node} {l : List Node} {rs : List (Node × Bool)} :
    unmergeNodes gid (n :: l) = .ok rs ↔ ∃ r rs', unmergeNode gid n = .ok r ∧ unmergeNodes gid l = .ok rs' ∧ rs = r :: rs' := by
  constructor
  · intro h
    unfold unmergeNodes at h
    split at h
    · cases h
    · rename_i r hr
      split at h
      · cases h
      · rename_i rs' hrs
        exact ⟨r, rs', hr, hrs, (Except.ok.inj h).symm⟩
  · rintro ⟨r, rs', h1, h2, rfl⟩
    simp only [unmergeNodes, h1, h2]

theorem unmergeNodes_iff {gid : String} {ns : List Node} {l : List (Node × Bool)} :
    unmergeNodes gid ns = .ok l ↔
      (∀ n ∈ ns, n.unOk gid = true) ∧ l = ns.map fun n => (unT gid n, (provUnmerge gid n.prov).2) := by
  induction ns generalizing l with
  | nil => exact ⟨fun h => ⟨fun _ hn => (nomatch hn), (Except.ok.inj h).symm⟩, fun ⟨_, h⟩ => h ▸ rfl⟩
  | cons n ns ih =>
    rw [unmergeNodes_cons_iff, List.forall_mem_cons, List.map_cons]
    constructor
    · rintro ⟨r, rs, hr, hrs, rfl⟩
      obtain ⟨h1, rfl⟩ := unmergeNode_iff.mp hr
      obtain ⟨h2, rfl⟩ := ih.mp hrs
      exact ⟨⟨h1, h2⟩, rfl⟩
    · rintro ⟨⟨h1, h2⟩, rfl⟩
      exact ⟨_, _, unmergeNode_iff.mpr ⟨h1, rfl⟩, ih.mpr ⟨h2, rfl⟩, rfl⟩

theorem filter_map_unKeep (gid : String) (ns : List Node) :
    (((ns.map fun n => (unT gid n, (provUnmerge gid n.prov).2)).filter (fun r => !r.2)).map (·.1)) = ns.filterMap (unKeep gid) := by
  induction ns with
  | nil => rfl
  | cons n ns ih =>
    rw [List.filterMap_cons, List.map_cons, List.filter_cons]
    cases hf : (provUnmerge gid n.prov).2 <;> simp [ih, unKeep, hf]

theorem unmerge_ok_iff {c : Graph} {gid : String} {g' : Graph} :
    unmerge c gid = (none, g') ↔ c.nodes ≠ [] ∧ (∀ n ∈ c.nodes, n.unOk gid = true) ∧ g' = unmerged c gid := by
  unfold unmerge
  split
  · rename_i he
    exact ⟨nofun, fun h => absurd (List.isEmpty_iff.mp he) h.1⟩
  · rename_i he
    split
    · rename_i ns hns
      refine ⟨nofun, fun h => ?_⟩
      rw [unmergeNodes_iff.mpr ⟨h.2.1, rfl⟩] at hns
      cases hns
    · rename_i l hl
      obtain ⟨hok, rfl⟩ := unmergeNodes_iff.mp hl
      simp only [filter_map_unKeep]
      exact ⟨fun h => ⟨by simpa using he, hok, ((Prod.mk.inj h).2).symm⟩, fun h => by rw [h.2.2]; rfl⟩

theorem unKeep_id {gid : String} {n m : Node} (h : unKeep gid n = some m) : m.id = n.id := by
  unfold unKeep at h
  split at h
  · cases h
  · injection h with h; subst h; rfl

theorem find?_filterMap_id (f : Node → Option Node) (hf : ∀ n m, f n = some m → m.id = n.id) (i : String)
    (l : List Node) (hn : (l.map (·.id)).Nodup) :
    (l.filterMap f).find? (fun n => n.id == i) = (l.find? (fun n => n.id == i)).bind f := by
  -- the nodes with id `i` after `f` are `f` of the nodes with id `i`, and there is at most one of these
  have h1 : (l.filterMap f).filter (fun n => n.id == i) = (l.filter (fun n => n.id == i)).filterMap f :=
    (List.filterMap_filter_comm f _ _ l fun x _ m hx => by rw [hf x m hx]).symm
  rw [← List.head?_filter, h1]
  cases hfd : l.find? (fun n => n.id == i) with
  | none => rw [List.filter_eq_nil_iff.mpr fun a ha => by simpa using List.find?_eq_none.mp hfd a ha]; rfl
  | some n =>
    obtain rfl : n.id = i := by simpa using List.find?_some hfd
    rw [List.filter_eq_singleton_of_nodup_map (·.id) hn (List.mem_of_find?_eq_some hfd), List.filterMap_cons, Option.bind_some]
    cases f n <;> rfl

theorem node?_unmerged {g : Graph} (hn : g.ids.Nodup) (gid : String) (i : String) :
    (unmerged g gid).node? i = (g.node? i).bind (unKeep gid) := by
  unfold Graph.node? unmerged
  exact find?_filterMap_id (unKeep gid) (fun _ _ h => unKeep_id h) i g.nodes hn

theorem find?_filter_joins (es : List Edge) (q : String → Bool) (x y : String) :
    (es.filter (fun e => q e.a && q e.b)).find? (fun e => e.joins x y) =
      if q x && q y then es.find? (fun e => e.joins x y) else none :=
  find?_filter_const _ _ _ (fun _ hj => joins_sym_eq hj (fun u v => q u && q v) fun _ _ => Bool.and_comm _ _) es

/-- a successful unmerge of `gid` from `g` gave `g'`, observation by observation -/
structure UnmergeStep (g : Graph) (gid : String) (g' : Graph) : Prop where
  has : ∀ i, g'.has i = (g.has i && !(provUnmerge gid (g.provOf i)).2)
  props : ∀ i, g'.propsOf i = if g'.has i then g.propsOf i else none
  prov : ∀ i, g'.provOf i = if g'.has i then (provUnmerge gid (g.provOf i)).1 else []
  ldel : ∀ i, g'.ldelOf i = if g'.has i then (g.ldelOf i).un gid else .absent
  cdel : ∀ i, g'.cdelOf i = if g'.has i then (g.cdelOf i).un gid else .absent
  hasEdge : ∀ x y, g'.hasEdge x y = (g.hasEdge x y && g'.has x && g'.has y)
  edgeData : ∀ x y, g'.edgeData x y = if g'.has x && g'.has y then g.edgeData x y else none
  wf : g'.WF

theorem ids_unmerged_sub (g : Graph) (gid : String) : ∀ i ∈ (unmerged g gid).ids, i ∈ g.ids := by
  intro i hi
  simp only [unmerged, Graph.ids, List.mem_map, List.mem_filterMap] at hi
  obtain ⟨m, ⟨n, hn, hk⟩, rfl⟩ := hi
  rw [unKeep_id hk]
  exact List.mem_map.mpr ⟨n, hn, rfl⟩

theorem ids_unmerged (g : Graph) (gid : String) :
    (unmerged g gid).ids = (g.nodes.filter (fun n => !(provUnmerge gid n.prov).2)).map (·.id) := by
  simp only [unmerged, Graph.ids]
  induction g.nodes with
  | nil => rfl
  | cons n l ih =>
    rw [List.filterMap_cons, List.filter_cons]
    cases hf : (provUnmerge gid n.prov).2 <;> simp [ih, unT, unKeep, hf]

theorem unmerge_step {g : Graph} {gid : String} {g' : Graph} (hg : g.WF) (h : unmerge g gid = (none, g')) :
    UnmergeStep g gid g' := by
  obtain rfl := (unmerge_ok_iff.mp h).2.2
  have hnode := node?_unmerged hg.nodup gid
  have hhas : ∀ i, (unmerged g gid).has i = (g.has i && !(provUnmerge gid (g.provOf i)).2) := by
    intro i
    rw [has_eq_isSome, has_eq_isSome, hnode]
    unfold Graph.provOf unKeep
    cases g.node? i with
    | none => rfl
    | some n => simp only [Option.bind_some, Option.map_some, Option.getD_some, Option.isSome_some, Bool.true_and]; split <;> simp_all
  have hedge : ∀ x y, (unmerged g gid).edge? x y =
      if (unmerged g gid).has x && (unmerged g gid).has y then g.edge? x y else none := fun x y =>
    find?_filter_joins g.edges (fun i => (unmerged g gid).has i) x y
  -- an observation `O` of the node at `i`: that of what `unT` makes of the node if the element stays, that of no node otherwise
  have hobs : ∀ {β : Type} (O : Option Node → β) (F : β → β), (∀ n, O (some (unT gid n)) = F (O (some n))) → ∀ i,
      O ((unmerged g gid).node? i) = if (unmerged g gid).has i then F (O (g.node? i)) else O none := by
    intro β O F hF i
    rw [has_eq_isSome, hnode]
    cases g.node? i with
    | none => rfl
    | some n =>
      simp only [Option.bind_some, unKeep]
      split
      · rfl
      · exact hF n
  refine ⟨hhas, hobs (fun o => o.map Node.props) id fun _ => rfl, hobs (fun o => (o.map Node.prov).getD []) (fun p => (provUnmerge gid p).1) fun _ => rfl,
    hobs (fun o => (o.map Node.ldel).getD .absent) (Deleg.un gid) fun _ => rfl,
    hobs (fun o => (o.map Node.cdel).getD .absent) (Deleg.un gid) fun _ => rfl, ?_, ?_, ?_⟩
  · intro x y
    rw [← edge?_isSome, ← edge?_isSome, hedge]
    split
    · rename_i h; rw [Bool.and_assoc, h, Bool.and_true]
    · rename_i h; rw [Bool.and_assoc, Bool.not_eq_true _ |>.mp h, Bool.and_false]; rfl
  · intro x y
    unfold Graph.edgeData
    rw [hedge]
    split <;> rfl
  · refine ⟨?_, ?_, ?_⟩
    · rw [ids_unmerged]
      exact List.Pairwise.map _ (fun _ _ h => h) (List.Pairwise.filter _ (List.pairwise_map.mp hg.nodup))
    · intro e he
      have := (List.mem_filter.mp he).2
      simp only [Bool.and_eq_true, List.contains_iff_mem] at this
      exact this
    · exact List.Pairwise.filter _ hg.edges

theorem UnmergeStep.del {g : Graph} {gid : String} {g' : Graph} (us : UnmergeStep g gid g') (cap : Bool) (i : String) :
    g'.delOf cap i = if g'.has i then (g.delOf cap i).un gid else .absent := by
  cases cap
  · exact us.ldel i
  · exact us.cdel i

end FimVerif.Cbm
