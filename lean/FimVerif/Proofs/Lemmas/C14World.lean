import FimVerif.Proofs.Lemmas.C14Tracks
/-! C14: the broker's world over all histories of merge / unmerge / snapshot / rollback: the invariant `WInv` (combined model and every
snapshot tracked), and a snapshot stays until it is rolled back to (`snap_survives`). -/
namespace FimVerif.Cbm

def WInv (w : World) : Prop :=
  (∃ live, Tracks w.srcs w.cbm live) ∧ ∀ p ∈ w.snaps, ∃ live, Tracks w.srcs p.2 live

/-- what the property's quantifier asks of one operation: a merge names a well-formed model that is not currently part of
the combined model, and either succeeds or leaves the combined model as it was (a merge that raises half-way - conflicting
delegations - leaves a state the property does not speak about). Stated with `mergeN`; `step` runs `merge`, the call on the NetworkX
store, whose state is the same (`merge_state`) whether or not the final GraphID rewrite raises -/
def OpOk (w : World) : Op → Prop
  | .merge aid =>
    match w.srcs.find? (fun a => a.id == aid) with
    | none => True
    | some a => a.WF ∧ w.cbm.Fresh aid ∧ ((mergeN w.cbm a).1 = none ∨ (mergeN w.cbm a).2 = w.cbm)
  | _ => True

def HistOk (w : World) : List Op → Prop
  | [] => True
  | op :: ops => OpOk w op ∧ HistOk (step w op).2 ops

instance (w : World) (op : Op) : Decidable (OpOk w op) := by
  cases op with
  | merge aid =>
    unfold OpOk
    simp only
    cases w.srcs.find? (fun a => a.id == aid) with
    | none => exact isTrue trivial
    | some a => simp only; infer_instance
  | unmerge gid => exact isTrue trivial
  | snapshot => exact isTrue trivial
  | rollback k => exact isTrue trivial

def HistOk.dec : (w : World) → (ops : List Op) → Decidable (HistOk w ops)
  | _, [] => isTrue trivial
  | w, op :: ops =>
    have := HistOk.dec (step w op).2 ops
    (inferInstance : Decidable (OpOk w op ∧ HistOk (step w op).2 ops))

instance (w : World) (ops : List Op) : Decidable (HistOk w ops) := HistOk.dec w ops

theorem WInv.init (srcs : List Adm) : WInv (World.init srcs) :=
  ⟨⟨[], Tracks.empty srcs⟩, by simp [World.init]⟩

theorem lookupSnap_mem {k : Nat} {g : Graph} : ∀ {l : List (Nat × Graph)}, lookupSnap k l = some g → (k, g) ∈ l
  | [], h => by cases h
  | (j, g') :: l, h => by
    unfold lookupSnap at h
    split at h
    · rename_i hj
      injection h with h
      subst h
      have : j = k := by simpa using hj
      subst this
      simp
    · exact List.mem_cons_of_mem _ (lookupSnap_mem h)

theorem WInv.step {w : World} (h : WInv w) (op : Op) (hop : OpOk w op) : WInv (step w op).2 := by
  obtain ⟨⟨live, t⟩, hs⟩ := h
  cases op with
  | merge aid =>
    simp only [OpOk] at hop
    cases hf : w.srcs.find? (fun a => a.id == aid) with
    | none => simp only [Cbm.step, hf]; exact ⟨⟨live, t⟩, hs⟩
    | some a =>
      rw [hf] at hop
      simp only [Cbm.step, hf] at hop ⊢
      obtain ⟨hwf, hfresh, hok⟩ := hop
      have hid : a.id = aid := by simpa using List.find?_some hf
      have hmem : a ∈ w.srcs := List.mem_of_find?_eq_some hf
      refine ⟨?_, hs⟩
      rw [merge_state]
      rcases hok with hok | hok
      · have hm : mergeN w.cbm a = (none, (mergeN w.cbm a).2) := by rw [← hok]
        exact ⟨live ++ [a], t.merge hmem hwf (fun b hb => by rw [hid]; exact t.fresh_not_live hfresh b hb) hm⟩
      · rw [hok]; exact ⟨live, t⟩
  | unmerge gid =>
    simp only [Cbm.step]
    refine ⟨?_, hs⟩
    by_cases hne : w.cbm.nodes = []
    · have : Cbm.unmerge w.cbm gid = (some .query, w.cbm) := by simp [Cbm.unmerge, hne]
      rw [this]; exact ⟨live, t⟩
    · have hu := t.madeOf.unmerge_total hne gid
      rw [hu]
      exact ⟨_, t.unmerge hu⟩
  | snapshot =>
    simp only [Cbm.step, snapshot]
    split
    · exact ⟨⟨live, t⟩, hs⟩
    · refine ⟨⟨live, t⟩, ?_⟩
      intro p hp
      simp only [List.mem_cons] at hp
      rcases hp with rfl | hp
      · exact ⟨live, t⟩
      · exact hs p hp
  | rollback k =>
    simp only [Cbm.step, rollback]
    split
    · exact ⟨⟨[], Tracks.empty _⟩, hs⟩
    · rename_i g hg
      exact ⟨hs (k, g) (lookupSnap_mem hg), fun p hp => hs p (List.mem_filter.mp hp).1⟩

theorem lookupSnap_filter_ne {k j : Nat} (h : j ≠ k) : ∀ (l : List (Nat × Graph)),
    lookupSnap k (l.filter (fun p => p.1 != j)) = lookupSnap k l
  | [] => rfl
  | (i, g) :: l => by
    by_cases hij : i = j
    · subst hij
      have : (i == k) = false := by simpa using h
      simp [lookupSnap, this, lookupSnap_filter_ne h l]
    · have : (i != j) = true := by simpa using hij
      simp only [List.filter_cons, this, if_true, lookupSnap, lookupSnap_filter_ne h l]

theorem step_keeps_snap {k : Nat} {g0 : Graph} {w : World} {op : Op} (h : lookupSnap k w.snaps = some g0) (hk : k < w.next)
    (hop : op ≠ .rollback k) : lookupSnap k (step w op).2.snaps = some g0 ∧ k < (step w op).2.next := by
  cases op with
  | merge aid => simp only [step]; split <;> exact ⟨h, hk⟩
  | unmerge gid => exact ⟨h, hk⟩
  | snapshot =>
    simp only [step, snapshot]
    split
    · exact ⟨h, hk⟩
    · have : (w.next == k) = false := beq_false_of_ne (Nat.ne_of_gt hk)
      exact ⟨by simp only [lookupSnap, this]; exact h, Nat.lt_succ_of_lt hk⟩
  | rollback j =>
    have hj : j ≠ k := fun e => hop (by rw [e])
    simp only [step, rollback]
    split
    · exact ⟨h, hk⟩
    · exact ⟨by rw [lookupSnap_filter_ne hj]; exact h, hk⟩

theorem snap_survives (k : Nat) (g0 : Graph) (ops : List Op) (w : World) (h : lookupSnap k w.snaps = some g0)
    (hk : k < w.next) (hops : ∀ op ∈ ops, op ≠ .rollback k) : lookupSnap k (run w ops).snaps = some g0 := by
  induction ops generalizing w with
  | nil => exact h
  | cons op ops ih =>
    obtain ⟨h', hk'⟩ := step_keeps_snap h hk (hops op List.mem_cons_self)
    exact ih _ h' hk' (fun o ho => hops o (List.mem_cons_of_mem _ ho))

theorem step_srcs (w : World) (op : Op) : (step w op).2.srcs = w.srcs := by
  cases op <;> simp only [step, snapshot, rollback] <;> (try split) <;> (try split) <;> rfl

theorem WInv.run : ∀ (ops : List Op) {w : World}, WInv w → HistOk w ops → WInv (run w ops)
  | [], _, h, _ => h
  | op :: ops, _, h, hok => WInv.run ops (h.step op hok.1) hok.2

end FimVerif.Cbm
