import FimVerif.Proofs.Lemmas.C08Ports
/-! Separation development only.  `ExperimentTopology.prune` under separation: each user-level call after `A` deletes its closed form
of the pre-state (`Hyp*`), a guarded loop skips what `A` holds already, hence `prune` is `g.minus (pruneDel ..)`; `pruneDel` against the
marked elements. -/
namespace FimVerif.Remove

/-- `p`, its services and their interfaces are untouched by `A` -/
def CleanDirect (g : G) (A : List Nat) (p : Nat) : Bool :=
  !A.contains p && (g.nbrs p .has .ns).all (fun s => !A.contains s) &&
  (g.nbrs p .has .ns).all (fun s => !A.contains s && (g.nbrs s .connects .cp).all (fun i => !A.contains i))

theorem cleanDirect_self {g : G} {A : List Nat} {p : Nat} (h : CleanDirect g A p = true) : A.contains p = false := by
  simp only [CleanDirect, Bool.and_eq_true, Bool.not_eq_true'] at h; exact h.1.1

theorem directIfs_minus {g : G} {A : List Nat} {p : Nat} (h : CleanDirect g A p = true) :
    directIfs (g.minus A) p = directIfs g p := by
  simp only [CleanDirect, Bool.and_eq_true, Bool.not_eq_true'] at h
  obtain ⟨⟨hp, hs⟩, hall⟩ := h
  simp only [directIfs, nbrs_minus_clean hp hs]
  apply List.flatMap_congr'
  intro s hs'
  have := List.all_eq_true.mp hall s hs'
  simp only [Bool.and_eq_true, Bool.not_eq_true'] at this
  exact nbrs_minus_clean this.1 this.2

theorem ifaceListNode_minus {g : G} {A : List Nat} {n : Nat} (hcd : CleanDirect g A n = true)
    (hcs : (g.nbrs n .has .comp).all (fun c => !A.contains c) = true)
    (hcc : (g.nbrs n .has .comp).all (fun c => CleanDirect g A c) = true) :
    ifaceListNode (g.minus A) n = ifaceListNode g n := by
  have hnA := cleanDirect_self hcd
  simp only [ifaceListNode, directIfs_minus hcd, nbrs_minus_clean hnA hcs]
  congr 1
  apply List.flatMap_congr'
  intro c hc
  exact directIfs_minus (List.all_eq_true.mp hcc c hc)

/-- the interfaces and their sub-interfaces are untouched by `A` -/
def CleanSubs (g : G) (A : List Nat) (ifs : List Nat) : Bool :=
  ifs.all (fun i => !A.contains i && (g.nbrs i .connects .cp).all (fun q => !A.contains q))

theorem deepIfs_minus {g : G} {A ifs : List Nat} (h : CleanSubs g A ifs = true) :
    deepIfs (g.minus A) ifs = deepIfs g ifs := by
  simp only [deepIfs]
  apply List.flatMap_congr'
  intro i hi
  have := List.all_eq_true.mp h i hi
  simp only [Bool.and_eq_true, Bool.not_eq_true'] at this
  simp only [withSubs, kind_minus, this.1, nbrs_minus_clean this.1 this.2]
  rfl

/-- **a user-level call after `A`**: `_disconnect_interfaces` over an interface list that `A` has not touched, then the graph-level
removal `rem`, each deleting a set given in the pre-state -/
theorem api_after {g : G} {A ifs : List Nat} {rem : G → Except Err G} {del : List Nat}
    (hc : CleanSubs g A ifs = true) (h : SepDiscSeq g A (deepIfs g ifs) = true)
    (hrem : rem (g.minus (A ++ (deepIfs g ifs).flatMap (discDel g))) =
      .ok (g.minus (A ++ (deepIfs g ifs).flatMap (discDel g) ++ del))) :
    (disconnectDeep (g.minus A) ifs >>= rem) = .ok (g.minus (A ++ ((deepIfs g ifs).flatMap (discDel g) ++ del))) := by
  have e : disconnectDeep (g.minus A) ifs = disconnectAll (g.minus A) (deepIfs g ifs) :=
    congrArg _ (deepIfs_minus hc)
  rw [e, disconnectAll_after h, ← List.append_assoc]
  exact hrem

/-- `HypNs`, `HypComp`, `HypNode`, `HypIface`: what the user-level call on `g.minus A` needs to delete its closed form of the
pre-state: `A` has not touched the element nor the interface list the call walks (`Clean*`), and the disconnect loop and the
graph-level removal are separated from what is gone by then -/
def HypNs (g : G) (A : List Nat) (s : Nat) : Bool :=
  g.cls? s == some .ns && !A.contains s && (g.nbrs s .connects .cp).all (fun i => !A.contains i) &&
  CleanSubs g A (g.nbrs s .connects .cp) && SepDiscSeq g A (deepIfs g (g.nbrs s .connects .cp)) &&
  SepNs g (A ++ (deepIfs g (g.nbrs s .connects .cp)).flatMap (discDel g)) s

theorem removeNsApi_after (g : G) (A : List Nat) (s : Nat) (h : HypNs g A s = true) :
    removeNsApi (g.minus A) s = .ok (g.minus (A ++ nsApiDel g s)) := by
  simp only [HypNs, Bool.and_eq_true, Bool.not_eq_true', beq_iff_eq] at h
  obtain ⟨⟨⟨⟨⟨hc, hs⟩, hcl⟩, hsub⟩, hd⟩, hn⟩ := h
  have hc' : (g.minus A).cls? s = some .ns := (cls_minus_keep hs).trans hc
  simp only [removeNsApi, hc', beq_self_eq_true, ite_true]
  rw [nbrs_minus_clean hs hcl]
  exact api_after hsub hd (removeNs_after hn)

def HypComp (g : G) (A : List Nat) (c : Nat) : Bool :=
  CleanDirect g A c && CleanSubs g A (ifaceListComp g c) && SepDiscSeq g A (deepIfs g (ifaceListComp g c)) &&
  SepComp g (A ++ (deepIfs g (ifaceListComp g c)).flatMap (discDel g)) c

theorem removeComponentApi_after (g : G) (A : List Nat) (c : Nat) (h : HypComp g A c = true) :
    removeComponentApi (g.minus A) c = .ok (g.minus (A ++ compApiDel g c)) := by
  simp only [HypComp, Bool.and_eq_true] at h
  obtain ⟨⟨⟨hcd, hsub⟩, hd⟩, hn⟩ := h
  have hcA := cleanDirect_self hcd
  have hc' : (g.minus A).cls? c = some .comp := (cls_minus_keep hcA).trans (sepComp_cls hn)
  simp only [removeComponentApi, hc', beq_self_eq_true, ite_true]
  rw [ifaceListComp, directIfs_minus hcd]
  exact api_after hsub hd (removeComp_after hn)

def HypNode (g : G) (A : List Nat) (n : Nat) : Bool :=
  g.cls? n == some .node && g.kind? n != some kFacility &&
  CleanDirect g A n && (g.nbrs n .has .comp).all (fun c => !A.contains c) &&
  (g.nbrs n .has .comp).all (fun c => CleanDirect g A c) &&
  CleanSubs g A (ifaceListNode g n) && SepDiscSeq g A (deepIfs g (ifaceListNode g n)) &&
  SepNode g (A ++ (deepIfs g (ifaceListNode g n)).flatMap (discDel g)) n

theorem removeNodeApi_after (g : G) (A : List Nat) (n : Nat) (h : HypNode g A n = true) :
    removeNodeApi (g.minus A) n = .ok (g.minus (A ++ nodeApiDel g n)) := by
  simp only [HypNode, Bool.and_eq_true] at h
  obtain ⟨⟨⟨⟨⟨⟨⟨hc, hk⟩, hcd⟩, hcs⟩, hcc⟩, hsub⟩, hd⟩, hn⟩ := h
  have hnA := cleanDirect_self hcd
  simp only [removeNodeApi, cls_minus_keep hnA, kind_minus_keep hnA, hc, hk, Bool.and_self, ite_true]
  rw [ifaceListNode_minus hcd hcs hcc]
  exact api_after hsub hd (removeNodeG_after hn)

def HypIface (g : G) (A : List Nat) (i : Nat) : Bool :=
  g.has i && CleanSubs g A [i] && SepDiscSeq g A (deepIfs g [i]) && Sep g (A ++ (deepIfs g [i]).flatMap (discDel g)) i true

theorem pruneIface_after (g : G) (A : List Nat) (i : Nat) (h : HypIface g A i = true) :
    (disconnectDeep (g.minus A) [i]).bind (fun g1 => removeCp g1 i true) = .ok (g.minus (A ++ ifaceApiDel g i)) := by
  simp only [HypIface, Bool.and_eq_true] at h
  obtain ⟨⟨⟨hi, hsub⟩, hd⟩, hs⟩ := h
  exact api_after hsub hd (removeCp_after hi hs)

/-- hypotheses along an unguarded loop (`for n in nodes: self._prune_node(n)`) -/
def USeq (hyp : List Nat → Nat → Bool) (del : Nat → List Nat) : List Nat → List Nat → Bool
  | _, [] => true
  | A, x :: xs => hyp A x && USeq hyp del (A ++ del x) xs

def uDel (del : Nat → List Nat) : List Nat → List Nat → List Nat
  | A, [] => A
  | A, x :: xs => uDel del (A ++ del x) xs

theorem uDel_eq (del : Nat → List Nat) : ∀ (xs A : List Nat), uDel del A xs = A ++ xs.flatMap del
  | [], A => by simp [uDel]
  | x :: xs, A => by simp [uDel, uDel_eq del xs]

theorem ufold {g : G} {f : G → Nat → Except Err G} {hyp : List Nat → Nat → Bool} {del : Nat → List Nat}
    (hf : ∀ A x, hyp A x = true → f (g.minus A) x = .ok (g.minus (A ++ del x)))
    {xs A : List Nat} (h : USeq hyp del A xs = true) : xs.foldlM f (g.minus A) = .ok (g.minus (uDel del A xs)) :=
  uDel_eq del xs A ▸ seq_after (fun _ _ _ => rfl) hf h

/-- hypotheses along a guarded loop (`if still_present(e): prune e`): an element already gone is skipped -/
def GSeq (g : G) (hyp : List Nat → Nat → Bool) (del : Nat → List Nat) : List Nat → List Nat → Bool
  | _, [] => true
  | A, x :: xs => if A.contains x || !g.has x then GSeq g hyp del A xs else hyp A x && GSeq g hyp del (A ++ del x) xs

def gDel (g : G) (del : Nat → List Nat) : List Nat → List Nat → List Nat
  | A, [] => A
  | A, x :: xs => if A.contains x || !g.has x then gDel g del A xs else gDel g del (A ++ del x) xs

theorem gfold {g : G} {f : G → Nat → Except Err G} {hyp : List Nat → Nat → Bool} {del : Nat → List Nat}
    (hf : ∀ A x, hyp A x = true → f (g.minus A) x = .ok (g.minus (A ++ del x)))
    {xs A : List Nat} (h : GSeq g hyp del A xs = true) :
    xs.foldlM (fun g' x => if g'.has x then f g' x else .ok g') (g.minus A) = .ok (g.minus (gDel g del A xs)) :=
  loop_after (gDel g del) (GSeq g hyp del) (fun _ => rfl) (fun A x xs h => by
    -- `still_present` in the current graph is the negation of the test `GSeq` and `gDel` make in the pre-state
    have hg : (g.minus A).has x = !(A.contains x || !g.has x) := by
      rw [has_minus]; cases A.contains x <;> cases g.has x <;> rfl
    rw [GSeq] at h
    rw [gDel, hg]
    split at h
    · rename_i hsk; exact ⟨A, by rw [hsk]; rfl, h, by rw [if_pos hsk]⟩
    · rename_i hsk
      rw [Bool.and_eq_true] at h
      exact ⟨_, by rw [Bool.not_eq_true _ |>.mp hsk]; exact hf A x h.1, h.2, by rw [if_neg hsk]⟩) h

/-- what `prune` deletes, as folds over the pre-state -/
def pruneDel (g : G) (ns cs ss is : List Nat) : List Nat :=
  gDel g (ifaceApiDel g) (gDel g (nsApiDel g) (gDel g (compApiDel g) (uDel (nodeApiDel g) [] ns) cs) ss) is

/-- the `Hyp*` chained along the four loops of `prune`, each loop starting from what the earlier ones have deleted -/
def HypPrune (g : G) (ns cs ss is : List Nat) : Bool :=
  let D1 := uDel (nodeApiDel g) [] ns
  let D2 := gDel g (compApiDel g) D1 cs
  let D3 := gDel g (nsApiDel g) D2 ss
  USeq (HypNode g) (nodeApiDel g) [] ns && GSeq g (HypComp g) (compApiDel g) D1 cs &&
  GSeq g (HypNs g) (nsApiDel g) D2 ss && GSeq g (HypIface g) (ifaceApiDel g) D3 is

theorem mem_gDel_sound {g : G} {del : Nat → List Nat} {xs A : List Nat} {y : Nat} (h : y ∈ gDel g del A xs) :
    y ∈ A ∨ ∃ x ∈ xs, y ∈ del x := by
  fun_induction gDel g del A xs with
  | case1 A => exact Or.inl h
  | case2 A x xs _ ih => exact (ih h).imp_right fun ⟨z, hz, h⟩ => ⟨z, List.mem_cons_of_mem _ hz, h⟩
  | case3 A x xs _ ih =>
    rcases ih h with h | ⟨z, hz, h⟩
    · exact (List.mem_append.mp h).imp_right fun h => ⟨x, List.mem_cons_self, h⟩
    · exact Or.inr ⟨z, List.mem_cons_of_mem _ hz, h⟩

theorem mem_gDel_of_mem {g : G} {del : Nat → List Nat} {xs A : List Nat} {y : Nat} (h : y ∈ A) : y ∈ gDel g del A xs := by
  fun_induction gDel g del A xs with
  | case1 A => exact h
  | case2 A x xs _ ih => exact ih h
  | case3 A x xs _ ih => exact ih (List.mem_append_left _ h)

theorem gDel_covers {g : G} {del : Nat → List Nat} (hdel : ∀ x, x ∈ del x) {xs A : List Nat} {x : Nat} (hx : x ∈ xs) :
    x ∈ gDel g del A xs ∨ g.has x = false := by
  fun_induction gDel g del A xs with
  | case1 A => cases hx
  | case2 A z xs hsk ih =>
    rcases List.mem_cons.mp hx with rfl | hx
    · simp only [Bool.or_eq_true, Bool.not_eq_true'] at hsk
      exact hsk.imp (fun h => mem_gDel_of_mem (by simpa using h)) id
    · exact ih hx
  | case3 A z xs _ ih =>
    rcases List.mem_cons.mp hx with rfl | hx
    · exact Or.inl (mem_gDel_of_mem (List.mem_append_right _ (hdel x)))
    · exact ih hx

theorem pruneDel_sound {g : G} {ns cs ss is : List Nat} {y : Nat} (h : y ∈ pruneDel g ns cs ss is) :
    (∃ n ∈ ns, y ∈ nodeApiDel g n) ∨ (∃ c ∈ cs, y ∈ compApiDel g c) ∨ (∃ s ∈ ss, y ∈ nsApiDel g s) ∨
    (∃ i ∈ is, y ∈ ifaceApiDel g i) := by
  unfold pruneDel at h
  rcases mem_gDel_sound h with h | h
  · rcases mem_gDel_sound h with h | h
    · rcases mem_gDel_sound h with h | h
      · rw [uDel_eq, List.nil_append, List.mem_flatMap] at h
        exact Or.inl h
      · exact Or.inr (Or.inl h)
    · exact Or.inr (Or.inr (Or.inl h))
  · exact Or.inr (Or.inr (Or.inr h))

theorem pruneDel_covers (g : G) (ns cs ss is : List Nat) :
    (∀ n ∈ ns, ∀ y ∈ nodeApiDel g n, y ∈ pruneDel g ns cs ss is) ∧
    (∀ x, x ∈ cs ∨ x ∈ ss ∨ x ∈ is → x ∈ pruneDel g ns cs ss is ∨ g.has x = false) := by
  unfold pruneDel
  constructor
  · intro n hn y hy
    exact mem_gDel_of_mem (mem_gDel_of_mem (mem_gDel_of_mem (by
      rw [uDel_eq]; exact List.mem_append_right _ (List.mem_flatMap.mpr ⟨n, hn, hy⟩))))
  · rintro x (hx | hx | hx)
    · rcases gDel_covers (del := compApiDel g) (fun c => by simp [compApiDel, compDel]) hx with h | h
      · exact Or.inl (mem_gDel_of_mem (mem_gDel_of_mem h))
      · exact Or.inr h
    · rcases gDel_covers (del := nsApiDel g) (fun s => by simp [nsApiDel, nsDel]) hx with h | h
      · exact Or.inl (mem_gDel_of_mem h)
      · exact Or.inr h
    · exact gDel_covers (fun i => List.mem_append_right _ (self_mem_cpDel g i true)) hx

end FimVerif.Remove
