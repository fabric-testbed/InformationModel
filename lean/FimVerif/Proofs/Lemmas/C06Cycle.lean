import FimVerif.Proofs.Lemmas.C06Hops
/-!
# `LoopFree` is acyclicity of the induced subgraph (C06)

`get_nodes_on_path_with_hops` rejects a simple path when `nx.cycle_basis(graph.subgraph(path))` is non-empty.  The model
tests `chordFree` (every edge between two path nodes joins consecutive ones), `LoopFree` is its specification.  Here it is
proved that for a simple path this is the graph-theoretic notion: the subgraph induced by the path contains no cycle (`IsCycle`).
-/
namespace FimVerif.Query

/-- a cycle of the view: a self-loop, or `≥ 3` distinct nodes, each joined to the next one and the last to the first -/
def IsCycle (g : TGraph) (c : List String) : Prop :=
  (∃ u r, c = [u] ∧ Edge g u u r) ∨
  (3 ≤ c.length ∧ c.Nodup ∧ IsChain (Adj g none) c ∧ ∃ x y, c.head? = some x ∧ c.getLast? = some y ∧ Adj g none y x)

theorem consec_cons {x u w : String} {l : List String} :
    consec (x :: l) u w = true ↔ (x = u ∧ l.head? = some w) ∨ consec l u w = true := by
  cases l <;> simp [consec]

theorem consec_iff {u v : String} : ∀ {p : List String}, consec p u v = true ↔ ∃ s t, p = s ++ u :: v :: t
  | [] => by simp [consec]
  | x :: l => by
    rw [consec_cons, consec_iff (p := l)]
    constructor
    · rintro (⟨rfl, h⟩ | ⟨s, t, rfl⟩)
      · obtain ⟨ys, rfl⟩ := List.head?_eq_some_iff.1 h
        exact ⟨[], ys, rfl⟩
      · exact ⟨x :: s, t, rfl⟩
    · rintro ⟨s, t, h⟩
      cases s with
      | nil => injection h with h1 h2; exact .inl ⟨h1, by rw [h2]; rfl⟩
      | cons a s' => injection h with _ h2; exact .inr ⟨s', t, h2⟩

theorem consec_mem {l : List String} {u w : String} (h : consec l u w = true) : u ∈ l ∧ w ∈ l := by
  obtain ⟨s, t, rfl⟩ := consec_iff.1 h
  simp

theorem consec_head {v y : String} {t : List String} (hv : v ∉ t) (h : consec (v :: t) v y = true) : t.head? = some y :=
  (consec_cons.1 h).elim (·.2) fun h' => absurd (consec_mem h').1 hv

theorem consec_to_head {v y : String} {t : List String} (hv : v ∉ t) : consec (v :: t) y v ≠ true := fun h =>
  hv ((consec_cons.1 h).elim (fun h' => List.mem_of_mem_head? h'.2) fun h' => (consec_mem h').2)

theorem consec_tail {v u w : String} {t : List String} (hv : v ∉ t) (hu : u ∈ t)
    (h : consec (v :: t) u w = true) : consec t u w = true :=
  (consec_cons.1 h).resolve_left fun h' => hv (h'.1 ▸ hu)

theorem IsChain.around {R : String → String → Prop} {v : String} {t : List String} :
    ∀ (s : List String), IsChain R (s ++ v :: t) → (∀ a, s.getLast? = some a → R a v) ∧ (∀ b, t.head? = some b → R v b) :=
  fun _ h => ⟨fun a ha => (isChain_append.1 h).2.2 a ha v rfl, (isChain_cons.1 (isChain_append.1 h).2.1).1⟩

theorem cycle_two_nbrs {g : TGraph} {c : List String} (hlen : 3 ≤ c.length) (hnd : c.Nodup) (hch : IsChain (Adj g none) c)
    {x y : String} (hx : c.head? = some x) (hy : c.getLast? = some y) (hyx : Adj g none y x) {v : String} (hv : v ∈ c) :
    ∃ y1 y2, y1 ∈ c ∧ y2 ∈ c ∧ y1 ≠ y2 ∧ Adj g none v y1 ∧ Adj g none v y2 := by
  obtain ⟨s, t, rfl⟩ := List.append_of_mem hv
  -- once round the cycle from `v` back to `v` is a stretch of the cycle written twice
  have hround : IsChain (Adj g none) (v :: (t ++ s) ++ [v]) := by
    have h2 : IsChain (Adj g none) ((s ++ v :: t) ++ (s ++ v :: t)) :=
      isChain_append.2 ⟨hch, hch, fun a ha b hb => by
        rw [hy] at ha; rw [hx] at hb; cases ha; cases hb; exact hyx⟩
    have e : (s ++ v :: t) ++ (s ++ v :: t) = s ++ ((v :: (t ++ s) ++ [v]) ++ t) := by simp
    rw [e] at h2
    exact (isChain_append.1 (isChain_append.1 h2).2.1).1
  have hwnd : (v :: (t ++ s)).Nodup :=
    (List.perm_middle.trans (List.Perm.cons v List.perm_append_comm)).nodup_iff.1 hnd
  have hsub : ∀ u ∈ t ++ s, u ∈ s ++ v :: t := fun u hu =>
    (List.mem_append.1 hu).elim (fun h => List.mem_append_right _ (List.mem_cons_of_mem _ h)) (List.mem_append_left _)
  have hl : 2 ≤ (t ++ s).length := by simp at hlen ⊢; omega
  generalize t ++ s = w at hround hwnd hsub hl
  -- the first and the last of the other nodes are the two neighbours
  match w, hl, hround, hwnd, hsub with
  | b :: b2 :: w', _, hround, hwnd, hsub =>
    obtain ⟨a, ha⟩ : ∃ a, (b2 :: w').getLast? = some a := ⟨_, List.getLast?_eq_some_getLast (List.cons_ne_nil _ _)⟩
    have ham : a ∈ b2 :: w' := List.mem_of_getLast? ha
    have hbn : b ∉ b2 :: w' := (List.nodup_cons.1 (List.nodup_cons.1 hwnd).2).1
    have hav : Adj g none a v := (isChain_append.1 hround).2.2 a
      ((List.getLast?_cons_cons ..).trans ((List.getLast?_cons_cons ..).trans ha)) v rfl
    exact ⟨b, a, hsub b List.mem_cons_self, hsub a (List.mem_cons_of_mem _ ham), fun e => hbn (e ▸ ham), hround.1,
      hav.symm⟩

/-- the head of a chord-free simple path has one neighbour on the path, a node of a cycle a loop or two (`cycle_two_nbrs`):
    so no cycle within the path passes through its head, and `chordFree_no_cycle` peels the head off -/
theorem head_nbr {g : TGraph} {v w : String} {t : List String} (hv : v ∉ t) (hcf : ChordFree g (v :: t))
    (ha : Adj g none v w) (hw : w ∈ v :: t) : t.head? = some w :=
  let ⟨r, he, _⟩ := ha
  (hcf v w r he List.mem_cons_self hw).elim (consec_head hv) fun h => absurd h (consec_to_head hv)

theorem chordFree_no_cycle {g : TGraph} : ∀ {p : List String}, p.Nodup → ChordFree g p →
    ∀ {c : List String}, (∀ x ∈ c, x ∈ p) → ¬ IsCycle g c
  | [], _, _, c, hsub, hcy => by
    obtain rfl : c = [] := List.eq_nil_iff_forall_not_mem.2 fun a ha => List.not_mem_nil (hsub a ha)
    rcases hcy with ⟨_, _, h, _⟩ | ⟨h, _⟩ <;> cases h
  | v :: t, hn, hcf, c, hsub, hcy => by
    have hvt : v ∉ t := (List.nodup_cons.1 hn).1
    by_cases hvc : v ∈ c
    · -- `v` would have a loop, or two neighbours on the cycle
      rcases hcy with ⟨u, r, rfl, he⟩ | ⟨hlen, hnd, hch, x, y, hx, hy, hyx⟩
      · obtain rfl := List.mem_singleton.1 hvc
        exact hvt (List.mem_of_mem_head? (head_nbr hvt hcf (adj_none_iff.2 ⟨r, he⟩) List.mem_cons_self))
      · obtain ⟨y1, y2, h1, h2, hne, ha1, ha2⟩ := cycle_two_nbrs hlen hnd hch hx hy hyx hvc
        exact hne (Option.some.inj ((head_nbr hvt hcf ha1 (hsub y1 h1)).symm.trans (head_nbr hvt hcf ha2 (hsub y2 h2))))
    · refine chordFree_no_cycle (List.nodup_cons.1 hn).2 ?_ ?_ hcy
      · intro u w r he hu hw
        exact (hcf u w r he (List.mem_cons_of_mem _ hu) (List.mem_cons_of_mem _ hw)).imp (consec_tail hvt hu) (consec_tail hvt hw)
      · exact fun x hx => (List.mem_cons.1 (hsub x hx)).resolve_left fun e => hvc (e ▸ hx)

theorem split_two {u v : String} {p : List String} (hu : u ∈ p) (hv : v ∈ p) (hne : u ≠ v) :
    (∃ s m t, p = s ++ u :: (m ++ v :: t)) ∨ (∃ s m t, p = s ++ v :: (m ++ u :: t)) := by
  obtain ⟨s, t, rfl⟩ := List.append_of_mem hu
  rcases List.mem_append.1 hv with h | h
  · obtain ⟨s1, s2, rfl⟩ := List.append_of_mem h
    exact .inr ⟨s1, s2, t, by simp⟩
  · obtain ⟨t1, t2, rfl⟩ := List.append_of_mem ((List.mem_cons.1 h).resolve_left (Ne.symm hne))
    exact .inl ⟨s, t1, t2, rfl⟩

theorem chord_cycle {g : TGraph} {s m t : List String} {u v r : String} (hn : (s ++ u :: (m ++ v :: t)).Nodup)
    (hc : IsChain (Adj g none) (s ++ u :: (m ++ v :: t))) (he : Edge g v u r) :
    consec (s ++ u :: (m ++ v :: t)) u v = true ∨ ∃ c, (∀ x ∈ c, x ∈ s ++ u :: (m ++ v :: t)) ∧ IsCycle g c := by
  cases m with
  | nil => exact .inl (consec_iff.2 ⟨s, t, rfl⟩)
  | cons a m =>
    have hseg : s ++ u :: (a :: m ++ v :: t) = s ++ ((u :: (a :: m ++ [v])) ++ t) := by simp
    rw [hseg] at hn hc ⊢
    refine .inr ⟨u :: (a :: m ++ [v]), fun x hx => List.mem_append_right _ (List.mem_append_left _ hx),
      .inr ⟨by simp, ?_, ?_, u, v, rfl, ?_, adj_none_iff.2 ⟨r, he⟩⟩⟩
    · exact (List.nodup_append.1 (List.nodup_append.1 hn).2.1).1
    · exact (isChain_append.1 (isChain_append.1 hc).2.1).1
    · exact List.getLast?_concat (l := u :: a :: m)

theorem no_cycle_chordFree {g : TGraph} {p : List String} (hn : p.Nodup) (hc : IsChain (Adj g none) p)
    (hno : ¬ ∃ c, (∀ x ∈ c, x ∈ p) ∧ IsCycle g c) : ChordFree g p := by
  intro u v r he hu hv
  by_cases huv : u = v
  · subst huv
    exact absurd ⟨[u], by simpa using hu, Or.inl ⟨u, r, rfl, he⟩⟩ hno
  · rcases split_two hu hv huv with ⟨s, m, t, rfl⟩ | ⟨s, m, t, rfl⟩
    · exact .inl ((chord_cycle hn hc he.symm).resolve_right hno)
    · exact .inr ((chord_cycle hn hc he).resolve_right hno)

theorem loopFree_iff_acyclic {g : TGraph} {p : List String} (hc : IsChain (Adj g none) p) :
    LoopFree g p ↔ p.Nodup ∧ ¬ ∃ c, (∀ x ∈ c, x ∈ p) ∧ IsCycle g c :=
  and_congr_right fun hn =>
    ⟨fun hcf ⟨_, hsub, hcy⟩ => chordFree_no_cycle hn hcf hsub hcy, no_cycle_chordFree hn hc⟩

end FimVerif.Query
