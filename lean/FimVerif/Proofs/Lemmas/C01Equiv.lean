import FimVerif.Proofs.Lemmas.C01Doc
/-! The serialisers commute with node renaming and `GraphID` stamping (behind `reserialize_stable_string` / `_direct`). -/
namespace FimVerif.C01
open FimVerif.GraphML

def stampData (gk : Nat) (g' : Val) (ds : List GData) : List GData :=
  ds.map fun x => if x.key = gk then ⟨x.key, g'⟩ else x

def relabelGDoc {κ κ' : Type} (f : κ → κ') (hd : List GData → List GData) (d : GDoc κ) : GDoc κ' :=
  { keys := d.keys,
    nodes := d.nodes.map fun n => ⟨f n.id, n.labels, hd n.data⟩,
    edges := d.edges.map fun e => ⟨f e.source, f e.target, e.label, e.data⟩ }

def relabelJObj {κ κ' : Type} (f : κ → κ') (hv : String → Val → Val) (o : JObj κ) : JObj κ' :=
  o.map fun p => match p.2 with
    | .k y => (p.1, JV.k (f y))
    | .v v => (p.1, JV.v (hv p.1 v))

def relabelJDoc {κ κ' : Type} (f : κ → κ') (hv : String → Val → Val) (d : JDoc κ) : JDoc κ' :=
  { directed := d.directed, multigraph := d.multigraph,
    nodes := d.nodes.map (relabelJObj f hv),
    edges := d.edges.map (relabelJObj f fun _ v => v) }

variable {κ κ' : Type}

theorem toGraphML_copy [DecidableEq κ] [DecidableEq κ'] (G : Graph κ) (H : Graph κ') (f : κ → κ') (h : Attrs → Attrs)
    (hd : List GData → List GData)
    (hn : H.nodes = G.nodes.map fun p => (f p.1, h p.2))
    (he : H.edgesIter = G.edgesIter.map fun e => ⟨f e.a, f e.b, e.attrs⟩)
    (hs : ∀ p ∈ G.nodes, specsOf .node (h p.2) = specsOf .node p.2)
    (hdata : ∀ tbl, allocKeys G.allSpecs = some tbl → ∀ p ∈ G.nodes, dataOf tbl .node (h p.2) = hd (dataOf tbl .node p.2)) :
    toGraphML H = (toGraphML G).map (relabelGDoc f hd) := by
  -- the copy has the specs of the original, in the same order, so it allocates the same table
  have hsp : H.allSpecs = G.allSpecs := by
    rw [Graph.allSpecs, hn, he, List.flatMap_map, List.flatMap_map]
    exact congrArg (· ++ _) (List.flatMap_congr' hs)
  unfold toGraphML
  rw [hsp]
  cases ht : allocKeys G.allSpecs with
  | none => rfl
  | some tbl =>
    simp only [hn, he, Except.map, relabelGDoc, List.map_map, Function.comp_def]
    rw [List.map_congr_left fun p hp => by rw [hdata tbl ht p hp]]

theorem specsOf_set (sc : Scope) (k : String) (g g' : Val) (ty : KTy) (hty : xmlType g = some ty) (hty' : xmlType g' = some ty)
    (a : Attrs) (h : a.get? k = some g) (hnd : (a.map (·.1)).Nodup) : specsOf sc (a.set k g') = specsOf sc a := by
  have h2 := Attrs.val_of_get a k g h hnd
  rw [Attrs.set_present k g' a h hnd, specsOf, List.map_map]
  refine List.map_congr_left fun p hp => ?_
  by_cases hk : p.1 = k
  · simp only [Function.comp_apply, if_pos hk, hty', h2 p hp hk, hty]
  · simp only [Function.comp_apply, if_neg hk]

theorem dataOf_stamp (tbl : List KeySpec) (sc : Scope) (k : String) (g g' : Val) (ty : KTy) (hty : xmlType g = some ty)
    (hty' : xmlType g' = some ty) (a : Attrs) (h : a.get? k = some g) (hnd : (a.map (·.1)).Nodup) (hs : Covers tbl sc a) :
    dataOf tbl sc (a.set k g') = stampData (tbl.idxOf ⟨k, ty, sc⟩) g' (dataOf tbl sc a) := by
  have h2 := Attrs.val_of_get a k g h hnd
  rw [Attrs.set_present k g' a h hnd, dataOf, stampData, dataOf, List.map_map, List.map_map]
  refine List.map_congr_left fun p hp => ?_
  obtain ⟨t, ht, hmem⟩ := hs p hp
  by_cases hk : p.1 = k
  · simp only [Function.comp_apply, hty', h2 p hp hk, hty, Option.getD_some, hk, if_true]
  · -- another name has another key id: `idxOf` is injective on the table
    have hne : tbl.idxOf (⟨p.1, t, sc⟩ : KeySpec) ≠ tbl.idxOf ⟨k, ty, sc⟩ := fun e =>
      hk (KeySpec.mk.inj (List.idxOf_inj hmem e)).1
    simp only [Function.comp_apply, if_neg hk, ht, Option.getD_some, hne, if_false]

theorem find_stamp (gk k : Nat) (g' : Val) (hne : k ≠ gk) (data : List GData) :
    (stampData gk g' data).find? (fun d => d.key == k) = data.find? (fun d => d.key == k) := by
  have hp : ((fun d : GData => d.key == k) ∘ fun x => if x.key = gk then ⟨x.key, g'⟩ else x) = fun d : GData => d.key == k := by
    funext x; by_cases hx : x.key = gk <;> simp [hx]
  rw [stampData, List.find?_map, hp]
  cases hf : data.find? (fun d => d.key == k) with
  | none => rfl
  | some d =>
    have : d.key ≠ gk := fun e => hne ((by simpa using List.find?_some hf : d.key = k).symm.trans e)
    simp only [Option.map_some, this, if_false]

theorem classText_stamp (ck : Option Nat) (gk : Nat) (g' : Val) (hne : ck ≠ some gk) (data : List GData) :
    classText ck (stampData gk g' data) = classText ck data := by
  unfold classText
  cases ck with
  | none => rfl
  | some k =>
    have : k ≠ gk := fun e => hne (e ▸ rfl)
    simp only [find_stamp gk k g' this data]

theorem markNode_relabel (ck : Option Nat) (f : κ → κ') (hd : List GData → List GData)
    (hc : ∀ data, classText ck (hd data) = classText ck data) (n : GNode κ) :
    markNode ck ⟨f n.id, n.labels, hd n.data⟩
      = (markNode ck n).map fun m => (⟨f m.id, m.labels, hd m.data⟩ : GNode κ') := by
  unfold markNode
  simp only [hc]
  cases classText ck n.data with
  | error e => rfl
  | ok t =>
    cases hl : n.labels with
    | none => simp [Except.map]
    | some l =>
      by_cases he : l = ""
      · simp [he, Except.map]
      · simp [he, Except.map, hl]

theorem markEdge_relabel (ck : Option Nat) (f : κ → κ') (e : GEdge κ) :
    markEdge ck ⟨f e.source, f e.target, e.label, e.data⟩
      = (markEdge ck e).map fun m => (⟨f m.source, f m.target, m.label, m.data⟩ : GEdge κ') := by
  unfold markEdge
  cases classText ck e.data with
  | error er => rfl
  | ok t =>
    cases hl : e.label with
    | none => simp [Except.map]
    | some l =>
      by_cases he : l = ""
      · simp [he, Except.map]
      · simp [he, Except.map, hl]

theorem toNeo4j_relabel (f : κ → κ') (hd : List GData → List GData) (d : GDoc κ)
    (hc : ∀ data, classText (classKey d.keys .node) (hd data) = classText (classKey d.keys .node) data) :
    toNeo4j (relabelGDoc f hd d) = (toNeo4j d).map (relabelGDoc f hd) := by
  unfold toNeo4j
  simp only [relabelGDoc]
  rw [mapE_map_comm (markEdge (classKey d.keys .edge)) (markEdge (classKey d.keys .edge))
        (fun e : GEdge κ => (⟨f e.source, f e.target, e.label, e.data⟩ : GEdge κ'))
        (fun m : GEdge κ => (⟨f m.source, f m.target, m.label, m.data⟩ : GEdge κ'))
        (fun e => markEdge_relabel _ f e)]
  rw [mapE_map_comm (markNode (classKey d.keys .node)) (markNode (classKey d.keys .node))
        (fun n : GNode κ => (⟨f n.id, n.labels, hd n.data⟩ : GNode κ'))
        (fun m : GNode κ => (⟨f m.id, m.labels, hd m.data⟩ : GNode κ'))
        (fun n => markNode_relabel _ f hd hc n)]
  cases mapE (markEdge (classKey d.keys .edge)) d.edges with
  | error e => rfl
  | ok es =>
    cases mapE (markNode (classKey d.keys .node)) d.nodes with
    | error e => rfl
    | ok ns => rfl

theorem classKey_ne_idxOf (tbl : List KeySpec) (sc : Scope) (k : KeySpec) (hk : k ∈ tbl) (hn : k.name ≠ "Class") :
    classKey (docKeys tbl) sc ≠ some (tbl.idxOf k) := by
  intro h
  -- the key element whose id is the position of `k` is `k` itself
  obtain ⟨k', hk', hid, hname, _⟩ := classKey_spec _ _ _ h
  have h1 := (mem_docKeys tbl k').1 hk'
  rw [hid, List.getElem?_eq_getElem (List.idxOf_lt_length_of_mem hk), List.getElem_idxOf] at h1
  exact hn (Option.some.inj h1 ▸ hname)

def stampV (g' : Val) (name : String) (v : Val) : Val := if name = "GraphID" then g' else v

theorem attrsObj_stamp (f : κ → κ') (g g' : Val) (a : Attrs) (h : a.get? "GraphID" = some g) (hnd : (a.map (·.1)).Nodup) :
    attrsObj (κ := κ') (a.set "GraphID" g') = relabelJObj f (stampV g') (attrsObj (κ := κ) a) := by
  rw [Attrs.set_present "GraphID" g' a h hnd]
  simp only [attrsObj, relabelJObj, List.map_map, Function.comp_def, stampV]

theorem attrsObj_relabel (f : κ → κ') (a : Attrs) :
    attrsObj (κ := κ') a = relabelJObj f (fun _ v => v) (attrsObj (κ := κ) a) := by
  simp [attrsObj, relabelJObj, List.map_map, Function.comp_def]

theorem set_relabelJObj (f : κ → κ') (hv : String → Val → Val) (key : String) (x : κ) : ∀ (o : JObj κ),
    relabelJObj f hv (o.set key (.k x)) = (relabelJObj f hv o).set key (.k (f x))
  | [] => rfl
  | (k, y) :: t => by
    by_cases hk : k = key
    · subst hk
      cases y <;> simp [JObj.set, relabelJObj]
    · have ih := set_relabelJObj f hv key x t
      simp only [relabelJObj] at ih
      cases y <;> simp [JObj.set, relabelJObj, hk, ih]

theorem toJSON_copy [DecidableEq κ] [DecidableEq κ'] (G : Graph κ) (H : Graph κ') (f : κ → κ') (h : Attrs → Attrs)
    (hv : String → Val → Val)
    (hn : H.nodes = G.nodes.map fun p => (f p.1, h p.2))
    (he : H.edgesIter = G.edgesIter.map fun e => ⟨f e.a, f e.b, e.attrs⟩)
    (ho : ∀ p ∈ G.nodes, attrsObj (κ := κ') (h p.2) = relabelJObj f hv (attrsObj (κ := κ) p.2)) :
    toJSON H = relabelJDoc f hv (toJSON G) := by
  unfold toJSON relabelJDoc
  simp only [hn, he, List.map_map, JDoc.mk.injEq, true_and]
  constructor
  · apply List.map_congr_left
    intro p hp
    simp only [Function.comp_apply]
    rw [ho p hp, set_relabelJObj]
  · apply List.map_congr_left
    intro e _
    simp only [Function.comp_apply]
    rw [set_relabelJObj, set_relabelJObj, ← attrsObj_relabel]

end FimVerif.C01
