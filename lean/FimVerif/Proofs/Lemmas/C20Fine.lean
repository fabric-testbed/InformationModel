import FimVerif.Proofs.Lemmas.C20Sched
/-!
What is assumed atomic is one *atom*: one attribute load / store or one dictionary primitive (lookup, insertion of one key,
deletion of one key, `clear`) — the unit CPython executes without releasing the GIL, and the unit the harness's probes
observe.  `FineM m l`: the micro-instruction `m` (one source line, or one access of a line) may run as the sequence `l`: its atoms
as in the table, or `m` itself unexpanded (`FineM.same`).

| micro                 | atoms                                                                                   |
|-----------------------|-----------------------------------------------------------------------------------------|
| `acq`, `rel`          | one (`Lock.acquire` blocks until the lock is free and takes it in one step)             |
| `loc`, `rdg`          | one step without effect on the modelled state (whatever the line does is invisible)     |
| `read c`              | one load                                                                                |
| `bump c k`            | `ld c ; st c k`  — load into the second register, store `tmp + k`                       |
| `bumpReg c k`, `setCtr c v` | one store (the value comes from registers / from reads that were made before)     |
| `add c g k`  (k ≥ 1)  | `ins c g 0 ; … ; ins c g (k-1)` — one dictionary insertion per node                    |
| `addFrom c g lo k` (k ≥ 1) | `addFrom c g lo 1 ; … ; addFrom c g (lo+k-1) 1`                                    |
| `del g`               | any number of single deletions `rmOne g`, then the rest (`remove_nodes_from` over the hits) |
| `delSpace c`, `delAll`| one `dict.clear` / one replacement of a dictionary entry                                |
| `ctor w`, `reinit`    | one step (the assignment that publishes the new store / lock object)                   |

`fine_runQ`: on an expanded program the discipline monitor ends where it ends on the program, unless that is `bad`; so the
expansions of accepted programs are accepted (`C20.atoms_accepted`).
-/
namespace FimVerif.Sched
open FimVerif.Lock

inductive FineM : Micro → List Micro → Prop where
  | same (m : Micro) : FineM m [m]
  | bump (c k : Nat) : FineM (.bump c k) [.ld c, .st c k]
  | add (c g k : Nat) : 0 < k → FineM (.add c g k) ((List.range k).map (Micro.ins c g))
  | addFrom (c g lo k : Nat) : 0 < k → FineM (.addFrom c g lo k) ((List.range k).map fun i => Micro.addFrom c g (lo + i) 1)
  | del (g n : Nat) : FineM (.del g) (List.replicate n (.rmOne g) ++ [.del g])

/-- a program and one of its expansions into atoms -/
inductive Fine : List Micro → List Micro → Prop where
  | nil : Fine [] []
  | cons {m l p p'} : FineM m l → Fine p p' → Fine (m :: p) (l ++ p')

theorem fine_refl : ∀ p : List Micro, Fine p p
  | [] => .nil
  | m :: p => by simpa using Fine.cons (FineM.same m) (fine_refl p)

private theorem runQ_range' (f : Nat → Micro) (Q : Nat → DQ) : ∀ n j, (∀ i, Step (Q i) (f i) (Q (i + 1))) →
    runQ discStep (Q j) ((List.range' j n).map f) = Q (j + n)
  | 0, _, _ => rfl
  | n + 1, j, h => by
    rw [List.range'_succ, List.map_cons, runQ_cons, (h j).eq, runQ_range' f Q n (j + 1) h, Nat.add_right_comm, Nat.add_assoc]

private theorem run_ins_rdBp (c g k n i : Nat) (hk : i + n = k) (hn : 0 < n) :
    runQ discStep (.rdBp c k i) ((List.range' i n).map (Micro.ins c g)) = .idle := by
  induction n generalizing i with
  | zero => cases hn
  | succ n ih =>
    rw [List.range'_succ, List.map_cons, runQ_cons]
    by_cases hn : n = 0
    · subst hn; subst hk; exact (Step.insBpLast c g i).eq
    · rw [(Step.insBp c g k i (by omega) (by omega)).eq]
      exact ih (i + 1) (by omega) (by omega)

private theorem run_rmOne (g n : Nat) : runQ discStep .idle (List.replicate n (.rmOne g)) = .idle := by
  induction n with
  | zero => rfl
  | succ n ih => rw [List.replicate_succ, runQ_cons, (Step.rmOne g).eq]; exact ih

theorem fineM_step {m : Micro} {l : List Micro} (hf : FineM m l) (q : DQ) (hb : discStep q m ≠ .bad) :
    runQ discStep q l = discStep q m := by
  have hs := Step.of_ne_bad hb
  generalize discStep q m = q' at hs ⊢
  cases hf with
  | same => exact hs.eq
  | bump c k =>
    cases hs with
    | bump => rw [runQ_cons, (Step.ld c).eq, runQ_cons, (Step.st c k).eq]; rfl
    | bumpA => rw [runQ_cons, (Step.ldA c k).eq, runQ_cons, (Step.stA c k).eq]; rfl
  | add c g k hk =>
    obtain ⟨n, rfl⟩ : ∃ n, k = n + 1 := ⟨k - 1, by omega⟩
    rw [List.range_eq_range', List.range'_succ, List.map_cons, runQ_cons]
    cases hs with
    | add => rw [(Step.ins0 c g).eq, runQ_range' (.ins c g) (.rdA c) n 1 (.insA c g), Nat.add_comm]
    | addB =>
      by_cases hn : n = 0
      · subst hn; exact (Step.insB1 c g).eq
      · rw [(Step.insB c g (n + 1) (by omega) (by omega)).eq]
        exact run_ins_rdBp c g (n + 1) n 1 (by omega) (by omega)
  | addFrom c g lo k hk =>
    obtain ⟨n, rfl⟩ : ∃ n, k = n + 1 := ⟨k - 1, by omega⟩
    rw [List.range_eq_range', List.range'_succ, List.map_cons, runQ_cons]
    have run := runQ_range' (fun i => .addFrom c g (lo + i) 1) (fun i => .fil c (lo + i)) n 1
      fun i => .addFromF c _ g (lo + i) 1 (Nat.le_refl _)
    cases hs with
    | addFromC => rw [(Step.addFromC c g (lo + 0) 1).eq]; exact run.trans (congrArg _ (by omega))
    | addFromF _ b _ _ _ hle => rw [(Step.addFromF c b g (lo + 0) 1 hle).eq]; exact run.trans (congrArg _ (by omega))
  | del g n =>
    cases hs with
    | del => rw [runQ_append, run_rmOne]; exact (Step.del g).eq

theorem fine_runQ {p p' : List Micro} (hf : Fine p p') : ∀ q, runQ discStep q p ≠ .bad → runQ discStep q p' = runQ discStep q p := by
  induction hf with
  | nil => intro q _; rfl
  | @cons m l p p' hm _ ih =>
    intro q hq
    rw [runQ_cons] at hq
    have hb : discStep q m ≠ .bad := fun e => by rw [e, runQ_bad] at hq; exact hq rfl
    rw [runQ_append, fineM_step hm q hb, runQ_cons]
    exact ih _ hq

end FimVerif.Sched
