import FimVerif.Model.Cypher
/-!
C19, identifier holes: lexing commutes with filling the holes (`lexRaw_expand`), for fillings that start like an identifier and consist of
identifier characters (`IdSubst`).
-/
namespace FimVerif.Cypher

theorem isMarker_iff {c : Nat} : isMarker c = true ↔ markerBase ≤ c := by
  simp [isMarker, Nat.ble_eq]

theorem isIdStart0_iff {c : Nat} : isIdStart0 c = true ↔ (cp%'a' ≤ c ∧ c ≤ cp%'z') ∨ (cp%'A' ≤ c ∧ c ≤ cp%'Z') ∨ c = cp%'_' := by
  simp [isIdStart0, Nat.ble_eq, or_assoc]

theorem isDigit_iff {c : Nat} : isDigit c = true ↔ cp%'0' ≤ c ∧ c ≤ cp%'9' := by
  simp [isDigit, Nat.ble_eq]

/-- the code points of `'`, of the double quote and of the back-tick -/
theorem isQuote_iff {q : Nat} : isQuote q = true ↔ q = 39 ∨ q = 34 ∨ q = 96 := by
  simp [isQuote, or_assoc]

theorem isIdStart_of_marker {c : Nat} (h : isMarker c = true) : isIdStart c = true := by
  simp [isIdStart, h]

theorem isIdChar_of_idStart {c : Nat} (h : isIdStart c = true) : isIdChar c = true := by
  simp [isIdChar, h]

theorem isIdChar_of_marker {c : Nat} (h : isMarker c = true) : isIdChar c = true :=
  isIdChar_of_idStart (isIdStart_of_marker h)

theorem idStart_not_digit {c : Nat} (h : isIdStart c = true) : isDigit c = false := by
  cases hd : isDigit c with
  | false => rfl
  | true =>
    rw [isDigit_iff] at hd
    rcases Bool.or_eq_true_iff.1 h with h | h
    · rw [isIdStart0_iff] at h; omega
    · rw [isMarker_iff, markerBase] at h; omega

theorem idChar_ne {c : Nat} (h : isIdChar c = true) (d : Nat) (hd : isIdChar d = false) : (c == d) = false :=
  beq_false_of_ne fun e => by rw [e, hd] at h; cases h

theorem quote_not_idChar {q : Nat} (hq : isQuote q = true) : isIdChar q = false := by
  rcases isQuote_iff.1 hq with rfl | rfl | rfl <;> rfl

variable (ρ : Nat → Text)

theorem expand_append (a b : Text) : expand ρ (a ++ b) = expand ρ a ++ expand ρ b := by
  induction a with
  | nil => rfl
  | cons c t ih => simp [expand, ih]

theorem expand_suffix {s l : Text} (h : s <:+ l) : expand ρ s <:+ expand ρ l := by
  obtain ⟨pre, rfl⟩ := h
  exact ⟨expand ρ pre, (expand_append ρ pre s).symm⟩

theorem expand_flatten (l : List Text) : expand ρ l.flatten = (l.map (expand ρ)).flatten := by
  induction l with
  | nil => rfl
  | cons a t ih => simp [expand_append, ih]

theorem expand_marker {c : Nat} (h : isMarker c = true) (t : Text) :
    expand ρ (c :: t) = ρ (c - markerBase) ++ expand ρ t := by simp [expand, h]

theorem expand_hole {c : Nat} (h : isMarker c = true) : expand ρ [c] = ρ (c - markerBase) := by simp [expand, h]

theorem expand_char {c : Nat} (h : isMarker c = false) (t : Text) :
    expand ρ (c :: t) = c :: expand ρ t := by simp [expand, h]

theorem expand_plain {s : Text} (h : plain s = true) : expand ρ s = s := by
  induction s with
  | nil => rfl
  | cons c t ih =>
    rw [plain, List.all_cons, Bool.and_eq_true, Bool.not_eq_true'] at h
    rw [expand_char ρ h.1, ih h.2]

theorem expand_take_of_plain_drop {s : Text} {d : Nat} (hd : d ≤ s.length)
    (hp : plain (s.drop (s.length - d)) = true) :
    (expand ρ s).take ((expand ρ s).length - d) = expand ρ (s.take (s.length - d)) := by
  have hex : expand ρ s = expand ρ (s.take (s.length - d)) ++ s.drop (s.length - d) := by
    conv => lhs; rw [← List.take_append_drop (s.length - d) s]
    rw [expand_append, expand_plain ρ hp]
  rw [hex]
  exact List.take_left' (by simp; omega)

theorem skipStr_cons (q c : Nat) (rest : Text) : skipStr q (c :: rest) =
    if c == q then some rest else if c == cp%'\\' && q != cp%'`' then (match rest with | [] => none | _ :: r2 => skipStr q r2) else skipStr q rest := by
  cases rest <;> rfl

theorem skipStr_idChar_cons {q : Nat} (hq : isQuote q = true) {c : Nat} (hc : isIdChar c = true) (r : Text) :
    skipStr q (c :: r) = skipStr q r := by
  have h1 : (c == q) = false := idChar_ne hc _ (quote_not_idChar hq)
  have h2 : (c == cp%'\\') = false := idChar_ne hc _ rfl
  rw [skipStr_cons]; simp only [h1, h2, Bool.false_and, Bool.false_eq_true, if_false]

theorem skipStr_suffix {q : Nat} {l r : Text} : skipStr q l = some r → r <:+ l := by
  fun_induction skipStr q l with
  | case1 => intro h; cases h
  | case2 c rest hc => intro h; cases h; exact List.suffix_cons c _
  | case3 c hc he => intro h; cases h
  | case4 c hc he e r2 ih => intro h; exact (ih h).trans ((List.suffix_cons e _).trans (List.suffix_cons c _))
  | case5 c rest hc he ih => intro h; exact (ih h).trans (List.suffix_cons c _)

theorem idChars_append {β : Type} (f : Text → β) (hf : ∀ {c}, isIdChar c = true → ∀ r, f (c :: r) = f r) ⦃x r : Text⦄
    (hx : ∀ c ∈ x, isIdChar c = true) : f (x ++ r) = f r := by
  induction x with
  | nil => rfl
  | cons c t ih =>
    rw [List.cons_append, hf (hx c (by simp))]
    exact ih fun c hc => hx c (by simp [hc])

def Tok.expandRaw : Tok → Tok
  | .id nm => .id (expand ρ nm)
  | .par nm => .par (expand ρ nm)
  | t => t

def Lexed.expand (L : Lexed) : Lexed := ⟨L.toks.map (Tok.expandRaw ρ), FimVerif.Cypher.expand ρ L.stripped, L.closed⟩

theorem Lexed.expand_cons (t : List Tok) (s : Codes) (L : Lexed) :
    (L.cons t s).expand ρ = (L.expand ρ).cons (t.map (Tok.expandRaw ρ)) (FimVerif.Cypher.expand ρ s) := by
  simp [Lexed.cons, Lexed.expand, expand_append]

theorem lexAux_idStart {fuel a : Nat} {r : Text} (ha : isIdStart a = true) :
    lexAux (fuel + 1) (a :: r) =
      (lexAux fuel (r.dropWhile isIdChar)).cons [Tok.id (a :: r.takeWhile isIdChar)] (a :: r.takeWhile isIdChar) := by
  have hl := isIdChar_of_idStart ha
  have h1 : isQuote a = false := Bool.eq_false_iff.2 fun hq => by rw [quote_not_idChar hq] at hl; cases hl
  have h2 : isWs a = false := by
    simp only [isWs, idChar_ne hl cp%' ' rfl, idChar_ne hl cp%'\t' rfl, idChar_ne hl cp%'\n' rfl, idChar_ne hl cp%'\r' rfl, Bool.or_self]
  have h3 : (a == cp%'/') = false := idChar_ne hl _ rfl
  have h4 : (a == cp%'$') = false := idChar_ne hl _ rfl
  rw [lexAux]
  simp [h1, h2, h3, h4, ha]

variable {ρ}

/-- all the lexer needs of a filling; `GoodSubst.idSubst` provides it -/
structure IdSubst (ρ : Nat → Text) : Prop where
  start : ∀ k, ∃ a t, ρ k = a :: t ∧ isIdStart a = true
  chars : ∀ k, ∀ c ∈ ρ k, isIdChar c = true

theorem expand_length_cons_lt (h : IdSubst ρ) (c : Nat) (t : Text) : (expand ρ t).length < (expand ρ (c :: t)).length := by
  cases hm : isMarker c with
  | true =>
    obtain ⟨a, r, hr, _⟩ := h.start (c - markerBase)
    rw [expand_marker ρ hm, hr]; simp; omega
  | false => rw [expand_char ρ hm]; simp

theorem expand_length_ge (h : IdSubst ρ) (s : Text) : s.length ≤ (expand ρ s).length := by
  induction s with
  | nil => simp
  | cons c t ih => exact Nat.lt_of_le_of_lt ih (expand_length_cons_lt h c t)

/-- The run predicates of the lexer are of two kinds: one accepts every identifier character, so a run takes a hole and its whole filling
alike (`isIdChar`, "not a newline"); the other rejects every character that can start an identifier, so a run stops at a hole and at the
first character of its filling alike (`isDigit`). -/
theorem takeWhile_expand (h : IdSubst ρ) (p : Nat → Bool)
    (hp : (∀ c, isIdChar c = true → p c = true) ∨ (∀ c, isIdStart c = true → p c = false)) (l : Text) :
    (expand ρ l).takeWhile p = expand ρ (l.takeWhile p) ∧ (expand ρ l).dropWhile p = expand ρ (l.dropWhile p) := by
  induction l with
  | nil => simp [expand]
  | cons c t ih =>
    cases hm : isMarker c with
    | true =>
      rcases hp with hp | hp
      · have hall : ∀ a ∈ ρ (c - markerBase), p a = true := fun a ha => hp a (h.chars _ a ha)
        rw [expand_marker ρ hm, List.takeWhile_append_of_pos hall, List.dropWhile_append_of_pos hall]
        simp [hp c (isIdChar_of_marker hm), expand, hm, ih.1, ih.2]
      · obtain ⟨a, r, hr, ha⟩ := h.start (c - markerBase)
        rw [expand_marker ρ hm, hr]
        simp [hp c (isIdStart_of_marker hm), hp a ha, expand, hm, hr]
    | false =>
      rw [expand_char ρ hm]
      cases hpc : p c with
      | true => simp [hpc, expand, hm, ih.1, ih.2]
      | false => simp [hpc, expand, hm]

theorem head_expand (h : IdSubst ρ) {β : Type} (f : Option Nat → β)
    (hf : ∀ {c a}, isMarker c = true → isIdStart a = true → f (some a) = f (some c)) {l : Text} : f (expand ρ l).head? = f l.head? := by
  cases l with
  | nil => rfl
  | cons c t =>
    cases hm : isMarker c with
    | false => rw [expand_char ρ hm]; rfl
    | true =>
      obtain ⟨a, r, hr, ha⟩ := h.start (c - markerBase)
      rw [expand_marker ρ hm, hr]; exact hf hm ha

theorem head_eq_expand (h : IdSubst ρ) {l : Text} (d : Nat) (hd : isIdChar d = false) :
    ((expand ρ l).head? == some d) = (l.head? == some d) :=
  head_expand h (· == some d) (fun hm ha => by
    simp only [Option.some_beq_some, idChar_ne (isIdChar_of_idStart ha) d hd, idChar_ne (isIdChar_of_marker hm) d hd])

theorem head_idStart_expand (h : IdSubst ρ) {l : Text} :
    ((expand ρ l).head?.map isIdStart).getD false = (l.head?.map isIdStart).getD false :=
  head_expand h (fun o => (o.map isIdStart).getD false) (fun hm ha => ha.trans (isIdStart_of_marker hm).symm)

theorem skipStr_expand (h : IdSubst ρ) {q : Nat} (hq : isQuote q = true) {l : Text} :
    skipStr q (expand ρ l) = (skipStr q l).map (expand ρ) := by
  have hbs : ∀ {c}, (c == cp%'\\' && q != cp%'`') = true → isMarker c = false := fun he => by
    rw [beq_iff_eq.mp (Bool.and_eq_true_iff.mp he).1]; rfl
  have hrun := idChars_append (skipStr q) (skipStr_idChar_cons hq)
  fun_induction skipStr q l with
  | case1 => rfl
  | case2 c rest hc =>
    have hm : isMarker c = false := by rw [beq_iff_eq.mp hc]; rcases isQuote_iff.1 hq with rfl | rfl | rfl <;> rfl
    rw [expand_char ρ hm, skipStr_cons]; simp only [hc, if_true, Option.map_some]
  | case3 c hc he => rw [expand_char ρ (hbs he), skipStr_cons]; simp only [hc, he, if_true]; rfl
  | case4 c hc he e r2 ih =>
    rw [expand_char ρ (hbs he), skipStr_cons]; simp only [hc, he, if_true]
    cases hme : isMarker e with
    | false => rw [expand_char ρ hme]; exact ih
    | true =>
      obtain ⟨a, t, hat, _⟩ := h.start (e - markerBase)
      have ht : ∀ c ∈ t, isIdChar c = true := fun c hc => h.chars (e - markerBase) c (by rw [hat]; simp [hc])
      rw [expand_marker ρ hme, hat, List.cons_append]
      show skipStr q (t ++ expand ρ r2) = _
      rw [hrun ht]; exact ih
  | case5 c rest hc he ih =>
    cases hm : isMarker c with
    | true => rw [expand_marker ρ hm, hrun (h.chars _)]; exact ih
    | false => rw [expand_char ρ hm, skipStr_cons]; simp only [hc, he]; exact ih

/-- Each side runs on a fuel of its own, any that exceeds the length of its text: `lexRaw` gives each text its length + 1, and
the filled text is the longer one. -/
theorem lexAux_expand (h : IdSubst ρ) :
    ∀ n (t : Text), t.length < n → ∀ m, (expand ρ t).length < m → lexAux m (expand ρ t) = (lexAux n t).expand ρ := by
  intro n
  induction n with
  | zero => intro t ht; omega
  | succ n ih =>
    intro t ht m hm
    cases m with
    | zero => omega
    | succ m =>
    cases t with
    | nil => rfl
    | cons c rest =>
      have hr : rest.length < n := by simpa using ht
      have hm' : (expand ρ rest).length < m := Nat.lt_of_lt_of_le (expand_length_cons_lt h c rest) (Nat.le_of_lt_succ hm)
      have sub : ∀ s, s <:+ rest → lexAux m (expand ρ s) = (lexAux n s).expand ρ :=
        fun s hs => ih s (Nat.lt_of_le_of_lt hs.length_le hr) m (Nat.lt_of_le_of_lt (expand_suffix ρ hs).length_le hm')
      have hIdChar := takeWhile_expand h isIdChar (.inl fun _ hc => hc) rest
      cases hmc : isMarker c with
      | true =>
        -- a hole and its filling both start a word, and the word swallows the rest of the filling
        obtain ⟨a, xs, hx, ha⟩ := h.start (c - markerBase)
        have hxs : ∀ b ∈ xs, isIdChar b = true := fun b hb => h.chars (c - markerBase) b (by rw [hx]; simp [hb])
        rw [expand_marker ρ hmc, hx, List.cons_append, lexAux_idStart ha, lexAux_idStart (isIdStart_of_marker hmc),
          List.takeWhile_append_of_pos hxs, List.dropWhile_append_of_pos hxs, hIdChar.1, hIdChar.2,
          sub _ (List.dropWhile_suffix _), Lexed.expand_cons]
        simp [Tok.expandRaw, expand, hmc, hx]
      | false =>
        rw [expand_char ρ hmc, lexAux, lexAux]
        by_cases hq : isQuote c = true
        · simp only [hq, if_true]
          rw [skipStr_expand h hq]
          cases hs : skipStr c rest with
          | none => rfl
          | some r =>
            simp only [Option.map_some]
            rw [sub r (skipStr_suffix hs), Lexed.expand_cons]
            simp [Tok.expandRaw, expand, hmc]
        · have hNl := takeWhile_expand h (fun x => x != cp%'\n')
            (.inl fun c hc => by simp only [bne, idChar_ne hc cp%'\n' rfl, Bool.not_false]) rest
          have hDig := takeWhile_expand h isDigit (.inr fun _ => idStart_not_digit) rest
          -- the remaining branches at once: each piece of the filled side is the filled piece of the other side; `Lexed.expand` goes through the `if`s
          simp only [hq, if_false, Bool.false_eq_true, head_eq_expand h cp%'/' rfl, head_idStart_expand h,
            hNl.2, hIdChar.1, hIdChar.2, hDig.1, hDig.2,
            sub _ (List.dropWhile_suffix _), sub _ List.suffix_rfl, apply_ite (Lexed.expand ρ), Lexed.expand_cons]
          simp [Tok.expandRaw, expand, hmc, show isMarker cp%'$' = false from rfl]

theorem lexRaw_expand (h : IdSubst ρ) (t : Text) : lexRaw (expand ρ t) = (lexRaw t).expand ρ :=
  lexAux_expand h _ t (Nat.lt_succ_self _) _ (Nat.lt_succ_self _)

end FimVerif.Cypher
