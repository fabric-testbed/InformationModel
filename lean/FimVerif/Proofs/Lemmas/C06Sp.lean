import FimVerif.Proofs.Lemmas.C06Bfs
/-!
# `get_nodes_on_shortest_path` against its contract (C06)

`Adj g rel` and `IsPath` are what every path contract of C06 is stated with, the hop query and the cycles included.  The query
searches the copy `restrict g rel`; `adjB_restrict` is the bridge from the `adjB` of that copy, over which `bfs_spec` is
proved, to `Adj g rel`.
-/
namespace FimVerif.Query
open FimVerif.Gen

/-- `u` and `v` are joined by an edge, of relation `rel` when one is requested -/
def Adj (g : TGraph) (rel : Option String) (u v : String) : Prop :=
  ∃ r, Edge g u v r ∧ ∀ r0, rel = some r0 → r = r0

theorem adj_none_iff {g : TGraph} {u v : String} : Adj g none u v ↔ ∃ r, Edge g u v r := by
  simp [Adj]

theorem Adj.symm {g : TGraph} {rel : Option String} {u v : String} : Adj g rel u v → Adj g rel v u :=
  fun ⟨r, he, h⟩ => ⟨r, he.symm, h⟩

def IsPath (g : TGraph) (rel : Option String) (a z : String) (p : List String) : Prop :=
  p.head? = some a ∧ p.getLast? = some z ∧ IsChain (Adj g rel) p

theorem path_in_verts {g : TGraph} (hends : EndsIn g) {rel : Option String} {z : String} :
    ∀ {p : List String} {a : String}, IsPath g rel a z p → a ∈ verts g → ∀ x ∈ p, x ∈ verts g := by
  intro p
  induction p with
  | nil => exact fun hp => absurd hp Path.not_nil
  | cons v t ih =>
    intro a hp ha x hx
    rcases Path.cases hp with ⟨h, _⟩ | ⟨b, q, h, ⟨r, he, _⟩, hq⟩
    · exact List.mem_singleton.1 (h ▸ hx) ▸ ha
    · obtain ⟨rfl, rfl⟩ := List.cons.inj h
      exact (List.mem_cons.1 hx).elim (· ▸ ha) (ih hq (he.ends hends).2 x)

/-- the graph the search runs on: the extracted copy after `_drop_edges_not_of_type` -/
def restrict (g : TGraph) : Option String → TGraph
  | none => g
  | some r => { g with edges := g.edges.filter (fun e => e.2.2 == r) }

theorem edge_restrict {g : TGraph} {rel : Option String} {u v r : String} :
    Edge (restrict g rel) u v r ↔ Edge g u v r ∧ ∀ r0, rel = some r0 → r = r0 := by
  cases rel with
  | none => simp [restrict]
  | some r0 => simp [restrict, Edge, List.mem_filter, or_and_right]

theorem adjB_restrict {g : TGraph} {rel : Option String} {u v : String} :
    adjB (restrict g rel) u v = true ↔ Adj g rel u v := by
  rw [adjB_iff]
  exact exists_congr fun _ => edge_restrict

theorem endsIn_restrict {g : TGraph} (hends : EndsIn g) : ∀ rel, EndsIn (restrict g rel)
  | none => hends
  | some _ => fun e he => hends e (List.mem_filter.1 he).1

theorem getNodesOnShortestPath_ok (hsnap : QueryIdioms.dropIteratesSnapshot = true) {g : TGraph} {a z : String}
    {rel : Option String} {p : List String} :
    getNodesOnShortestPath g a z rel = .ok p ↔ a ∈ verts g ∧ z ∈ verts g ∧ p = shortest (restrict g rel) a z := by
  have : getNodesOnShortestPath g a z rel =
      (do extract g; findNode g a; findNode g z; pure (shortest (restrict g rel) a z)) := by
    unfold getNodesOnShortestPath
    cases rel <;> simp only [restrict, dropEdgesNotOfType, dropWith, hsnap, if_true, bind, Except.bind, pure, Except.pure]
  rw [this, prologue, seq_ok, findNode_ok, pure_ok]

theorem shortest_isPath_spec {g : TGraph} (hends : EndsIn g) {a z : String} {rel : Option String} :
    Shortest (IsPath g rel a z) (shortest (restrict g rel) a z) :=
  (shortest_spec (endsIn_restrict hends rel)).congr (Path.congr adjB_restrict)

theorem getNodesOnShortestPath_spec (hsnap : QueryIdioms.dropIteratesSnapshot = true) {g : TGraph} (hends : EndsIn g)
    {a z : String} {rel : Option String} {p : List String} (h : getNodesOnShortestPath g a z rel = .ok p) :
    Shortest (IsPath g rel a z) p := by
  obtain ⟨_, _, rfl⟩ := (getNodesOnShortestPath_ok hsnap).1 h
  exact shortest_isPath_spec hends

end FimVerif.Query
