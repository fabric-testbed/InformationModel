import FimVerif.Proofs.Lemmas.C13Basic
/-! `rewrite_delegations` node by node (`rekeyNodes`): it changes only keys (`KeyOnly`, `NodeKeyOnly`), raises iff some node cannot be
re-keyed, so whatever the new key and never on what `Node.rewrite` leaves, composes, and is the identity on nodes already keyed by
the new id (`KeyedBy`). -/
namespace FimVerif.Arm

inductive Forall2 {α β : Type} (R : α → β → Prop) : List α → List β → Prop
  | nil : Forall2 R [] []
  | cons {a b l l'} : R a b → Forall2 R l l' → Forall2 R (a :: l) (b :: l')

/-- `q` is `p` with at most its single key replaced by `x` -/
def KeyOnly (x : String) (p q : DelProp) : Prop :=
  q = p ∨ ∃ e, p = .dels [e] ∧ q = .dels [(x, e.2)]

theorem rekeyProp_keyOnly {p q : DelProp} {x : String} (h : rekeyProp p x = some q) : KeyOnly x p q := by
  unfold rekeyProp at h
  split at h
  · rename_i e; exact Or.inr ⟨e, rfl, (Option.some.inj h).symm⟩
  · cases h
  · exact Or.inl (Option.some.inj h).symm

def NodeKeyOnly (x : String) (n m : Node) : Prop :=
  m.id = n.id ∧ m.cls = n.cls ∧ m.props = n.props ∧ KeyOnly x n.ldel m.ldel ∧ KeyOnly x n.cdel m.cdel

theorem NodeKeyOnly.refl (x : String) (n : Node) : NodeKeyOnly x n n := ⟨rfl, rfl, rfl, Or.inl rfl, Or.inl rfl⟩

theorem Node.rekey_keyOnly {n m : Node} {x : String} (h : n.rekey x = some m) : NodeKeyOnly x n m := by
  unfold Node.rekey at h
  split at h
  · rename_i l c hl hc
    cases h
    exact ⟨rfl, rfl, rfl, rekeyProp_keyOnly hl, rekeyProp_keyOnly hc⟩
  · cases h

theorem forall2_refl {α : Type} {R : α → α → Prop} (hR : ∀ a, R a a) (l : List α) : Forall2 R l l := by
  induction l with
  | nil => exact .nil
  | cons a l ih => exact .cons (hR a) ih

theorem rekeyNodes_keyOnly (x : String) (ns : List Node) : Forall2 (NodeKeyOnly x) ns (rekeyNodes x ns).2 := by
  fun_induction rekeyNodes x ns
  next => exact .nil
  next => exact forall2_refl (NodeKeyOnly.refl x) _
  next h _ ih => exact .cons (Node.rekey_keyOnly h) ih

theorem rekeyNodes_ok (x : String) (ns : List Node) (h : (rekeyNodes x ns).1 = false) :
    Forall2 (fun n m => n.rekey x = some m) ns (rekeyNodes x ns).2 := by
  fun_induction rekeyNodes x ns
  next => exact .nil
  next => cases h
  next hn _ ih => exact .cons hn (ih h)

theorem rekeyNodes_fst (x : String) (ns : List Node) : (rekeyNodes x ns).1 = !ns.all fun n => (n.rekey x).isSome := by
  fun_induction rekeyNodes x ns
  next => rfl
  next hr => simp [hr]
  next hn _ ih => simpa [hn] using ih

theorem rekeyNodes_of_all_some (x : String) (ns : List Node) (h : ∀ n ∈ ns, (n.rekey x).isSome = true) :
    (rekeyNodes x ns).1 = false := by
  rw [rekeyNodes_fst, List.all_eq_true.2 h]; rfl

theorem rekeyProp_restrict_isSome (p : DelProp) (d x : String) : (rekeyProp (p.restrict d) x).isSome = true := by
  unfold DelProp.restrict
  split <;> simp [rekeyProp]

theorem rekeyProp_not_isDels {p : DelProp} (h : p.isDels = false) (x : String) : rekeyProp p x = some p := by
  cases p <;> simp_all [rekeyProp, DelProp.isDels]

theorem Node.rekey_isSome (n : Node) (x : String) :
    (n.rekey x).isSome = ((rekeyProp n.ldel x).isSome && (rekeyProp n.cdel x).isSome) := by
  unfold Node.rekey
  cases rekeyProp n.ldel x <;> cases rekeyProp n.cdel x <;> rfl

theorem Node.rekey_rewrite_isSome (n : Node) (d x : String) : ((n.rewrite d).rekey x).isSome = true := by
  rw [Node.rekey_isSome]
  cases hc : n.catalogued
  · rw [Node.rewrite_eq_self_of_not_catalogued d hc, rekeyProp_not_isDels (Node.not_catalogued hc).1,
      rekeyProp_not_isDels (Node.not_catalogued hc).2]; rfl
  · rw [Node.rewrite_of_catalogued d hc, rekeyProp_restrict_isSome, rekeyProp_restrict_isSome]; rfl

theorem rekeyNodes_cons_some {x : String} {n m : Node} (ns : List Node) (h : n.rekey x = some m) :
    rekeyNodes x (n :: ns) = ((rekeyNodes x ns).1, m :: (rekeyNodes x ns).2) := by
  rw [rekeyNodes]; simp [h]

theorem rekeyNodes_cons_none {x : String} {n : Node} (ns : List Node) (h : n.rekey x = none) :
    rekeyNodes x (n :: ns) = (true, n :: ns) := by
  rw [rekeyNodes]; simp [h]

theorem rekeyProp_comp {p q : DelProp} {a : String} (b : String) (h : rekeyProp p a = some q) :
    rekeyProp q b = rekeyProp p b := by
  rcases rekeyProp_keyOnly h with rfl | ⟨e, rfl, rfl⟩ <;> rfl

theorem rekeyProp_isSome_indep (p : DelProp) (a b : String) : (rekeyProp p a).isSome = (rekeyProp p b).isSome := by
  unfold rekeyProp; split <;> rfl

theorem rekeyProp_present (x v : String) : rekeyProp (.dels [(x, v)]) x = some (.dels [(x, v)]) := rfl

theorem Node.rekey_isSome_indep (n : Node) (a b : String) : (n.rekey a).isSome = (n.rekey b).isSome := by
  rw [Node.rekey_isSome, Node.rekey_isSome, rekeyProp_isSome_indep n.ldel a b, rekeyProp_isSome_indep n.cdel a b]

theorem rekeyNodes_raise_indep (a b : String) (ns : List Node) : (rekeyNodes a ns).1 = (rekeyNodes b ns).1 := by
  simp only [rekeyNodes_fst, Node.rekey_isSome_indep _ a b]

theorem Node.rekey_comp {n m : Node} {a : String} (b : String) (h : n.rekey a = some m) : m.rekey b = n.rekey b := by
  unfold Node.rekey at h
  split at h
  · rename_i l c hl hc
    cases h
    unfold Node.rekey
    simp only [rekeyProp_comp b hl, rekeyProp_comp b hc]
  · cases h

theorem rekeyNodes_comp (a b : String) (ns : List Node) (h : (rekeyNodes a ns).1 = false) :
    rekeyNodes b (rekeyNodes a ns).2 = rekeyNodes b ns := by
  fun_induction rekeyNodes a ns
  next => rfl
  next => cases h
  next n rest m ha _ ih =>
    obtain ⟨m', hb⟩ : ∃ m', n.rekey b = some m' := Option.isSome_iff_exists.1 (by rw [← Node.rekey_isSome_indep n a b, ha]; rfl)
    rw [rekeyNodes_cons_some _ ((Node.rekey_comp b ha).trans hb), rekeyNodes_cons_some _ hb, ih h]

def KeyedBy (x : String) (p : DelProp) : Prop := p.isDels = false ∨ ∃ v, p = .dels [(x, v)]

theorem rekeyProp_keyedBy {x : String} {p : DelProp} (h : KeyedBy x p) : rekeyProp p x = some p := by
  rcases h with h | ⟨v, rfl⟩
  · exact rekeyProp_not_isDels h x
  · rfl

theorem rekeyNodes_present (x : String) (ns : List Node)
    (h : ∀ n ∈ ns, KeyedBy x n.ldel ∧ KeyedBy x n.cdel) : rekeyNodes x ns = (false, ns) := by
  induction ns with
  | nil => rfl
  | cons n ns ih =>
    have hn := h n (List.mem_cons_self ..)
    have : n.rekey x = some n := by
      unfold Node.rekey; rw [rekeyProp_keyedBy hn.1, rekeyProp_keyedBy hn.2]
    rw [rekeyNodes_cons_some ns this, ih (fun n' h' => h n' (List.mem_cons_of_mem _ h'))]

end FimVerif.Arm
