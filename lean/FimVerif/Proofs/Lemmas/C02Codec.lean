import FimVerif.Proofs.C02
import FimVerif.Proofs.Lemmas.C02Rich
/-! C02's codec hypothesis `FieldLaw` discharged: for any value model that *carries* C03's model of a `JSONField` class (its
`to_json` / `from_json` on that class's values are C03's `encode` / `decode` through an embedding), and for the value model
`SliverRich.rich` at every value type, which gives the round trips of `Proofs/C02.lean` without the hypothesis.  `rich` is not an
instance of the first: `rowLaw_jsonfield` asks for a row whose setter stores the value as it is (`Norm.ident`), `WTVal` leaves the
normaliser of a `JSONField` row open, so `rich_rowLaw` goes to `C03.all_classes_lossless` directly. -/
namespace FimVerif.C02
open FimVerif FimVerif.Sliver FimVerif.Gen.SliverMap FimVerif.Codec

/-- `C` carries C03's model of class `c` under the decoder argument `arg` (the class name in the from-row) -/
structure Carries {V P : Type} (C : Codecs V P) (c : ClassSpec) (valid : String → JVal → Bool) (arg : String) where
  /-- a C03 value as a sliver field value -/
  inj : Codec.Fields → V
  /-- the graph-property value for an encoded text (`none` = the empty text) -/
  txt : Option JVal → P
  enc_eq : ∀ x, C.enc Enc.toJson [inj x] = txt (encode c x)
  dec_eq : ∀ j, C.dec Dec.fromJson arg (txt (some j)) =
    match decode c valid (some j) with
    | .ok o => .ok (o.map inj)
    | .error e => .error e
  norm_eq : ∀ v, C.norm Norm.ident v = .ok v

section
variable {V P : Type}

theorem rowLaw_of_roundTrips (C : Codecs V P) (c : ClassSpec) (valid : String → JVal → Bool) (arg : String)
    (K : Carries C c valid arg) (f : FromRow) (hd : f.dec = Dec.fromJson) (ha : f.arg = arg) (hn : f.norm = Norm.ident)
    (x : Codec.Fields) (hrt : RoundTrips c valid x) (hne : encode c x ≠ none) :
    readVal C f (C.enc Enc.toJson [K.inj x]) = .ok (some (K.inj x)) := by
  cases hj : encode c x with
  | none => exact absurd hj hne
  | some j =>
    unfold readVal
    rw [K.enc_eq, hj, hd, ha, K.dec_eq, hrt.2 j hj]
    simp only [Option.map_some, setRow, hn, K.norm_eq]

/--
**The row law of a `to_json`/`from_json` row for the seven `JSONField` classes** (`Capacities`, `CapacityHints`, `Labels`,
`ReservationInfo`, `StructuralInfo`, `Location`, `Flags`), in any value model with a `Carries` witness for the class: for every
class spec the C03 translator generates, every value that is well-typed in C03's sense and not all-default obeys it.
(An all-default object encodes to the empty text and reads back as `None`; the C02 harness counts such values as
`skipped:empty-jsonfield`.)
-/
theorem rowLaw_jsonfield (C : Codecs V P) (c : ClassSpec) (hc : c ∈ Gen.Fields.all) (valid : String → JVal → Bool)
    (arg : String) (K : Carries C c valid arg) (f : FromRow) (hd : f.dec = Dec.fromJson) (ha : f.arg = arg)
    (hn : f.norm = Norm.ident) (x : Codec.Fields) (hx : WellTyped c valid x) (hne : encode c x ≠ none) :
    readVal C f (C.enc Enc.toJson [K.inj x]) = .ok (some (K.inj x)) :=
  rowLaw_of_roundTrips C c valid arg K f hd ha hn x (C03.all_classes_lossless c hc valid x hx) hne

end

/-- values are C03 field maps, graph values are optional JSON values; every `to_json` row is class `c` -/
def jfModel (c : ClassSpec) (valid : String → JVal → Bool) : Codecs Codec.Fields (Option JVal) where
  enc := fun _ vs => match vs with | [x] => encode c x | _ => none
  encNone := fun _ => none
  dec := fun _ _ p =>
    match p with
    | some j => decode c valid (some j)
    | none => .ok none
  absentObj := fun _ => defaults c
  boolFalse := defaults c
  norm := fun _ v => .ok v
  isDedicated := fun _ => false

def jfCarries (c : ClassSpec) (valid : String → JVal → Bool) (arg : String) : Carries (jfModel c valid) c valid arg where
  inj := id
  txt := id
  enc_eq := fun _ => rfl
  dec_eq := fun j => by
    simp only [jfModel, id]
    cases decode c valid (some j) <;> simp
  norm_eq := fun _ => rfl

/-- `Location(lat=0.0)` (C03's `equator`, well-typed by `C03.equator_wellTyped`) obeys the row law of the node's
`location` row -/
example : readVal (jfModel Gen.Fields.location (fun _ _ => true))
      { key := "location", gprop := "Location", dec := Dec.fromJson, arg := "Location", absent := Absent.none, norm := Norm.ident, noneOk := true }
      ((jfModel Gen.Fields.location (fun _ _ => true)).enc Enc.toJson [C03.equator]) = .ok (some C03.equator) :=
  rowLaw_jsonfield _ Gen.Fields.location (by simp [Gen.Fields.all]) _ "Location" (jfCarries _ _ _) _ rfl rfl rfl C03.equator
    (C03.equator_wellTyped Gen.Fields.location rfl rfl (Or.inr rfl)) (by decide)

/-! For `SliverRich.rich` (values are the objects of C03's / C12's models, stored graph values their parsed texts) the hypothesis
`FieldLaw` is a theorem for every well-typed value (`WTVal`, `rich_rowLaw`).  What remains outside Lean: the `json.dumps` /
`json.loads` text layer between a stored string and its parsed form (`RP`), as in C03 and C12. -/
open FimVerif.SliverRich

theorem rich_rows_ok : tables.all richRowsOK = true := by decide +kernel

theorem tables_all_ok : ∀ T ∈ tables, tableOK T = true ∧ rowsOK T = true ∧ richRowsOK T = true := fun T hT =>
  ⟨(table_checks hT).1, (table_checks hT).2.1, List.all_eq_true.mp rich_rows_ok T hT⟩

/-- **`FieldLaw` discharged**: every typed field map of every kind obeys the codec law -/
theorem fieldLaw_discharged (R : Params) (T : KindTable) (hT : T ∈ tables) (s : Sliver.Fields RVal) (ht : TypedFields R T s) :
    FieldLaw (rich R) T s :=
  let ⟨h1, h2, h3⟩ := tables_all_ok T hT
  fieldLaw_rich R T h1 h2 h3 s ht

/-- **flat round trip, no codec hypothesis** (`_partial` only through the `FateShared` guard: known findings) -/
theorem props_roundtrip_typed_partial (R : Params) (T : KindTable) (hT : T ∈ tables) (s : Sliver.Fields RVal)
    (ht : TypedFields R T s) (hfate : FateShared T s) (hreq : Required T s) :
    fromProps (rich R) T (toProps (rich R) T s) = .ok (restrict T s) :=
  props_roundtrip_partial (rich R) T s (tables_all_ok T hT).1 (fieldLaw_discharged R T hT s ht) hfate hreq

/-- **deep dictionary / JSON round trip, no codec hypothesis**: every typed sliver tree of any depth and width -/
theorem dict_roundtrip_typed_partial (R : Params) (s : Sliver RVal) (h : TypedTree R s) :
    fromDict (rich R) s.kind (toDict (rich R) s) = .ok (normalize s) :=
  dict_roundtrip_partial (rich R) s (typed_wf R tables_all_ok s h)

/-- **model-graph round trip, no codec hypothesis** -/
theorem graph_roundtrip_typed_partial (R : Params) (s : Sliver RVal) (hk : s.kind ≠ "component") (hs : Shaped s)
    (h : TypedTree R s) (hnd : (idsOf s).Nodup) : graphRoundtrip (P := RP) (rich R) s = .ok (gnorm (rich R) s) :=
  graph_roundtrip_partial (rich R) s hk hs (typed_wf R tables_all_ok s h) hnd

theorem graph_roundtrip_component_typed_partial (R : Params) (s : Sliver RVal) (hk : s.kind = "component") (hs : Shaped s)
    (h : TypedTree R s) (hnd : (idsOf s).Nodup) (hp : "c02-parent" ∉ idsOf s) :
    graphRoundtrip (P := RP) (rich R) s = .ok (gnorm (rich R) s) :=
  graph_roundtrip_component_partial (rich R) s hk hs (typed_wf R tables_all_ok s h) hnd hp

def exParams : Params := { valid := fun _ _ => true, okTag := fun _ => true, iso := fun s => some s, validJson := fun _ => true }

def exEro : Codec.PathInfo := { type := some .path, payload := .path (.arr [.str "a", .str "b"]) .null, strict := .bool true }

def exTypedIface : Sliver RVal :=
  .mk "interface" (some "id-i") (fieldsOfList [("name", .str "p1"), ("type", .enum "InterfaceType" "TrunkPort"),
    ("stitch_node", .bool false), ("user_data", .jdata "UserData" "{\"k\": 1}")]) []

def exTypedService : Sliver RVal :=
  .mk "service" (some "id-s") (fieldsOfList [("name", .str "svc1"), ("type", .enum "ServiceType" "L2Bridge"),
    ("stitch_node", .bool false), ("tags", .tags ["blue", "green"]), ("ero", .ero exEro),
    ("node_map", .tuple ["g", "n"])]) [exTypedIface]

theorem exTypedIface_typed : TypedFields exParams interfaceTable exTypedIface.fields := by
  apply typedFields_ofList
  · simp only [List.forall_mem_cons, List.not_mem_nil, false_imp_iff, implies_true, and_true, WTVal]
    refine ⟨?_, ?_, ?_, ?_⟩ <;> decide
  · intro a b ha; simp [fieldsOfList] at ha

theorem exTypedService_typed : TypedFields exParams serviceTable exTypedService.fields := by
  apply typedFields_ofList
  · simp only [List.forall_mem_cons, List.not_mem_nil, false_imp_iff, implies_true, and_true, WTVal]
    refine ⟨by decide, by decide, by decide, by decide, fun f hf hk _ => ?_, by decide⟩
    have := (by decide : ∀ f ∈ serviceTable.fromRows, f.key = "ero" →
      (rowOf serviceTable f).enc = Enc.toJson ∧ f.dec = Dec.fromJson ∧ f.arg = "ERO") f hf hk
    exact ⟨this.1, this.2.1, this.2.2, by simp [C03.PIDomain, exEro], true, rfl⟩
  · intro a b ha; simp [fieldsOfList] at ha

theorem exTypedService_tree : TypedTree exParams exTypedService := by
  have hi : TypedTree exParams exTypedIface := by
    simp only [exTypedIface, TypedTree, TypedKids, List.map_nil, List.nodup_nil, and_true]
    exact ⟨tableOf_mem "interface" (by decide), exTypedIface_typed,
      fateSharedB_sound _ _ (by decide +kernel), requiredB_sound _ _ (by decide +kernel)⟩
  simp only [exTypedService, TypedTree, TypedKids, and_true]
  refine ⟨tableOf_mem "service" (by decide), exTypedService_typed,
    fateSharedB_sound _ _ (by decide +kernel), requiredB_sound _ _ (by decide +kernel),
    ⟨by decide, by decide, hi⟩, by simp⟩

example : fromDict (rich exParams) "service" (toDict (rich exParams) exTypedService) = .ok (normalize exTypedService) :=
  dict_roundtrip_typed_partial exParams exTypedService exTypedService_tree

example : graphRoundtrip (P := RP) (rich exParams) exTypedService = .ok (gnorm (rich exParams) exTypedService) :=
  graph_roundtrip_typed_partial exParams exTypedService (by decide)
    (by simp [Shaped, ShapedKids, exTypedService, exTypedIface, Sliver.kind, slotOf]) exTypedService_tree (by decide)

end FimVerif.C02
