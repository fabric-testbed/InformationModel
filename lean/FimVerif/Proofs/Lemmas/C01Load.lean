import FimVerif.Model.Serial
/-! `Topology.load` under a safe load plan (`SafePlan`, decidable), for any store flavour: `load` does what its one importer call
does, and then at most deletes the previously held graph (`load_run`). -/
namespace FimVerif.C01
open FimVerif.GraphML FimVerif.Serial FimVerif.SerialSpec

def isRemember : LoadStep → Bool
  | .remember => true
  | _ => false

def isRebind : LoadStep → Bool
  | .rebind => true
  | _ => false

/-- a statement allowed after the import: rebinding, remembering, and `delete_graph()` of the held / remembered
    model *under the `ids differ` guard* (`bound`: a model was remembered before the import) -/
def postOk (bound : Bool) : LoadStep → Bool
  | .rebind => true
  | .remember => true
  | .delete .held true => true
  | .delete .remembered true => bound
  | _ => false

/-- the steps before and after the first `importDoc` (`none`: the plan never imports); `postOk` admits no second one -/
def splitPlan : List LoadStep → Option (List LoadStep × List LoadStep)
  | [] => none
  | .importDoc :: post => some ([], post)
  | s :: rest => (splitPlan rest).map fun p => (s :: p.1, p.2)

/-- **the decidable safety check of a load plan**: nothing but remembering the held model before the single import; after
    it the topology is rebound to the imported graph, and a model is deleted only under the guard that its id differs
    from the imported one; file / string keep the graph id, a new id goes through `import_graph_from_string` -/
def SafePlan (sp : LoadSpec) : Bool :=
  (match splitPlan sp.steps with
   | none => false
   | some (pre, post) => pre.all isRemember && post.all (postOk !pre.isEmpty) && post.any isRebind) &&
  sp.onFile == some .fileDirect && sp.onString == some .stringDirect &&
  (sp.onStringNewId == none || sp.onStringNewId == some .string)

theorem repo_plans_safe : SafePlan FimVerif.Gen.Serial.topologyLoad = true ∧ SafePlan FimVerif.Gen.Serial.advertizedLoad = true := by
  decide

theorem splitPlan_spec (steps pre post : List LoadStep) (h : splitPlan steps = some (pre, post)) :
    steps = pre ++ .importDoc :: post := by
  fun_induction splitPlan steps generalizing pre with
  | case1 => cases h
  | case2 post' => cases h; rfl
  | case3 s rest hne ih =>
    rw [Option.map_eq_some_iff] at h
    obtain ⟨⟨p1, p2⟩, hp, he⟩ := h
    cases he
    rw [ih p1 hp]; rfl

section
variable {σ κ : Type}

theorem runSteps_pre (ops : StoreOps σ κ) (entry : Entry) (doc : Doc κ) (newId : Val) (s : σ) (held : Val) :
    ∀ (pre rest : List LoadStep) (r : Option Val), pre.all isRemember = true →
      runSteps ops entry doc newId (pre ++ rest) ⟨s, held, r, none⟩ =
        runSteps ops entry doc newId rest ⟨s, held, if pre.isEmpty then r else some held, none⟩
  | [], rest, r, _ => rfl
  | st :: pre, rest, r, h => by
    simp only [List.all_cons, Bool.and_eq_true] at h
    cases st with
    | remember =>
      simp only [List.cons_append, runSteps, stepLoad]
      rw [runSteps_pre ops entry doc newId s held pre rest (some held) h.2]
      cases pre <;> rfl
    | importDoc => simp [isRemember] at h
    | rebind => simp [isRemember] at h
    | delete w b => simp [isRemember] at h

/-- what holds between the import and the end of `load`. `held0` is what the topology held before the call; `rem` and `bnd` are for
    `delete .remembered`: its target is `g` or `held0`, and it is bound whenever `postOk bound` lets such a step through (else `pick`
    fails) -/
structure PostInv (P : σ → Prop) (g held0 : Val) (bound : Bool) (st : LState σ) : Prop where
  imp : st.imported = some g
  held : st.held = g ∨ st.held = held0
  rem : ∀ r, st.remembered = some r → r = g ∨ r = held0
  bnd : bound = true → st.remembered.isSome = true
  store : P st.store

theorem postOk_delete {bound : Bool} {w : Which} {b : Bool} (h : postOk bound (.delete w b) = true) :
    b = true ∧ (w = .held ∨ w = .remembered ∧ bound = true) := by
  cases w <;> cases b <;> simp [postOk] at h ⊢
  exact h

/-- the third conjunct: once a rebind has run, or the topology already holds `g`, it holds `g` from then on (`load_run` starts from
    `post.any isRebind`) -/
theorem stepLoad_post (ops : StoreOps σ κ) (entry : Entry) (doc : Doc κ) (newId : Val) (P : σ → Prop) (g held0 : Val) (bound : Bool)
    (hdel : ∀ s, P s → held0 ≠ g → P (ops.delGraph s held0)) (step : LoadStep) (st : LState σ)
    (hstep : postOk bound step = true) (hinv : PostInv P g held0 bound st) :
    ∃ st1, stepLoad ops entry doc newId st step = (.ok (), st1) ∧ PostInv P g held0 bound st1 ∧
      ((isRebind step = true ∨ st.held = g) → st1.held = g) := by
  cases step with
  | importDoc => cases hstep
  | rebind =>
    refine ⟨{ st with held := g }, ?_, ⟨hinv.imp, Or.inl rfl, hinv.rem, hinv.bnd, hinv.store⟩, fun _ => rfl⟩
    simp only [stepLoad, hinv.imp]
  | remember =>
    exact ⟨{ st with remembered := some st.held }, rfl,
      ⟨hinv.imp, hinv.held, fun r hr => Option.some.inj hr ▸ hinv.held, fun _ => rfl, hinv.store⟩,
      fun h => h.elim (fun h => by cases h) id⟩
  | delete w b =>
    obtain ⟨rfl, hw⟩ := postOk_delete hstep
    have htarget : ∃ t, st.pick w = some t ∧ (t = g ∨ t = held0) := by
      rcases hw with rfl | ⟨rfl, hbound⟩
      · exact ⟨st.held, rfl, hinv.held⟩
      · cases hr : st.remembered with
        | none => have := hinv.bnd hbound; rw [hr] at this; cases this
        | some r => exact ⟨r, by simp only [LState.pick, hr], hinv.rem r hr⟩
    obtain ⟨t, hpick, ht⟩ := htarget
    by_cases hg : t = g
    · refine ⟨st, ?_, hinv, fun h => h.elim (fun h => by cases h) id⟩
      simp only [stepLoad, hpick, hinv.imp, if_true, hg]
    · have ht0 : t = held0 := ht.resolve_left hg
      refine ⟨{ st with store := ops.delGraph st.store t }, ?_, ⟨hinv.imp, hinv.held, hinv.rem, hinv.bnd, ?_⟩,
        fun h => h.elim (fun h => by cases h) id⟩
      · simp only [stepLoad, hpick, hinv.imp, if_true, hg, if_false]
      · exact ht0 ▸ hdel st.store hinv.store (fun h => hg (ht0.trans h))

theorem runSteps_post (ops : StoreOps σ κ) (entry : Entry) (doc : Doc κ) (newId : Val) (P : σ → Prop) (g held0 : Val) (bound : Bool)
    (hdel : ∀ s, P s → held0 ≠ g → P (ops.delGraph s held0)) :
    ∀ (post : List LoadStep) (st : LState σ), post.all (postOk bound) = true → PostInv P g held0 bound st →
      ∃ st', runSteps ops entry doc newId post st = (.ok (), st') ∧ PostInv P g held0 bound st' ∧
        ((post.any isRebind = true ∨ st.held = g) → st'.held = g)
  | [], st, _, hinv => ⟨st, rfl, hinv, fun h => h.elim (fun h => by cases h) id⟩
  | step :: post, st, hok, hinv => by
    simp only [List.all_cons, Bool.and_eq_true] at hok
    obtain ⟨st1, hs1, hinv1, hheld1⟩ := stepLoad_post ops entry doc newId P g held0 bound hdel step st hok.1 hinv
    obtain ⟨st', hs', hinv', hheld'⟩ := runSteps_post ops entry doc newId P g held0 bound hdel post st1 hok.2 hinv1
    refine ⟨st', by simp only [runSteps, hs1]; exact hs', hinv', fun h => hheld' ?_⟩
    simp only [List.any_cons, Bool.or_eq_true] at h
    rcases h with (h | h) | h
    · exact Or.inr (hheld1 (Or.inl h))
    · exact Or.inl h
    · exact Or.inr (hheld1 (Or.inr h))

theorem safe_steps (sp : LoadSpec) (h : SafePlan sp = true) :
    ∃ pre post, sp.steps = pre ++ .importDoc :: post ∧ pre.all isRemember = true ∧
      post.all (postOk !pre.isEmpty) = true ∧ post.any isRebind = true := by
  unfold SafePlan at h
  simp only [Bool.and_eq_true] at h
  cases hsplit : splitPlan sp.steps with
  | none => simp [hsplit] at h
  | some pp =>
    simp only [hsplit, Bool.and_eq_true] at h
    obtain ⟨⟨⟨⟨⟨hpre, hpost⟩, hreb⟩, _⟩, _⟩, _⟩ := h
    exact ⟨pp.1, pp.2, splitPlan_spec sp.steps pp.1 pp.2 hsplit, hpre, hpost, hreb⟩

theorem safe_entries (sp : LoadSpec) (h : SafePlan sp = true) :
    sp.onFile = some .fileDirect ∧ sp.onString = some .stringDirect ∧
    (sp.onStringNewId = none ∨ sp.onStringNewId = some .string) := by
  unfold SafePlan at h
  simp only [Bool.and_eq_true, beq_iff_eq, Bool.or_eq_true] at h
  exact ⟨h.1.1.2, h.1.2, h.2⟩

end

/-- the importer call a safe plan makes for an argument shape -/
def importOf {σ κ : Type} (ops : StoreOps σ κ) (shape : Shape) (s : σ) (doc : Doc κ) (newId : Val) : Except String Val × σ :=
  match shape with
  | .stringNewId => ops.importString s doc newId
  | _ => ops.importDirect s doc

section
variable {σ κ : Type}

/-- `P` ranges over what survives `del_graph` of the previously held id (when that is not the imported one): besides the importer
    call, that deletion is all a safe plan does to the store -/
theorem load_run (ops : StoreOps σ κ) (sp : LoadSpec) (hsafe : SafePlan sp = true) (shape : Shape)
    (s : σ) (held newId : Val) (doc : Doc κ) (hentry : sp.entry shape ≠ none) :
    match importOf ops shape s doc newId with
    | (.error e, s1) => load ops sp s held shape doc newId = (.error e, s1, held)
    | (.ok g, s1) => ∀ P : σ → Prop, P s1 → (∀ s', P s' → held ≠ g → P (ops.delGraph s' held)) →
        ∃ s', load ops sp s held shape doc newId = (.ok g, s', g) ∧ P s' := by
  obtain ⟨pre, post, hst, hpre, hpost, hreb⟩ := safe_steps sp hsafe
  obtain ⟨hfile, hstring, hnew⟩ := safe_entries sp hsafe
  have hcall : ∃ entry, sp.entry shape = some entry ∧
      (if entry.direct then ops.importDirect s doc else ops.importString s doc newId) = importOf ops shape s doc newId := by
    cases shape with
    | file => exact ⟨.fileDirect, hfile, rfl⟩
    | string => exact ⟨.stringDirect, hstring, rfl⟩
    | stringNewId => exact ⟨.string, hnew.resolve_left hentry, rfl⟩
  obtain ⟨entry, he, hcall⟩ := hcall
  unfold load
  rw [he, hst]
  simp only
  rw [runSteps_pre ops entry doc newId s held pre _ none hpre]
  simp only [runSteps, stepLoad, hcall]
  rcases importOf ops shape s doc newId with ⟨e | g, s1⟩
  · rfl
  intro P hP hdel
  have hinv : PostInv P g held (!pre.isEmpty) ⟨s1, held, if pre.isEmpty then none else some held, some g⟩ := by
    refine ⟨rfl, Or.inr rfl, ?_, ?_, hP⟩
    · intro r hr
      cases hpe : pre.isEmpty <;> simp [hpe] at hr
      exact Or.inr hr.symm
    · intro hb
      cases hpe : pre.isEmpty <;> simp [hpe] at hb ⊢
  obtain ⟨st', hrun, hinv', hheld⟩ := runSteps_post ops entry doc newId P g held (!pre.isEmpty) hdel post _ hpost hinv
  simp only [hrun, hheld (Or.inl hreb)]
  exact ⟨st'.store, rfl, hinv'.store⟩

theorem importOf_eq (ops : StoreOps σ κ) (sp : LoadSpec) (hsafe : SafePlan sp = true) (shape : Shape)
    (s : σ) (newId : Val) (doc : Doc κ) (r : Except String Val × σ)
    (himp : (match shape with
      | .stringNewId => sp.onStringNewId = some .string ∧ ops.importString s doc newId = r
      | _ => ops.importDirect s doc = r)) :
    sp.entry shape ≠ none ∧ importOf ops shape s doc newId = r := by
  obtain ⟨hfile, hstring, _⟩ := safe_entries sp hsafe
  cases shape
  · exact ⟨fun h => (nomatch hfile.symm.trans h), himp⟩
  · exact ⟨fun h => (nomatch hstring.symm.trans h), himp⟩
  · exact ⟨fun h => (nomatch himp.1.symm.trans h), himp.2⟩

theorem load_safe (ops : StoreOps σ κ) (sp : LoadSpec) (hsafe : SafePlan sp = true) (shape : Shape)
    (s : σ) (held newId : Val) (doc : Doc κ) (g : Val) (s1 : σ) (P : σ → Prop)
    (himp : (match shape with
      | .stringNewId => sp.onStringNewId = some .string ∧ ops.importString s doc newId = (.ok g, s1)
      | _ => ops.importDirect s doc = (.ok g, s1)))
    (hP : P s1) (hdel : ∀ s, P s → held ≠ g → P (ops.delGraph s held)) :
    ∃ s', load ops sp s held shape doc newId = (.ok g, s', g) ∧ P s' := by
  have ⟨he, hi⟩ := importOf_eq ops sp hsafe shape s newId doc _ himp
  have h := load_run ops sp hsafe shape s held newId doc he
  rw [hi] at h
  exact h P hP hdel

theorem load_safe_error (ops : StoreOps σ κ) (sp : LoadSpec) (hsafe : SafePlan sp = true) (shape : Shape)
    (s : σ) (held newId : Val) (doc : Doc κ) (e : String) (s1 : σ)
    (himp : (match shape with
      | .stringNewId => sp.onStringNewId = some .string ∧ ops.importString s doc newId = (.error e, s1)
      | _ => ops.importDirect s doc = (.error e, s1))) :
    load ops sp s held shape doc newId = (.error e, s1, held) := by
  have ⟨he, hi⟩ := importOf_eq ops sp hsafe shape s newId doc _ himp
  have h := load_run ops sp hsafe shape s held newId doc he
  rw [hi] at h
  exact h

end

theorem load_cases {σ κ : Type} (ops : StoreOps σ κ) (sp : LoadSpec) (hsafe : SafePlan sp = true) (shape : Shape)
    (s : σ) (held newId : Val) (doc : Doc κ) :
    load ops sp s held shape doc newId = (.error "type", s, held) ∨
    (∃ e, (importOf ops shape s doc newId).1 = .error e ∧
      load ops sp s held shape doc newId = (.error e, (importOf ops shape s doc newId).2, held)) ∨
    (∃ g, (importOf ops shape s doc newId).1 = .ok g ∧
      ∀ P : σ → Prop, P (importOf ops shape s doc newId).2 → (∀ s', P s' → held ≠ g → P (ops.delGraph s' held)) →
        ∃ s', load ops sp s held shape doc newId = (.ok g, s', g) ∧ P s') := by
  by_cases hno : sp.entry shape = none
  · exact Or.inl (by unfold load; rw [hno])
  · have h := load_run ops sp hsafe shape s held newId doc hno
    rcases hi : importOf ops shape s doc newId with ⟨e | g, s1⟩ <;> rw [hi] at h
    · exact Or.inr (Or.inl ⟨e, rfl, h⟩)
    · exact Or.inr (Or.inr ⟨g, rfl, h⟩)

/-- `load_safe` at the two kinds of entry, the guard of the deletion turned the way the frame lemmas take it (`g ≠ held`) -/
theorem load_direct_ok {σ κ : Type} (ops : StoreOps σ κ) {sp : LoadSpec} (hsafe : SafePlan sp = true) {shape : Shape}
    (hshape : shape = .file ∨ shape = .string) {s : σ} (held newId : Val) {doc : Doc κ} {g : Val} (P : σ → Prop)
    (h1 : (ops.importDirect s doc).1 = .ok g) (hP : P (ops.importDirect s doc).2)
    (hdel : ∀ s, P s → g ≠ held → P (ops.delGraph s held)) :
    ∃ s', load ops sp s held shape doc newId = (.ok g, s', g) ∧ P s' :=
  load_safe ops sp hsafe shape s held newId doc g _ P (by rcases hshape with rfl | rfl <;> exact Prod.ext h1 rfl) hP
    fun s hp h => hdel s hp h.symm

theorem load_string_ok {σ κ : Type} (ops : StoreOps σ κ) {sp : LoadSpec} (hsafe : SafePlan sp = true)
    (hnew : sp.onStringNewId = some .string) {s : σ} (held : Val) {newId : Val} {doc : Doc κ} {g : Val} (P : σ → Prop)
    (h1 : (ops.importString s doc newId).1 = .ok g) (hP : P (ops.importString s doc newId).2)
    (hdel : ∀ s, P s → g ≠ held → P (ops.delGraph s held)) :
    ∃ s', load ops sp s held .stringNewId doc newId = (.ok g, s', g) ∧ P s' :=
  load_safe ops sp hsafe .stringNewId s held newId doc g _ P ⟨hnew, Prod.ext h1 rfl⟩ hP fun s hp h => hdel s hp h.symm

theorem load_invariant {σ κ : Type} (ops : StoreOps σ κ) (P : σ → Prop) (d : Doc κ)
    (hD : ∀ s, P s → P (ops.importDirect s d).2) (hS : ∀ s g, P s → P (ops.importString s d g).2)
    (hdel : ∀ s g, P s → P (ops.delGraph s g))
    (sp : LoadSpec) (hsafe : SafePlan sp = true) (s : σ) (hs : P s) (held newId : Val) (shape : Shape) :
    P (load ops sp s held shape d newId).2.1 := by
  have h1 : P (importOf ops shape s d newId).2 := by
    cases shape with
    | stringNewId => exact hS s newId hs
    | file => exact hD s hs
    | string => exact hD s hs
  rcases load_cases ops sp hsafe shape s held newId d with hl | ⟨e, _, hl⟩ | ⟨g, _, hsucc⟩
  · rw [hl]; exact hs
  · rw [hl]; exact h1
  · obtain ⟨s', hl, hP⟩ := hsucc P h1 (fun s' hp _ => hdel s' held hp)
    rw [hl]; exact hP

/-- **`load` touches no third graph, on either store**: `obs` is what is found under `g''`, `I` an invariant the operations keep -/
theorem load_frame_of {σ κ β : Type} (ops : StoreOps σ κ) (I : σ → Prop) (obs : σ → β) (d : Doc κ) (g'' : Val)
    (hD : ∀ s, I s → (∀ g, (ops.importDirect s d).1 = .ok g → g'' ≠ g) →
      I (ops.importDirect s d).2 ∧ obs (ops.importDirect s d).2 = obs s)
    (hS : ∀ s g, I s → g'' ≠ g → I (ops.importString s d g).2 ∧ obs (ops.importString s d g).2 = obs s)
    (hdel : ∀ s g, I s → g'' ≠ g → I (ops.delGraph s g) ∧ obs (ops.delGraph s g) = obs s)
    (sp : LoadSpec) (hsafe : SafePlan sp = true) (shape : Shape) (s : σ) (hs : I s) (held newId : Val)
    (hne : ∀ g, (load ops sp s held shape d newId).1 = .ok g → g'' ≠ g)
    (hnew : shape = .stringNewId → g'' ≠ newId) (hheld : g'' ≠ held) :
    obs (load ops sp s held shape d newId).2.1 = obs s := by
  have hframe1 : (∀ g, (importOf ops shape s d newId).1 = .ok g → g'' ≠ g) →
      I (importOf ops shape s d newId).2 ∧ obs (importOf ops shape s d newId).2 = obs s := by
    intro hr
    cases shape with
    | stringNewId => exact hS s newId hs (hnew rfl)
    | file => exact hD s hs hr
    | string => exact hD s hs hr
  rcases load_cases ops sp hsafe shape s held newId d with hl | ⟨e, he, hl⟩ | ⟨g, hg, hsucc⟩
  · rw [hl]
  · rw [hl]
    exact (hframe1 (fun g h => by rw [he] at h; cases h)).2
  · -- `hne` speaks of what `load` returns, so `hsucc` is asked once for that alone and then for the frame
    obtain ⟨s', hl, _⟩ := hsucc (fun _ => True) trivial (fun _ _ _ => trivial)
    have hgne : g'' ≠ g := hne g (by rw [hl])
    obtain ⟨h1, h2⟩ := hframe1 (fun g0 h => by rw [hg] at h; cases h; exact hgne)
    obtain ⟨s'', hl', hP⟩ := hsucc (fun s' => I s' ∧ obs s' = obs s) ⟨h1, h2⟩
      (fun s' hp _ => ⟨(hdel s' held hp.1 hheld).1, (hdel s' held hp.1 hheld).2.trans hp.2⟩)
    rw [hl']
    exact hP.2

end FimVerif.C01
