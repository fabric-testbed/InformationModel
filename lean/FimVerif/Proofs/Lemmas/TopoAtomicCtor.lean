import FimVerif.Proofs.Lemmas.TopoAtomicGrow
/-! What the element constructors of `Model/Topo.lean` do to a state: `ifaceNew`, `nodeNew`, `linkNew`, and the calls that are one
constructor behind look-ups (`addNode`, `addChildInterface`), either raise in the state they started from or extend it in an
explicit way (`IfAdded`, `NodeAdded`, `LinkAdded`); `linkNew_run` is the returning path of `linkNew` as `connectInterface` takes it;
and what the owner look-ups return when they return. -/
namespace FimVerif.Topo
open FimVerif FimVerif.M

/-- what `Interface(..., etype=NEW)` adds -/
def IfAdded (t : Topo) (parent : Option Nid) (c : Nat) (nid : Option Nid) (name : String) (itype : Option String)
    (v : Nid × Nat) (t' : Topo) : Prop :=
  ∃ n, (∀ m ∈ t.nodes, m.nid ≠ n.nid) ∧ n.cls = .connectionPoint ∧ n.nid = (pick nid c).1 ∧ n.name = name ∧ itype = some n.typ ∧
    validName .connectionPoint name = true ∧ v = pick nid c ∧
    match parent with
    | none => t' = pushNode n t
    | some p => ∃ pn, findNode p t = (.ok pn, t) ∧ t' = setEdge pn.ref n.ref .connects (pushNode n t)

/-- the parent is looked up before the ConnectionPoint is created (commit 28b8d37), so the edge to it cannot fail -/
theorem ifaceNew_spec (fl : Flavour) (c : Nat) (name : String) (nid : Option Nid) (parent : Option Nid) (itype : Option String)
    (props : List PropArg) (t : Topo) :
    Outcome t (IfAdded t parent c nid name itype) (ifaceNew fl c name nid parent itype props t) := by
  unfold ifaceNew
  refine ro_step (readOnly_guard ..) Outcome.err (fun _ _ => ?_)
  rcases hp : pick nid c with ⟨id, c'⟩
  simp only []
  refine ro_step (readOnly_need ..) Outcome.err (fun ty hty => ?_)
  refine ro_step (readOnly_guard ..) Outcome.err (fun _ hvn => ?_)
  refine ro_step (readOnly_ofExcept _) Outcome.err (fun kw _ => ?_)
  cases parent with
  | none =>
    refine addGNode_step (Outcome.err _) (fun n hn hfr => ?_)
    subst hn
    exact .ok ⟨_, hfr, rfl, by rw [hp], rfl, need_ok hty, guard_ok hvn, by rw [hp], rfl⟩
  | some p =>
    simp only [flag_ifaceParentPrecheck, if_true]
    refine ro_step (by ro) Outcome.err (fun pn hpn => ?_)
    refine addGNode_step (Outcome.err _) (fun n hn hfr => ?_)
    subst hn
    rw [bind_ok (addEdge_run (findNode_push_old hpn hfr) (findNode_push_new hfr))]
    exact .ok ⟨_, hfr, rfl, by rw [hp], rfl, need_ok hty, guard_ok hvn, by rw [hp], pn, hpn, rfl⟩

theorem addChildInterface_spec (fl : Flavour) (c : Nat) (port : Nid) (cache : Cache) (name : String) (nid : Option Nid)
    (vlan : Option String) (tbl : List (String × String)) (props : List PropArg) (s : Topo) :
    Outcome s (fun v t => IfAdded s (some port) c nid name (some "SubInterface") (v.1, (pick nid c).2) t ∧ v.2 = cache ++ [(name, v.1)])
      (addChildInterface fl c port cache name nid vlan tbl props s) := by
  unfold addChildInterface
  refine ro_step (by ro) Outcome.err (fun _ _ => ?_)
  refine ro_step (by ro) Outcome.err (fun _ _ => ?_)
  refine ro_step (by ro) Outcome.err (fun _ _ => ?_)
  refine ro_step (by ro) Outcome.err (fun _ _ => ?_)
  refine ro_step (by ro) Outcome.err (fun _ _ => ?_)
  refine ro_step (by ro) Outcome.err (fun _ _ => ?_)
  refine ro_step (by ro) Outcome.err (fun _ _ => ?_)
  refine ro_step (by ro) Outcome.err (fun _ _ => ?_)
  refine (ifaceNew_spec fl c name nid (some port) (some "SubInterface") props s).step Outcome.err fun r t h => .ok ⟨?_, rfl⟩
  obtain ⟨n, h1, h2, h3, h4, h5, h6, h7, h8⟩ := h
  exact ⟨n, h1, h2, h3, h4, h5, h6, by rw [h7], h8⟩

/-- the edges `add_network_link_sliver` adds, one `add_link` per interface -/
def linkEdges (ln : GNode) (l : List IfArg) (u : Topo) : Topo :=
  l.foldl (fun u i => match i with
    | .iface iid _ => setEdge ln.ref ⟨.connectionPoint, iid⟩ .connects u
    | .bogus => u) u

theorem linkEdges_pair {ln : GNode} {u : Topo} {i1 i2 : Nid} {n1 n2 : String} (hlt : ¬ touches u.edges ln.ref) (hne : i1 ≠ i2) :
    linkEdges ln [.iface i1 n1, .iface i2 n2] u =
      { u with edges := u.edges ++ [⟨ln.ref, ⟨.connectionPoint, i1⟩, .connects⟩, ⟨ln.ref, ⟨.connectionPoint, i2⟩, .connects⟩] } := by
  simp only [linkEdges, List.foldl_cons, List.foldl_nil]
  rw [setEdge_fresh (.inl hlt), setEdge_append]
  · simp [List.append_assoc]
  · intro e he
    rcases List.mem_append.mp he with h | h
    · exact sameEnds_false_left (fun x => hlt ⟨e, h, .inl x⟩) (fun x => hlt ⟨e, h, .inr x⟩)
    · rw [List.mem_singleton.mp h, Bool.eq_false_iff, Ne, sameEnds_iff]
      rintro (⟨_, h2⟩ | ⟨h1, h2⟩)
      · exact hne (by injection h2)
      · exact hne (by injection h2.trans h1)

def IfacesPresent (l : List IfArg) (u : Topo) : Prop :=
  ∀ i ∈ l, ∃ iid nm, i = .iface iid nm ∧ ∃ x ∈ u.nodes, x.nid = iid ∧ x.cls = .connectionPoint

theorem forEach_addEdge_run {f : IfArg → M Topo Unit} {ln : GNode}
    (hf : ∀ iid nm, f (.iface iid nm) = addEdge ln.nid .connects iid) {l : List IfArg} {u : Topo}
    (hd : IdsDistinct u) (hl : ln ∈ u.nodes) (hp : IfacesPresent l u) :
    M.forEach l f u = (.ok (), linkEdges ln l u) := by
  induction l generalizing u with
  | nil => rfl
  | cons i l ih =>
    obtain ⟨iid, nm, rfl, x, hx, hxi, hxc⟩ := hp _ (List.mem_cons_self ..)
    have h1 : f (.iface iid nm) u = (.ok (), setEdge ln.ref x.ref .connects u) := by
      rw [hf]; exact addEdge_run (findNode_of_mem hd hl) (by rw [← hxi]; exact findNode_of_mem hd hx)
    rw [forEach_cons_ok h1]
    have hr : x.ref = ⟨.connectionPoint, iid⟩ := by rw [ref_of_cls hxc, hxi]
    rw [hr]
    have := ih (u := setEdge ln.ref ⟨.connectionPoint, iid⟩ .connects u) hd hl (fun j hj => hp j (List.mem_cons_of_mem _ hj))
    rw [this]; rfl

theorem count_guard_ok {g : Topo → Nat} {t t' : Topo} {u : Unit}
    (h : (M.read g >>= fun cnt => M.guard (cnt == 1) Err.query) t = (.ok u, t')) : g t = 1 := by
  simp only [bind_apply', read_apply, guard_apply] at h
  by_cases hg : g t = 1
  · exact hg
  · simp [hg] at h

/-- the duplicate-name check of the constructors: `read (any …)` then `guard (!dup)` -/
theorem unused_of_guard {s t t' : Topo} {K : Cls} {nm : String} {dup : Bool} {e : Err} {u : Unit}
    (hdup : M.read (fun s : Topo => s.nodes.any (fun n => n.cls == K && n.name == nm)) s = (.ok dup, t))
    (hg : M.guard (!dup) e t = (.ok u, t')) : ∀ m ∈ s.nodes, m.cls = K → m.name ≠ nm := by
  intro m hm hc hname
  have hd : dup = false := by simpa using guard_ok hg
  simp only [read_apply, Prod.mk.injEq, Except.ok.injEq, hd] at hdup
  have := List.any_eq_false.mp hdup.1 m hm
  simp [hc, hname] at this

/-- what `Node(..., etype=NEW)` adds -/
def NodeAdded (s : Topo) (c : Nat) (a : NodeArgs) (v : Nid × Nat) (t : Topo) : Prop :=
  ∃ n, (∀ m ∈ s.nodes, m.nid ≠ n.nid) ∧ n.cls = .networkNode ∧ a.ntype = some n.typ ∧ n.name = a.name ∧
    (∀ m ∈ s.nodes, m.cls = .networkNode → m.name ≠ a.name) ∧ n.nid = (pick a.nid c).1 ∧ v = pick a.nid c ∧ t = pushNode n s

theorem nodeNew_spec (fl : Flavour) (c : Nat) (a : NodeArgs) (t : Topo) : Outcome t (NodeAdded t c a) (nodeNew fl c a t) := by
  unfold nodeNew
  refine ro_step (readOnly_guard ..) Outcome.err (fun _ _ => ?_)
  rcases hp : pick a.nid c with ⟨id, c'⟩
  simp only []
  refine ro_step (readOnly_need ..) Outcome.err (fun ty hty => ?_)
  refine ro_step (readOnly_need ..) Outcome.err (fun _ _ => ?_)
  refine ro_step (readOnly_guard ..) Outcome.err (fun _ _ => ?_)
  refine ro_step (readOnly_ofExcept _) Outcome.err (fun _ _ => ?_)
  refine ro_step (readOnly_read _) Outcome.err (fun dup hdup => ?_)
  refine ro_step (readOnly_guard ..) Outcome.err (fun _ hg => ?_)
  refine addGNode_step (Outcome.err _) (fun n hn hfr => ?_)
  subst hn
  exact .ok ⟨_, hfr, rfl, need_ok hty, rfl, unused_of_guard hdup hg, by rw [hp], by rw [hp], rfl⟩

theorem addNode_spec (fl : Flavour) (c : Nat) (a : NodeArgs) (s : Topo) : Outcome s (NodeAdded s c a) (addNode fl c a s) := by
  unfold addNode
  refine ro_step (readOnly_guard ..) Outcome.err (fun _ _ => ?_)
  refine ro_step (readOnly_listNames ..) Outcome.err (fun _ _ => ?_)
  refine ro_step (readOnly_guard ..) Outcome.err (fun _ _ => ?_)
  exact nodeNew_spec fl c a s

/-- what `Link(..., etype=NEW)` adds -/
def LinkAdded (t : Topo) (c : Nat) (nid : Option Nid) (ltype : Option String) (ifs : Option (List IfArg)) (v : Nid × Nat)
    (t' : Topo) : Prop :=
  ∃ l ln, ifs = some l ∧ (∀ m ∈ t.nodes, m.nid ≠ ln.nid) ∧ ln.cls = .link ∧ ltype = some ln.typ ∧ ln.nid = (pick nid c).1 ∧
    IfacesPresent l t ∧ v = pick nid c ∧ t' = linkEdges ln l (pushNode ln t)

/-- a bad k-th interface (not an Interface, stale, not a ConnectionPoint) is found before the Link node is created (commit 28b8d37) -/
theorem linkNew_spec (fl : Flavour) (c : Nat) (name : String) (nid : Option Nid) (ltype : Option String)
    (ifs : Option (List IfArg)) (tech : Option String) (props : List PropArg) (t : Topo) (hd : IdsDistinct t) :
    Outcome t (LinkAdded t c nid ltype ifs) (linkNew fl c name nid ltype ifs tech props t) := by
  unfold linkNew
  refine ro_step (by ro) Outcome.err (fun _ _ => ?_)
  rcases hp : pick nid c with ⟨id, c'⟩
  simp only []
  refine ro_step (by ro) Outcome.err (fun ty hty => ?_)
  refine ro_step (by ro) Outcome.err (fun l' hl' => ?_)
  refine ro_step (by ro) Outcome.err (fun _ _ => ?_)
  refine ro_step (by ro) Outcome.err (fun _ _ => ?_)
  refine ro_step (by ro) Outcome.err (fun layer _ => ?_)
  refine ro_step (by ro) Outcome.err (fun kw _ => ?_)
  simp only [flag_linkPrecheck, if_true]
  refine ro_step (by ro) Outcome.err (fun _ h1 => ?_)
  refine ro_step (by ro) Outcome.err (fun _ h2 => ?_)
  have hpres : IfacesPresent l' t := by
    intro i hi
    have b1 := forEach_ro_ok (fun b => by cases b <;> ro) h1 i hi
    have b2 := forEach_ro_ok (fun b => by cases b <;> ro) h2 i hi
    cases i with
    | bogus => simp at b1
    | iface iid nm =>
      refine ⟨iid, nm, rfl, ?_⟩
      have hc := count_guard_ok b2
      obtain ⟨x, hx⟩ := List.length_eq_one_iff.mp hc
      have : x ∈ t.nodes.filter (fun n => n.nid == iid && n.cls == Cls.connectionPoint) := by rw [hx]; simp
      have := List.mem_filter.mp this
      exact ⟨x, this.1, by simpa using this.2⟩
  refine addGNode_step (Outcome.err _) (fun ln hln hn => ?_)
  rw [bind_ok (forEach_addEdge_run (ln := ln) (fun _ _ => by rw [hln]) (idsDistinct_push hd hn) (by simp [pushNode])
    fun i hi => by
      obtain ⟨iid, nm, e, x, hx, h3⟩ := hpres i hi
      exact ⟨iid, nm, e, x, by simp [pushNode, hx], h3⟩)]
  subst hln
  exact .ok ⟨l', _, need_ok hl', hn, rfl, need_ok hty, by rw [hp], hpres, by rw [hp], rfl⟩

theorem linkNew_run {c : Nat} {name : String} {ty layer : String} {l : List IfArg} {t : Topo}
    (hd : IdsDistinct t) (hne : l ≠ []) (hname : validName .link name = true)
    (hlayer : lookupD Gen.Rules.linkLayer ty = some layer) (hp : IfacesPresent l t)
    (hfresh : ∀ m ∈ t.nodes, m.nid ≠ .gen c) :
    ∃ ln, ln.cls = .link ∧ ln.typ = ty ∧ ln.nid = .gen c ∧
      linkNew .experiment c name none (some ty) (some l) none [] t = (.ok (.gen c, c + 1), linkEdges ln l (pushNode ln t)) := by
  refine ⟨⟨.link, .gen c, name, ty, dictUpdate ([("StitchNode", "false"), ("Layer", layer)] ++ []) []⟩, rfl, rfl, rfl, ?_⟩
  refine Eq.symm ?_      -- `rhs = …`, so that the motive of `ok_step` is `Eq rhs`
  unfold linkNew
  simp only [pick]
  refine ok_step (guard_run rfl) ?_
  refine ok_step (a := ty) rfl ?_
  refine ok_step (a := l) rfl ?_
  refine ok_step (guard_run (by cases l <;> simp_all)) ?_
  refine ok_step (guard_run hname) ?_
  refine ok_step (a := layer) (by rw [hlayer]; rfl) ?_
  refine ok_step (a := []) rfl ?_
  simp only [flag_linkPrecheck, if_true]
  refine ok_step (forEach_ro_run (fun b hb => by obtain ⟨iid, nm, rfl, _⟩ := hp b hb; rfl)) ?_
  refine ok_step (forEach_ro_run (fun b hb => by
    obtain ⟨iid, nm, rfl, x, hx, hxi, hxc⟩ := hp b hb
    have : t.nodes.filter (fun n => n.nid == iid && n.cls == Cls.connectionPoint) = [x] :=
      filter_singleton hd hx fun y hy => by
        simp only [Bool.and_eq_true, beq_iff_eq]
        exact ⟨fun h => eq_of_nid_eq hd hy hx (h.1.trans hxi.symm), fun h => by rw [h]; exact ⟨hxi, hxc⟩⟩
    simp [bind_apply', this])) ?_
  refine ok_step (addGNode_run (by simpa using hfresh)) ?_
  refine ok_step (forEach_addEdge_run (ln := ⟨.link, .gen c, name, ty, dictUpdate ([("StitchNode", "false"), ("Layer", layer)] ++ []) []⟩)
    (fun _ _ => rfl) (idsDistinct_push hd (by simpa using hfresh)) (by simp [pushNode])
    fun i hi => by
      obtain ⟨iid, nm, e, x, hx, h3⟩ := hp i hi
      exact ⟨iid, nm, e, x, by simp [pushNode, hx], h3⟩) rfl

theorem getParent_cls {nid : Nid} {rel : Rel} {L : Cls} {t t' : Topo} {n : GNode}
    (h : getParent nid rel L t = (.ok (some n), t')) : n ∈ t.nodes ∧ n.cls = L := by
  unfold getParent at h
  obtain ⟨ps, h1, h⟩ := ro_ok_inv (readOnly_firstNeighbor _ _ _) h
  split at h
  · rename_i p
    obtain ⟨m, h2, h⟩ := ro_ok_inv (readOnly_findNode _) h
    simp only [pure_apply', Prod.mk.injEq, Except.ok.injEq, Option.some.injEq] at h
    obtain ⟨rfl, _⟩ := h
    obtain ⟨x, _, _, e⟩ := firstNeighbor_ok h1
    -- `p` is the id of a neighbour of class `L`, and the look-up of `p` found `m`
    obtain ⟨y, hy, hyp⟩ := List.mem_map.mp (e ▸ List.mem_cons_self .. : p ∈ (neighbors t x.ref rel L).map (·.nid))
    obtain ⟨hy1, hy2, _⟩ := mem_neighbors hy
    have hym : y ∈ findAll t p := List.mem_filter.mpr ⟨hy1, by simp [hyp]⟩
    rw [findAll_of_findNode h2, List.mem_singleton] at hym
    exact ⟨(findNode_ok h2).1, hym ▸ hy2⟩
  · simp at h

def IsOwnerCls (c : Cls) : Prop := c = .networkNode ∨ c = .compositeNode

theorem ownerOfService_cls {ns : GNode} {t t' : Topo} {o : GNode}
    (h : ownerOfService ns t = (.ok (some o), t')) : o ∈ t.nodes ∧ IsOwnerCls o.cls := by
  unfold ownerOfService at h
  obtain ⟨comp, h1, h⟩ := ro_ok_inv (readOnly_getParent _ _ _) h
  split at h
  · obtain ⟨node, h2, h⟩ := ro_ok_inv (readOnly_getParent _ _ _) h
    split at h
    · simp only [pure_apply', Prod.mk.injEq, Except.ok.injEq, Option.some.injEq] at h
      obtain ⟨rfl, _⟩ := h
      have := getParent_cls h2
      exact ⟨this.1, .inl this.2⟩
    · simp at h
  · obtain ⟨node, h2, h⟩ := ro_ok_inv (readOnly_getParent _ _ _) h
    split at h
    · simp only [pure_apply', Prod.mk.injEq, Except.ok.injEq, Option.some.injEq] at h
      obtain ⟨rfl, _⟩ := h
      have := getParent_cls h2
      exact ⟨this.1, .inl this.2⟩
    · have := getParent_cls h
      exact ⟨this.1, .inr this.2⟩

theorem ownerNode_ok {iid : Nid} {t t' : Topo} {o : GNode}
    (h : ownerNode iid t = (.ok (some o), t')) :
    (∃ fi, findNode iid t = (.ok fi, t)) ∧ o ∈ t.nodes ∧ IsOwnerCls o.cls := by
  unfold ownerNode at h
  obtain ⟨ty, h1, h⟩ := ro_ok_inv (readOnly_typeOf _) h
  obtain ⟨fi, h0, _⟩ := typeOf_ok h1
  refine ⟨⟨fi, h0⟩, ?_⟩
  split at h
  · obtain ⟨p, h2, h⟩ := ro_ok_inv (readOnly_getParent _ _ _) h
    split at h
    · simp at h
    · obtain ⟨ns, h3, h⟩ := ro_ok_inv (readOnly_parentService _) h
      exact ownerOfService_cls h
  · obtain ⟨ns, h3, h⟩ := ro_ok_inv (readOnly_parentService _) h
    exact ownerOfService_cls h
end FimVerif.Topo
