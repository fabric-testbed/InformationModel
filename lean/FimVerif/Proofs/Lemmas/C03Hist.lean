import FimVerif.Model.CodecHist
import FimVerif.Proofs.Lemmas.C03Class
/-! Histories of `Model/CodecHist.lean`.  In a world without aliasing no step touches the value object, so a read returns what the
getter computes from the initial state (`run_read`).  With a copying `update` no list is ever shared and the original sees the
growth of its own lists only (`refRun_x`), which keeps it well-typed (`growXOnly_wellTyped`). -/
namespace FimVerif.C03
open FimVerif JVal Codec Hist

variable {σ : Type}

theorem step_obj (get : σ → String → JVal → Option JVal) (w : World σ) (s : Step) : (step get w s).1.obj = w.obj := by
  cases s <;> simp only [step] <;> split <;> rfl

theorem step_read (get : σ → String → JVal → Option JVal) (w : World σ) (g : String) (a : JVal) :
    (step get w (.read g a)).2 = get w.obj g a := by
  simp only [step]
  split
  · rename_i r h; exact h.symm
  · rename_i h; exact h.symm

theorem finalWorld_obj (get : σ → String → JVal → Option JVal) (steps : List Step) :
    ∀ w : World σ, (finalWorld get w steps).obj = w.obj := by
  induction steps with
  | nil => intro w; rfl
  | cons s t ih => intro w; simp only [finalWorld]; rw [ih, step_obj]

theorem run_read (get : σ → String → JVal → Option JVal) (steps : List Step) :
    ∀ (w : World σ) (k : Nat) (g : String) (a : JVal), steps[k]? = some (.read g a) →
      (run get w steps)[k]? = some (get w.obj g a) := by
  induction steps with
  | nil => intro w k g a h; simp at h
  | cons s t ih =>
    intro w k g a h
    cases k with
    | zero =>
      simp only [List.getElem?_cons_zero, Option.some.injEq] at h
      subst h
      simp only [run, List.getElem?_cons_zero, step_read]
    | succ k =>
      simp only [List.getElem?_cons_succ] at h
      simp only [run, List.getElem?_cons_succ]
      rw [ih _ k g a h, step_obj]

/-- the effect on the original of the steps that grow *its* lists, and of nothing else -/
def growXOnly : Fields → List RefStep → Fields
  | x, [] => x
  | x, .growX k item :: r => growXOnly (setF x k (growList item (x k))) r
  | x, _ :: r => growXOnly x r

theorem refStep_copying (c : ClassSpec) (w : RefWorld) (s : RefStep) (h : w.shared = []) (r : List RefStep) :
    (refStep c true w s).shared = [] ∧ growXOnly (refStep c true w s).x r = growXOnly w.x (s :: r) := by
  cases s <;> simp only [refStep, h, List.contains_nil, Bool.false_eq_true, if_false, if_true, growXOnly, and_self]
  · cases w.y <;> simp [h]

theorem refRun_x (c : ClassSpec) (steps : List RefStep) :
    ∀ w : RefWorld, w.shared = [] → (refRun c true w steps).shared = [] ∧ (refRun c true w steps).x = growXOnly w.x steps := by
  induction steps with
  | nil => intro w h; exact ⟨h, rfl⟩
  | cons s t ih =>
    intro w h
    obtain ⟨h1, h2⟩ := refStep_copying c w s h t
    exact ⟨(ih _ h1).1, (ih _ h1).2.trans h2⟩

theorem growList_inDomain (g : Guard) (hg : g = .strOrList ∨ g = .strOrStrList) (item v : JVal) (hi : item.isStr = true)
    (hv : inDomain g v = true) : inDomain g (growList item v) = true := by
  cases v with
  | arr xs =>
    have dom : ∀ ys : List JVal, inDomain g (.arr ys) = ys.all isStr := by rcases hg with rfl | rfl <;> exact fun _ => rfl
    rw [dom] at hv
    have hys : (xs ++ [item]).all isStr = true := by simp [List.all_append, hv, hi]
    simp only [growList]
    split
    · rw [dom, List.all_reverse]; exact hys
    · rw [dom]; exact hys
  | _ => exact hv

theorem growList_scalar (item v : JVal) (h : isContainer v = false) : growList item v = v := by
  cases v <;> simp_all [growList, isContainer]

theorem grow_wellTyped (c : ClassSpec) (valid : String → JVal → Bool) (hg : c.guard = .strOrList ∨ c.guard = .strOrStrList)
    (hd : ∀ f ∈ c.fields, isContainer f.dflt = false) (x : Fields) (hx : WellTyped c valid x) (k : String) (item : JVal)
    (hi : item.isStr = true) (hv : ∀ v, valid k v = true → valid k (growList item v) = true) :
    WellTyped c valid (setF x k (growList item (x k))) := by
  by_cases hc : isContainer (x k) = true
  · -- a list can only be the value of a field, and then it is a value of the domain: growing it is an assignment of such a value
    have hk : k ∈ names c := Decidable.byContradiction fun h => by rw [hx.2 k h] at hc; cases hc
    obtain ⟨f, hf, rfl⟩ := List.mem_map.1 hk
    rcases hx.1 f hf with ⟨he, _⟩ | ⟨hdom, hval⟩
    · rw [he, hd f hf] at hc; cases hc
    · exact wellTyped_setF c valid x hx _ _ hk ⟨growList_inDomain _ hg _ _ hi hdom, hv _ hval⟩
  · rw [growList_scalar _ _ (by simpa using hc), setF_self]
    exact hx

/-- the growth steps of a history stay inside the domain -/
def GrowOK (valid : String → JVal → Bool) (steps : List RefStep) : Prop :=
  ∀ k item, RefStep.growX k item ∈ steps → item.isStr = true ∧ ∀ v, valid k v = true → valid k (growList item v) = true

theorem growXOnly_wellTyped (c : ClassSpec) (valid : String → JVal → Bool) (hg : c.guard = .strOrList ∨ c.guard = .strOrStrList)
    (hd : ∀ f ∈ c.fields, isContainer f.dflt = false) (steps : List RefStep) :
    ∀ x, WellTyped c valid x → GrowOK valid steps → WellTyped c valid (growXOnly x steps) := by
  induction steps with
  | nil => intro x hx _; exact hx
  | cons s t ih =>
    intro x hx hok
    have hok' : GrowOK valid t := fun k item hm => hok k item (List.mem_cons_of_mem _ hm)
    cases s with
    | growX k item =>
      obtain ⟨hi, hv⟩ := hok k item List.mem_cons_self
      exact ih _ (grow_wellTyped c valid hg hd x hx k item hi hv) hok'
    | _ => exact ih x hx hok'

end FimVerif.C03
