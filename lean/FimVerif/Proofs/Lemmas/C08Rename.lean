import FimVerif.Model.RemoveNames
/-!
# Renaming (C08): `ModelElement.rename` / the `name` setter write the Name property of one element

The model has no lookup index: what a name denotes is a function of the graph and the names as they are NOW.
-/
namespace FimVerif.Remove

/-- `ModelElement.rename(new)` / `element.name = new`: the Name of `x` becomes `new`; no other entry changes -/
def Dir.rename (d : Dir) (x new : Nat) : Dir :=
  { d with names := d.names.map (fun p => if p.1 == x then (p.1, new) else p) }

theorem nameOf_rename_self {d : Dir} {x new nm : Nat} (h : (d.rename x new).nameOf x = some nm) : nm = new := by
  unfold Dir.nameOf Dir.rename at h
  simp only [Option.map_eq_some_iff] at h
  obtain ⟨p, hf, hp2⟩ := h
  have h1 := List.find?_some hf
  have hm := List.mem_of_find?_eq_some hf
  obtain ⟨q, _, hq⟩ := List.mem_map.mp hm
  by_cases hqx : (q.1 == x) = true
  · rw [if_pos hqx] at hq
    rw [← hq] at hp2
    exact hp2.symm
  · rw [if_neg hqx] at hq
    rw [← hq] at h1
    exact absurd h1 hqx

end FimVerif.Remove
