import FimVerif.Model.ARef
import FimVerif.Proofs.Lemmas.StoreNid
/-! C05: the shared store refines the store-level reference model `ARef.step` — foundations: keys of stored nodes (`keyOf`,
    `keyP` under dictionary updates), the refinement relation `RefS`, `_find_node` in lock step (`refS_withNode`); and
    `find_matching_nodes` of all four models (both stores, both references) written through one reply function `fmnReply`. -/
namespace FimVerif.Store
open FimVerif FimVerif.Gen.StoreConsts

theorem absS_nodes (s : Store) : (absS s).nodes = s.nodes.map (·.attrs) := rfl
theorem absS_edges (s : Store) :
    (absS s).edges = s.edges.map (fun e => (keyOf s.nodes e.a, keyOf s.nodes e.b, e.attrs)) := rfl

/-- a stored link as the reference model shows it: between the keys of its ends -/
def kE (s : Store) (e : SEdge) : Key × Key × Props := (keyOf s.nodes e.a, keyOf s.nodes e.b, e.attrs)

theorem absS_edges_kE (s : Store) : (absS s).edges = s.edges.map (kE s) := rfl

theorem inGP_attrs (g : String) (n : SNode) : ARef.inGP g n.attrs = inG g n := rfl
theorem hasNidP_attrs (nid : String) (n : SNode) : ARef.hasNidP nid n.attrs = hasNid nid n := rfl
theorem hasAttrP_attrs (k v : String) (n : SNode) : ARef.hasAttrP k v n.attrs = hasAttr k v n := rfl

theorem isK_K (g nid : String) (a : Props) : ARef.isK (K g nid) a = (ARef.hasNidP nid a && ARef.inGP g a) := by
  rw [Bool.eq_iff_iff, Bool.and_eq_true, ← keyP_eq_K, ARef.isK, beq_iff_eq]

theorem kIn_keyP (g : String) (a : Props) : ARef.kIn g (keyP a) = ARef.inGP g a := rfl

theorem keyOf_of_nodup (ns : List SNode) (hnd : (ns.map (·.iid)).Nodup) (n : SNode) (hn : n ∈ ns) :
    keyOf ns n.iid = keyP n.attrs := by
  unfold keyOf
  rw [List.find?_key_of_nodup (·.iid) hnd hn]

theorem keyOf_mem (s : Store) (h : Inv s) (n : SNode) (hn : n ∈ s.nodes) : keyOf s.nodes n.iid = keyP n.attrs :=
  keyOf_of_nodup s.nodes h.1 n hn

theorem keyOf_of_idIn (s : Store) (h : Inv s) (i : Nat) (hi : idIn s.nodes i = true) :
    ∃ n ∈ s.nodes, n.iid = i ∧ keyOf s.nodes i = keyP n.attrs := by
  obtain ⟨n, hn, e⟩ := idIn_iff.1 hi
  exact ⟨n, hn, e, by rw [← e]; exact keyOf_mem s h n hn⟩

theorem isNode_of_uniqueKeys (s : Store) (hu : UniqueKeys s) (n : SNode) (hn : n ∈ s.nodes) : IsNode s (keyP n.attrs) n :=
  ⟨hn, rfl, fun _ hm e => List.eq_of_nodup_map (fun (x : SNode) => keyP x.attrs) hu hm hn e⟩

theorem keyOf_eq_iff (s : Store) (h : Inv s) {k : Key} {n : SNode} (hn : IsNode s k n) (i : Nat)
    (hi : idIn s.nodes i = true) : keyOf s.nodes i = k ↔ i = n.iid := by
  obtain ⟨m, hm, e, hk⟩ := keyOf_of_idIn s h i hi
  constructor
  · intro hh
    rw [← e, hn.only m hm (hk ▸ hh)]
  · intro hh
    rw [hh, keyOf_mem s h n hn.mem, hn.key]

theorem keyOf_beq {s : Store} {k : Key} {n : SNode} (h : Inv s) (hn : IsNode s k n) (i : Nat) (hi : idIn s.nodes i = true) :
    (keyOf s.nodes i == k) = (i == n.iid) := by
  rw [Bool.eq_iff_iff, beq_iff_eq, beq_iff_eq]
  exact keyOf_eq_iff s h hn i hi

theorem mem_iid_eq_iff (s : Store) (h : Inv s) (n : SNode) (hn : n ∈ s.nodes) (m : SNode) (hm : m ∈ s.nodes) :
    m.iid = n.iid ↔ m = n :=
  ⟨fun e => List.eq_of_nodup_map (·.iid) h.1 hm hn e, fun e => by rw [e]⟩

theorem isK_eq_iid {s : Store} (h : Inv s) {k : Key} {n : SNode} (hn : IsNode s k n) (m : SNode) (hm : m ∈ s.nodes) :
    ARef.isK k m.attrs = (m.iid == n.iid) := by
  rw [Bool.eq_iff_iff, beq_iff_eq, mem_iid_eq_iff s h n hn.mem m hm, ARef.isK, beq_iff_eq]
  exact ⟨hn.only m hm, fun e => e ▸ hn.key⟩

theorem find_candS (s : Store) (g nid : String) :
    ARef.find (absS s) g nid = match candS s g nid with | [] => .error .query | [n] => .ok n.attrs | _ => .error .query := by
  unfold ARef.find candS
  rw [absS_nodes, List.filter_map_pred (·.attrs) (fun a => ARef.hasNidP nid a && ARef.inGP g a) (fun n => hasNid nid n && inG g n) _
    (fun _ _ => rfl)]
  cases s.nodes.filter (fun n => hasNid nid n && inG g n) with
  | nil => rfl
  | cons a l => cases l <;> rfl

/-- a store result and a reference result agree: same reply, and the reference state is what the store
    looks like without its internal ids -/
def RefS (r : R) (r' : ARef.AR) : Prop := r.1 = r'.1 ∧ absS r.2 = r'.2

theorem refS_err (s : Store) (e : Err) : RefS (.error e, s) (.error e, absS s) := ⟨rfl, rfl⟩

theorem refS_ite (c : Prop) [Decidable c] {a b : R} {a' b' : ARef.AR} (ha : c → RefS a a') (hb : ¬c → RefS b b') :
    RefS (if c then a else b) (if c then a' else b') := by
  split
  · exact ha ‹_›
  · exact hb ‹_›

theorem refS_withNode (s : Store) (g nid : String) (k : Nat → R) (k' : Props → ARef.AR)
    (hk : ∀ n, IsNode s (K g nid) n → RefS (k n.iid) (k' n.attrs)) :
    RefS (withNode s g nid k) (ARef.withN (absS s) g nid k') := by
  unfold withNode ARef.withN
  rw [findNode_candS, find_candS]
  cases hc : candS s g nid with
  | nil => exact refS_err s _
  | cons a l =>
    cases l with
    | nil => exact hk a (isNode_of_candS hc)
    | cons b l => exact refS_err s _

theorem refS_assertVal (v : Val) (s : Store) (r : R) (r' : ARef.AR) (h : RefS r r') :
    RefS (assertVal v s r) (ARef.assertVal v (absS s) r') := by
  unfold assertVal ARef.assertVal
  split
  · exact refS_err s _
  · exact h

theorem nodesOf_absS (s : Store) (g : String) : ARef.nodesOf (absS s) g = (nodesOf s g).map (·.attrs) := by
  unfold ARef.nodesOf nodesOf
  rw [absS_nodes]
  exact List.filter_map

/-- what `find_matching_nodes` answers, given the reply of the caller's own listing and the `NodeID`s of the other graph; the
    four models (shared store, one store per graph, both references) differ only in where the two come from -/
def fmnReply (mine : Except Err Out) (theirs : List (Option Val)) : Except Err Out :=
  match mine with
  | .error e => .error e
  | .ok (.vals mine) =>
    match fmnErr mine theirs with
    | some e => .error e
    | none => .ok (.vals ((mine.filter (fun x => theirs.contains x)).eraseDups))
  | .ok _ => .error .runtime

theorem findMatchingNodes_eq (g other : String) (s : Store) :
    findMatchingNodes g other s = (fmnReply (listAllNodeIds g s).1 ((nodesOf s other).map fun n => AMap.get nodeId n.attrs), s) := by
  unfold findMatchingNodes fmnReply
  obtain ⟨r, _⟩ := listAllNodeIds g s
  cases r with
  | error e => rfl
  | ok o =>
    cases o with
    | vals mine => simp only; cases fmnErr mine _ <;> rfl
    | _ => rfl

theorem ARef.findMatchingNodes_eq (g other : String) (R : ARef) :
    ARef.findMatchingNodes g other R =
      (fmnReply (ARef.listAllNodeIds g R).1 ((ARef.nodesOf R other).map (AMap.get nodeId)), R) := by
  unfold ARef.findMatchingNodes fmnReply
  obtain ⟨r, _⟩ := ARef.listAllNodeIds g R
  cases r with
  | error e => rfl
  | ok o =>
    cases o with
    | vals mine => simp only; cases fmnErr mine _ <;> rfl
    | _ => rfl

theorem AGraph.findMatchingNodes_eq (O A : AGraph) :
    AGraph.findMatchingNodes O A = (fmnReply (AGraph.listAllNodeIds A).1 (O.nodes.map (AMap.get nodeId)), A) := by
  unfold AGraph.findMatchingNodes fmnReply
  obtain ⟨r, _⟩ := AGraph.listAllNodeIds A
  cases r with
  | error e => rfl
  | ok o =>
    cases o with
    | vals mine => simp only; cases fmnErr mine _ <;> rfl
    | _ => rfl

theorem _root_.FimVerif.DStore.findMatchingNodes_eq (g other : String) (d : DStore.DStore) :
    DStore.findMatchingNodes g other d =
      (fmnReply (listAllNodeIds g (DStore.sub d g)).1 ((DStore.sub d other).nodes.map fun n => AMap.get nodeId n.attrs), d) := by
  unfold DStore.findMatchingNodes fmnReply
  obtain ⟨r, _⟩ := listAllNodeIds g (DStore.sub d g)
  cases r with
  | error e => rfl
  | ok o =>
    cases o with
    | vals mine => simp only; cases fmnErr mine _ <;> rfl
    | _ => rfl

/-- no node dictionary passes through `find_matching_nodes` -/
theorem outAbs_fmnReply (x : Except Err Out) (t : List (Option Val)) : outAbs (fmnReply x t) = fmnReply x t := by
  cases x with
  | error e => rfl
  | ok o =>
    cases o with
    | vals mine => simp only [fmnReply]; cases fmnErr mine t <;> rfl
    | _ => rfl

theorem fmnReply_outAbs (x : Except Err Out) (t : List (Option Val)) : fmnReply (outAbs x) t = fmnReply x t := by
  cases x with
  | error e => rfl
  | ok o => cases o <;> rfl

theorem keyP_set (k : String) (v : Val) (a : Props) : keyP (AMap.set k v a) = ARef.setKey k v (keyP a) := by
  unfold keyP ARef.setKey
  by_cases h1 : k = graphId
  · subst h1
    have : nodeId ≠ graphId := nodeId_ne_graphId
    simp [AMap.get_set_eq, AMap.get_set_ne _ _ _ _ this, this.symm]
  · by_cases h2 : k = nodeId
    · subst h2
      simp [AMap.get_set_eq, AMap.get_set_ne _ _ _ _ (Ne.symm h1), h1]
    · simp [h1, h2, AMap.get_set_ne _ _ _ _ (Ne.symm h1), AMap.get_set_ne _ _ _ _ (Ne.symm h2)]

theorem keyP_set_graphId (v : Val) (a : Props) : keyP (AMap.set graphId v a) = (some v, (keyP a).2) := by
  rw [keyP, AMap.get_set_eq, AMap.get_set_ne _ _ _ _ nodeId_ne_graphId]; rfl

theorem keyP_update (a p : Props) : keyP (AMap.update a p) = ARef.updKey p (keyP a) := by
  unfold keyP ARef.updKey
  rw [AMap.get_update_has graphId, AMap.get_update_has nodeId]

theorem keyP_erase (k : String) (a : Props) (h1 : k ≠ graphId) (h2 : k ≠ nodeId) : keyP (AMap.erase k a) = keyP a := by
  unfold keyP
  rw [AMap.get_erase_ne _ _ _ (Ne.symm h1), AMap.get_erase_ne _ _ _ (Ne.symm h2)]

end FimVerif.Store
