import FimVerif.Proofs.Lemmas.C17Tree
/-!
# The table-driven methods of `Model/Diff.lean` are the hand-mirrored ones, for every *good* table (C17)

`Cfg.Good` is a decidable predicate on the table extracted by `gen/diffcfg.py`.  It does not fix the order in which
`prop_diff` compares the properties, the order of the child dictionaries inside a method, or the order of the terms of the
final "anything to report?" test; it does fix what is compared with what, below which kinds a method descends, and where
every collection ends up in the result.
-/
namespace FimVerif.Diff

def SameMem {β : Type} (l1 l2 : List β) : Prop := (∀ x ∈ l1, x ∈ l2) ∧ (∀ x ∈ l2, x ∈ l1)

instance {β : Type} [DecidableEq β] (l1 l2 : List β) : Decidable (SameMem l1 l2) := by unfold SameMem; infer_instance

theorem any_congr_mem {β : Type} {l1 l2 : List β} (h : SameMem l1 l2) (g : β → Bool) : l1.any g = l2.any g := by
  rw [Bool.eq_iff_iff, List.any_eq_true, List.any_eq_true]
  exact ⟨fun ⟨x, hx, hg⟩ => ⟨x, h.1 x hx, hg⟩, fun ⟨x, hx, hg⟩ => ⟨x, h.2 x hx, hg⟩⟩

def stdProps : List (PropK × FlagK) := [(.labels, .labels), (.caps, .caps), (.ud, .ud)]

/-- a child dictionary compared the way all four loops of the source do it -/
def stdLevel (c : Coll) (d : Option RecCfg) : LevelCfg :=
  { coll := c, key := "resource_name", diffA := .self, diffB := .other, addedKey := .added, removedKey := .removed,
    commonA := .self, commonB := .other, lookup := .other, onlyOther := true, onlySelf := true, descend := d }

def RecGood (r : Option RecCfg) (kinds : Option (List String)) (tests : List (Sect × Slot)) : Prop :=
  match r, kinds with
  | none, none => True
  | some r, some ks => r.kinds = ks ∧ r.side = .self ∧ r.flag = .sub ∧ SameMem r.tests tests
  | _, _ => False

instance (r : Option RecCfg) (kinds : Option (List String)) (tests : List (Sect × Slot)) : Decidable (RecGood r kinds tests) := by
  unfold RecGood; split <;> infer_instance

def LevelGood (m : MethodCfg) (c : Coll) (kinds : Option (List String)) (tests : List (Sect × Slot)) : Prop :=
  match m.level c with
  | some lc => lc = stdLevel c lc.descend ∧ RecGood lc.descend kinds tests
  | none => False

instance (m : MethodCfg) (c : Coll) (kinds : Option (List String)) (tests : List (Sect × Slot)) :
    Decidable (LevelGood m c kinds tests) := by
  unfold LevelGood; split <;> infer_instance

def allSlots : List Slot := [.nodes, .components, .services, .interfaces]

def SlotsAre (l std : List (Slot × Part)) : Prop := ∀ s ∈ allSlots, slotParts l s = slotParts std s

instance (l std : List (Slot × Part)) : Decidable (SlotsAre l std) := by unfold SlotsAre; infer_instance

def subTests : List (Sect × Slot) := [(.added, .interfaces), (.removed, .interfaces), (.modified, .interfaces)]

def ifsCond : List Part := [.selfMod, .added .ifs, .removed .ifs, .modified .ifs]
def ifsAdded : List (Slot × Part) := [(.interfaces, .added .ifs)]
def ifsRemoved : List (Slot × Part) := [(.interfaces, .removed .ifs)]
def ifsModified : List (Slot × Part) := [(.services, .selfMod), (.interfaces, .modified .ifs)]

def nodeCond : List Part :=
  [.added .comps, .removed .comps, .removed .svcs, .added .svcs, .modified .comps, .modified .svcs, .selfMod]
def nodeAdded : List (Slot × Part) := [(.components, .added .comps), (.services, .added .svcs)]
def nodeRemoved : List (Slot × Part) := [(.components, .removed .comps), (.services, .removed .svcs)]
def nodeModified : List (Slot × Part) := [(.nodes, .selfMod), (.components, .modified .comps), (.services, .modified .svcs)]

/-- result assembly of `InterfaceSliver.diff` / `NetworkServiceSliver.diff` -/
def IfsShape (m : MethodCfg) : Prop :=
  SameMem m.cond ifsCond ∧ SlotsAre m.added ifsAdded ∧ SlotsAre m.removed ifsRemoved ∧ SlotsAre m.modified ifsModified

instance (m : MethodCfg) : Decidable (IfsShape m) := by unfold IfsShape; infer_instance

def NodeShape (m : MethodCfg) : Prop :=
  SameMem m.cond nodeCond ∧ SlotsAre m.added nodeAdded ∧ SlotsAre m.removed nodeRemoved ∧ SlotsAre m.modified nodeModified

instance (m : MethodCfg) : Decidable (NodeShape m) := by unfold NodeShape; infer_instance

/-- The constants are the source's: `"SmartNIC"` and `"DedicatedPort"` are the members of `ComponentType` / `InterfaceType` that the
descents of `NodeSliver.diff` / `NetworkServiceSliver.diff` test for (`cA.get_type() == ComponentType.SmartNIC`), `"resource_name"` (in
`stdLevel`) is the attribute by which the partner of a common child is fetched.  The methods of `Model/Diff.lean` read neither `kinds`
nor `key`: the driver resolves the kinds (`MethodCfg.recKinds`) into the Booleans `smart` / `dedicated` when it reads a tree, and the
key is `name`.  The second conjunct (six Booleans) records what the extractor asserted of the source; no proof reads it.  `flagVal` and
the defaults `vals.labelsMissing` / `capsMissing` are free: `flag_values_decodable` reads the first, `fieldsEq_iff_eq` holds for every
default. -/
def Cfg.Good (cfg : Cfg) : Prop :=
  SameMem cfg.props stdProps ∧ (cfg.infoPresence = true ∧ cfg.classGuard = true ∧ cfg.vals.notOtherIsNone = true ∧ cfg.vals.udSameClass = true ∧
    cfg.vals.udCanonicalText = true ∧ cfg.dictKeyOnly = true) ∧
  LevelGood cfg.iface .ifs none [] ∧ IfsShape cfg.iface ∧
  LevelGood cfg.svc .ifs (some ["DedicatedPort"]) subTests ∧ IfsShape cfg.svc ∧
  LevelGood cfg.node .comps (some ["SmartNIC"]) [] ∧ LevelGood cfg.node .svcs none [] ∧ NodeShape cfg.node

instance (cfg : Cfg) : Decidable cfg.Good := by unfold Cfg.Good; infer_instance

theorem Cfg.Good.props {cfg : Cfg} (h : cfg.Good) : SameMem cfg.props stdProps := h.1
theorem Cfg.Good.ifaceLevel {cfg : Cfg} (h : cfg.Good) : LevelGood cfg.iface .ifs none [] := h.2.2.1
theorem Cfg.Good.ifaceShape {cfg : Cfg} (h : cfg.Good) : IfsShape cfg.iface := h.2.2.2.1
theorem Cfg.Good.svcLevel {cfg : Cfg} (h : cfg.Good) : LevelGood cfg.svc .ifs (some ["DedicatedPort"]) subTests := h.2.2.2.2.1
theorem Cfg.Good.svcShape {cfg : Cfg} (h : cfg.Good) : IfsShape cfg.svc := h.2.2.2.2.2.1
theorem Cfg.Good.compsLevel {cfg : Cfg} (h : cfg.Good) : LevelGood cfg.node .comps (some ["SmartNIC"]) [] := h.2.2.2.2.2.2.1
theorem Cfg.Good.svcsLevel {cfg : Cfg} (h : cfg.Good) : LevelGood cfg.node .svcs none [] := h.2.2.2.2.2.2.2.1
theorem Cfg.Good.nodeShape {cfg : Cfg} (h : cfg.Good) : NodeShape cfg.node := h.2.2.2.2.2.2.2.2

theorem Flags.get_set (f : Flags) (j k : FlagK) : (f.set j).get k = (f.get k || decide (j = k)) := by
  cases j <;> cases k <;> simp [Flags.set, Flags.get]

theorem Flags.ext_get {f g : Flags} (h : ∀ k, f.get k = g.get k) : f = g := by
  cases f; cases g
  have h1 := h .labels; have h2 := h .caps; have h3 := h .ud; have h4 := h .sub
  simp only [Flags.get] at h1 h2 h3 h4
  simp [h1, h2, h3, h4]

section
variable {V : Type} [DecidableEq V]

theorem propDiffC_get (t : List (PropK × FlagK)) (a b : Props V) (f : Flags) (k : FlagK) :
    (t.foldl (fun f e => if propGet e.1 a ≠ propGet e.1 b then f.set e.2 else f) f).get k =
      (f.get k || t.any (fun e => decide (e.2 = k) && decide (propGet e.1 a ≠ propGet e.1 b))) := by
  induction t generalizing f with
  | nil => simp
  | cons e es ih =>
    simp only [List.foldl_cons, ih, List.any_cons]
    by_cases hc : propGet e.1 a = propGet e.1 b
    · simp [hc]
    · simp [hc, Flags.get_set, Bool.or_assoc]

theorem propDiffC_eq {t : List (PropK × FlagK)} (h : SameMem t stdProps) (a b : Props V) : propDiffC t a b = propDiff a b := by
  apply Flags.ext_get
  intro k
  unfold propDiffC
  rw [propDiffC_get, any_congr_mem h]
  -- on `stdProps` each of the four flags is a disjunction over three rows of which at most one names it: compute
  cases k <;> simp only [stdProps, List.any_cons, List.any_nil, propGet, propDiff, Flags.get, Flags.none, Bool.false_or, Bool.or_false,
    reduceCtorEq, decide_false, decide_true, Bool.false_and, Bool.true_and] <;> rfl

end

section
variable {α : Type} [Named α]

theorem LevelGood.level {m : MethodCfg} {c : Coll} {kinds : Option (List String)} {tests : List (Sect × Slot)}
    (h : LevelGood m c kinds tests) :
    m.level c = some (stdLevel c (recOf m c)) ∧ RecGood (recOf m c) kinds tests := by
  unfold LevelGood at h
  unfold recOf
  cases hl : m.level c with
  | none => simp [hl] at h
  | some lc =>
    rw [hl] at h
    exact ⟨congrArg some h.1, h.2⟩

theorem mLevel_good {m : MethodCfg} {c : Coll} {kinds : Option (List String)} {tests : List (Sect × Slot)}
    (h : LevelGood m c kinds tests) (flag : α → α → Flags) (a b : Option (List α)) :
    mLevel m c flag a b = levelDiff flag a b := by
  unfold mLevel
  rw [h.level.1]
  cases a <;> cases b <;> simp [levelC, stdLevel, pick, dictSub, levelDiff]

theorem mLevelM_good {m : MethodCfg} {c : Coll} {kinds : Option (List String)} {tests : List (Sect × Slot)}
    (h : LevelGood m c kinds tests) (flag : α → α → Except String Flags) (a b : Option (List α)) :
    mLevelM m c flag a b = levelDiffM flag a b := by
  unfold mLevelM
  rw [h.level.1]
  cases a <;> cases b <;> simp [levelCM, stdLevel, pick, dictSub, levelDiffM]

end

theorem recOf_none {m : MethodCfg} {c : Coll} {tests : List (Sect × Slot)} (h : LevelGood m c none tests) : recOf m c = none := by
  have hrec := h.level.2
  generalize recOf m c = d at hrec ⊢
  cases d with
  | none => rfl
  | some _ => exact hrec.elim

theorem recOf_some {m : MethodCfg} {c : Coll} {ks : List String} {tests : List (Sect × Slot)} (h : LevelGood m c (some ks) tests) :
    ∃ r, recOf m c = some r ∧ r.side = .self ∧ r.flag = .sub ∧ SameMem r.tests tests := by
  have hrec := h.level.2
  generalize recOf m c = d at hrec ⊢
  cases d with
  | none => exact hrec.elim
  | some r => exact ⟨r, rfl, hrec.2⟩

theorem SlotsAre.at {l std : List (Slot × Part)} (h : SlotsAre l std) (s : Slot) : slotParts l s = slotParts std s :=
  h s (by cases s <;> simp [allSlots])

theorem assemble_congr {m : MethodCfg} (m' : MethodCfg)
    (h : SameMem m.cond m'.cond ∧ SlotsAre m.added m'.added ∧ SlotsAre m.removed m'.removed ∧ SlotsAre m.modified m'.modified)
    (en : Part → List String) (em : Part → List (String × Flags)) : assemble m en em = assemble m' en em := by
  unfold assemble
  simp only [any_congr_mem h.1, h.2.1.at, h.2.2.1.at, h.2.2.2.at]

theorem assemble_ifs {m : MethodCfg} (h : IfsShape m) (sm : List (String × Flags)) (lv : Level) :
    assemble m (envN (onlyIfs lv)) (envM sm (onlyIfs lv)) = mkReport sm lv := by
  -- `m` may be replaced by the standard shape, on which `assemble` computes to `mkReport`
  rw [assemble_congr ⟨[], ifsCond, ifsAdded, ifsRemoved, ifsModified⟩ h]
  simp [assemble, mkReport, ifsCond, ifsAdded, ifsRemoved, ifsModified, slotParts, envN, envM, onlyIfs, or_assoc]

theorem assemble_node {m : MethodCfg} (h : NodeShape m) (sm : List (String × Flags)) (cl sl : Level) :
    assemble m (envN (nodeLevels cl sl)) (envM sm (nodeLevels cl sl)) = mkNodeReport sm cl sl := by
  rw [assemble_congr ⟨[], nodeCond, nodeAdded, nodeRemoved, nodeModified⟩ h]
  simp [assemble, mkNodeReport, nodeCond, nodeAdded, nodeRemoved, nodeModified, slotParts, envN, envM, nodeLevels, or_assoc]

section
variable {V : Type} [DecidableEq V]

theorem selfModC_eq {cfg : Cfg} (h : cfg.Good) (n : String) (a b : Props V) : selfModC cfg n a b = selfMod n a b := by
  unfold selfModC selfMod
  rw [propDiffC_eq h.props]

theorem leafFlagC_eq {cfg : Cfg} (h : cfg.Good) : (leafFlagC cfg : Leaf V → Leaf V → Flags) = leafFlag := by
  funext x y
  exact propDiffC_eq h.props _ _

theorem ifaceDiffC_eq {cfg : Cfg} (h : cfg.Good) (a b : Iface V) : ifaceDiffC cfg a b = ifaceDiff a b := by
  unfold ifaceDiffC
  rw [assemble_ifs h.ifaceShape, mLevel_good h.ifaceLevel, selfModC_eq h, leafFlagC_eq h, ifaceDiff_eq_mk]

theorem ifaceFlagC_eq {cfg : Cfg} (h : cfg.Good) : (ifaceFlagC cfg : Iface V → Iface V → Flags) = ifaceFlag := by
  funext x y
  obtain ⟨r, hr, hside, hflag, htests⟩ := recOf_some h.svcLevel
  unfold ifaceFlagC ifaceFlag
  -- the descent's tests are read through `any`, so only their members matter: replace them by `subTests`, then compute
  simp only [hr, hside, hflag, pick, ifaceDiffC_eq h, propDiffC_eq h.props, any_congr_mem htests]
  simp [subTests, slotNames, Flags.set, or_assoc]

theorem svcDiffC_eq {cfg : Cfg} (h : cfg.Good) (a b : Svc V) : svcDiffC cfg a b = svcDiff a b := by
  unfold svcDiffC
  rw [assemble_ifs h.svcShape, mLevel_good h.svcLevel, selfModC_eq h, ifaceFlagC_eq h, svcDiff_eq_mk]

theorem compFlagC_eq {cfg : Cfg} (h : cfg.Good) : (compFlagC cfg : Comp V → Comp V → Except String Flags) = compFlag := by
  funext x y
  obtain ⟨r, hr, hside, hflag, _⟩ := recOf_some h.compsLevel
  unfold compFlagC compFlag
  simp only [hr, hside, hflag, pick, svcDiffC_eq h, propDiffC_eq h.props]
  simp [Flags.set]

theorem svcPropFlagC_eq {cfg : Cfg} (h : cfg.Good) : (svcPropFlagC cfg : Svc V → Svc V → Flags) = svcPropFlag := by
  funext x y
  exact propDiffC_eq h.props _ _

theorem nodeDiffC_eq {cfg : Cfg} (h : cfg.Good) (a b : Node V) : nodeDiffC cfg a b = nodeDiff a b := by
  unfold nodeDiffC
  rw [nodeDiff_eq_mk, mLevelM_good h.compsLevel, compFlagC_eq h]
  cases levelDiffM compFlag a.comps b.comps with
  | error e => rfl
  | ok cl =>
    dsimp only [Except.map]
    rw [assemble_node h.nodeShape, mLevel_good h.svcsLevel, selfModC_eq h, svcPropFlagC_eq h]

end

def Flags.all : List Flags :=
  [true, false].flatMap fun a => [true, false].flatMap fun b => [true, false].flatMap fun c => [true, false].map fun d =>
    { labels := a, caps := b, ud := c, sub := d }

theorem Flags.mem_all (f : Flags) : f ∈ Flags.all := by
  have hb : ∀ b : Bool, b ∈ [true, false] := by decide
  obtain ⟨a, b, c, d⟩ := f
  simp only [Flags.all, List.mem_flatMap, List.mem_map]
  exact ⟨a, hb a, b, hb b, c, hb c, d, hb d, rfl⟩

/-- the integer handed back tells exactly which of the four kinds of change were flagged -/
def EncInj (vals : List (FlagK × Nat)) : Prop :=
  ∀ f ∈ Flags.all, ∀ g ∈ Flags.all, encodeC vals f = encodeC vals g → f = g

instance (vals : List (FlagK × Nat)) : Decidable (EncInj vals) := by unfold EncInj; infer_instance

theorem encodeC_injective {vals : List (FlagK × Nat)} (h : EncInj vals) {f g : Flags} (he : encodeC vals f = encodeC vals g) : f = g :=
  h f (Flags.mem_all f) g (Flags.mem_all g) he

end FimVerif.Diff
