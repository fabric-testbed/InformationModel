import FimVerif.Proofs.Lemmas.StoreRefine
import FimVerif.Proofs.Lemmas.StoreDisjoint
/-! C04: the one-graph-per-id store: histories that never write `GraphID` keep every graph "homed", and then a clone has the
    content of its source (`DStore.clone_eq`). -/
namespace FimVerif.Store
open FimVerif FimVerif.Gen.StoreConsts

/-- every stored node carries `GraphID = g`: what `DStore.Homed d g` says of the container `sub d g` -/
def AllIn (g : String) (st : Store) : Prop := ∀ n ∈ st.nodes, inG g n = true

theorem nodesOf_allIn (st : Store) (g : String) (hh : AllIn g st) : nodesOf st g = st.nodes := by
  unfold nodesOf; rw [List.filter_eq_self]; exact hh

theorem edgesOf_allIn (st : Store) (h : Inv st) (g : String) (hh : AllIn g st) : edgesOf st g = st.edges := by
  unfold edgesOf
  rw [nodesOf_allIn st g hh, List.filter_eq_self]
  intro e he
  simp [(h.2.2 e he).1, (h.2.2 e he).2]

theorem allIn_updNodes (g : String) (s : Store) (c : SNode → Bool) (f : Props → Props)
    (hf : ∀ a, AMap.get graphId (f a) = AMap.get graphId a) (h : AllIn g s) :
    AllIn g (updNodes c f s) := by
  unfold updNodes
  intro n hn
  obtain ⟨m, hm, rfl⟩ := List.mem_map.1 hn
  by_cases hc : c m
  · simp only [hc, if_true]; rw [inG_upd g m f hf]; exact h m hm
  · simp only [hc]; exact h m hm

theorem allIn_updNode (g : String) (s : Store) (i : Nat) (f : Props → Props)
    (hf : ∀ a, AMap.get graphId (f a) = AMap.get graphId a) (h : AllIn g s) : AllIn g (updNode i f s) := by
  exact updNode_eq i f s ▸ allIn_updNodes g s _ f hf h

theorem allIn_of_nodes_subset (g : String) (s s' : Store) (hsub : ∀ n ∈ s'.nodes, n ∈ s.nodes) (h : AllIn g s) : AllIn g s' :=
  fun n hn => h n (hsub n hn)

theorem allIn_appendGraph (g : String) (s : Store) (ns : List Props) (es : List (Nat × Nat × Props))
    (hns : ∀ a ∈ ns, AMap.get graphId a = some (.str g)) (h : AllIn g s) : AllIn g (appendGraph ns es s) := by
  intro n hn
  simp only [appendGraph, List.mem_append] at hn
  rcases hn with hn | hn
  · exact h n hn
  · exact inG_of_mem_relabel hns hn

theorem Effect.allIn {s : Store} {op : Op} {r : R} (e : Effect s op r) (hk : op.keepsGraphId = true)
    (h : AllIn op.target s) : AllIn op.target r.2 := by
  have dropped : ∀ (p : SNode → Bool) (es : List SEdge) (n : Nat), AllIn op.target ⟨s.nodes.filter p, es, n⟩ :=
    fun p es n => allIn_of_nodes_subset _ s _ (fun n hn => (List.mem_filter.1 hn).1) h
  cases e with
  | refused => exact h
  | answered => exact h
  | addNode g0 nid label props =>
    have hp : AMap.has graphId (props.getD []) = false := by simpa [Op.keepsGraphId_addNode] using hk
    exact allIn_updNode _ _ _ _ (fun a => AMap.get_update_of_not_has _ _ _ hp)
      (allIn_appendGraph _ s _ [] (fun _ ha => List.mem_singleton.1 ha ▸ rfl) h)
  | deleteNode g0 nid i => exact dropped _ _ _
  | addLink g0 a rel b props ia ib attrs => exact allIn_of_nodes_subset _ s _ (fun n hn => (addEdge_nodes ia ib attrs s).1 ▸ hn) h
  | updateNodeProperty g0 nid k v i =>
    have hkg : graphId ≠ k := Ne.symm (by simpa [Op.keepsGraphId] using hk)
    exact allIn_updNode _ s i _ (fun a => AMap.get_set_ne _ _ _ _ hkg) h
  | unsetNodeProperty g0 nid k i _ hnu =>
    exact allIn_updNode _ s i _ (fun a => AMap.get_erase_ne _ _ _ (ne_of_mem_of_not_mem graphId_mem_noUnset hnu)) h
  | updateNodesProperty g0 k v =>
    have hkg : graphId ≠ k := Ne.symm (by simpa [Op.keepsGraphId] using hk)
    exact allIn_updNodes _ s (inG g0) (AMap.set k v) (fun a => AMap.get_set_ne _ _ _ _ hkg) h
  | updateNodeProperties g0 nid p i =>
    have hp : AMap.has graphId p = false := by simpa [Op.keepsGraphId] using hk
    exact allIn_updNode _ s i _ (fun a => AMap.get_update_of_not_has _ _ _ hp) h
  | updateLinkProperty => exact h
  | unsetLinkProperty => exact h
  | updateLinkProperties => exact h
  | deleteGraph g0 => exact dropped _ _ _
  | importRefused g0 ig => exact dropped _ _ _
  | addGraph g0 ig => exact allIn_appendGraph _ _ _ _ (fun a ha => gid_of_tagged ha) (dropped _ _ _)
  | addGraphDirect g0 ig =>
    simp only [Op.keepsGraphId, List.all_eq_true, beq_iff_eq] at hk
    exact allIn_appendGraph _ _ _ _ hk (dropped _ _ _)
  | cloneRefused g0 g2 => exact dropped _ _ _
  | clone g0 g2 ig => exact allIn_appendGraph _ _ _ _ (fun a ha => gid_of_tagged ha) (dropped _ _ _)
  | mergeNodes => cases hk
  | delAllGraphs => cases hk

end FimVerif.Store

namespace FimVerif.DStore
open FimVerif FimVerif.Store FimVerif.Gen.StoreConsts

/-- every node stored under `g` carries `GraphID = g` (true of every graph built through the API
    without writing `GraphID`) -/
def Homed (d : DStore) (g : String) : Prop := ∀ n ∈ (sub d g).nodes, inG g n = true

theorem abs_extract (d : DStore) (h : Inv d) (g : String) (hh : Homed d g) : igContent (extractGraph d g) = abs d g := by
  unfold abs Store.abs
  rw [nodesOf_allIn _ g hh, edgesOf_allIn _ (h g) g hh]
  exact igContent_view _ _

theorem abs_addGraph_ok (d : DStore) (g : String) (ig : IGraph) (hwf : ig.WF = true)
    (hempty : (sub d g).nodes = []) (hok : ig.nodes.any (fun a => !truthy (AMap.get nodeId a)) = false) :
    abs (addGraph g ig d).2 g = igContent ig := by
  unfold addGraph
  simp only [hempty, List.length_nil, Nat.lt_irrefl, if_false, hok, Bool.false_eq_true]
  unfold abs
  rw [sub_put_eq]
  have := Store.abs_addGraph_ok ⟨[], [], 1⟩ (inv_empty 1) g ig hwf (by simp [Store.addGraph, hok])
  simpa [Store.addGraph, hok, delIfPresent, nodesOf] using this

theorem clone_eq (d : DStore) (h : Inv d) (g g2 : String) (hh : Homed d g) (hempty : (sub d g2).nodes = [])
    (hok : (extractGraph d g).nodes.any (fun a => !truthy (AMap.get nodeId a)) = false) :
    abs (cloneGraph g g2 d).2 g2 = abs d g := by
  unfold cloneGraph
  rw [abs_addGraph_ok d g2 _ (extractGraph_wf d h g) hempty hok, abs_extract d h g hh]

theorem homed_put (d : DStore) (g : String) (st : Store) (h : ∀ g', Homed d g') (hs : AllIn g st) : ∀ g', Homed (put d g st) g' := by
  intro g'
  unfold Homed
  by_cases e : g' = g
  · subst e; rw [sub_put_eq]; exact hs
  · rw [sub_put_ne d g g' st e]; exact h g'

theorem allIn_empty (g : String) (n : Nat) : AllIn g ⟨[], [], n⟩ := by intro m hm; cases hm

theorem homed_addGraph (d : DStore) (g : String) (ig : IGraph) (h : ∀ g', Homed d g') : ∀ g', Homed (addGraph g ig d).2 g' := by
  unfold addGraph
  split
  · exact h
  · split
    · exact h
    · exact homed_put d g _ h (allIn_appendGraph g _ _ _ (fun a ha => gid_of_tagged ha) (allIn_empty g 1))

theorem homed_step (op : Op) (d : DStore) (hk : op.keepsGraphId = true) (h : ∀ g', Homed d g') :
    ∀ g', Homed (step op d).2 g' := by
  have lifted : ∀ (o : Op), o.keepsGraphId = true → ∀ g', Homed (lift o.target (Store.step o) d).2 g' :=
    fun o ho => homed_put d _ _ h ((step_effect o _).allIn ho (h _))
  cases op with
  | addGraph g ig => exact homed_addGraph d g ig.close h
  | delAllGraphs => simp [Op.keepsGraphId] at hk
  | addGraphDirect g ig =>
    simp only [Op.keepsGraphId, List.all_eq_true, beq_iff_eq] at hk
    exact homed_put d g _ h (allIn_appendGraph g _ _ _ hk (allIn_empty g 1))
  | deleteGraph g => exact homed_put d g _ h (allIn_empty g _)
  | clone g g2 => exact homed_addGraph d g2 _ h
  | mergeNodes g nid g2 pol => exact h
  | findMatchingNodes g other => exact (findMatchingNodes_snd g other d).symm ▸ h
  | _ => exact lifted _ hk

theorem homed_init : ∀ g', Homed init g' := by
  intro g' n hn; simp [sub, init, AMap.get] at hn

end FimVerif.DStore
