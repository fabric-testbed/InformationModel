import FimVerif.Proofs.Lemmas.ARefAll
import FimVerif.Proofs.Lemmas.ARefView
/-! C04/C05: from the store-level reference down to one graph.  The content `Store.abs s g` is the view of the reference state
    (`view_absS`); with it `refines_store_step` and `ARef.viewR_step` give refinement of the per-graph reference `AGraph.step` on the
    addressed graph (`refines_step`), and `refS_addGraph` with `ARef.view_addGraph_ok` the content after an import and after a
    clone (`abs_addGraph_ok`, `clone_eq`). -/
namespace FimVerif.Store
open FimVerif FimVerif.Gen.StoreConsts

theorem abs_nodes (s : Store) (g : String) : (abs s g).nodes = (nodesOf s g).map fun n => AMap.erase graphId n.attrs := rfl
theorem abs_edges (s : Store) (g : String) :
    (abs s g).edges = (edgesOf s g).map (fun e => (nidOf (nodesOf s g) e.a, nidOf (nodesOf s g) e.b, e.attrs)) := rfl

theorem view_absS (s : Store) (h : Inv s) (g : String) : ARef.view (absS s) g = abs s g := by
  unfold ARef.view abs absView
  rw [nodesOf_absS, absS_edges_filter_kIn s h g]
  simp only [List.map_map]
  congr 1
  refine List.map_congr_left fun e he => ?_
  simp only [edgesOf, List.mem_filter, Bool.and_eq_true] at he
  have hnd : ((nodesOf s g).map (·.iid)).Nodup := List.Nodup.sublist (List.Sublist.map _ List.filter_sublist) h.1
  -- an end inside the graph shows the `NodeID` of the node the internal id names
  have key : ∀ i, idIn (nodesOf s g) i = true → (keyOf s.nodes i).2 = nidOf (nodesOf s g) i := by
    intro i hi
    obtain ⟨m, hm, rfl⟩ := idIn_iff.1 hi
    rw [keyOf_mem s h m (List.mem_filter.1 hm).1, nidOf, List.find?_key_of_nodup (·.iid) hnd hm]
    rfl
  simp only [Function.comp, key _ he.2.1, key _ he.2.2]

def Ref (g : String) (r : R) (r' : AGraph.AR) : Prop := outAbs r.1 = r'.1 ∧ abs r.2 g = r'.2

theorem Op.not_merge_of_covers {op : Op} (h : AGraph.covers op = true) : op.isMerge = false := by
  cases op <;> first | rfl | cases h

theorem refines_step (op : Op) (s : Store) (h : Inv s) (hc : AGraph.covers op = true) (hk : op.keepsKeys = true) :
    Ref op.target (step op s) (AGraph.step op (abs s op.other) (abs s op.target)) := by
  have a := refines_store_step op s h fun hm => by rw [Op.not_merge_of_covers hc] at hm; cases hm
  have b := Prod.ext_iff.1 (ARef.viewR_step op (absS s) hc hk)
  rw [view_absS s h, view_absS s h] at b
  exact ⟨a.1 ▸ b.1, (view_absS _ (inv_step op s h) _).symm.trans (a.2 ▸ b.2)⟩

theorem abs_addGraph_ok (s : Store) (h : Inv s) (g : String) (ig : IGraph) (hwf : ig.WF = true)
    (hok : (addGraph g ig s).1 = .ok .unit) : abs (addGraph g ig s).2 g = igContent ig := by
  have hi : Inv (addGraph g ig s).2 := by
    rcases addGraph_effect g ig s with e | e <;> rw [e]
    · exact inv_delGraphNl s g h
    · exact inv_import _ ig _ (inv_delGraphNl s g h) hwf
  have r := refS_addGraph s h g ig
  rw [← view_absS _ hi, r.2]
  exact ARef.view_addGraph_ok g ig (absS s) hwf (r.1 ▸ hok)

theorem clone_eq (s : Store) (h : Inv s) (g g2 : String) (hok : (cloneGraph g g2 s).1 = .ok .unit) :
    abs (cloneGraph g g2 s).2 g2 = abs s g := by
  unfold cloneGraph at hok ⊢
  split at hok
  · cases hok
  · rename_i ig hig
    rw [abs_addGraph_ok s h g2 ig (extractGraph_wf s g ig hig) hok, abs_extract s g ig hig]

theorem keepsGraphId_of_keepsKeys (op : Op) (hc : AGraph.covers op = true) (hk : op.keepsKeys = true) : op.keepsGraphId = true := by
  cases op with
  | addNode g nid label props =>
    cases props with
    | none => rfl
    | some p => exact (Bool.and_eq_true_iff.1 hk).1
  | updateNodeProperty g nid k v => exact (Bool.and_eq_true_iff.1 hk).1
  | updateNodesProperty g k v => exact (Bool.and_eq_true_iff.1 hk).1
  | updateNodeProperties g nid p => exact (Bool.and_eq_true_iff.1 hk).1
  | addGraphDirect g ig => cases hc
  | mergeNodes g nid g2 pol => cases hc
  | delAllGraphs => cases hc
  | _ => rfl

theorem refines_stepAll (op : Op) (s : Store) (h : Inv s) (hc : AGraph.covers op = true) (hk : op.keepsKeys = true) :
    (fun g => abs (step op s).2 g) = AGraph.stepAll op (fun g => abs s g) := by
  funext g
  unfold AGraph.stepAll
  by_cases e : g = op.target
  · simp only [e, if_true]; exact (refines_step op s h hc hk).2
  · simp only [e, if_false]
    have := frame_step op s g h (keepsGraphId_of_keepsKeys op hc hk) e
    simp only [abs, this.1, this.2]

theorem listAll_fst (s : Store) (g : String) : (AGraph.listAllNodeIds (abs s g)).1 = (listAllNodeIds g s).1 := by
  unfold listAllNodeIds AGraph.listAllNodeIds nidList AGraph.nidList
  simp only [abs_nodes, List.length_map, List.any_map, List.map_map, Function.comp_def,
    ARef.has_eraseG nodeId_ne_graphId, ARef.get_eraseG nodeId_ne_graphId]
  split
  · rfl
  · split <;> rfl

/-- no invariant: `find_matching_nodes` reads node dictionaries only -/
theorem findMatchingNodes_fst (s : Store) (g other : String) :
    outAbs (findMatchingNodes g other s).1 = (AGraph.findMatchingNodes (abs s other) (abs s g)).1 := by
  rw [findMatchingNodes_eq, AGraph.findMatchingNodes_eq, listAll_fst, outAbs_fmnReply]
  simp only [abs_nodes, List.map_map, Function.comp_def, ARef.get_eraseG nodeId_ne_graphId]

theorem listAll_snd (s : Store) (g : String) : (listAllNodeIds g s).2 = s := by
  unfold listAllNodeIds nidList
  split
  · rfl
  · split <;> rfl

end FimVerif.Store

namespace FimVerif.DStore
open FimVerif FimVerif.Store

/-- single-graph operations of the reference interface (everything covered but `find_matching_nodes`) -/
def single (op : Op) : Bool := AGraph.covers op && (match op with | .findMatchingNodes .. => false | _ => true)

theorem covers_of_single {op : Op} (h : single op = true) : AGraph.covers op = true := (Bool.and_eq_true _ _ ▸ h).1

theorem not_delAll_of_single {op : Op} (h : single op = true) : op.isDelAll = false := by
  cases op <;> first | rfl | cases h

theorem step_other_of_single {op : Op} (h : single op = true) (O O' A : AGraph) :
    AGraph.step op O A = AGraph.step op O' A := by
  cases op <;> first | rfl | cases h

end FimVerif.DStore
