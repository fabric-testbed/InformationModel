import FimVerif.Model.Validate
import FimVerif.Proofs.Lemmas.ListAux
/-! C10: the specification of slice validation - `SpecOK` (what `validate` enforces, for any table), `SpecFull` (what the property
asks for: every node, real property flags) and their parts - and the lemmas behind `Proofs/C10.lean`.  A loop of the model is first
given in closed form (`.._eq`): `firstErr` (the first failure) of a map, or a test on the whole list; `validateConstraints` and
`validate` are `firstErr` of their passes. -/
theorem FimVerif.perm_singleton_congr {α : Type} {d d' : List α} (h : d.Perm d') (x : α) : d = [x] ↔ d' = [x] :=
  ⟨fun e => List.perm_singleton.mp (e ▸ h.symm), fun e => List.perm_singleton.mp (e ▸ h)⟩

namespace FimVerif.Validate
open FimVerif.Gen.Constraints (SvcRow NodeRow)

theorem mem_dedup (xs : List String) (y : String) : y ∈ dedup xs ↔ y ∈ xs := by
  induction xs with
  | nil => simp [dedup]
  | cons x xs ih =>
    simp only [dedup]
    split
    · rename_i h
      simp only [List.contains_iff_mem, List.mem_cons] at *
      constructor
      · intro hy; exact Or.inr (ih.mp hy)
      · rintro (rfl | hy)
        · exact ih.mpr h
        · exact ih.mpr hy
    · simp [ih]

theorem nodup_dedup (xs : List String) : (dedup xs).Nodup := by
  induction xs with
  | nil => simp [dedup]
  | cons x xs ih =>
    simp only [dedup]
    split
    · exact ih
    · rename_i h
      simp only [List.contains_iff_mem] at h
      simp [List.nodup_cons, ih, mem_dedup, h]

theorem dedup_perm {xs ys : List String} (h : xs.Perm ys) : (dedup xs).Perm (dedup ys) :=
  (List.perm_ext_iff_of_nodup (nodup_dedup xs) (nodup_dedup ys)).mpr fun a => by
    rw [mem_dedup, mem_dedup]; exact h.mem_iff

theorem dedup_eq_nil (xs : List String) : dedup xs = [] ↔ xs = [] := by
  constructor
  · intro h
    cases xs with
    | nil => rfl
    | cons x xs =>
      have : x ∈ dedup (x :: xs) := (mem_dedup _ _).mpr (by simp)
      rw [h] at this; simp at this
  · rintro rfl; rfl

theorem dedup_eq_singleton (xs : List String) (x : String) :
    dedup xs = [x] ↔ xs ≠ [] ∧ ∀ y ∈ xs, y = x := by
  constructor
  · intro h
    refine ⟨?_, ?_⟩
    · intro hx; rw [hx] at h; simp [dedup] at h
    · intro y hy
      have := (mem_dedup xs y).mpr hy
      rw [h] at this; simpa using this
  · rintro ⟨hne, hall⟩
    have hnd := nodup_dedup xs
    have hmem : ∀ y ∈ dedup xs, y = x := fun y hy => hall y ((mem_dedup xs y).mp hy)
    match hd : dedup xs, hnd, hmem with
    | [], _, _ => exact absurd ((dedup_eq_nil xs).mp hd) hne
    | [a], _, hm => simp [hm a (by simp)]
    | a :: b :: r, hnd, hm =>
      have ha := hm a (by simp); have hb := hm b (by simp)
      simp [List.nodup_cons, ha, hb] at hnd

theorem exists_row_congr {α : Type} (l : List (String × α)) (k : String) {P Q : α → Prop}
    (h : ∀ kr ∈ l, P kr.2 ↔ Q kr.2) :
    (∃ row, l.lookup k = some row ∧ P row) ↔ ∃ row, l.lookup k = some row ∧ Q row :=
  exists_congr fun row => and_congr_right fun hl => h (k, row) (List.mem_of_lookup_eq_some hl)

theorem lookup_isSome {α : Type} (l : List (String × α)) (k : String) (h : k ∈ l.map (·.1)) : (l.lookup k).isSome := by
  obtain ⟨p, hp, rfl⟩ := List.mem_map.mp h
  exact List.lookup_isSome_iff.mpr ⟨p, hp, beq_self_eq_true _⟩

/-- the node-side interface a service interface stands for (none: a ServicePort without exactly one peer) -/
def nifOf (s : Svc) : SIface → Option NIface
  | .direct _ k => some ⟨k, s.owner⟩
  | .port _ (some [p]) => some p
  | .port _ _ => none

theorem nifOf_congr {s s' : Svc} (h : s'.owner = s.owner) : nifOf s' = nifOf s :=
  funext fun i => by cases i <;> simp only [nifOf, h]

theorem nifOf_rename (f : String → String) (s : Svc) : nifOf s ∘ SIface.rename f = nifOf s :=
  funext fun i => by
    cases i with
    | direct n k => rfl
    | port n ps => rcases ps with _ | _ | ⟨_, _ | _⟩ <;> rfl

theorem resolveOne_eq (s : Svc) (i : SIface) :
    resolveOne s i = match nifOf s i with | some n => .ok n | none => .error .topology := by
  cases i with
  | direct _ k => rfl
  | port _ ps =>
    match ps with
    | none => rfl
    | some [] => rfl
    | some [p] => rfl
    | some (_ :: _ :: _) => rfl

def firstErr : List Res → Res
  | [] => .ok ()
  | .ok _ :: rs => firstErr rs
  | .error e :: _ => .error e

theorem firstErr_ok (rs : List Res) : firstErr rs = .ok () ↔ ∀ r ∈ rs, r = .ok () := by
  induction rs with
  | nil => simp [firstErr]
  | cons r rs ih => cases r <;> simp [firstErr, ih]

theorem mem_of_firstErr_error (rs : List Res) (e : Err) (h : firstErr rs = .error e) : .error e ∈ rs := by
  induction rs with
  | nil => cases h
  | cons r rs ih =>
    cases r with
    | ok u => exact List.mem_cons_of_mem _ (ih h)
    | error e' => rw [← h]; exact List.mem_cons_self

theorem exists_of_firstErr_map_error {α : Type} (f : α → Res) (l : List α) (e : Err) (h : firstErr (l.map f) = .error e) :
    ∃ a ∈ l, f a = .error e := by
  obtain ⟨a, ha, he⟩ := List.mem_map.mp (mem_of_firstErr_error _ e h)
  exact ⟨a, ha, he⟩

theorem resolve_eq (s : Svc) (l : List SIface) :
    resolve s l = if l.all (fun i => (nifOf s i).isSome) then .ok (l.filterMap (nifOf s)) else .error .topology := by
  induction l with
  | nil => rfl
  | cons i is ih =>
    simp only [resolve, resolveOne_eq, ih]
    cases h : nifOf s i with
    | none => simp [h]
    | some n =>
      simp only [List.all_cons, h, Option.isSome_some, Bool.true_and, List.filterMap_cons]
      cases is.all fun i => (nifOf s i).isSome <;> rfl

theorem ownerSites_eq (l : List NIface) :
    ownerSites l = if l.all (·.owner.isSome) then .ok (l.filterMap (·.owner)) else .error .topology := by
  induction l with
  | nil => rfl
  | cons i is ih =>
    simp only [ownerSites, ih]
    cases h : i.owner with
    | none => simp [h]
    | some x =>
      simp only [List.all_cons, h, Option.isSome_some, Bool.true_and, List.filterMap_cons]
      cases is.all (·.owner.isSome) <;> rfl

/-- the presence test `mode` sees the service's property `p`, given the site the service has at that moment -/
def svcHolds (c : Cfg) (mode : Bool) (s : Svc) (site : Option String) (p : String) : Bool :=
  c.svcShallow.contains p && (if p == "site" then siteSeen mode site else valueSeen c mode s p)

/-- the service *has* property `p` (what the property statement means by "set"): a site, a non-empty string, any object -/
def svcHas (s : Svc) (site : Option String) (p : String) : Bool :=
  if p == "site" then truthy site else s.props.contains p

theorem svcSees_eq (c : Cfg) (mode : Bool) (s : Svc) (site : Option String) (p : String) :
    svcSees c mode s site p = if p ∈ c.svcGetters then .ok (svcHolds c mode s site p) else .error .attribute := by
  simp [svcSees, svcHolds]

/-- one round of the loops `checkReq` (`want = true`) and `checkForb` (`want = false`) -/
def checkOne (c : Cfg) (mode want : Bool) (s : Svc) (site : Option String) (p : String) : Res :=
  if p ∈ c.svcGetters then (if svcHolds c mode s site p = want then .ok () else .error .topology) else .error .attribute

theorem checkReq_checkForb_eq (c : Cfg) (s : Svc) (site : Option String) (ps : List String) :
    checkReq c s site ps = firstErr (ps.map (checkOne c c.svcReqTruthy true s site)) ∧
    checkForb c s site ps = firstErr (ps.map (checkOne c c.svcForbTruthy false s site)) := by
  constructor <;> induction ps with
  | nil => rfl
  | cons p ps ih =>
    simp only [checkReq, checkForb, List.map_cons, checkOne, ih, svcSees_eq]
    by_cases hg : p ∈ c.svcGetters
    · simp only [hg, if_true]; cases svcHolds c _ s site p <;> rfl
    · simp only [hg, if_false]; rfl

theorem checkOne_ok (c : Cfg) (mode want : Bool) (s : Svc) (site : Option String) (p : String) :
    checkOne c mode want s site p = .ok () ↔ p ∈ c.svcGetters ∧ svcHolds c mode s site p = want := by
  unfold checkOne
  by_cases hg : p ∈ c.svcGetters
  · by_cases hw : svcHolds c mode s site p = want <;> simp [hg, hw]
  · simp [hg]

theorem checkOne_error (c : Cfg) (mode want : Bool) (s : Svc) (site : Option String) (p : String) (e : Err)
    (hg : p ∈ c.svcGetters) (h : checkOne c mode want s site p = .error e) : e = .topology := by
  unfold checkOne at h
  rw [if_pos hg] at h
  split at h <;> cases h
  rfl

theorem validateNodes_eq (c : Cfg) (l : List Node) : validateNodes c l = firstErr (l.map (validateNode c)) := by
  induction l with
  | nil => rfl
  | cons n ns ih => simp only [validateNodes, List.map_cons, ih]; cases validateNode c n <;> rfl

/-- the site `__validate_nstype_constraints` leaves on the service when it succeeds -/
def recordedSiteOf (row : SvcRow) (s : Svc) (n : List NIface) : Option String :=
  if row.numSites ≠ 0 ∧ truthy s.site = false then
    match dedup (n.filterMap (·.owner)) with
    | [x] => some x
    | _ => s.site
  else s.site

theorem recordedSiteOf_cases (row : SvcRow) (s : Svc) (n : List NIface) :
    recordedSiteOf row s n = s.site ∨ ∃ y, dedup (n.filterMap (·.owner)) = [y] ∧ recordedSiteOf row s n = some y := by
  unfold recordedSiteOf
  split
  · split
    · rename_i y hy; exact Or.inr ⟨y, hy, rfl⟩
    · exact Or.inl rfl
  · exact Or.inl rfl

structure NstypeOK (exp : Bool) (row : SvcRow) (s : Svc) (n : List NIface) : Prop where
  minIfs : exp = true → row.minIfs = 0 ∨ row.minIfs ≤ n.length
  maxIfs : exp = true → row.numIfs = 0 ∨ n.length ≤ row.numIfs
  owners : row.numSites ≠ 0 → ∀ i ∈ n, i.owner.isSome
  maxSites : row.numSites ≠ 0 → (dedup (n.filterMap (·.owner))).length ≤ row.numSites
  siteAgrees : row.numSites ≠ 0 → truthy s.site = true → ∀ i ∈ n, i.owner = s.site

theorem siteSet_eq (row : SvcRow) (n : List NIface) :
    siteSet row n = if row.numSites = 0 then .ok [] else
      if n.all (·.owner.isSome) then .ok (dedup (n.filterMap (·.owner))) else .error .topology := by
  unfold siteSet
  rw [ownerSites_eq]
  by_cases h : row.numSites = 0
  · simp [h]
  · simp only [bne_iff_ne, ne_eq, h, not_false_eq_true, if_true, if_false]
    cases n.all (·.owner.isSome) <;> rfl

theorem owners_agree {n : List NIface} (hown : ∀ i ∈ n, i.owner.isSome) (site : Option String) :
    (∀ i ∈ n, i.owner = site) ↔ ∀ y ∈ dedup (n.filterMap (·.owner)), some y = site := by
  simp only [mem_dedup, List.mem_filterMap]
  constructor
  · rintro h y ⟨i, hi, hio⟩
    rw [← hio]; exact h i hi
  · intro h i hi
    obtain ⟨y, hy⟩ := Option.isSome_iff_exists.mp (hown i hi)
    rw [hy]; exact h y ⟨i, hi, hy⟩

theorem limit_passed {exp : Bool} {lim a b : Nat} :
    ¬ (exp && lim != 0 && decide (a < b)) = true ↔ (exp = true → lim = 0 ∨ b ≤ a) := by
  by_cases h : lim = 0 <;> cases exp <;> simp [h]

theorem nstype_spec (exp : Bool) (row : SvcRow) (s : Svc) (n : List NIface) :
    (NstypeOK exp row s n ∧ nstypeConstraints exp row s n = (.ok (), recordedSiteOf row s n)) ∨
    (¬ NstypeOK exp row s n ∧ nstypeConstraints exp row s n = (.error .topology, s.site)) := by
  -- one walk through the checks gives verdict and site together: `nstype_ok`, `nstype_site`, `nstype_error` are read off
  unfold nstypeConstraints
  by_cases h1 : (exp && row.minIfs != 0 && decide (n.length < row.minIfs)) = true
  · rw [if_pos h1]
    exact Or.inr ⟨fun h => absurd h1 (limit_passed.mpr h.minIfs), rfl⟩
  rw [if_neg h1]
  by_cases h2 : (exp && row.numIfs != 0 && decide (n.length > row.numIfs)) = true
  · rw [if_pos h2]
    exact Or.inr ⟨fun h => absurd h2 (limit_passed.mpr h.maxIfs), rfl⟩
  rw [if_neg h2]
  have hmin := limit_passed.mp h1
  have hmax := limit_passed.mp h2
  rw [siteSet_eq]
  by_cases h0 : row.numSites = 0
  · rw [if_pos h0]
    exact Or.inl ⟨⟨hmin, hmax, fun h => absurd h0 h, fun h => absurd h0 h, fun h => absurd h0 h⟩, by simp [recordedSiteOf, h0]⟩
  rw [if_neg h0]
  by_cases hsome : n.all (·.owner.isSome) = true
  case neg =>
    rw [if_neg hsome]
    exact Or.inr ⟨fun h => absurd (List.all_eq_true.mpr (h.owners h0)) hsome, rfl⟩
  rw [if_pos hsome]
  have hown : ∀ i ∈ n, i.owner.isSome := List.all_eq_true.mp hsome
  simp only
  by_cases h3 : (dedup (n.filterMap (·.owner))).length > row.numSites
  · exact Or.inr ⟨fun h => absurd (h.maxSites h0) (Nat.not_le.mpr h3), by simp [h3]⟩
  have key : NstypeOK exp row s n ↔ (truthy s.site = true → ∀ y ∈ dedup (n.filterMap (·.owner)), some y = s.site) := by
    rw [← owners_agree hown]
    exact ⟨fun h => h.siteAgrees h0, fun h => ⟨hmin, hmax, fun _ => hown, fun _ => Nat.not_lt.mp h3, fun _ => h⟩⟩
  rw [key]
  unfold recordedSiteOf
  simp only [h3, decide_false, Bool.false_eq_true, if_false, ne_eq, h0, not_false_eq_true, true_and]
  -- the declared site against the distinct owner sites: none, one, or several (which cannot all be it)
  have hnd := nodup_dedup (n.filterMap (·.owner))
  generalize dedup (n.filterMap (·.owner)) = d at hnd
  match d, hnd with
  | [], _ => exact Or.inl ⟨by simp, by simp⟩
  | [x], _ =>
    by_cases ht : truthy s.site = true
    · by_cases hs : s.site = some x
      · exact Or.inl ⟨by simp [hs], by simp [hs]⟩
      · exact Or.inr ⟨by simpa [ht] using fun e => hs e.symm, by simp [ht, hs]⟩
    · exact Or.inl ⟨by simp [ht], by simp [ht]⟩
  | a :: b :: r, hnd =>
    have hab : a ≠ b := by simp only [List.nodup_cons, List.mem_cons, not_or] at hnd; exact hnd.1.1
    by_cases ht : truthy s.site = true
    · refine Or.inr ⟨?_, by simp [ht]⟩
      simp only [ht, List.mem_cons, forall_eq_or_imp, true_imp_iff, not_and]
      exact fun ha hb => absurd (Option.some.inj (ha.trans hb.symm)) hab
    · exact Or.inl ⟨by simp [ht], by simp [ht]⟩

theorem nstype_ok (exp : Bool) (row : SvcRow) (s : Svc) (n : List NIface) :
    (nstypeConstraints exp row s n).1 = .ok () ↔ NstypeOK exp row s n := by
  rcases nstype_spec exp row s n with ⟨h, e⟩ | ⟨h, e⟩ <;> simp [h, e]

theorem nstype_site {exp : Bool} {row : SvcRow} {s : Svc} {n : List NIface} (h : NstypeOK exp row s n) :
    (nstypeConstraints exp row s n).2 = recordedSiteOf row s n := by
  rcases nstype_spec exp row s n with ⟨_, e⟩ | ⟨h', _⟩
  · rw [e]
  · exact absurd h h'

theorem nstype_error (exp : Bool) (row : SvcRow) (s : Svc) (n : List NIface) (e : Err)
    (h : (nstypeConstraints exp row s n).1 = .error e) : e = .topology := by
  rcases nstype_spec exp row s n with ⟨_, e'⟩ | ⟨_, e'⟩ <;> rw [e'] at h <;> cases h
  rfl

def nifs (s : Svc) : List NIface := s.ifs.filterMap (nifOf s)

/-- the site a successful validation leaves on the service -/
def recordedSite (row : SvcRow) (s : Svc) : Option String := recordedSiteOf row s (nifs s)

structure SvcOK (c : Cfg) (exp : Bool) (row : SvcRow) (s : Svc) : Prop where
  /-- every ServicePort has exactly one peer -/
  ports : ∀ i ∈ s.ifs, (nifOf s i).isSome
  /-- interface counts, owners, sites spanned, declared site -/
  nstype : NstypeOK exp row s (nifs s)
  /-- every property the row names can be read from the sliver -/
  getters : ∀ p ∈ row.req ++ row.forb, p ∈ c.svcGetters
  required : ∀ p ∈ row.req, svcHolds c c.svcReqTruthy s (recordedSite row s) p = true
  forbidden : ∀ p ∈ row.forb, svcHolds c c.svcForbTruthy s (recordedSite row s) p = false
  ifTypes : row.ifTypes = [] ∨ ∀ i ∈ nifs s, i.kind ∈ row.ifTypes

theorem checkIfTypes_ok (row : SvcRow) (n : List NIface) :
    checkIfTypes row n = .ok () ↔ (row.ifTypes = [] ∨ ∀ i ∈ n, i.kind ∈ row.ifTypes) := by
  unfold checkIfTypes
  generalize row.ifTypes = ts
  have hall : (n.all fun i => ts.contains i.kind) = true ↔ ∀ i ∈ n, i.kind ∈ ts := by
    simp only [List.all_eq_true, List.contains_iff_mem]
  cases ts with
  | nil => exact ⟨fun _ => Or.inl rfl, fun _ => rfl⟩
  | cons a r =>
    rw [if_neg (by simp), ← hall]
    split
    · rename_i h; exact ⟨fun _ => Or.inr h, fun _ => rfl⟩
    · rename_i h; exact ⟨nofun, fun h' => absurd (h'.resolve_left nofun) h⟩

theorem checkIfTypes_error (row : SvcRow) (n : List NIface) (e : Err) (h : checkIfTypes row n = .error e) : e = .topology := by
  revert h
  fun_cases checkIfTypes row n <;> simp_all

theorem validateConstraints_eq (c : Cfg) (exp : Bool) (row : SvcRow) (s : Svc) (n : List NIface) :
    validateConstraints c exp row s n =
      (firstErr [(nstypeConstraints exp row s n).1, checkReq c s (nstypeConstraints exp row s n).2 row.req,
        checkForb c s (nstypeConstraints exp row s n).2 row.forb, checkIfTypes row n], (nstypeConstraints exp row s n).2) := by
  unfold validateConstraints
  match nstypeConstraints exp row s n with
  | (.error e, site) => rfl
  | (.ok u, site) =>
    simp only [firstErr]
    cases checkReq c s site row.req with
    | error e => rfl
    | ok u1 => cases checkForb c s site row.forb <;> cases checkIfTypes row n <;> rfl

theorem validateConstraints_ok (c : Cfg) (exp : Bool) (row : SvcRow) (s : Svc) (n : List NIface) :
    (validateConstraints c exp row s n).1 = .ok () ↔
      NstypeOK exp row s n ∧ (∀ p ∈ row.req ++ row.forb, p ∈ c.svcGetters) ∧
      (∀ p ∈ row.req, svcHolds c c.svcReqTruthy s (recordedSiteOf row s n) p = true) ∧
      (∀ p ∈ row.forb, svcHolds c c.svcForbTruthy s (recordedSiteOf row s n) p = false) ∧
      (row.ifTypes = [] ∨ ∀ i ∈ n, i.kind ∈ row.ifTypes) := by
  simp only [validateConstraints_eq, firstErr_ok, List.mem_cons, List.not_mem_nil, or_false, forall_eq_or_imp, forall_eq,
    checkReq_checkForb_eq, List.forall_mem_map, checkOne_ok, checkIfTypes_ok, nstype_ok, List.forall_mem_append, imp_and,
    forall_and]
  refine and_congr_right fun h => ?_
  rw [nstype_site h]
  exact ⟨fun ⟨⟨gr, r⟩, ⟨gf, f⟩, t⟩ => ⟨⟨gr, gf⟩, r, f, t⟩, fun ⟨⟨gr, gf⟩, r, f, t⟩ => ⟨⟨gr, r⟩, ⟨gf, f⟩, t⟩⟩

theorem validateConstraints_error (c : Cfg) (exp : Bool) (row : SvcRow) (s : Svc) (n : List NIface) (e : Err)
    (hg : ∀ p ∈ row.req ++ row.forb, p ∈ c.svcGetters)
    (h : (validateConstraints c exp row s n).1 = .error e) : e = .topology := by
  simp only [validateConstraints_eq, checkReq_checkForb_eq] at h
  have := mem_of_firstErr_error _ e h
  simp only [List.mem_cons, List.not_mem_nil, or_false] at this
  rcases this with h | h | h | h
  · exact nstype_error exp row s n e h.symm
  · obtain ⟨p, hp, hpe⟩ := exists_of_firstErr_map_error _ _ e h.symm
    exact checkOne_error c _ _ s _ p e (hg p (List.mem_append_left _ hp)) hpe
  · obtain ⟨p, hp, hpe⟩ := exists_of_firstErr_map_error _ _ e h.symm
    exact checkOne_error c _ _ s _ p e (hg p (List.mem_append_right _ hp)) hpe
  · exact checkIfTypes_error row n e h.symm

theorem validateSvc_eq (c : Cfg) (exp : Bool) (s : Svc) :
    validateSvc c exp s =
      match c.svc.lookup s.ty with
      | none => (.error .key, s)
      | some row =>
        if s.ifs.all (fun i => (nifOf s i).isSome) then
          ((validateConstraints c exp row s (nifs s)).1, { s with site := (validateConstraints c exp row s (nifs s)).2 })
        else (.error .topology, s) := by
  unfold validateSvc
  cases c.svc.lookup s.ty with
  | none => rfl
  | some row =>
    simp only [resolve_eq]
    cases s.ifs.all fun i => (nifOf s i).isSome <;> rfl

theorem validateSvc_ok (c : Cfg) (exp : Bool) (s : Svc) :
    (validateSvc c exp s).1 = .ok () ↔ ∃ row, c.svc.lookup s.ty = some row ∧ SvcOK c exp row s := by
  rw [validateSvc_eq]
  cases hl : c.svc.lookup s.ty with
  | none => simp
  | some row =>
    simp only [Option.some.injEq, exists_eq_left']
    by_cases hp : s.ifs.all (fun i => (nifOf s i).isSome) = true
    · rw [if_pos hp, validateConstraints_ok]
      exact ⟨fun ⟨h1, h2, h3, h4, h5⟩ => ⟨List.all_eq_true.mp hp, h1, h2, h3, h4, h5⟩,
        fun h => ⟨h.nstype, h.getters, h.required, h.forbidden, h.ifTypes⟩⟩
    · rw [if_neg hp]
      exact ⟨nofun, fun h => absurd (List.all_eq_true.mpr h.ports) hp⟩

/-- what `validate` leaves in place of the service: only `site` can differ -/
def recordSite (c : Cfg) (s : Svc) : Svc :=
  match c.svc.lookup s.ty with
  | some row => { s with site := recordedSite row s }
  | none => s

def withSite (s : Svc) (x : Option String) : Svc := { s with site := x }

theorem nifs_withSite (s : Svc) (x : Option String) : nifs (withSite s x) = nifs s := by
  unfold nifs
  rw [nifOf_congr (s := s) (s' := withSite s x) rfl]
  rfl

theorem recordSite_eq (c : Cfg) (s : Svc) (row : SvcRow) (hl : c.svc.lookup s.ty = some row) :
    recordSite c s = withSite s (recordedSite row s) := by
  unfold recordSite; rw [hl]; rfl

theorem recordSite_withSite (c : Cfg) (s : Svc) : recordSite c s = withSite s (recordSite c s).site := by
  unfold recordSite
  cases c.svc.lookup s.ty <;> rfl

theorem validateSvc_state (c : Cfg) (exp : Bool) (s : Svc) (h : (validateSvc c exp s).1 = .ok ()) :
    (validateSvc c exp s).2 = recordSite c s := by
  obtain ⟨row, hl, hk⟩ := (validateSvc_ok c exp s).mp h
  rw [validateSvc_eq, recordSite_eq c s row hl, hl]
  simp only
  rw [if_pos (List.all_eq_true.mpr hk.ports), validateConstraints_eq, nstype_site hk.nstype]
  rfl

def eraseSite (s : Svc) : Svc := { s with site := none }

theorem validateSvc_frame (c : Cfg) (exp : Bool) (s : Svc) :
    eraseSite (validateSvc c exp s).2 = eraseSite s := by
  rw [validateSvc_eq]
  cases c.svc.lookup s.ty with
  | none => rfl
  | some row => simp only; split <;> rfl

theorem validateSvcs_fst (c : Cfg) (exp : Bool) (l : List Svc) :
    (validateSvcs c exp l).1 = firstErr (l.map fun s => (validateSvc c exp s).1) := by
  induction l with
  | nil => rfl
  | cons s rest ih =>
    simp only [validateSvcs, List.map_cons]
    match validateSvc c exp s with
    | (.error e, s') => rfl
    | (.ok u, s') => exact ih

theorem validateSvcs_ok (c : Cfg) (exp : Bool) (l : List Svc) :
    (validateSvcs c exp l).1 = .ok () ↔ ∀ s ∈ l, ∃ row, c.svc.lookup s.ty = some row ∧ SvcOK c exp row s := by
  simp only [validateSvcs_fst, firstErr_ok, List.forall_mem_map, validateSvc_ok]

theorem validateSvcs_state (c : Cfg) (exp : Bool) (l : List Svc) (h : (validateSvcs c exp l).1 = .ok ()) :
    (validateSvcs c exp l).2 = l.map (recordSite c) := by
  fun_induction validateSvcs c exp l with
  | case1 => rfl
  | case2 s rest e s' hv => cases h
  | case3 s rest u s' hv r ih =>
    have hs := validateSvc_state c exp s (by rw [hv])
    rw [hv] at hs
    simp only [List.map_cons, ← ih h, ← hs]; rfl

theorem validateSvcs_frame (c : Cfg) (exp : Bool) (l : List Svc) :
    (validateSvcs c exp l).2.map eraseSite = l.map eraseSite := by
  fun_induction validateSvcs c exp l with
  | case1 => rfl
  | case2 s rest e s' hv => simp only [List.map_cons, ← validateSvc_frame c exp s, hv]
  | case3 s rest u s' hv r ih => simp only [List.map_cons, ← validateSvc_frame c exp s, hv, ← ih]; rfl

structure NodeOK (c : Cfg) (row : NodeRow) (n : Node) : Prop where
  required : ∀ p ∈ row.req, nodeSees c c.nodeReqTruthy n p = true
  forbidden : ∀ p ∈ row.forb, nodeSees c c.nodeForbTruthy n p = false

theorem validateNode_ok (c : Cfg) (n : Node) :
    validateNode c n = .ok () ↔ ∃ row, c.node.lookup n.ty = some row ∧ NodeOK c row n := by
  unfold validateNode
  cases hl : c.node.lookup n.ty with
  | none => simp
  | some row =>
    simp only [Option.some.injEq, exists_eq_left']
    cases h1 : row.req.all (nodeSees c c.nodeReqTruthy n) with
    | false => exact ⟨nofun, fun h => by rw [List.all_eq_true.mpr h.required] at h1; cases h1⟩
    | true =>
      cases h2 : row.forb.any (nodeSees c c.nodeForbTruthy n) with
      | true =>
        refine ⟨nofun, fun h => ?_⟩
        rw [List.any_eq_false.mpr fun p hp => by simp [h.forbidden p hp]] at h2
        cases h2
      | false =>
        exact ⟨fun _ => ⟨List.all_eq_true.mp h1, fun p hp => by simpa using List.any_eq_false.mp h2 p hp⟩, fun _ => rfl⟩

structure InstOK (c : Cfg) (svcs : List Svc) : Prop where
  /-- (what the code needs in order not to fail) a service of a limited type has a site or no interface -/
  sited : ∀ s ∈ svcs, instLimit c s.ty ≠ 0 → truthy s.site = true ∨ s.ifs = []
  /-- at most `num_instances` services of the type carry the same site -/
  within : ∀ s ∈ svcs, instLimit c s.ty ≠ 0 → ∀ site, instCount svcs s.ty site ≤ instLimit c s.ty

theorem instCount_unmentioned (svcs : List Svc) (ty site : String) (h : site ∉ mentionedSites svcs) :
    instCount svcs ty site = 0 := by
  unfold instCount
  refine List.sum_eq_zero_iff_forall_eq_nat.mpr (List.forall_mem_map.mpr fun s hs => ?_)
  have hs' : s ∈ svcs := (List.mem_filter.mp hs).1
  unfold instContribution
  by_cases hc : (truthy s.site && s.site == some site) = true
  · exfalso; apply h
    simp only [Bool.and_eq_true, beq_iff_eq] at hc
    unfold mentionedSites
    exact List.mem_filterMap.mpr ⟨s, hs', by rw [if_pos hc.1, hc.2]⟩
  · simp [hc]

theorem instCrash_false (c : Cfg) (svcs : List Svc) :
    instCrash c svcs = false ↔ ∀ s ∈ svcs, instLimit c s.ty ≠ 0 → truthy s.site = true ∨ s.ifs = [] := by
  simp only [instCrash, List.any_eq_false, Bool.and_eq_true, bne_iff_ne, ne_eq, Bool.not_eq_true', List.isEmpty_eq_false_iff,
    not_and, Decidable.not_not]
  refine forall_congr' fun s => forall_congr' fun _ => ?_
  cases truthy s.site <;> simp

theorem instWithin_true (c : Cfg) (svcs : List Svc) :
    instWithin c svcs = true ↔ ∀ s ∈ svcs, instLimit c s.ty ≠ 0 → ∀ site, instCount svcs s.ty site ≤ instLimit c s.ty := by
  simp only [instWithin, List.all_eq_true, Bool.or_eq_true, beq_iff_eq, decide_eq_true_eq]
  refine forall_congr' fun s => forall_congr' fun _ => ⟨?_, fun h => ?_⟩
  · rintro (h0 | hall) hl site
    · exact absurd h0 hl
    · by_cases hm : site ∈ mentionedSites svcs
      · exact hall site hm
      · rw [instCount_unmentioned svcs s.ty site hm]; exact Nat.zero_le _
  · by_cases hl : instLimit c s.ty = 0
    · exact Or.inl hl
    · exact Or.inr fun site _ => h hl site

theorem instances_ok (c : Cfg) (svcs : List Svc) : instances c svcs = .ok () ↔ InstOK c svcs := by
  have : instances c svcs = .ok () ↔ instCrash c svcs = false ∧ instWithin c svcs = true := by
    unfold instances
    cases instCrash c svcs <;> cases instWithin c svcs <;> simp
  rw [this, instCrash_false, instWithin_true]
  exact ⟨fun ⟨a, b⟩ => ⟨a, b⟩, fun h => ⟨h.sited, h.within⟩⟩

/-- What `Topology.validate` enforces, for any table. -/
structure SpecOK (c : Cfg) (t : Topo) : Prop where
  /-- every node `Topology.validate` walks meets its row, as far as the check can read its properties -/
  nodes : ∀ n ∈ t.nodes, n.ty ∉ c.nodeTypesNotValidated → ∃ row, c.node.lookup n.ty = some row ∧ NodeOK c row n
  svcs : ∀ s ∈ t.svcs, ∃ row, c.svc.lookup s.ty = some row ∧ SvcOK c t.exp row s
  instances : InstOK c (t.svcs.map (recordSite c))

/-- A node meets its row: the real property flags. -/
structure NodeFull (row : NodeRow) (n : Node) : Prop where
  required : ∀ p ∈ row.req, p ∈ n.props
  forbidden : ∀ p ∈ row.forb, p ∉ n.props

/-- A service meets its row: a property counts as set when it has been given a value (non-empty string, any object -
whatever Python's truthiness of that object is, and whether or not the validator can read it). -/
structure SvcFull (exp : Bool) (row : SvcRow) (s : Svc) : Prop where
  ports : ∀ i ∈ s.ifs, (nifOf s i).isSome
  nstype : NstypeOK exp row s (nifs s)
  required : ∀ p ∈ row.req, svcHas s (recordedSite row s) p = true
  forbidden : ∀ p ∈ row.forb, svcHas s (recordedSite row s) p = false
  ifTypes : row.ifTypes = [] ∨ ∀ i ∈ nifs s, i.kind ∈ row.ifTypes

/-- What the property asks for: *every* node and service meets the table. -/
structure SpecFull (c : Cfg) (t : Topo) : Prop where
  nodes : ∀ n ∈ t.nodes, ∃ row, c.node.lookup n.ty = some row ∧ NodeFull row n
  svcs : ∀ s ∈ t.svcs, ∃ row, c.svc.lookup s.ty = some row ∧ SvcFull t.exp row s
  instances : InstOK c (t.svcs.map (recordSite c))

theorem present_truthy_eq (fc props hollow blank : List String) (p : String) (hh : ∀ q ∈ hollow, q ∉ fc) :
    present true fc props hollow blank p = props.contains p := by
  have : (hollow.contains p && fc.contains p) = false := by
    cases hq : hollow.contains p
    · rfl
    · simpa using hh p (by simpa using hq)
  simp only [present, if_true, this, Bool.not_false, Bool.and_true]

theorem svcHolds_eq_has (c : Cfg) (s : Svc) (site : Option String) (p : String)
    (hr : p ∈ c.svcShallow) (hh : ∀ q ∈ s.hollow, q ∉ c.svcFalsyCapable) : svcHolds c true s site p = svcHas s site p := by
  unfold svcHolds svcHas valueSeen siteSeen
  have h1 : c.svcShallow.contains p = true := by simpa using hr
  rw [h1, Bool.true_and, present_truthy_eq _ _ _ _ _ hh]
  simp

theorem svcOK_iff_full (c : Cfg) (exp : Bool) (s : Svc)
    (hread : ∀ kr ∈ c.svc, ∀ p ∈ kr.2.req ++ kr.2.forb, p ∈ c.svcGetters ∧ p ∈ c.svcShallow)
    (hmr : c.svcReqTruthy = true) (hmf : c.svcForbTruthy = true)
    (hh : ∀ q ∈ s.hollow, q ∉ c.svcFalsyCapable) :
    (∃ row, c.svc.lookup s.ty = some row ∧ SvcOK c exp row s) ↔ ∃ row, c.svc.lookup s.ty = some row ∧ SvcFull exp row s := by
  refine exists_row_congr _ _ fun kr hkr => ?_
  have er : ∀ p ∈ kr.2.req, svcHolds c c.svcReqTruthy s (recordedSite kr.2 s) p = svcHas s (recordedSite kr.2 s) p :=
    fun p hp => by rw [hmr]; exact svcHolds_eq_has c s _ p (hread kr hkr p (List.mem_append_left _ hp)).2 hh
  have ef : ∀ p ∈ kr.2.forb, svcHolds c c.svcForbTruthy s (recordedSite kr.2 s) p = svcHas s (recordedSite kr.2 s) p :=
    fun p hp => by rw [hmf]; exact svcHolds_eq_has c s _ p (hread kr hkr p (List.mem_append_right _ hp)).2 hh
  constructor
  · intro h
    exact ⟨h.ports, h.nstype, fun p hp => (er p hp).symm.trans (h.required p hp),
      fun p hp => (ef p hp).symm.trans (h.forbidden p hp), h.ifTypes⟩
  · intro h
    exact ⟨h.ports, h.nstype, fun p hp => (hread kr hkr p hp).1, fun p hp => (er p hp).trans (h.required p hp),
      fun p hp => (ef p hp).trans (h.forbidden p hp), h.ifTypes⟩

theorem nodeSees_eq_has (c : Cfg) (n : Node) (p : String) (hr : nodeReadable c p = true)
    (hh : ∀ q ∈ n.hollow, q ∉ c.nodeFalsyCapable) : nodeSees c true n p = n.props.contains p := by
  unfold nodeSees
  rw [hr, Bool.true_and, present_truthy_eq _ _ _ _ _ hh]

theorem nodeOK_iff_full (c : Cfg) (n : Node)
    (hread : ∀ kr ∈ c.node, ∀ p ∈ kr.2.req ++ kr.2.forb, nodeReadable c p = true)
    (hmr : c.nodeReqTruthy = true) (hmf : c.nodeForbTruthy = true)
    (hh : ∀ q ∈ n.hollow, q ∉ c.nodeFalsyCapable) :
    (∃ row, c.node.lookup n.ty = some row ∧ NodeOK c row n) ↔ ∃ row, c.node.lookup n.ty = some row ∧ NodeFull row n := by
  refine exists_row_congr _ _ fun kr hkr => ?_
  have er : ∀ p ∈ kr.2.req, (nodeSees c c.nodeReqTruthy n p = true ↔ p ∈ n.props) := fun p hp => by
    rw [hmr, nodeSees_eq_has c n p (hread kr hkr p (List.mem_append_left _ hp)) hh]; simp
  have ef : ∀ p ∈ kr.2.forb, (nodeSees c c.nodeForbTruthy n p = false ↔ p ∉ n.props) := fun p hp => by
    rw [hmf, nodeSees_eq_has c n p (hread kr hkr p (List.mem_append_right _ hp)) hh]; simp
  constructor
  · intro h
    exact ⟨fun p hp => (er p hp).mp (h.required p hp), fun p hp => (ef p hp).mp (h.forbidden p hp)⟩
  · intro h
    exact ⟨fun p hp => (er p hp).mpr (h.required p hp), fun p hp => (ef p hp).mpr (h.forbidden p hp)⟩

theorem mem_visibleNodes (c : Cfg) (t : Topo) (n : Node) :
    n ∈ visibleNodes c t ↔ n ∈ t.nodes ∧ n.ty ∉ c.nodeTypesNotValidated := by
  simp [visibleNodes]

theorem validate_eq (c : Cfg) (t : Topo) :
    validate c t =
      (firstErr [validateNodes c (visibleNodes c t), (validateSvcs c t.exp t.svcs).1,
        instances c (validateSvcs c t.exp t.svcs).2],
       if validateNodes c (visibleNodes c t) = .ok () then { t with svcs := (validateSvcs c t.exp t.svcs).2 } else t) := by
  unfold validate
  cases validateNodes c (visibleNodes c t) with
  | error e => rfl
  | ok u =>
    match validateSvcs c t.exp t.svcs with
    | (.error e, svcs') => rfl
    | (.ok u', svcs') => simp only [firstErr]; cases instances c svcs' <;> rfl

theorem validate_ok_iff (c : Cfg) (t : Topo) : (validate c t).1 = .ok () ↔
    validateNodes c (visibleNodes c t) = .ok () ∧ (validateSvcs c t.exp t.svcs).1 = .ok () ∧
      instances c (t.svcs.map (recordSite c)) = .ok () := by
  simp only [validate_eq, firstErr_ok, List.mem_cons, List.not_mem_nil, or_false, forall_eq_or_imp, forall_eq]
  exact and_congr_right fun _ => and_congr_right fun h => by rw [validateSvcs_state c t.exp t.svcs h]

theorem validate_state (c : Cfg) (t : Topo) (h : (validate c t).1 = .ok ()) :
    (validate c t).2 = { t with svcs := t.svcs.map (recordSite c) } := by
  obtain ⟨hn, hs, _⟩ := (validate_ok_iff c t).mp h
  rw [validate_eq, if_pos hn, validateSvcs_state c t.exp t.svcs hs]

theorem validateNode_error (c : Cfg) (n : Node) (e : Err) (hl : (c.node.lookup n.ty).isSome)
    (h : validateNode c n = .error e) : e = .topology := by
  revert h
  fun_cases validateNode c n <;> simp_all

theorem validateSvc_error (c : Cfg) (exp : Bool) (s : Svc) (e : Err)
    (hg : ∀ kr ∈ c.svc, ∀ p ∈ kr.2.req ++ kr.2.forb, p ∈ c.svcGetters)
    (hl : (c.svc.lookup s.ty).isSome) (h : (validateSvc c exp s).1 = .error e) : e = .topology := by
  rw [validateSvc_eq] at h
  cases hr : c.svc.lookup s.ty with
  | none => simp [hr] at hl
  | some row =>
    rw [hr] at h
    simp only at h
    split at h
    · exact validateConstraints_error c exp row s _ e (hg _ (List.mem_of_lookup_eq_some hr)) h
    · cases h; rfl

theorem instOK_unlimited (c : Cfg) (svcs : List Svc) (h0 : ∀ kr ∈ c.svc, kr.2.numInst = 0) : InstOK c svcs := by
  have hz : ∀ ty, instLimit c ty = 0 := by
    intro ty
    unfold instLimit
    cases hl : c.svc.lookup ty with
    | none => rfl
    | some row => exact h0 _ (List.mem_of_lookup_eq_some hl)
  exact ⟨fun s _ h => absurd (hz s.ty) h, fun s _ h => absurd (hz s.ty) h⟩

theorem instContribution_rename (f : String → String) (s : Svc) (site : String) :
    instContribution (s.rename f) site = instContribution s site := rfl

theorem instances_map (c : Cfg) (g : Svc → Svc) (hty : ∀ s, (g s).ty = s.ty) (hsite : ∀ s, (g s).site = s.site)
    (hifs : ∀ s, (g s).ifs.isEmpty = s.ifs.isEmpty) (l : List Svc) : instances c (l.map g) = instances c l := by
  have h1 : instCrash c (l.map g) = instCrash c l := by
    simp only [instCrash, List.any_map]
    congr 1; funext s
    simp [hty, hsite, hifs]
  have hm : mentionedSites (l.map g) = mentionedSites l := by
    simp only [mentionedSites, List.filterMap_map, Function.comp_def, hsite]
  have hc : ∀ ty site, instCount (l.map g) ty site = instCount l ty site := by
    intro ty site
    simp only [instCount, List.filter_map, List.map_map, Function.comp_def, hty, instContribution, hsite]
  have h2 : instWithin c (l.map g) = instWithin c l := by
    simp only [instWithin, List.all_map, hm, hc, Function.comp_def, hty]
  simp only [instances, h1, h2]

theorem guardrails_eq (c : Cfg) (ty kind : String) :
    guardrails c ty kind = if (ty, kind) ∈ c.guardPairs then .error .topology else .ok () := by
  simp [guardrails]

end FimVerif.Validate
