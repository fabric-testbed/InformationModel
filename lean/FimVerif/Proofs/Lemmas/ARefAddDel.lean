import FimVerif.Proofs.Lemmas.ARefBasic
/-! C05: the shared store refines `ARef.step`: node creation and deletion, imports, `delete_graph`, `clone_graph`. -/
namespace FimVerif.Store
open FimVerif FimVerif.Gen.StoreConsts

theorem keyOf_filter (ns : List SNode) (p : SNode → Bool) (hnd : (ns.map (·.iid)).Nodup) (i : Nat)
    (hi : idIn (ns.filter p) i = true) : keyOf (ns.filter p) i = keyOf ns i := by
  obtain ⟨n, hn, rfl⟩ := idIn_iff.1 hi
  rw [keyOf_of_nodup ns hnd n (List.mem_filter.1 hn).1,
    keyOf_of_nodup (ns.filter p) (List.Nodup.sublist (List.Sublist.map _ List.filter_sublist) hnd) n hn]

theorem keyOf_append_left (ns ms : List SNode) (i : Nat) (h : idIn ns i = true) : keyOf (ns ++ ms) i = keyOf ns i := by
  unfold keyOf
  rw [List.find?_append]
  obtain ⟨n, hn, e⟩ := idIn_iff.1 h
  cases hf : ns.find? (fun m => m.iid == i) with
  | none =>
    have := List.find?_eq_none.1 hf n hn
    simp [e] at this
  | some m => rfl

theorem keyOf_append_right (ns ms : List SNode) (i : Nat) (h : idIn ns i = false) : keyOf (ns ++ ms) i = keyOf ms i := by
  unfold keyOf
  rw [List.find?_append]
  have : ns.find? (fun m => m.iid == i) = none := by
    rw [List.find?_eq_none]
    intro m hm
    have := idIn_false_iff.1 h m hm
    simpa using this
  rw [this]; rfl

theorem keyOf_relabel (base : Nat) (l : List Props) (k : Nat) :
    keyOf (relabel base l) (base + k) = ((l[k]?).map keyP).getD (none, none) := by
  unfold keyOf
  rw [find_relabel]
  cases l[k]? <;> rfl

theorem kIn_keyOf (s : Store) (h : Inv s) (g : String) (i : Nat) (hi : idIn s.nodes i = true) :
    ARef.kIn g (keyOf s.nodes i) = idIn (nodesOf s g) i := by
  obtain ⟨n, hn, rfl, k⟩ := keyOf_of_idIn s h i hi
  rw [k, idIn_nodesOf s h g n hn]
  rfl

/-- dropping nodes, and links none of which ends at a dropped node, commutes with `absS`: the key of a surviving end is looked up
    in a shorter list with the same result (`keyOf_filter`); `p'`, `q'` are the tests on the reference side -/
theorem absS_drop (s : Store) (h : Inv s) (keep : SNode → Bool) (q : SEdge → Bool) (p' : Props → Bool)
    (q' : Key × Key × Props → Bool) (hp : ∀ m ∈ s.nodes, p' m.attrs = keep m) (hq : ∀ e ∈ s.edges, q' (kE s e) = q e)
    (hends : ∀ e ∈ s.edges, q e = true → ∀ m ∈ s.nodes, m.iid = e.a ∨ m.iid = e.b → keep m = true) :
    absS ⟨s.nodes.filter keep, s.edges.filter q, s.nextId⟩ = ⟨(absS s).nodes.filter p', (absS s).edges.filter q'⟩ := by
  rw [absS_nodes, absS_edges_kE, List.filter_map_pred _ p' keep _ hp, List.filter_map_pred (kE s) q' q _ hq]
  unfold absS
  simp only [ARef.mk.injEq, true_and]
  refine List.map_congr_left fun e he => ?_
  obtain ⟨ea, eb⟩ := (inv_drop s keep q h hends).2.2 e he
  simp only [kE, keyOf_filter s.nodes keep h.1 _ ea, keyOf_filter s.nodes keep h.1 _ eb]

theorem absS_removeNode (s : Store) (h : Inv s) {k : Key} {n : SNode} (hn : IsNode s k n) :
    absS (removeNode n.iid s) = ARef.removeK k (absS s) := by
  refine absS_drop s h _ _ _ _ (fun m hm => congrArg not (isK_eq_iid h hn m hm)) (fun e he => ?_) (removeNode_ends s _)
  obtain ⟨ea, eb⟩ := h.2.2 e he
  show (!(keyOf s.nodes e.a == k) && !(keyOf s.nodes e.b == k)) = _
  rw [keyOf_beq h hn e.a ea, keyOf_beq h hn e.b eb]
  rfl

theorem absS_delGraphNl (s : Store) (h : Inv s) (g : String) : absS (delGraphNl g s) = ARef.delGraphK g (absS s) := by
  refine absS_drop s h _ _ _ _ (fun _ _ => rfl) (fun e he => ?_) (delGraphNl_ends s h g)
  simp only [kE, kIn_keyOf s h g _ (h.2.2 e he).1, kIn_keyOf s h g _ (h.2.2 e he).2]

/-- no well-formedness needed: a dangling position has the key `(none, none)` on both sides -/
theorem absS_appendGraph (s : Store) (h : Inv s) (ns : List Props) (es : List (Nat × Nat × Props)) :
    absS (appendGraph ns es s) = ARef.appendK ns es (absS s) := by
  unfold absS ARef.appendK appendGraph
  simp only [ARef.mk.injEq, List.map_append, relabel_attrs, List.map_map, true_and]
  congr 1
  · apply List.map_congr_left
    intro e he
    obtain ⟨ea, eb⟩ := h.2.2 e he
    rw [keyOf_append_left _ _ _ ea, keyOf_append_left _ _ _ eb]
  · apply List.map_congr_left
    intro e he
    have hnot : ∀ k : Nat, idIn s.nodes (s.nextId + k) = false := by
      intro k
      rw [idIn_false_iff]
      intro n hn
      have := h.2.1 n hn
      omega
    simp only [Function.comp]
    rw [keyOf_append_right _ _ _ (hnot _), keyOf_append_right _ _ _ (hnot _), keyOf_relabel, keyOf_relabel]

theorem addNodeGuard_absS (s : Store) (g nid : String) :
    (((absS s).nodes.filter (fun a => ARef.inGP g a && ARef.hasNidP nid a)).length > 0) = (addNodeGuard g nid s = true) := by
  unfold addNodeGuard
  rw [absS_nodes, List.filter_map, List.length_map, decide_eq_true_eq]
  rfl

theorem refS_addNode (s : Store) (h : Inv s) (g nid label : String) (props : Option Props) :
    RefS (addNode g nid label props s) (ARef.addNode g nid label props (absS s)) := by
  cases hg : addNodeGuard g nid s with
  | true =>
    unfold ARef.addNode addNode
    simp only [addNodeGuard_absS, hg, if_true]
    exact refS_err s _
  | false =>
    unfold ARef.addNode
    simp only [addNode_eq_append s h g nid label props hg, addNodeGuard_absS, hg, Bool.false_eq_true, if_false]
    refine ⟨rfl, ?_⟩
    rw [absS_appendGraph s h]
    simp [ARef.appendK]

theorem refS_deleteNode (s : Store) (h : Inv s) (g nid : String) :
    RefS (deleteNode g nid s) (ARef.deleteNode g nid (absS s)) := by
  unfold deleteNode ARef.deleteNode
  exact refS_withNode _ _ _ _ _ fun n hn => ⟨rfl, absS_removeNode s h hn⟩

theorem refS_delGraph (s : Store) (h : Inv s) (g : String) : RefS (delGraph g s) (ARef.delGraph g (absS s)) :=
  ⟨rfl, absS_delGraphNl s h g⟩

theorem refS_delAllGraphs (s : Store) : RefS (delAllGraphs s) (ARef.delAllGraphs (absS s)) := ⟨rfl, rfl⟩

theorem refS_addGraph (s : Store) (h : Inv s) (g : String) (ig : IGraph) :
    RefS (addGraph g ig s) (ARef.addGraph g ig (absS s)) := by
  unfold addGraph ARef.addGraph
  simp only [delIfPresent_eq]
  split
  · exact ⟨rfl, absS_delGraphNl s h g⟩
  · exact ⟨rfl, by rw [absS_appendGraph _ (inv_delGraphNl s g h), absS_delGraphNl s h g]⟩

theorem refS_addGraphDirect (s : Store) (h : Inv s) (g : String) (ig : IGraph) :
    RefS (addGraphDirect g ig s) (ARef.addGraphDirect g ig (absS s)) := by
  unfold addGraphDirect ARef.addGraphDirect
  exact ⟨rfl, by rw [delIfPresent_eq, absS_appendGraph _ (inv_delGraphNl s g h), absS_delGraphNl s h g]⟩

theorem absS_edges_filter_kIn (s : Store) (h : Inv s) (g : String) :
    (absS s).edges.filter (fun e => ARef.kIn g e.1 && ARef.kIn g e.2.1) =
      (edgesOf s g).map (fun e => (keyOf s.nodes e.a, keyOf s.nodes e.b, e.attrs)) := by
  rw [absS_edges]
  unfold edgesOf
  apply List.filter_map_pred
  intro e he
  simp only [kIn_keyOf s h g _ (h.2.2 e he).1, kIn_keyOf s h g _ (h.2.2 e he).2]

/-- `extract_graph` names the ends of a link by position in the graph's node list: the node at the position of internal id `i`,
    once re-tagged with `GraphID = v`, has the key (`v`, NodeID of the node `i` names) -/
theorem key_at_pos (s : Store) (h : Inv s) (g : String) (v : Val) (i : Nat) (hi : idIn (nodesOf s g) i = true) :
    ((((nodesOf s g).map (AMap.set graphId v ∘ (·.attrs)))[posOf (nodesOf s g) i]?).map keyP).getD (none, none) =
      (some v, (keyOf s.nodes i).2) := by
  obtain ⟨n, hn, rfl⟩ := idIn_iff.1 hi
  have hnd : ((nodesOf s g).map (·.iid)).Nodup := List.Nodup.sublist (List.Sublist.map _ List.filter_sublist) h.1
  rw [List.getElem?_map, posOf, ← List.find?_eq_getElem?_findIdx, List.find?_key_of_nodup (·.iid) hnd hn,
    keyOf_mem s h n (List.mem_filter.1 hn).1]
  exact keyP_set_graphId v n.attrs

theorem refS_cloneGraph (s : Store) (h : Inv s) (g g2 : String) :
    RefS (cloneGraph g g2 s) (ARef.cloneGraph g g2 (absS s)) := by
  unfold cloneGraph ARef.cloneGraph extractGraph
  simp only [nodesOf_absS, List.length_map]
  by_cases hl : (nodesOf s g).length = 0
  · simp only [hl, if_true]
    exact refS_err s _
  · simp only [hl, if_false]
    unfold addGraph
    simp only [List.any_map, Function.comp_def, delIfPresent_eq]
    split
    · exact ⟨rfl, absS_delGraphNl s h g2⟩
    · refine ⟨rfl, ?_⟩
      simp only
      rw [absS_appendGraph _ (inv_delGraphNl s g2 h), absS_delGraphNl s h g2]
      unfold ARef.appendK
      rw [absS_edges_filter_kIn s h g]
      simp only [ARef.mk.injEq, List.map_map, true_and]
      congr 1
      apply List.map_congr_left
      intro e he
      simp only [edgesOf, List.mem_filter, Bool.and_eq_true] at he
      simp only [Function.comp]
      -- both sides re-attach a copied link between (new id, old NodeID) keys: the store through positions, the reference by key
      rw [key_at_pos s h g _ e.a he.2.1, key_at_pos s h g _ e.b he.2.2]

end FimVerif.Store
