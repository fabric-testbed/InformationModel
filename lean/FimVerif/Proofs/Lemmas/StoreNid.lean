import FimVerif.Proofs.Lemmas.StoreClone
import FimVerif.Proofs.Lemmas.StoreFrameOps
/-! C05: NodeID uniqueness within a graph (`UniqueNid`), what appending a graph does to it, and the operations that write no
    key (`Op.keepsKeys`). -/
namespace FimVerif.Store
open FimVerif FimVerif.Gen.StoreConsts

def nidA (n : SNode) : Option Val := AMap.get nodeId n.attrs

/-- within graph `g` no two nodes carry the same `NodeID` (whatever their classes) -/
def UniqueNid (s : Store) (g : String) : Prop := ((nodesOf s g).map nidA).Nodup

def Shrinks (s s' : Store) : Prop := ∀ g, List.Sublist ((nodesOf s' g).map nidA) ((nodesOf s g).map nidA)

theorem Shrinks.unique {s s' : Store} (h : Shrinks s s') (g : String) (hu : UniqueNid s g) : UniqueNid s' g :=
  List.Nodup.sublist (h g) hu

theorem nids_appendGraph (s : Store) (g : String) (ns : List Props) (es : List (Nat × Nat × Props))
    (hns : ∀ a ∈ ns, AMap.get graphId a = some (.str g)) (g' : String) :
    (nodesOf (appendGraph ns es s) g').map nidA =
      (nodesOf s g').map nidA ++ (if g' = g then ns.map (AMap.get nodeId) else []) := by
  simp only [nodesOf, appendGraph, List.filter_append, List.map_append]
  congr 1
  by_cases e : g' = g
  · subst e
    rw [filter_relabel_all g' _ _ hns, if_pos rfl]
    exact map_attrs_relabel (AMap.get nodeId) _ _
  · rw [if_neg e, filter_relabel_none g' _ ns fun a ha => hns a ha ▸ str_ne e]; rfl

theorem unique_appendGraph (s1 : Store) (g : String) (ns : List Props) (es : List (Nat × Nat × Props))
    (hns : ∀ a ∈ ns, AMap.get graphId a = some (.str g)) (hall : ∀ g', UniqueNid s1 g')
    (hnew : ((nodesOf s1 g).map nidA ++ ns.map (AMap.get nodeId)).Nodup) : ∀ g', UniqueNid (appendGraph ns es s1) g' := by
  intro g'
  unfold UniqueNid
  rw [nids_appendGraph s1 g ns es hns g']
  by_cases e : g' = g
  · subst e; rw [if_pos rfl]; exact hnew
  · rw [if_neg e, List.append_nil]; exact hall g'

/-- the operation writes neither `GraphID` nor `NodeID` of a stored node, and an imported graph's own
    NodeIDs are pairwise distinct -/
def Op.keepsKeys : Op → Bool
  | .addNode _ _ _ (some p) => !AMap.has graphId p && !AMap.has nodeId p
  | .updateNodeProperty _ _ k _ => k != graphId && k != nodeId
  | .updateNodesProperty _ k _ => k != graphId && k != nodeId
  | .updateNodeProperties _ _ p => !AMap.has graphId p && !AMap.has nodeId p
  | .addGraph _ ig => decide ((ig.nodes.map (AMap.get nodeId)).Nodup)
  | .addGraphDirect g ig => ig.nodes.all (fun a => AMap.get graphId a == some (.str g)) && decide ((ig.nodes.map (AMap.get nodeId)).Nodup)
  | .mergeNodes _ _ _ (some pol) => polKeeps graphId pol && polKeeps nodeId pol
  | _ => true

theorem Op.keepsKeys_addNode (g nid label : String) (props : Option Props) :
    (Op.addNode g nid label props).keepsKeys = (!AMap.has graphId (props.getD []) && !AMap.has nodeId (props.getD [])) := by
  cases props <;> rfl

end FimVerif.Store
