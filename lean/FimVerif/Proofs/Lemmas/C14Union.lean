import FimVerif.Proofs.Lemmas.C14Step
/-! C14: a merged graph is well formed (ids once, one edge per pair, edges between its nodes: `merge_WF`); sequences of merges
(`mergeAll`) and the provenance they should leave (`contributors`). -/
namespace FimVerif.Cbm

def Graph.EdgesUnique (g : Graph) : Prop := g.edges.Pairwise (fun e f => f.joins e.a e.b = false)
instance (g : Graph) : Decidable g.EdgesUnique := by unfold Graph.EdgesUnique; infer_instance

theorem ids_mergeCore (c t : Graph) (aid : String) (done : List String) :
    (mergeCore c t aid done true).ids = c.ids ++ t.ids.filter (fun i => !c.ids.contains i) := by
  unfold Graph.ids
  rw [mergeCore_nodes, List.map_append, List.map_map]
  congr 1
  · apply List.map_congr_left
    intro n _
    exact mergeAt_id t aid done n
  · rw [List.filter_map]
    rfl

theorem mem_ids_mergeCore {c t : Graph} {aid : String} {done : List String} {i : String} :
    i ∈ (mergeCore c t aid done true).ids ↔ i ∈ c.ids ∨ i ∈ t.ids := by
  rw [ids_mergeCore, List.mem_append, List.mem_filter]
  by_cases h : i ∈ c.ids <;> simp [h]

theorem nodup_mergeCore {c t : Graph} {aid : String} {done : List String} (hc : c.ids.Nodup) (ht : t.ids.Nodup) :
    (mergeCore c t aid done true).ids.Nodup := by
  rw [ids_mergeCore]
  refine List.nodup_append.mpr ⟨hc, List.Pairwise.filter _ ht, ?_⟩
  intro x hx y hy hxy
  subst hxy
  have := (List.mem_filter.mp hy).2
  simp [hx] at this

theorem edgesUnique_mergeCore {c t : Graph} {aid : String} {done : List String} (hc : c.EdgesUnique) (ht : t.EdgesUnique) :
    (mergeCore c t aid done true).EdgesUnique := by
  unfold Graph.EdgesUnique
  rw [mergeCore_edges]
  refine List.pairwise_append.mpr ⟨hc, List.Pairwise.filter _ ht, ?_⟩
  intro e he f hf
  have hf2 : (!c.hasEdge f.a f.b) = true := by
    have := (List.mem_filter.mp hf).2
    simpa using this
  cases hj : f.joins e.a e.b with
  | false => rfl
  | true =>
    have : c.hasEdge f.a f.b = true := by
      rw [joins_sym_eq hj c.hasEdge (hasEdge_swap c)]
      exact List.any_eq_true.mpr ⟨e, he, joins_iff.mpr (.inl ⟨rfl, rfl⟩)⟩
    rw [this] at hf2
    cases hf2

theorem closed_mergeCore {c t : Graph} {aid : String} {done : List String} (hc : c.Closed) (ht : t.Closed) :
    (mergeCore c t aid done true).Closed := by
  intro e he
  rw [mem_ids_mergeCore, mem_ids_mergeCore]
  simp only [mergeCore_edges, List.mem_append, List.mem_filter] at he
  rcases he with h | h
  · exact ⟨.inl (hc e h).1, .inl (hc e h).2⟩
  · exact ⟨.inr (ht e h.1).1, .inr (ht e h.1).2⟩

def mergeAll (c : Graph) : List Adm → Option Graph
  | [] => some c
  | a :: as =>
    match mergeN c a with
    | (none, g) => mergeAll g as
    | (some _, _) => none

/-- the graph ids of the models that have element `i`, in the order of the list: what the element's provenance should be -/
def contributors (as : List Adm) (i : String) : List String :=
  (as.filter (fun a => a.g.has i)).map (·.id)

/-- `a.g.WF`, field for field -/
structure Adm.WF (a : Adm) : Prop where
  nodup : a.g.ids.Nodup
  closed : a.g.Closed
  edges : a.g.EdgesUnique

instance (a : Adm) : Decidable a.WF :=
  decidable_of_iff (a.g.ids.Nodup ∧ a.g.Closed ∧ a.g.EdgesUnique) ⟨fun ⟨x, y, z⟩ => ⟨x, y, z⟩, fun h => ⟨h.nodup, h.closed, h.edges⟩⟩

/-- what the NetworkX store guarantees of every graph it holds: node ids once, connections between nodes of the graph, at most one per
unordered pair (an `nx.Graph`, not a multigraph) -/
structure Graph.WF (g : Graph) : Prop where
  nodup : g.ids.Nodup
  closed : g.Closed
  edges : g.EdgesUnique

theorem Graph.empty_WF : Graph.empty.WF :=
  ⟨by simp [Graph.empty, Graph.ids], by intro e he; simp [Graph.empty] at he, by simp [Graph.EdgesUnique, Graph.empty]⟩

theorem merge_WF {c : Graph} {a : Adm} {g : Graph} (hc : c.WF) (ha : a.WF) (h : mergeN c a = (none, g)) : g.WF := by
  have hs := merge_step hc.closed h
  rw [hs.eq]
  exact ⟨nodup_mergeCore hc.nodup (by rw [ids_stamped]; exact ha.nodup),
         closed_mergeCore hc.closed (fun e he => by rw [ids_stamped]; exact ha.closed e he),
         edgesUnique_mergeCore hc.edges ha.edges⟩

theorem mergeAll_cons_some {c : Graph} {a : Adm} {as : List Adm} {g : Graph} (h : mergeAll c (a :: as) = some g) :
    ∃ g', mergeN c a = (none, g') ∧ mergeAll g' as = some g := by
  unfold mergeAll at h
  split at h
  · rename_i g' hm
    exact ⟨g', hm, h⟩
  · cases h

theorem contributors_cons (a : Adm) (as : List Adm) (i : String) :
    contributors (a :: as) i = (if a.g.has i then [a.id] else []) ++ contributors as i := by
  unfold contributors
  by_cases h : a.g.has i = true <;> simp [h]

theorem any_has_eq (live : List Adm) (i : String) : live.any (fun a => a.g.has i) = !(contributors live i).isEmpty := by
  unfold contributors
  induction live with
  | nil => rfl
  | cons a l ih => rw [List.any_cons, List.filter_cons]; cases a.g.has i <;> simp [ih]

theorem contributors_append (l : List Adm) (a : Adm) (i : String) :
    contributors (l ++ [a]) i = contributors l i ++ (if a.g.has i then [a.id] else []) := by
  unfold contributors
  rw [List.filter_append, List.map_append]
  by_cases h : a.g.has i = true <;> simp [h]

theorem contributors_filter (live : List Adm) (gid : String) (i : String) :
    contributors (live.filter (fun a => a.id != gid)) i = (contributors live i).filter (fun x => x != gid) := by
  unfold contributors
  rw [List.filter_map, List.filter_filter, List.filter_filter]
  congr 1
  apply List.filter_congr
  intro a _
  simp [Bool.and_comm]

theorem contributors_nodup {live : List Adm} (h : (live.map (·.id)).Nodup) (i : String) : (contributors live i).Nodup := by
  unfold contributors
  exact List.Pairwise.map _ (fun _ _ h => h) (List.Pairwise.filter _ (List.pairwise_map.mp h))

end FimVerif.Cbm
