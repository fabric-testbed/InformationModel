import FimVerif.Proofs.Lemmas.C20Sched
/-! Accounting along a schedule.  A quantity of the shared state that every instruction changes in a way that can be read off the
instruction is, after any schedule, the fold of these changes over the executed trace (`run_fold`); the number of nodes per id space
and graph, the number of nodes per graph and the identity of the store are such quantities. -/
namespace FimVerif.Sched
open FimVerif.Lock

/-- the micro-instructions executed along a schedule, in the order in which they were executed (`step t s` is `some _` only when
thread `t` has an instruction left, so the `[]` arm of the inner `match` is never taken) -/
def trace : List Nat → Sys → List Micro
  | [], _ => []
  | t :: ts, s =>
    match step t s with
    | none => trace ts s
    | some s' => (match (s.thr t).prog with | m :: _ => [m] | [] => []) ++ trace ts s'

/-- number of nodes of id space `c` owned by `g` that the store should hold: what was inserted since the last deletion that
covered them.  Defined from the executed instructions alone (not from the node list). -/
def ledgerStep (c g : Nat) (n : Nat) : Micro → Nat
  | .add c' g' k => if c' = c ∧ g' = g then n + k else n
  | .addFrom c' g' _ k => if c' = c ∧ g' = g then n + k else n
  | .ins c' g' _ => if c' = c ∧ g' = g then n + 1 else n
  | .del g' => if g' = g then 0 else n
  | .delSpace c' => if c' = c then 0 else n
  | .delAll => 0
  | .reinit => 0
  | _ => n

def ledger (c g : Nat) (tr : List Micro) : Nat := tr.foldl (ledgerStep c g) 0

def cntCG (c g : Nat) (l : List Node) : Nat := (l.filter fun n => n.space == c && n.owner == g).length

def cnt (g : Nat) (l : List Node) : Nat := (l.filter fun n => n.owner == g).length

/-- single-node deletions are the one instruction whose effect on the count cannot be read off the instruction -/
def noRm : Micro → Bool
  | .rmOne _ => false
  | _ => true

theorem length_filter_addIds (p : Node → Bool) (c g : Nat) (b : Bool) (hb : ∀ i, p ⟨c, i, g⟩ = b) (k lo : Nat) (l : List Node) :
    ((addIds c g lo k l).filter p).length = (if b then k else 0) + (l.filter p).length := by
  fun_induction addIds c g lo k l
  next => simp
  next lo k l ih => rw [ih, List.filter_cons, hb lo]; cases b <;> simp <;> omega

theorem cnt_addIds (c g g' k lo : Nat) (l : List Node) :
    cnt g' (addIds c g lo k l) = (if g = g' then k else 0) + cnt g' l := by
  simpa [cnt] using length_filter_addIds (fun n => n.owner == g') c g (g == g') (fun _ => rfl) k lo l

theorem cntCG_addIds (c g c' g' k lo : Nat) (l : List Node) :
    cntCG c g (addIds c' g' lo k l) = if c' = c ∧ g' = g then cntCG c g l + k else cntCG c g l := by
  unfold cntCG
  rw [length_filter_addIds _ c' g' (c' == c && g' == g) (fun _ => rfl)]
  by_cases h : c' = c ∧ g' = g <;> simp [h, Nat.add_comm]

theorem cntCG_filter (c g : Nat) (r : Node → Bool) (P : Prop) [Decidable P] (hb : ∀ i, r ⟨c, i, g⟩ = true ↔ ¬ P) (l : List Node) :
    cntCG c g (l.filter r) = if P then 0 else cntCG c g l := by
  unfold cntCG
  -- on the counted nodes the test is `¬ P`; on the others the conjunction is false either way
  rw [List.filter_filter, List.filter_congr (q := fun n => (n.space == c && n.owner == g) && !decide P) fun ⟨_, i, _⟩ _ => by
    cases hn : (_ == c && _ == g)
    · rfl
    · simp only [Bool.and_eq_true, beq_iff_eq] at hn
      obtain ⟨rfl, rfl⟩ := hn
      exact congrArg _ (Bool.eq_iff_iff.2 ((hb i).trans (by simp)))]
  by_cases h : P <;> simp [h]

/-- a shell's creation guard fires only on an empty store: the node list is the same afterwards -/
theorem effectT_ctor_nodes (w : Bool) (reg tmp : Nat) (sh : Shared) : (effectT (.ctor w) reg tmp sh).1.nodes = sh.nodes := by
  simp only [effectT, effect]
  split
  · rename_i h; exact (List.isEmpty_iff.mp (Bool.and_eq_true_iff.mp h).2).symm
  · rfl

theorem effectT_cnt (g : Nat) (m : Micro) (reg tmp : Nat) (sh : Shared) (hd : isDelete m = false) :
    cnt g (effectT m reg tmp sh).1.nodes = addsOf g [m] + cnt g sh.nodes := by
  cases m with
  | add | addFrom | ins => exact cnt_addIds ..
  | del | delSpace | delAll | rmOne | reinit => cases hd
  | ctor w => rw [effectT_ctor_nodes]; exact (Nat.zero_add _).symm
  | _ => exact (Nat.zero_add _).symm

theorem effectT_ledger (c g : Nat) (m : Micro) (reg tmp : Nat) (sh : Shared) (hm : noRm m = true) :
    cntCG c g (effectT m reg tmp sh).1.nodes = ledgerStep c g (cntCG c g sh.nodes) m := by
  cases m with
  | add | addFrom | ins => exact cntCG_addIds ..
  | del g' => exact cntCG_filter c g _ _ (fun _ => by exact bne_iff_ne.trans ne_comm) _
  | delSpace c' => exact cntCG_filter c g _ _ (fun _ => by exact bne_iff_ne.trans ne_comm) _
  | ctor w => rw [effectT_ctor_nodes]; rfl
  | rmOne => cases hm
  | _ => rfl

theorem effectT_gen (m : Micro) (r t : Nat) (sh : Shared) (h : m ≠ .ctor true ∧ m ≠ .reinit) :
    (effectT m r t sh).1.gen = sh.gen := by
  cases m with
  | ctor w => cases w with
    | false => rfl
    | true => exact absurd rfl h.1
  | reinit => exact absurd rfl h.2
  | _ => rfl

theorem run_fold {α : Type} (φ : Shared → α) (δ : α → Micro → α) (ok : Micro → Prop)
    (h : ∀ m reg tmp sh, ok m → φ (effectT m reg tmp sh).1 = δ (φ sh) m) (sched : List Nat) :
    ∀ s : Sys, (∀ t, ∀ m ∈ (s.thr t).prog, ok m) → φ (run sched s).sh = (trace sched s).foldl δ (φ s.sh) := by
  intro s hs
  fun_induction run sched s with
  | case1 => rfl
  | case2 _ _ _ hst ih => rw [trace, hst]; exact ih hs
  | case3 t _ s s' hst ih =>
    obtain ⟨m, rest, hp, _, _, _, hsh, hthr⟩ := step_eq hst
    rw [trace, hst, hp, ih fun u x hx => hs u x (mem_prog_upd hp (hthr ▸ hx)), hsh, h m _ _ _ (hs t m (hp ▸ List.mem_cons_self))]
    rfl

/-! What was executed and what is still to be executed are together the programs: for the number of insertions into `g`,
summed over the first `n` threads. -/

def total (g : Nat) (thr : Nat → Thread) (n : Nat) : Nat := ((List.range n).map fun t => addsOf g (thr t).prog).sum

theorem total_succ (g : Nat) (thr : Nat → Thread) (n : Nat) : total g thr (n + 1) = total g thr n + addsOf g (thr n).prog := by
  simp [total, List.range_succ]

theorem addsOf_cons (g : Nat) (m : Micro) (p : List Micro) : addsOf g (m :: p) = addsOf g [m] + addsOf g p := by
  cases m <;> simp [addsOf]

theorem total_step (g : Nat) {thr thr' : Nat → Thread} {t r r' : Nat} {m : Micro} {rest : List Micro}
    (hthr : thr' = upd thr t ⟨rest, r, r'⟩) (hp : (thr t).prog = m :: rest) :
    ∀ n, total g thr' n + (if t < n then addsOf g [m] else 0) = total g thr n
  | 0 => rfl
  | n + 1 => by
    have ih := total_step g hthr hp n
    subst hthr
    rw [total_succ, total_succ]
    by_cases e : n = t
    · subst e; rw [upd_same, hp, addsOf_cons g m rest]; simp at ih ⊢; omega
    · rw [upd_other e]; split at ih <;> split <;> omega

theorem trace_total (g n : Nat) (sched : List Nat) : ∀ (s : Sys) (a : Nat), (∀ t, n ≤ t → (s.thr t).prog = []) →
    (trace sched s).foldl (fun k m => addsOf g [m] + k) a + total g (run sched s).thr n = a + total g s.thr n := by
  intro s a hs
  fun_induction run sched s generalizing a with
  | case1 => rfl
  | case2 _ _ _ hst ih => rw [trace, hst]; exact ih a hs
  | case3 t _ s s' hst ih =>
    obtain ⟨m, rest, hp, _, _, _, _, hthr⟩ := step_eq hst
    have ht : t < n := Nat.lt_of_not_le fun hn => nomatch hp.symm.trans (hs t hn)
    have := ih (addsOf g [m] + a) fun u hu => by rw [hthr, upd_other (by omega)]; exact hs u hu
    have := total_step g hthr hp n
    rw [if_pos ht] at this
    rw [trace, hst, hp]
    simp only [List.singleton_append, List.foldl_cons]
    omega

theorem total_finished {g : Nat} {thr : Nat → Thread} (h : ∀ t, (thr t).prog = []) : ∀ n, total g thr n = 0
  | 0 => rfl
  | n + 1 => by rw [total_succ, total_finished h n, h n]; rfl

theorem total_init (g : Nat) : ∀ progs : List (List Micro), total g (init progs).thr progs.length = (progs.map (addsOf g)).sum
  | [] => rfl
  | p :: ps => by
    -- thread `t + 1` of `p :: ps` is thread `t` of `ps`
    simp only [total, List.length_cons, List.range_succ_eq_map, List.map_cons, List.map_map, List.sum_cons, ← total_init g ps]
    rfl

theorem ledger_append_reset (c g : Nat) (a b : List Micro) (m : Micro) (h : ∀ n, ledgerStep c g n m = 0) :
    ledger c g (a ++ m :: b) = ledger c g b := by
  unfold ledger
  rw [List.foldl_append, List.foldl_cons, h]

end FimVerif.Sched
