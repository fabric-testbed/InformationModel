import FimVerif.Model.GraphML
import FimVerif.Proofs.Lemmas.ListAux
/-! What the list combinators (`mapE`, `mapOpt`, `forE`), the dict update and the document-level functions of `Model/GraphML.lean` do on
the inputs the round trips meet. -/
namespace FimVerif.C01
open FimVerif.GraphML

theorem mapE_ok_map {α β ε : Type} (f : α → Except ε β) (g : α → β) :
    ∀ (l : List α), (∀ a ∈ l, f a = .ok (g a)) → mapE f l = .ok (l.map g)
  | [], _ => rfl
  | a :: t, h => by
    have h1 := h a List.mem_cons_self
    have h2 := mapE_ok_map f g t (fun x hx => h x (List.mem_cons_of_mem _ hx))
    simp [mapE, h1, h2]

theorem mapE_map_ok {α β ε : Type} (f : β → Except ε α) (m : α → β) :
    ∀ (l : List α), (∀ a ∈ l, f (m a) = .ok a) → mapE f (l.map m) = .ok l
  | [], _ => rfl
  | a :: t, h => by
    have h1 := h a List.mem_cons_self
    have h2 := mapE_map_ok f m t (fun x hx => h x (List.mem_cons_of_mem _ hx))
    simp [mapE, h1, h2]

theorem mapE_mem {α β ε : Type} (f : α → Except ε β) (l : List α) (l' : List β) (h : mapE f l = .ok l') :
    ∀ b ∈ l', ∃ a ∈ l, f a = .ok b := by
  fun_induction mapE f l generalizing l' with
  | case1 => cases h; intro b hb; cases hb
  | case2 a t e hfa => cases h
  | case3 a t b hfa e hft ih => cases h
  | case4 a t b0 hfa bs hft ih =>
    cases h
    intro b hb
    rcases List.mem_cons.mp hb with rfl | hb'
    · exact ⟨a, List.mem_cons_self, hfa⟩
    · obtain ⟨x, hx, hfx⟩ := ih bs hft b hb'
      exact ⟨x, List.mem_cons_of_mem _ hx, hfx⟩

theorem mapE_congr_of_ok {α β ε : Type} (g : α → Except ε α) (f : α → Except ε β)
    (hfg : ∀ a a', g a = .ok a' → f a' = f a) (l l' : List α) (h : mapE g l = .ok l') : mapE f l' = mapE f l := by
  fun_induction mapE g l generalizing l' with
  | case1 => cases h; rfl
  | case2 a t e hga => cases h
  | case3 a t b hga e hgt ih => cases h
  | case4 a t a' hga t' hgt ih =>
    cases h
    simp only [mapE, hfg a a' hga, ih t' hgt]

theorem mapE_map_comm {α α' β β' ε : Type} (g : α → Except ε β) (g' : α' → Except ε β') (m : α → α') (m' : β → β')
    (h : ∀ a, g' (m a) = (g a).map m') : ∀ (l : List α), mapE g' (l.map m) = (mapE g l).map (List.map m')
  | [] => rfl
  | a :: t => by
    simp only [List.map_cons, mapE, h a, mapE_map_comm g g' m m' h t]
    cases g a with
    | error e => rfl
    | ok b =>
      cases mapE g t with
      | error e => rfl
      | ok bs => rfl

theorem mapOpt_mem {α β : Type} (f : α → Option β) (l : List α) (r : List β) (h : mapOpt f l = some r) :
    ∀ x ∈ l, ∃ v, f x = some v ∧ v ∈ r := by
  fun_induction mapOpt f l generalizing r with
  | case1 => intro x hx; cases hx
  | case2 a t b bs hft hfa ih =>
    cases h
    intro x hx
    rcases List.mem_cons.mp hx with rfl | hx'
    · exact ⟨b, hfa, List.mem_cons_self⟩
    · obtain ⟨v, hv, hm⟩ := ih bs hft x hx'
      exact ⟨v, hv, List.mem_cons_of_mem _ hm⟩
  | case3 a t h1 ih => cases h

theorem forE_ok_iff {α : Type} (f : α → Except String Unit) : ∀ (l : List α), forE f l = .ok () ↔ ∀ a ∈ l, f a = .ok ()
  | [] => by simp [forE]
  | a :: t => by
    have ih := forE_ok_iff f t
    unfold forE
    cases h : f a with
    | error e => simp [h]
    | ok u => simp [h, ih]

theorem forE_map {α β : Type} (m : α → β) (f : β → Except String Unit) : ∀ l : List α, forE f (l.map m) = forE (f ∘ m) l
  | [] => rfl
  | a :: t => by
    simp only [List.map_cons, forE, Function.comp_apply]
    cases f (m a) with
    | error e => rfl
    | ok u => exact forE_map m f t

/-- `d[k] = v` on an insertion-ordered dict: in place when `k` is present, appended otherwise (`Attrs.set`, `JObj.set` and
    `DStore.put` are this function at their key and value types) -/
def dictSet {α β : Type} [DecidableEq α] : List (α × β) → α → β → List (α × β)
  | [], k, v => [(k, v)]
  | (k', v') :: t, k, v => if k' = k then (k, v) :: t else (k', v') :: dictSet t k v

section
variable {α β : Type} [DecidableEq α]

theorem lookup_dictSet : ∀ (l : List (α × β)) (k : α) (v : β), (dictSet l k v).lookup k = some v
  | [], k, v => by simp [dictSet]
  | (k', v') :: t, k, v => by
    by_cases h : k' = k
    · simp [dictSet, h]
    · simp only [dictSet, h, if_false, List.lookup_cons, beq_false_of_ne (Ne.symm h)]
      exact lookup_dictSet t k v

theorem lookup_dictSet_ne : ∀ (l : List (α × β)) (k k' : α) (v : β), k' ≠ k → (dictSet l k v).lookup k' = l.lookup k'
  | [], k, k', v, h => by simp [dictSet, List.lookup, beq_false_of_ne h]
  | (k0, v0) :: t, k, k', v, h => by
    by_cases h0 : k0 = k
    · subst h0
      simp [dictSet, List.lookup, beq_false_of_ne h]
    · simp only [dictSet, h0, if_false, List.lookup_cons]
      cases k' == k0 with
      | true => rfl
      | false => exact lookup_dictSet_ne t k k' v h

theorem dictSet_not_mem : ∀ (l : List (α × β)) (k : α) (v : β), k ∉ l.map (·.1) → dictSet l k v = l ++ [(k, v)]
  | [], _, _, _ => rfl
  | (k', v') :: t, k, v, h => by
    simp only [List.map_cons, List.mem_cons, not_or] at h
    simp only [dictSet, if_neg (Ne.symm h.1), dictSet_not_mem t k v h.2, List.cons_append]

theorem filter_dictSet (p : α → Bool) : ∀ (l : List (α × β)) (k : α) (v : β), p k = false →
    (dictSet l k v).filter (fun q => p q.1) = l.filter (fun q => p q.1)
  | [], k, v, h => by simp [dictSet, h]
  | (k', v') :: t, k, v, h => by
    by_cases h0 : k' = k
    · subst h0
      simp [dictSet, h]
    · simp only [dictSet, h0, if_false, List.filter_cons, filter_dictSet p t k v h]

end

theorem Attrs.set_eq (a : Attrs) (k : String) (v : Val) : a.set k v = dictSet a k v := by
  induction a with
  | nil => rfl
  | cons p t ih => simp only [Attrs.set, dictSet, ih]

theorem JObj.set_eq {κ : Type} (o : JObj κ) (k : String) (x : JV κ) : o.set k x = dictSet o k x := by
  induction o with
  | nil => rfl
  | cons p t ih => simp only [JObj.set, dictSet, ih]

theorem DStore.put_eq {β : Type} (l : List (Val × β)) (k : Val) (v : β) : DStore.put l k v = dictSet l k v := by
  induction l with
  | nil => rfl
  | cons p t ih => simp only [DStore.put, dictSet, ih]

theorem Attrs.get_set (a : Attrs) (k : String) (v : Val) : (Attrs.set a k v).get? k = some v := by
  rw [Attrs.set_eq]; exact lookup_dictSet a k v

theorem Attrs.get_set_ne (a : Attrs) (k k' : String) (v : Val) (h : k' ≠ k) : (Attrs.set a k v).get? k' = a.get? k' := by
  rw [Attrs.set_eq]; exact lookup_dictSet_ne a k k' v h

theorem Attrs.set_not_mem (a : Attrs) (k : String) (v : Val) (h : k ∉ a.map (·.1)) : Attrs.set a k v = a ++ [(k, v)] := by
  rw [Attrs.set_eq, dictSet_not_mem a k v h]

theorem Attrs.val_of_get (a : Attrs) (k : String) (v0 : Val) (h : a.get? k = some v0) (hnd : (a.map (·.1)).Nodup) :
    ∀ p ∈ a, p.1 = k → p.2 = v0 := fun _ hp hk =>
  congrArg Prod.snd (List.eq_of_nodup_map (·.1) hnd hp (List.mem_of_lookup_eq_some h) hk)

theorem Attrs.set_present (k : String) {v0 : Val} (v : Val) : ∀ (a : Attrs), a.get? k = some v0 → (a.map (·.1)).Nodup →
    a.set k v = a.map (fun p => (p.1, if p.1 = k then v else p.2))
  | [], h, _ => by cases h
  | (k', v') :: t, h, hnd => by
    simp only [List.map_cons, List.nodup_cons] at hnd
    by_cases hk : k' = k
    · subst hk
      simp only [Attrs.set, if_true, List.map_cons, List.cons.injEq, true_and]
      refine ((List.map_congr_left fun p hp => ?_).trans (List.map_id t)).symm
      have : p.1 ≠ k' := fun e => hnd.1 (e ▸ List.mem_map_of_mem (f := (·.1)) hp)
      simp only [this, if_false, id]
    · have hb : (k == k') = false := by simpa using fun e : k = k' => hk e.symm
      have h' : Attrs.get? t k = some v0 := by simpa [Attrs.get?, List.lookup_cons, hb] using h
      simp only [Attrs.set, hk, if_false, List.map_cons, Attrs.set_present k v t h' hnd.2]

theorem foldl_allocStep_none (specs : List (Option KeySpec)) : specs.foldl allocStep none = none := by
  induction specs with
  | nil => rfl
  | cons s t ih => simpa [List.foldl, allocStep] using ih

theorem mem_insertKey (t : List KeySpec) (k x : KeySpec) : x ∈ insertKey t k ↔ x ∈ t ∨ x = k := by
  unfold insertKey
  split
  · rename_i hk
    exact ⟨Or.inl, fun h => h.elim id fun e => e ▸ hk⟩
  · simp

theorem alloc_spec : ∀ (specs : List (Option KeySpec)) (t0 tbl : List KeySpec),
    specs.foldl allocStep (some t0) = some tbl → (∀ k ∈ t0, k ∈ tbl) ∧ ∀ s ∈ specs, ∃ k, s = some k ∧ k ∈ tbl
  | [], t0, tbl, h => by
    simp at h; subst h
    exact ⟨fun _ hk => hk, fun s hs => by cases hs⟩
  | s :: rest, t0, tbl, h => by
    cases s with
    | none =>
      simp [List.foldl, allocStep, foldl_allocStep_none] at h
    | some k =>
      simp only [List.foldl, allocStep] at h
      obtain ⟨h2, h3⟩ := alloc_spec rest (insertKey t0 k) tbl h
      refine ⟨fun x hx => h2 x ((mem_insertKey t0 k x).2 (Or.inl hx)), fun s hs => ?_⟩
      rcases List.mem_cons.mp hs with rfl | hs'
      · exact ⟨k, rfl, h2 k ((mem_insertKey t0 k k).2 (Or.inr rfl))⟩
      · exact h3 s hs'

theorem mem_docKeys (tbl : List KeySpec) (k : GKey) : k ∈ docKeys tbl ↔ tbl[k.id]? = some k.spec := by
  unfold docKeys
  rw [List.mem_reverse, List.mem_map]
  exact ⟨fun ⟨_, hp, e⟩ => e ▸ List.mem_zipIdx_iff_getElem?.1 hp, fun h => ⟨(k.spec, k.id), List.mem_zipIdx_iff_getElem?.2 h, rfl⟩⟩

theorem lookupKey_docKeys (tbl : List KeySpec) (k : KeySpec) (h : k ∈ tbl) :
    lookupKey (docKeys tbl) (tbl.idxOf k) = some k := by
  -- the key ids are the positions, so no two key elements share one, and `k` stands at its own position
  have hnd : ((docKeys tbl).reverse.map (·.id)).Nodup := by
    rw [docKeys, List.reverse_reverse, List.map_map]
    exact (List.zipIdx_map_snd 0 tbl ▸ List.nodup_range' : (tbl.zipIdx.map Prod.snd).Nodup)
  have hm : (⟨tbl.idxOf k, k⟩ : GKey) ∈ docKeys tbl :=
    (mem_docKeys tbl _).2 ((List.getElem?_eq_getElem (List.idxOf_lt_length_of_mem h)).trans (congrArg some (List.getElem_idxOf _)))
  rw [lookupKey, List.find?_key_of_nodup (·.id) hnd (List.mem_reverse.2 hm)]
  rfl

theorem decodeVal_of_xmlType (v : Val) (t : KTy) (h : xmlType v = some t) : decodeVal t v = .ok v := by
  cases v <;> simp [xmlType] at h <;> subst h <;> simp [decodeVal]

def Covers (tbl : List KeySpec) (sc : Scope) (a : Attrs) : Prop :=
  ∀ p ∈ a, ∃ t, xmlType p.2 = some t ∧ (⟨p.1, t, sc⟩ : KeySpec) ∈ tbl

theorem Covers.mem_of_get {tbl : List KeySpec} {sc : Scope} {a : Attrs} (h : Covers tbl sc a) {k : String} {v : Val} {ty : KTy}
    (hg : a.get? k = some v) (hty : xmlType v = some ty) : (⟨k, ty, sc⟩ : KeySpec) ∈ tbl := by
  obtain ⟨t, ht, hm⟩ := h _ (List.mem_of_lookup_eq_some hg)
  exact Option.some.inj (ht.symm.trans hty) ▸ hm

theorem decodeDataFrom_dataOf (tbl : List KeySpec) (sc : Scope) : ∀ (a acc : Attrs), Covers tbl sc a →
    (a.map (·.1)).Nodup → (∀ p ∈ a, p.1 ∉ acc.map (·.1)) →
    decodeDataFrom (docKeys tbl) acc (dataOf tbl sc a) = .ok (acc ++ a)
  | [], acc, _, _, _ => by simp [dataOf, decodeDataFrom]
  | p :: rest, acc, hs, hn, hd => by
    obtain ⟨t, ht, hmem⟩ := hs p List.mem_cons_self
    have hn' := List.nodup_cons.mp hn
    have hset := Attrs.set_not_mem acc p.1 p.2 (hd p List.mem_cons_self)
    have ih := decodeDataFrom_dataOf tbl sc rest (acc ++ [p])
      (fun q hq => hs q (List.mem_cons_of_mem _ hq)) hn'.2
      (by
        intro q hq
        simp only [List.map_append, List.map_cons, List.map_nil, List.mem_append, List.mem_singleton, not_or]
        refine ⟨hd q (List.mem_cons_of_mem _ hq), ?_⟩
        intro e
        apply hn'.1
        show p.1 ∈ List.map (fun x => x.fst) rest
        rw [← e]
        exact List.mem_map_of_mem hq)
    -- the element's key id is the position of its spec in the table, so the lookup gives the spec back and the value has the
    -- declared type; the name is new to `acc`, so `set` appends
    simp only [dataOf, List.map_cons, decodeDataFrom, ht, Option.getD_some]
    rw [lookupKey_docKeys tbl _ hmem]
    simp only [decodeVal_of_xmlType p.2 t ht]
    rw [hset]
    simp only [dataOf] at ih
    rw [ih]
    simp

theorem decodeData_dataOf (tbl : List KeySpec) (sc : Scope) (a : Attrs) (hs : Covers tbl sc a)
    (hn : (a.map (·.1)).Nodup) : decodeData (docKeys tbl) (dataOf tbl sc a) = .ok a := by
  have := decodeDataFrom_dataOf tbl sc a [] hs hn (by simp)
  simpa [decodeData] using this

theorem specs_in_table (tbl : List KeySpec) (sc : Scope) (a : Attrs) (hall : ∀ s ∈ specsOf sc a, ∃ k, s = some k ∧ k ∈ tbl) :
    Covers tbl sc a := by
  intro p hp
  have hm : (xmlType p.2).map (fun t => (⟨p.1, t, sc⟩ : KeySpec)) ∈ specsOf sc a := by
    unfold specsOf
    exact List.mem_map_of_mem (f := fun p : String × Val => (xmlType p.2).map fun t => (⟨p.1, t, sc⟩ : KeySpec)) hp
  obtain ⟨k, hk, hkt⟩ := hall _ hm
  cases hx : xmlType p.2 with
  | none => simp [hx] at hk
  | some t =>
    simp [hx] at hk
    exact ⟨t, rfl, hk ▸ hkt⟩

theorem allocKeys_covers {κ : Type} [DecidableEq κ] (G : Graph κ) (tbl : List KeySpec) (h : allocKeys G.allSpecs = some tbl) :
    (∀ p ∈ G.nodes, Covers tbl .node p.2) ∧ (∀ e ∈ G.edgesIter, Covers tbl .edge e.attrs) :=
  have hall := (alloc_spec G.allSpecs [] tbl h).2
  ⟨fun p hp => specs_in_table tbl .node p.2 fun s hs => hall s (List.mem_append_left _ (List.mem_flatMap.mpr ⟨p, hp, hs⟩)),
   fun e he => specs_in_table tbl .edge e.attrs fun s hs => hall s (List.mem_append_right _ (List.mem_flatMap.mpr ⟨e, he, hs⟩))⟩

/-- the key `networkx_to_neo4j` reads the class from is a `<key attr.name="Class">` of that scope -/
theorem classKey_spec (keys : List GKey) (sc : Scope) (i : Nat) (h : classKey keys sc = some i) :
    ∃ k ∈ keys, k.id = i ∧ k.spec.name = "Class" ∧ k.spec.scope = sc := by
  unfold classKey at h
  cases hl : (keys.filter fun k => k.spec.name == "Class" && k.spec.scope == sc).getLast? with
  | none => simp [hl] at h
  | some k =>
    simp [hl] at h
    have hm := List.mem_of_getLast? hl
    have hf := List.mem_filter.mp hm
    simp at hf
    exact ⟨k, hf.1, h, hf.2.1, hf.2.2⟩

theorem classText_ok (ck : Option Nat) (data : List GData) (t : String) (h : classText ck data = .ok t) :
    ∃ d ∈ data, some d.key = ck ∧ d.val.pyStr ≠ "" ∧ t = d.val.pyStr := by
  revert h
  fun_cases classText ck data with
  | case4 k d hf he =>
    intro h
    cases h
    have hk : d.key = k := by simpa using List.find?_some hf
    exact ⟨d, List.mem_of_find?_eq_some hf, by rw [hk], he, rfl⟩
  | _ => intro h; cases h

variable {κ : Type}

theorem markNode_labels (ck : Option Nat) (n n' : GNode κ) (h : markNode ck n = .ok n') (hn : n.labels = none) :
    ∃ d ∈ n.data, some d.key = ck ∧ d.val.pyStr ≠ "" ∧
      n' = { n with labels := some (Gen.Serial.nodeLabelPrefix ++ d.val.pyStr) } := by
  unfold markNode at h
  cases ht : classText ck n.data with
  | error e => rw [ht] at h; cases h
  | ok t =>
    obtain ⟨d, hd, hk, he, rfl⟩ := classText_ok ck n.data t ht
    simp only [ht, hn, Except.ok.injEq] at h
    exact ⟨d, hd, hk, he, h.symm⟩

theorem readNode_markNode (keys : List GKey) (ck : Option Nat) (n n' : GNode κ) (h : markNode ck n = .ok n') :
    readNode keys n' = readNode keys n := by
  revert h
  fun_cases markNode ck n <;> intro h <;> cases h <;> rfl

theorem readEdge_markEdge (keys : List GKey) (ck : Option Nat) (e e' : GEdge κ) (h : markEdge ck e = .ok e') :
    readEdge keys e' = readEdge keys e := by
  revert h
  fun_cases markEdge ck e <;> intro h <;> cases h <;> rfl

theorem markEdge_label (ck : Option Nat) (e e' : GEdge κ) (h : markEdge ck e = .ok e') (hn : e.label = none) :
    ∃ d ∈ e.data, some d.key = ck ∧ d.val.pyStr ≠ "" ∧ e' = { e with label := some d.val.pyStr } := by
  unfold markEdge at h
  cases ht : classText ck e.data with
  | error er => rw [ht] at h; cases h
  | ok t =>
    obtain ⟨d, hd, hk, he, rfl⟩ := classText_ok ck e.data t ht
    simp only [ht, hn, Except.ok.injEq] at h
    exact ⟨d, hd, hk, he, h.symm⟩

theorem toNeo4j_ok (d d' : GDoc κ) (h : toNeo4j d = .ok d') :
    ∃ es' ns', mapE (markEdge (classKey d.keys .edge)) d.edges = .ok es' ∧
      mapE (markNode (classKey d.keys .node)) d.nodes = .ok ns' ∧ d' = { d with nodes := ns', edges := es' } := by
  revert h
  fun_cases toNeo4j d with
  | case3 es' hme ns' hmn => intro h; cases h; exact ⟨es', ns', hme, hmn, rfl⟩
  | _ => intro h; cases h

theorem toGraphML_ok {κ : Type} [DecidableEq κ] (G : Graph κ) (d : GDoc κ) (h : toGraphML G = .ok d) :
    ∃ tbl, allocKeys G.allSpecs = some tbl ∧
      d = { keys := docKeys tbl,
            nodes := G.nodes.map fun p => ⟨p.1, none, dataOf tbl .node p.2⟩,
            edges := G.edgesIter.map fun e => ⟨e.a, e.b, none, dataOf tbl .edge e.attrs⟩ } := by
  revert h
  fun_cases toGraphML G with
  | case1 => intro h; cases h
  | case2 tbl ht => intro h; cases h; exact ⟨tbl, ht, rfl⟩

theorem objKey_set (o : JObj κ) (k : String) (y : κ) : objKey (o.set k (.k y)) k = .ok y := by
  unfold objKey; rw [JObj.set_eq, lookup_dictSet]

theorem objKey_set_ne (o : JObj κ) (k k' : String) (x : JV κ) (h : k' ≠ k) : objKey (o.set k x) k' = objKey o k' := by
  unfold objKey; rw [JObj.set_eq, lookup_dictSet_ne _ _ _ _ h]

theorem objAttrs_set (o : JObj κ) (k : String) (x : JV κ) (reserved : List String) (h : reserved.contains k = true) :
    objAttrs (o.set k x) reserved = objAttrs o reserved := by
  unfold objAttrs; rw [JObj.set_eq, filter_dictSet (fun k => !(reserved.contains k)) _ _ _ (by rw [h]; rfl)]

theorem objAttrs_attrsObj (a : Attrs) (reserved : List String) (h : ∀ r ∈ reserved, r ∉ a.map (·.1)) :
    objAttrs (attrsObj (κ := κ) a) reserved = .ok a := by
  unfold objAttrs attrsObj
  rw [List.filter_eq_self.2 fun p hp => ?_]
  · exact mapE_map_ok _ _ a fun _ _ => rfl
  · obtain ⟨q, hq, rfl⟩ := List.mem_map.1 hp
    simpa using fun hm => h q.1 hm (List.mem_map_of_mem hq)

theorem readJNode_toJSON (n : κ) (a : Attrs) (h : Gen.Serial.jsonIdKey ∉ a.map (·.1)) :
    readJNode ((attrsObj a).set Gen.Serial.jsonIdKey (.k n)) = .ok (n, a) := by
  unfold readJNode
  rw [objKey_set, objAttrs_set _ _ _ _ (by decide), objAttrs_attrsObj a _ (by simpa using h)]

theorem readJEdge_toJSON (e : Edge κ) (hs : Gen.Serial.jsonSourceKey ∉ e.attrs.map (·.1)) (ht : Gen.Serial.jsonTargetKey ∉ e.attrs.map (·.1)) :
    readJEdge (((attrsObj e.attrs).set Gen.Serial.jsonSourceKey (.k e.a)).set Gen.Serial.jsonTargetKey (.k e.b)) = .ok e := by
  unfold readJEdge
  rw [objKey_set_ne _ _ _ _ (by decide), objKey_set, objKey_set, objAttrs_set _ _ _ _ (by decide), objAttrs_set _ _ _ _ (by decide),
    objAttrs_attrsObj e.attrs _ (by
      intro r hr
      simp only [List.mem_cons, List.not_mem_nil, or_false] at hr
      rcases hr with rfl | rfl
      · exact hs
      · exact ht)]

end FimVerif.C01
