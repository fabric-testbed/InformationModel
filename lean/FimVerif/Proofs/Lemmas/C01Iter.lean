import FimVerif.Model.GraphML
import FimVerif.Proofs.Lemmas.ListAux
/-! `G.edges(data=True)` (`iterFrom`) is idempotent and commutes with injective relabelling. -/
namespace FimVerif.C01
open FimVerif.GraphML

variable {κ : Type} [DecidableEq κ]

/-- what one stored edge contributes to the edges reported while `u` is visited with `seen` already visited -/
def visit (seen : List κ) (u : κ) (e : Edge κ) : Option (Edge κ) :=
  if e.a = u then (if e.b ∈ seen then none else some ⟨u, e.b, e.attrs⟩)
  else if e.b = u then (if e.a ∈ seen then none else some ⟨u, e.a, e.attrs⟩) else none

theorem block_eq (es : List (Edge κ)) (seen : List κ) (u : κ) : block es seen u = es.filterMap (visit seen u) := by
  unfold block adj
  rw [List.filterMap_filterMap]
  refine congrArg (List.filterMap · es) (funext fun e => ?_)
  unfold visit
  by_cases h1 : e.a = u
  · simp [h1]
  · by_cases h2 : e.b = u <;> simp [h1, h2]

theorem block_append (l1 l2 : List (Edge κ)) (seen : List κ) (u : κ) :
    block (l1 ++ l2) seen u = block l1 seen u ++ block l2 seen u := by
  simp only [block_eq, List.filterMap_append]

theorem block_self (l : List (Edge κ)) (seen : List κ) (u : κ) (h : ∀ e ∈ l, e.a = u ∧ e.b ∉ seen) : block l seen u = l := by
  rw [block_eq, List.filterMap_congr' (g := some) fun e he => ?_, List.filterMap_some]
  obtain ⟨ha, hb⟩ := h e he
  rw [visit, if_pos ha, if_neg hb, ← ha]

theorem block_nil (l : List (Edge κ)) (seen : List κ) (u : κ) (h : ∀ e ∈ l, e.a ≠ u ∧ (e.b = u → e.a ∈ seen)) :
    block l seen u = [] := by
  rw [block_eq, List.filterMap_eq_nil_iff]
  intro e he
  obtain ⟨ha, hb⟩ := h e he
  rw [visit, if_neg ha]
  by_cases hbu : e.b = u
  · rw [if_pos hbu, if_pos (hb hbu)]
  · rw [if_neg hbu]

theorem mem_block (es : List (Edge κ)) (seen : List κ) (u : κ) (e : Edge κ) (h : e ∈ block es seen u) :
    (e.a = u ∧ e.b ∉ seen) ∧ ∃ e0 ∈ es, e = e0 ∨ e = ⟨e0.b, e0.a, e0.attrs⟩ := by
  rw [block_eq, List.mem_filterMap] at h
  obtain ⟨e0, he0, hv⟩ := h
  unfold visit at hv
  by_cases h1 : e0.a = u
  · subst h1
    rw [if_pos rfl] at hv
    by_cases hs : e0.b ∈ seen
    · rw [if_pos hs] at hv; cases hv
    · rw [if_neg hs] at hv; cases hv
      exact ⟨⟨rfl, hs⟩, e0, he0, Or.inl rfl⟩
  · rw [if_neg h1] at hv
    by_cases h2 : e0.b = u
    · subst h2
      rw [if_pos rfl] at hv
      by_cases hs : e0.a ∈ seen
      · rw [if_pos hs] at hv; cases hv
      · rw [if_neg hs] at hv; cases hv
        exact ⟨⟨rfl, hs⟩, e0, he0, Or.inr rfl⟩
    · rw [if_neg h2] at hv; cases hv

theorem mem_iterFrom (es : List (Edge κ)) : ∀ (seen rest : List κ) (e : Edge κ), e ∈ iterFrom es seen rest →
    (e.a ∈ rest ∧ e.b ∉ seen) ∧ ∃ e0 ∈ es, e = e0 ∨ e = ⟨e0.b, e0.a, e0.attrs⟩
  | _, [], _, h => by simp [iterFrom] at h
  | seen, u :: r, e, h => by
    simp only [iterFrom, List.mem_append] at h
    rcases h with h | h
    · obtain ⟨⟨h1, h2⟩, h3⟩ := mem_block es seen u e h
      exact ⟨⟨h1 ▸ List.mem_cons_self, h2⟩, h3⟩
    · obtain ⟨⟨h1, h2⟩, h3⟩ := mem_iterFrom es (u :: seen) r e h
      exact ⟨⟨List.mem_cons_of_mem _ h1, fun hb => h2 (List.mem_cons_of_mem _ hb)⟩, h3⟩

theorem attrs_iterFrom (P : Attrs → Prop) (es : List (Edge κ)) (h : ∀ e ∈ es, P e.attrs) (seen rest : List κ) :
    ∀ e ∈ iterFrom es seen rest, P e.attrs := by
  intro e he
  obtain ⟨_, e0, he0, h1 | h1⟩ := mem_iterFrom es seen rest e he <;> exact h1 ▸ h e0 he0

theorem ends_iterFrom (P : κ → Prop) (es : List (Edge κ)) (h : ∀ e ∈ es, P e.a ∧ P e.b) (seen rest : List κ) :
    ∀ e ∈ iterFrom es seen rest, P e.a ∧ P e.b := by
  intro e he
  obtain ⟨_, e0, he0, h1 | h1⟩ := mem_iterFrom es seen rest e he
  · exact h1 ▸ h e0 he0
  · exact h1 ▸ (h e0 he0).symm

/-- the induction behind `iter_idem`: `pre` are the edges already reported, each with its first end among the nodes already visited,
    so no later block sees them -/
theorem iter_idem_gen (es : List (Edge κ)) : ∀ (rest seen : List κ) (pre : List (Edge κ)),
    (∀ e ∈ pre, e.a ∈ seen) → rest.Nodup → (∀ x ∈ rest, x ∉ seen) →
    iterFrom (pre ++ iterFrom es seen rest) seen rest = iterFrom es seen rest
  | [], _, _, _, _, _ => by simp [iterFrom]
  | u :: r, seen, pre, hpre, hnd, hdis => by
    have hu : u ∉ seen := hdis u List.mem_cons_self
    have hnd' := List.nodup_cons.mp hnd
    simp only [iterFrom]
    have hB : ∀ e ∈ block es seen u, e.a = u ∧ e.b ∉ seen := fun e he => (mem_block es seen u e he).1
    have hR : ∀ e ∈ iterFrom es (u :: seen) r, e.a ≠ u ∧ (e.b = u → e.a ∈ seen) := by
      intro e he
      obtain ⟨h1, h2⟩ := (mem_iterFrom es (u :: seen) r e he).1
      refine ⟨fun h => hnd'.1 (h ▸ h1), fun hb => ?_⟩
      exact absurd (hb ▸ List.mem_cons_self) h2
    have hP : ∀ e ∈ pre, e.a ≠ u ∧ (e.b = u → e.a ∈ seen) :=
      fun e he => ⟨fun h => hu (h ▸ hpre e he), fun _ => hpre e he⟩
    have e1 : block (pre ++ (block es seen u ++ iterFrom es (u :: seen) r)) seen u = block es seen u := by
      rw [block_append, block_append, block_nil pre seen u hP, block_self _ seen u hB,
        block_nil _ seen u hR]
      simp
    rw [e1]
    congr 1
    have ih := iter_idem_gen es r (u :: seen) (pre ++ block es seen u)
      (by
        intro e he
        rcases List.mem_append.mp he with h | h
        · exact List.mem_cons_of_mem _ (hpre e h)
        · rw [(hB e h).1]; exact List.mem_cons_self)
      hnd'.2
      (by
        intro x hx hxs
        rcases List.mem_cons.mp hxs with h | h
        · exact hnd'.1 (h ▸ hx)
        · exact hdis x (List.mem_cons_of_mem _ hx) h)
    rw [List.append_assoc] at ih
    exact ih

theorem iter_idem (es : List (Edge κ)) (ks : List κ) (h : ks.Nodup) :
    iterFrom (iterFrom es [] ks) [] ks = iterFrom es [] ks := by
  have := iter_idem_gen es ks [] [] (by simp) h (by simp)
  simpa using this

def ren {κ' : Type} (f : κ → κ') (e : Edge κ) : Edge κ' := ⟨f e.a, f e.b, e.attrs⟩

theorem block_map {κ' : Type} [DecidableEq κ'] (f : κ → κ') (S : List κ)
    (hinj : ∀ x ∈ S, ∀ y ∈ S, f x = f y → x = y) (seen : List κ) (u : κ) (hu : u ∈ S) (hseen : ∀ x ∈ seen, x ∈ S)
    (es : List (Edge κ)) (hes : ∀ e ∈ es, e.a ∈ S ∧ e.b ∈ S) :
    block (es.map (ren f)) (seen.map f) (f u) = (block es seen u).map (ren f) := by
  -- on `S` the relabelling neither identifies a node with `u` nor moves one into `seen`
  have eq_iff : ∀ v ∈ S, (f v = f u ↔ v = u) := fun v hv => ⟨fun h => hinj v hv u hu h, fun h => h ▸ rfl⟩
  have mem_iff : ∀ v ∈ S, (f v ∈ seen.map f ↔ v ∈ seen) := fun v hv =>
    ⟨fun hm => let ⟨w, hw, hfw⟩ := List.mem_map.mp hm; hinj w (hseen w hw) v hv hfw ▸ hw, fun hm => List.mem_map_of_mem hm⟩
  rw [block_eq, block_eq, List.filterMap_map, List.map_filterMap]
  refine List.filterMap_congr' fun e he => ?_
  obtain ⟨ha, hb⟩ := hes e he
  simp only [Function.comp_apply, visit, ren, eq_iff _ ha, eq_iff _ hb, mem_iff _ ha, mem_iff _ hb]
  by_cases h1 : e.a = u
  · by_cases hs : e.b ∈ seen <;> simp [h1, hs, ren]
  · by_cases h2 : e.b = u
    · by_cases hs : e.a ∈ seen <;> simp [h1, h2, hs, ren]
    · simp [h1, h2]

theorem iterFrom_map {κ' : Type} [DecidableEq κ'] (f : κ → κ') (S : List κ)
    (hinj : ∀ x ∈ S, ∀ y ∈ S, f x = f y → x = y) (es : List (Edge κ)) (hes : ∀ e ∈ es, e.a ∈ S ∧ e.b ∈ S) :
    ∀ (rest seen : List κ), (∀ x ∈ rest, x ∈ S) → (∀ x ∈ seen, x ∈ S) →
    iterFrom (es.map (ren f)) (seen.map f) (rest.map f) = (iterFrom es seen rest).map (ren f)
  | [], _, _, _ => by simp [iterFrom]
  | u :: r, seen, hr, hs => by
    simp only [List.map_cons, iterFrom, List.map_append]
    rw [block_map f S hinj seen u (hr u List.mem_cons_self) hs es hes]
    congr 1
    have := iterFrom_map f S hinj es hes r (u :: seen) (fun x hx => hr x (List.mem_cons_of_mem _ hx))
      (by
        intro x hx
        rcases List.mem_cons.mp hx with h | h
        · exact h ▸ hr u List.mem_cons_self
        · exact hs x h)
    simpa using this

end FimVerif.C01
