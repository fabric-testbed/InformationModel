import FimVerif.Proofs.Lemmas.ARefBasic
/-! C05: the shared store refines the store-level reference model `ARef.step` — the link operations
    (`add_link`, the three link-property updates, `get_link_properties`). -/
namespace FimVerif.Store
open FimVerif FimVerif.Gen.StoreConsts

variable {s : Store} {ka kb : Key} {na nb : SNode}

theorem edgeMatch_keys (h : Inv s) (ha : IsNode s ka na) (hb : IsNode s kb nb) (e : SEdge) (he : e ∈ s.edges) :
    ARef.edgeIsK ka kb (kE s e) = edgeMatch na.iid nb.iid e := by
  have hi := h.2.2 e he
  simp only [ARef.edgeIsK, kE, edgeMatch, keyOf_beq h ha _ hi.1, keyOf_beq h ha _ hi.2, keyOf_beq h hb _ hi.1, keyOf_beq h hb _ hi.2]

theorem absS_updEdge (h : Inv s) (ha : IsNode s ka na) (hb : IsNode s kb nb) (f : Props → Props) :
    absS (updEdge na.iid nb.iid f s) = ARef.updEdgeK ka kb f (absS s) := by
  unfold absS updEdge ARef.updEdgeK
  simp only [List.map_map]
  congr 1
  apply List.map_congr_left
  intro e he
  have := edgeMatch_keys h ha hb e he
  simp only [kE] at this
  simp only [Function.comp, this]
  by_cases hm : edgeMatch na.iid nb.iid e <;> simp [hm]

theorem any_absS (h : Inv s) (ha : IsNode s ka na) (hb : IsNode s kb nb) :
    (absS s).edges.any (ARef.edgeIsK ka kb) = s.edges.any (edgeMatch na.iid nb.iid) := by
  rw [absS_edges_kE, List.any_map]
  exact List.any_congr' fun e he => edgeMatch_keys h ha hb e he

theorem absS_addEdge (h : Inv s) (ha : IsNode s ka na) (hb : IsNode s kb nb) (attrs : Props) :
    absS (addEdge na.iid nb.iid attrs s) = ARef.addEdgeK ka kb attrs (absS s) := by
  unfold addEdge ARef.addEdgeK
  rw [any_absS h ha hb]
  split
  · exact absS_updEdge h ha hb _
  · unfold absS
    simp only [List.map_append, List.map_cons, List.map_nil, keyOf_mem s h na ha.mem, keyOf_mem s h nb hb.mem, ha.key, hb.key]

theorem findEdge_absS (h : Inv s) (ha : IsNode s ka na) (hb : IsNode s kb nb) :
    (absS s).edges.find? (ARef.edgeIsK ka kb) = (findEdge s na.iid nb.iid).map (kE s) := by
  unfold findEdge
  rw [absS_edges_kE, List.find?_map]
  exact congrArg _ (List.find?_congr' fun e he => edgeMatch_keys h ha hb e he)

theorem refS_addLink (s : Store) (h : Inv s) (g a rel b : String) (props : Option Props) :
    RefS (addLink g a rel b props s) (ARef.addLink g a rel b props (absS s)) := by
  unfold addLink ARef.addLink
  refine refS_withNode _ _ _ _ _ fun na ha => refS_withNode _ _ _ _ _ fun nb hb => ?_
  cases props with
  | none => exact ⟨rfl, absS_addEdge h ha hb _⟩
  | some p =>
    simp only
    split
    · exact refS_err s _
    · exact ⟨rfl, absS_addEdge h ha hb _⟩

theorem refS_withLink (s : Store) (h : Inv s) (g a b kind : String) (k : Nat → Nat → SEdge → R) (k' : ARef.AR)
    (hk : ∀ na nb e, IsNode s (K g a) na → IsNode s (K g b) nb → RefS (k na.iid nb.iid e) k') :
    RefS (withLink s g a b kind k) (ARef.withL (absS s) g a b kind k') := by
  unfold withLink ARef.withL
  refine refS_withNode _ _ _ _ _ fun na ha => refS_withNode _ _ _ _ _ fun nb hb => ?_
  rw [findEdge_absS h ha hb]
  cases findEdge s na.iid nb.iid with
  | none => exact refS_err s _
  | some e =>
    simp only [Option.map_some, kE]
    split
    · exact refS_err s _
    · exact hk na nb e ha hb

/-- the three link-property updates: a guard, the common head, one `updEdge` -/
theorem refS_linkUpdate (s : Store) (h : Inv s) (g a b kind : String) (c : Prop) [Decidable c] (f : Props → Props) :
    RefS (if c then (.error .query, s) else withLink s g a b kind fun ia ib _ => (.ok .unit, updEdge ia ib f s))
      (if c then (.error .query, absS s)
       else ARef.withL (absS s) g a b kind (.ok .unit, ARef.updEdgeK (K g a) (K g b) f (absS s))) := by
  split
  · exact refS_err s _
  · exact refS_withLink s h _ _ _ _ _ _ fun _ _ _ ha hb => ⟨rfl, absS_updEdge h ha hb _⟩

theorem refS_getLinkProperties (s : Store) (h : Inv s) (g a b : String) :
    RefS (getLinkProperties g a b s) (ARef.getLinkProperties g a b (absS s)) := by
  unfold getLinkProperties ARef.getLinkProperties
  refine refS_withNode _ _ _ _ _ fun na ha => refS_withNode _ _ _ _ _ fun nb hb => ?_
  rw [findEdge_absS h ha hb]
  cases findEdge s na.iid nb.iid with
  | none => exact refS_err s _
  | some e =>
    simp only [Option.map_some, kE]
    cases AMap.get nxLabel e.attrs with
    | none => exact refS_err s _
    | some l => exact ⟨rfl, rfl⟩

end FimVerif.Store
