import FimVerif.Model.Serial
import FimVerif.Proofs.Lemmas.C01Copy
/-! The disjoint store (`NetworkXGraphStorageDisjoint`, one graph object per id): both `add_graph`s end in `dStored`; `DStoreInv` is what
all its operations keep. -/
namespace FimVerif.C01
open FimVerif.GraphML FimVerif.Serial

theorem DStore.lookup_put {β : Type} (l : List (Val × β)) (k : Val) (v : β) : (DStore.put l k v).lookup k = some v := by
  rw [DStore.put_eq]; exact lookup_dictSet l k v

theorem DStore.lookup_put_ne {β : Type} (l : List (Val × β)) (k k' : Val) (v : β) (h : k' ≠ k) :
    (DStore.put l k v).lookup k' = l.lookup k' := by
  rw [DStore.put_eq]; exact lookup_dictSet_ne l k k' v h

/-- `del_graph` of the disjoint store leaves an empty graph under `g`, whether or not the id was known (reading the defaultdict
    creates the entry) -/
theorem dDelGraph_eq (s : DStore) (g : Val) : dDelGraph s g = { s with graphs := DStore.put s.graphs g ⟨[], []⟩ } := by
  unfold dDelGraph
  split
  · rfl
  · rename_i h
    rw [DStore.put_eq, dictSet_not_mem _ _ _ fun hm => ?_]
    obtain ⟨p, hp, rfl⟩ := List.mem_map.1 hm
    simpa using List.lookup_eq_none_iff.1 h p hp

theorem dDelGraph_lookup_ne (s : DStore) (g g' : Val) (hne : g ≠ g') : (dDelGraph s g').graphs.lookup g = s.graphs.lookup g := by
  rw [dDelGraph_eq]; exact DStore.lookup_put_ne _ _ _ _ hne

theorem dextract_of_lookup {s : DStore} {g : Val} {G : Graph Nat} (h : s.graphs.lookup g = some G) :
    s.extract g = (DStore.copyGraph G, s) := by
  unfold DStore.extract; rw [h]

theorem dextract_delGraph_other (s : DStore) (g g' : Val) (hne : g ≠ g') : ((dDelGraph s g').extract g).1 = (s.extract g).1 := by
  unfold DStore.extract
  rw [dDelGraph_lookup_ne s g g' hne]
  cases s.graphs.lookup g <;> rfl

theorem copyGraph_id (G : Graph Nat) (hit : G.edgesIter = G.edges) : DStore.copyGraph G = G := by
  cases G with
  | mk ns es =>
    simp only [DStore.copyGraph, Graph.mk.injEq, true_and]
    exact hit

theorem copyGraph_wf (G : Graph Nat) (hw : GraphWF G) : GraphWF (DStore.copyGraph G) :=
  ⟨hw.1, fun e he => edgesIter_ends G hw e he⟩

variable {κ : Type} [DecidableEq κ]

theorem copyGraph_copyWith (G : Graph κ) (hw : GraphWF G) (start : Nat) (at' : Attrs → Attrs) :
    DStore.copyGraph (copyWith G start at') = copyWith G start at' :=
  copyGraph_id _ (copyWith_iter G hw start at')

/-- the store after the disjoint store's `add_graph` / `add_graph_direct` has put the graph `T` under `g` -/
def dStored (s : DStore) (g : Val) (T : Graph Nat) : DStore :=
  ⟨DStore.put s.graphs g T, DStore.put s.counters g (T.nodes.length + 1)⟩

theorem dextract_dStored (s : DStore) (g : Val) (T : Graph Nat) : ((dStored s g T).extract g).1 = DStore.copyGraph T := by
  rw [dextract_of_lookup (DStore.lookup_put _ g T)]

theorem dAddGraphDirect_eq (s : DStore) (g : Val) (G : Graph κ) : s.addGraphDirect g G = dStored s g (copyWith G 1 id) := rfl

/-- the guard of `add_graph` ("Attempting to insert a graph with the same GraphID, skipping") -/
def dHeld (s : DStore) (g : Val) : Bool := (s.graphs.lookup g).any fun old => !old.nodes.isEmpty

theorem dHeld_of_lookup {s : DStore} {g : Val} {old : Graph Nat} (hl : s.graphs.lookup g = some old) (hold : old.nodes ≠ []) :
    dHeld s g = true := by
  simp [dHeld, hl, hold]

theorem not_dHeld_of_free {s : DStore} {g : Val} (hfree : ∀ old, s.graphs.lookup g = some old → old.nodes.isEmpty = true) :
    dHeld s g = false := by
  unfold dHeld
  cases hl : s.graphs.lookup g with
  | none => rfl
  | some old => simp [hfree old hl]

/-- unlike `add_graph_direct`, `add_graph` inserts the edges of the stamped copy once more (`copyGraph`); for a well-formed `G`
    that changes nothing (`copyGraph_copyWith`) -/
theorem dAddGraph_eq (s : DStore) (g : Val) (G : Graph κ) :
    s.addGraph g G =
      if dHeld s g then (.ok (), s)
      else if HasNodeIds G then (.ok (), dStored s g (DStore.copyGraph (copyWith G 1 fun a => a.set "GraphID" g)))
      else (.error "import", s) := by
  have hgo : DStore.addGraph.go s g G = if HasNodeIds G then
      (.ok (), dStored s g (DStore.copyGraph (copyWith G 1 fun a => a.set "GraphID" g))) else (.error "import", s) := by
    -- the model builds the stamped graph field by field, so `relabelFrom_with` is used on the node list alone; the edges agree by `rfl`
    have hn := congrArg Graph.nodes (relabelFrom_with G 1 fun a => a.set "GraphID" g)
    dsimp only at hn
    unfold DStore.addGraph.go
    simp only [disjointFirst_eval, relabelFrom_hasNodeIds, hn]
    rfl
  unfold DStore.addGraph dHeld
  cases s.graphs.lookup g with
  | none => exact hgo
  | some old => cases h : old.nodes.isEmpty <;> simp [h, hgo]

theorem dAddGraph_lookup_ne (s : DStore) (g'' g' : Val) (hne : g'' ≠ g') (G : Graph κ) :
    (s.addGraph g' G).2.graphs.lookup g'' = s.graphs.lookup g'' := by
  rw [dAddGraph_eq]
  split
  · rfl
  · split
    · exact DStore.lookup_put_ne _ _ _ _ hne
    · rfl

theorem dAddGraph_error_store (s : DStore) (g : Val) (G : Graph κ) (e : String)
    (h : (s.addGraph g G).1 = .error e) : (s.addGraph g G).2 = s := by
  rw [dAddGraph_eq] at h ⊢
  by_cases hh : dHeld s g = true
  · rw [if_pos hh]
  · rw [if_neg hh] at h ⊢
    by_cases hid : HasNodeIds G
    · rw [if_pos hid] at h; cases h
    · rw [if_neg hid]

/-- what the disjoint store keeps of one graph, held under `g`; `DStoreInv` asks it of every entry and is the twin of `StoreInv` (there are no
    shared ids or counters to speak of) -/
def DGraphOk (g : Val) (G : Graph Nat) : Prop :=
  GraphWF G ∧ ∀ p ∈ G.nodes, p.2.get? "GraphID" = some g

instance (g : Val) (G : Graph Nat) : Decidable (DGraphOk g G) := by unfold DGraphOk; exact inferInstance

def DStoreInv (s : DStore) : Prop := ∀ g G, s.graphs.lookup g = some G → DGraphOk g G

theorem dStoreInv_empty : DStoreInv DStore.empty := by
  intro g G h; cases h

theorem dStoreInv_put (s : DStore) (hs : DStoreInv s) (g : Val) {T : Graph Nat} (hT : DGraphOk g T) {c : List (Val × Nat)} :
    DStoreInv ⟨DStore.put s.graphs g T, c⟩ := by
  intro g0 G0 h
  by_cases hg : g0 = g
  · subst hg
    rw [DStore.lookup_put] at h
    exact (Option.some.inj h) ▸ hT
  · rw [DStore.lookup_put_ne _ _ _ _ hg] at h
    exact hs g0 G0 h

theorem dGraphOk_empty (g : Val) : DGraphOk g ⟨[], []⟩ :=
  ⟨⟨List.nodup_nil, fun e he => by cases he⟩, fun p hp => by cases hp⟩

theorem dStoreInv_delGraph (s : DStore) (hs : DStoreInv s) (g : Val) : DStoreInv (dDelGraph s g) := by
  rw [dDelGraph_eq]; exact dStoreInv_put s hs g (dGraphOk_empty g)

theorem dStoreInv_addGraphDirect (s : DStore) (hs : DStoreInv s) (g : Val) (G : Graph κ)
    (hw : GraphWF G) (hg : ∀ p ∈ G.nodes, p.2.get? "GraphID" = some g) : DStoreInv (s.addGraphDirect g G) := by
  exact dStoreInv_put s hs g ⟨copyWith_wf G hw 1 id, List.forall_mem_map.2 hg⟩

theorem dStoreInv_addGraph (s : DStore) (hs : DStoreInv s) (g : Val) (G : Graph κ) (hw : GraphWF G) :
    DStoreInv (s.addGraph g G).2 := by
  rw [dAddGraph_eq]
  split
  · exact hs
  · split
    · rw [copyGraph_copyWith G hw]
      exact dStoreInv_put s hs g ⟨copyWith_wf G hw 1 _, List.forall_mem_map.2 fun q _ => Attrs.get_set q.2 "GraphID" g⟩
    · exact hs

end FimVerif.C01
