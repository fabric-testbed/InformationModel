import FimVerif.Model.Deleg
/-! Lemmas for `SubstrateTopology.single_delegation` (C12): what the element loop collects. -/
namespace FimVerif.C12
open FimVerif.Deleg

variable {D : Type}

/-- the `Delegations` an element's own capacities / labels become -/
def singleOf (ty : DType) (did : String) (x : D) : Delegations D :=
  { ty := ty, items := [{ ty := ty, id := did, fmt := .single, pool := none, details := some x }] }

/-- what the loop collects for an element: nothing for a stitch node or an element without capacities / labels -/
def collected (ty : DType) (did : String) (e : Elem D) : Option (String × Delegations D) :=
  if e.stitch then none else (e.own ty).map (fun x => (e.node, singleOf ty did x))

theorem collected_eq_some {ty : DType} {did : String} {e : Elem D} {p : String × Delegations D} :
    collected ty did e = some p ↔ e.stitch = false ∧ ∃ x, e.own ty = some x ∧ p = (e.node, singleOf ty did x) := by
  unfold collected
  cases e.stitch <;> cases e.own ty <;> simp [eq_comm]

theorem collected_node {ty : DType} {did : String} {e : Elem D} {p : String × Delegations D}
    (h : collected ty did e = some p) : p.1 = e.node := by
  obtain ⟨-, x, -, rfl⟩ := collected_eq_some.mp h
  rfl

theorem forall_collected {ty : DType} {did : String} {elems : List (Elem D)} {C : String × Delegations D → Prop}
    (h : ∀ e ∈ elems, e.stitch = false → ∀ x, e.own ty = some x → C (e.node, singleOf ty did x)) :
    ∀ p ∈ elems.filterMap (collected ty did), C p := by
  intro p hp
  obtain ⟨e, he, hc⟩ := List.mem_filterMap.mp hp
  obtain ⟨hst, x, hx, rfl⟩ := collected_eq_some.mp hc
  exact h e he hst x hx

theorem copyToDelegations_spec (ops : DetailOps D) (ty : DType) (did : String) (e : Elem D)
    (hk : ∀ x, e.own ty = some x → ops.kindOf x = ty) :
    copyToDelegations ops ty did e = .ok ((collected ty did e).map (·.2)) := by
  unfold copyToDelegations collected
  by_cases hs : e.stitch = true
  · simp [hs]
  · cases hx : e.own ty with
    | none => simp [hs]
    | some x =>
      have := hk x hx
      simp [hs, mkDelegation, setDetails, this, addDelegation, hasId, singleOf, bind, Except.bind, pure, Except.pure]

theorem setNode_fresh (n : String) (ds : Delegations D) (acc : NodeDelegs D) (h : ∀ b ∈ acc, b.1 ≠ n) :
    setNode n ds acc = acc ++ [(n, ds)] := by
  fun_induction setNode n ds acc with
  | case1 => rfl
  | case2 a l ha => exact absurd ha (h a (by simp))
  | case3 a l ha ih => rw [ih fun b hb => h b (by simp [hb])]; rfl

theorem singlesStep_spec (ops : DetailOps D) (ty : DType) (did : String) (acc : NodeDelegs D) (e : Elem D)
    (hk : ∀ x, e.own ty = some x → ops.kindOf x = ty) (hacc : ∀ b ∈ acc, b.1 ≠ e.node) :
    singlesStep ops ty did acc e = .ok (acc ++ (collected ty did e).toList) := by
  unfold singlesStep
  rw [copyToDelegations_spec ops ty did e hk]
  cases hc : collected ty did e with
  | none => simp
  | some p =>
    show Except.ok (setNode e.node p.2 acc) = _
    rw [setNode_fresh e.node p.2 acc hacc, ← collected_node hc]
    rfl

/-- node ids are distinct across `acc` and `elems`, so every `setNode` appends (`setNode_fresh`) and the loop is a `filterMap` -/
theorem singlesOf_fold (ops : DetailOps D) (ty : DType) (did : String) (elems : List (Elem D)) (acc : NodeDelegs D)
    (hnd : (acc.map (·.1) ++ elems.map (·.node)).Nodup)
    (hk : ∀ e ∈ elems, ∀ x, e.own ty = some x → ops.kindOf x = ty) :
    elems.foldlM (singlesStep ops ty did) acc = .ok (acc ++ elems.filterMap (collected ty did)) := by
  induction elems generalizing acc with
  | nil => simp [pure, Except.pure]
  | cons e rest ih =>
    rw [List.foldlM_cons, singlesStep_spec ops ty did acc e (hk e (by simp)) fun b hb =>
      (List.nodup_append.mp hnd).2.2 _ (List.mem_map_of_mem hb) _ List.mem_cons_self]
    show rest.foldlM (singlesStep ops ty did) (acc ++ (collected ty did e).toList) = _
    rw [ih _ (hnd.sublist ?_) fun x hx => hk x (by simp [hx])]
    · rw [List.filterMap_cons]
      cases collected ty did e <;> simp
    · cases hc : collected ty did e with
      | none => simp
      | some p => simp [collected_node hc]

/-- what the element loop of `single_delegation` hands to `annotate_delegations_and_pools` -/
theorem singlesOf_spec (ops : DetailOps D) (ty : DType) (did : String) (elems : List (Elem D))
    (hnd : (elems.map (·.node)).Nodup) (hk : ∀ e ∈ elems, ∀ x, e.own ty = some x → ops.kindOf x = ty) :
    singlesOf ops ty did elems = .ok (elems.filterMap (collected ty did)) := by
  unfold singlesOf
  rw [singlesOf_fold ops ty did elems [] hnd hk]
  simp

theorem collected_nodes_pairwise (ty : DType) (did : String) (elems : List (Elem D)) (hnd : (elems.map (·.node)).Nodup) :
    (elems.filterMap (collected ty did)).Pairwise (fun a b => a.1 ≠ b.1) :=
  (List.pairwise_map.mp hnd).filterMap _ fun _ _ h _ hb _ hb' => by rwa [collected_node hb, collected_node hb']

end FimVerif.C12
