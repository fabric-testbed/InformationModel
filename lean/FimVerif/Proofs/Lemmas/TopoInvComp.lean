import FimVerif.Proofs.Lemmas.TopoInvNames
import FimVerif.Proofs.Lemmas.TopoAtomicCompRb
/-!
# C07 — `Node.add_component` (with and without `model_type=`) / `Node.add_storage`

The writing part stops in the state it found or with the component hung under the node, alone or with its service and some of the
service's interfaces (C09 `compTail_cases`, whether or not `add_component_sliver` has its clean-up): an `attach`, or two and
the service's interfaces (`ports_stable`).  The catalogue gives the types (`EntryOk`).
-/
namespace FimVerif.Topo
open FimVerif FimVerif.M FimVerif.Gen

theorem fresh_of_ids_grow {B : Topo} {n : GNode} {E E' : List GEdge} {N' : List GNode} (h : IdsOk (grow (grow B [n] E) N' E')) :
    ∀ m ∈ B.nodes, m.nid ≠ n.nid :=
  (IdsDistinct.of_grow (IdsDistinct.of_grow h).1).2.2 n (List.mem_singleton.mpr rfl)

/-- the last stage of a component (`comp1`) and of a facility or switch (`fac`): one `attach` per interface -/
theorem ports_stable {P : Topo → Prop} (hP : AttachStable P) {sn : GNode} (hsc : sn.cls = .networkService) :
    ∀ (cps : List GNode) (B : Topo), P B → sn ∈ B.nodes → IdsOk (grow B cps (ports sn cps)) →
      (∀ c ∈ cps, c.cls = .connectionPoint ∧ typeOk .connectionPoint c.typ = true ∧ c.typ ≠ "ServicePort") → P (grow B cps (ports sn cps))
  | [], B, h, _, _, _ => by rw [ports, List.map_nil, grow_nil]; exact h
  | c :: cps, B, h, hsn, hids, hok => by
    have hstep : grow B (c :: cps) (ports sn (c :: cps)) = grow (grow B [c] [⟨sn.ref, c.ref, .connects⟩]) cps (ports sn cps) := by
      rw [grow_grow]; rfl
    rw [hstep] at hids ⊢
    obtain ⟨h1, h2, h3⟩ := hok c (List.mem_cons_self ..)
    exact ports_stable hP hsc cps _
      (hP.attach h hsn (fresh_of_ids_grow hids) (nodeOk_of h1 h2)
        (by simp [edgeOk, hsc, h1]) (by simp [hsc]) (fun _ => h3) (.inl h1))
      (by simp [hsn]) hids (fun x hx => hok x (List.mem_cons_of_mem _ hx))

def catOk : Bool := Rules.catalog.all (fun e => typeOk .component e.ctype && (!e.hasIfaces || typeOk .networkService e.nsType) &&
  e.ifaces.all (fun ci => typeOk .connectionPoint ci.itype && ci.itype != "ServicePort"))
theorem catalog_ok : catOk = true := by decide +kernel

structure EntryOk (e : Rules.CatEntry) : Prop where
  ctype : typeOk .component e.ctype = true
  nstype : e.hasIfaces = true → typeOk .networkService e.nsType = true
  ifaces : ∀ ci ∈ e.ifaces, typeOk .connectionPoint ci.itype = true ∧ ci.itype ≠ "ServicePort"

theorem entryOk_of_find {m c : String} {e : Rules.CatEntry} (h : catalogFind m c = some e) : EntryOk e := by
  have hm : e ∈ Rules.catalog := List.mem_of_find?_eq_some h
  have := List.all_eq_true.mp catalog_ok e hm
  simp only [Bool.and_eq_true, Bool.or_eq_true, Bool.not_eq_true', List.all_eq_true, bne_iff_ne, ne_eq] at this
  refine ⟨this.1.1, fun hh => ?_, fun ci hci => this.2 ci hci⟩
  rcases this.1.2 with h1 | h1
  · rw [hh] at h1; cases h1
  · exact h1

theorem compTail_stable {P : Topo → Prop} (hP : AttachStable P) (parent id : Nid) (c1 : Nat) (a : CompArgs) (p : GNode)
    (e : Rules.CatEntry) (s : Topo) {comps : List GNode} {m c : String} (h : P s)
    (hch : childrenOf parent [.networkNode] .has .component s = (.ok comps, s)) (hg : (!(comps.map (·.name)).contains a.name) = true)
    (hp : findNode parent s = (.ok p, s)) (he : catalogFind m c = some e) : P (compTail e.hasIfaces parent id c1 a p e s).2 := by
  -- listing the components found `p` and checked that it is a NetworkNode
  obtain ⟨p', hp', hpc⟩ := childrenOf_parent hch
  cases hp.symm.trans hp'
  have hpc : p.cls = .networkNode := by simpa using hpc
  have he := entryOk_of_find he
  rcases compTail_cases e.hasIfaces parent id c1 a p e s (hP.ids _ h) (hP.closed _ h) hp (by simp [hpc]) with
    ⟨er, he'⟩ | ⟨⟨cn, sn, hn, _, hcn, hct, hst, hat⟩, _⟩
  · rw [he']; exact h
  have h0 : P (comp0 s p cn) :=
    hP.attach h hn.pm hn.fcn (nodeOk_of hn.ccls (hct ▸ he.ctype)) (by simp [edgeOk, hpc, hn.ccls]) (by simp [hpc]) (by simp [hn.ccls])
      (.inr (.inr (by rw [hn.ccls, hcn]; exact sibling_free (hP.ids _ h) hch hg p hp)))
  rcases hat with ht | ⟨cps, hb, hok, hty, ht⟩ <;> rw [ht]
  · exact h0
  · have e' : comp1 s p cn sn cps = grow (grow (comp0 s p cn) [sn] [⟨cn.ref, sn.ref, .has⟩]) cps (ports sn cps) := by
      simp [comp1_eq, comp0_eq, grow_grow]
    have hd := e' ▸ comp1_dist hok
    have h1 : P (grow (comp0 s p cn) [sn] [⟨cn.ref, sn.ref, .has⟩]) :=
      hP.attach h0 (by simp [comp0_eq]) (fresh_of_ids_grow hd) (nodeOk_of hok.fo.scls (hst ▸ he.nstype hb))
        (by simp [edgeOk, hn.ccls, hok.fo.scls]) (by simp [hn.ccls]) (by simp [hok.fo.scls]) (nameFree_new_parent hn.closed hn.pm hn.fcn)
    rw [e']
    exact ports_stable hP hok.fo.scls cps _ h1 (by simp [grow]) hd fun c hc =>
      have ⟨ci, hci, hty⟩ := hty c hc
      ⟨hok.fo.ccls c hc, hty ▸ he.ifaces ci hci⟩

theorem handleOk_of_childrenOf {s : Topo} {parent : Nid} {ok : List Cls} {rel : Rel} {l : Cls} {r : List GNode}
    (h : childrenOf parent ok rel l s = (.ok r, s)) : ∀ m ∈ s.nodes, m.nid = parent → m.cls ∈ ok := by
  obtain ⟨p, hp, hc⟩ := childrenOf_parent h
  intro m hm hmp
  -- `findNode` returned, so `p` is the only node with this id
  have : m ∈ findAll s parent := by simp [findAll, hm, hmp]
  rw [findAll_of_findNode hp] at this
  simp at this; subst this
  simpa using hc

/-- no guard on the handle: `Node.add_component` lists the node's components first, which fails for anything but a NetworkNode -/
theorem inv_addComponent_anyHandle {P : Topo → Prop} (hP : AttachStable P) (fl : Flavour) (c : Nat) (parent : Nid) (a : CompArgs) (s : Topo)
    (h : P s) : P (addComponent fl c parent a s).2 := by
  unfold addComponent
  refine state_after_ro (by ro) h (fun comps hch => ?_)
  refine state_after_ro (by ro) h (fun _ hg => ?_)
  exact compNew_cases (Q := fun r => P r.2) (fun _ => h) fun p e hp he => compTail_stable hP parent _ _ a p e s h hch (guard_ok hg) hp he

theorem inv_addStorage_anyHandle {P : Topo → Prop} (hP : AttachStable P) (fl : Flavour) (c : Nat) (parent : Nid) (name : String)
    (nid : Option Nid) (props : List PropArg) (s : Topo) (h : P s) : P (addStorage fl c parent name nid props s).2 := by
  unfold addStorage
  -- one guard, then `add_component` of a NAS
  exact state_after_ro (by ro) h fun _ _ =>
    inv_addComponent_anyHandle hP fl c parent ⟨name, nid, some "Storage", some "NAS", none, none, none, props⟩ s h

theorem inv_addComponentMT {P : Topo → Prop} (hP : AttachStable P) (fl : Flavour) (c : Nat) (parent : Nid) (a : CompArgs)
    (mt : String × String) (s : Topo) (h : P s) : P (addComponentMT fl c parent a mt s).2 := by
  unfold addComponentMT
  refine state_after_ro (by ro) h (fun comps hch => ?_)
  refine state_after_ro (by ro) h (fun _ hg => ?_)
  exact compNewMT_cases (Q := fun r => P r.2) (fun _ => h) fun p e hp he => compTail_stable hP parent _ _ a p e s h hch (guard_ok hg) hp he

theorem invS_addComponent (fl : Flavour) (c : Nat) (parent : Nid) (a : CompArgs) (s : Topo) (hh : HandleOk s parent .networkNode)
    (h : InvS s) : InvS (addComponent fl c parent a s).2 := inv_addComponent_anyHandle buildStable_invS.toAttachStable fl c parent a s h
theorem invD_addComponent (fl : Flavour) (c : Nat) (parent : Nid) (a : CompArgs) (s : Topo) (hh : HandleOk s parent .networkNode)
    (h : InvD s) : InvD (addComponent fl c parent a s).2 := inv_addComponent_anyHandle buildStable_invD.toAttachStable fl c parent a s h
theorem invS_addStorage (fl : Flavour) (c : Nat) (parent : Nid) (name : String) (nid : Option Nid) (props : List PropArg) (s : Topo)
    (hh : HandleOk s parent .networkNode) (h : InvS s) : InvS (addStorage fl c parent name nid props s).2 :=
  inv_addStorage_anyHandle buildStable_invS.toAttachStable fl c parent name nid props s h
theorem invD_addStorage (fl : Flavour) (c : Nat) (parent : Nid) (name : String) (nid : Option Nid) (props : List PropArg) (s : Topo)
    (hh : HandleOk s parent .networkNode) (h : InvD s) : InvD (addStorage fl c parent name nid props s).2 :=
  inv_addStorage_anyHandle buildStable_invD.toAttachStable fl c parent name nid props s h

theorem invSN_addComponent (fl : Flavour) (c : Nat) (parent : Nid) (a : CompArgs) (s : Topo) (hh : HandleOk s parent .networkNode)
    (h : InvSN s) : InvSN (addComponent fl c parent a s).2 :=
  inv_addComponent_anyHandle buildStable_invSN.toAttachStable fl c parent a s h
theorem invSN_addStorage (fl : Flavour) (c : Nat) (parent : Nid) (name : String) (nid : Option Nid) (props : List PropArg) (s : Topo)
    (hh : HandleOk s parent .networkNode) (h : InvSN s) : InvSN (addStorage fl c parent name nid props s).2 :=
  inv_addStorage_anyHandle buildStable_invSN.toAttachStable fl c parent name nid props s h

end FimVerif.Topo
