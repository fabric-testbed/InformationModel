import FimVerif.Proofs.Lemmas.TopoAtomicRun
import FimVerif.Proofs.Lemmas.ListAux
/-! Graph-level facts behind C09 and C07: the state predicates (`IdsDistinct`, `Closed`) and `grow`, the generated flags as
theorems (`flag_*`), what the primitives of `Model/Topo.lean` do in a state with distinct ids or in one extended by fresh nodes, and
what the look-ups returned when they returned. -/
namespace FimVerif.Topo
open FimVerif FimVerif.M

theorem sublist_filter_of_all {α : Type} {l1 l2 : List α} {p : α → Bool} (h : l1.Sublist l2) (hp : ∀ x ∈ l1, p x = true) :
    l1.Sublist (l2.filter p) := by
  have : l1 = l1.filter p := (List.filter_eq_self.mpr hp).symm
  rw [this]; exact h.filter p

theorem sublist_flatMap {α β : Type} {l1 l2 : List α} {f g : α → List β} (h : l1.Sublist l2) (hf : ∀ x ∈ l1, (f x).Sublist (g x)) :
    (l1.flatMap f).Sublist (l2.flatMap g) := by
  induction h with
  | slnil => exact List.Sublist.slnil
  | cons a _ ih =>
    rw [List.flatMap_cons]
    exact (ih hf).trans (List.sublist_append_right _ _)
  | cons_cons a _ ih =>
    rw [List.flatMap_cons, List.flatMap_cons]
    exact List.Sublist.append (hf a (List.mem_cons_self ..)) (ih (fun x hx => hf x (List.mem_cons_of_mem _ hx)))

/-- on the NodeID alone, not on the key `(Class, NodeID)`: `add_node` refuses an id that a node of any class has
(`Gen.Rules.idAnyClass`, `idTaken_iff`) -/
def IdsDistinct (t : Topo) : Prop := (t.nodes.map (·.nid)).Nodup
def Closed (t : Topo) : Prop := ∀ e ∈ t.edges, (∃ n ∈ t.nodes, n.ref = e.a) ∧ (∃ n ∈ t.nodes, n.ref = e.b)
def NsCp (t : Topo) : Prop := ∀ e ∈ t.edges, e.rel = .connects →
  (e.a.cls = .networkService → e.b.cls = .connectionPoint) ∧ (e.b.cls = .networkService → e.a.cls = .connectionPoint)
/-- the library has drawn fewer than `c` uuids so far -/
def FreshFrom (c : Nat) (t : Topo) : Prop := ∀ n ∈ t.nodes, ∀ k, n.nid = .gen k → k < c

instance (t : Topo) : Decidable (IdsDistinct t) := by unfold IdsDistinct; infer_instance
instance (t : Topo) : Decidable (Closed t) := by unfold Closed; infer_instance
instance (t : Topo) : Decidable (NsCp t) := by unfold NsCp; infer_instance

def touches (E : List GEdge) (r : Ref) : Prop := ∃ e ∈ E, e.a = r ∨ e.b = r

def Absent (s : Topo) (r : Ref) : Prop := ∀ m ∈ s.nodes, m.ref ≠ r

def grow (s : Topo) (N : List GNode) (E : List GEdge) : Topo := ⟨s.nodes ++ N, s.edges ++ E⟩

/-! The flags gen/rules.py reads off the source; each of these theorems is re-checked against the code on every run, so reverting
the repair a flag stands for breaks the build here. -/

theorem flag_idAnyClass : Gen.Rules.idAnyClass = true := by decide
theorem flag_ifaceParentPrecheck : Gen.Rules.ifaceParentPrecheck = true := by decide
theorem flag_linkPrecheck : Gen.Rules.linkPrecheck = true := by decide
theorem flag_svcRollbackAll : Gen.Rules.svcRollbackAll = true := by decide
theorem flag_compositeRollback : Gen.Rules.compositeRollback = true := by decide
theorem flag_connectNamePrecheck : Gen.Rules.connectNamePrecheck = true := by decide
theorem flag_detachSkipsGone : Gen.Rules.detachSkipsGone = true := by decide
theorem flag_peerRollback : Gen.Rules.peerRollback = true := by decide
/-- the clean-up of `add_component_sliver` (commit e285d22); the lemmas about it take the flag as a hypothesis, so that what they say
of the other outcomes does not depend on it -/
theorem flag_componentRollback : Gen.Rules.componentRollback = true := by decide

theorem le_pick (o : Option Nid) (c : Nat) : c ≤ (pick o c).2 := by cases o <;> simp [pick]

theorem pick_fst_ne_gen {o : Option Nid} {c : Nat} (ho : ∀ k, c ≤ k → o ≠ some (.gen k)) :
    ∀ k, (pick o c).2 ≤ k → (pick o c).1 ≠ .gen k := by
  intro k hk
  cases o with
  | none => intro e; injection e with e; exact absurd hk (by simp [pick]; omega)
  | some x => exact fun e => ho k hk (by rw [← e]; rfl)

@[simp] theorem ref_cls (n : GNode) : n.ref.cls = n.cls := rfl
theorem ref_of_cls {m : GNode} {c : Cls} (h : m.cls = c) : m.ref = ⟨c, m.nid⟩ := by rw [← h]; rfl

theorem eq_of_nid_eq {l : List GNode} (h : (l.map (·.nid)).Nodup) {x y : GNode} (hx : x ∈ l) (hy : y ∈ l)
    (e : x.nid = y.nid) : x = y := List.eq_of_nodup_map _ h hx hy e

theorem filter_singleton {l : List GNode} (hn : (l.map (·.nid)).Nodup) {x : GNode} (hx : x ∈ l) {p : GNode → Bool}
    (hp : ∀ y ∈ l, p y = true ↔ y = x) : l.filter p = [x] := by
  rw [← List.filter_eq_singleton_of_nodup_map (·.nid) hn hx]
  apply List.filter_congr
  intro y hy
  by_cases e : y.nid = x.nid
  · have := eq_of_nid_eq hn hy hx e
    subst this
    simp [(hp y hy).mpr rfl]
  · have h1 : p y = false := by
      cases h : p y
      · rfl
      · exact absurd (congrArg GNode.nid ((hp y hy).mp h)) e
    rw [h1, beq_eq_false_iff_ne.mpr e]

theorem findNode_of_mem {t : Topo} (h : IdsDistinct t) {n : GNode} (hn : n ∈ t.nodes) : findNode n.nid t = (.ok n, t) := by
  unfold findNode findAll; rw [List.filter_eq_singleton_of_nodup_map GNode.nid h hn]

theorem findNode_ok {t t' : Topo} {i : Nid} {n : GNode} (h : findNode i t = (.ok n, t')) : n ∈ t.nodes ∧ n.nid = i ∧ t' = t := by
  unfold findNode at h
  split at h
  · rename_i m hm
    simp only [Prod.mk.injEq, Except.ok.injEq] at h
    obtain ⟨h1, h2⟩ := h
    subst h1; subst h2
    have : m ∈ findAll t i := by rw [hm]; simp
    have := List.mem_filter.mp this
    exact ⟨this.1, by simpa using this.2, rfl⟩
  · simp at h

theorem ref_eq_iff {t : Topo} (h : IdsDistinct t) {x y : GNode} (hx : x ∈ t.nodes) (hy : y ∈ t.nodes) :
    x.ref = y.ref ↔ x = y := by
  constructor
  · intro e; exact eq_of_nid_eq h hx hy (congrArg Ref.nid e)
  · intro e; rw [e]

theorem ref_ne_of_nid_ne {x y : GNode} (h : x.nid ≠ y.nid) : x.ref ≠ y.ref :=
  fun e => h (congrArg Ref.nid e)

theorem ref_ne_of_cls_ne {x y : GNode} (h : x.cls ≠ y.cls) : x.ref ≠ y.ref :=
  fun e => h (congrArg Ref.cls e)

theorem absent_of_fresh {s : Topo} {n : GNode} (h : ∀ m ∈ s.nodes, m.nid ≠ n.nid) : Absent s n.ref :=
  fun m hm => ref_ne_of_nid_ne (h m hm)

theorem nid_of_ref_eq {x y : GNode} (h : x.ref = y.ref) : x.nid = y.nid := congrArg Ref.nid h
theorem cls_of_ref_eq {x y : GNode} (h : x.ref = y.ref) : x.cls = y.cls := congrArg Ref.cls h

theorem idTaken_iff {t : Topo} {cls : Cls} {i : Nid} : idTaken t cls i = false ↔ ∀ m ∈ t.nodes, m.nid ≠ i := by
  simp [idTaken, flag_idAnyClass]

theorem addGNode_cases (n : GNode) (t : Topo) :
    addGNode n t = (.error .query, t) ∨ (addGNode n t = (.ok (), pushNode n t) ∧ ∀ m ∈ t.nodes, m.nid ≠ n.nid) := by
  unfold addGNode
  by_cases h : idTaken t n.cls n.nid = true
  · simp [h]
  · have h' : idTaken t n.cls n.nid = false := by simpa using h
    exact .inr ⟨by simp [h'], idTaken_iff.mp h'⟩

theorem addGNode_run {n : GNode} {t : Topo} (h : ∀ m ∈ t.nodes, m.nid ≠ n.nid) : addGNode n t = (.ok (), pushNode n t) := by
  unfold addGNode; rw [idTaken_iff.mpr h]; rfl

theorem idsDistinct_push {n : GNode} {t : Topo} (h : IdsDistinct t) (hn : ∀ m ∈ t.nodes, m.nid ≠ n.nid) :
    IdsDistinct (pushNode n t) := by
  unfold IdsDistinct pushNode
  simp only [List.map_append, List.map_cons, List.map_nil]
  rw [List.nodup_append]
  refine ⟨h, by simp, ?_⟩
  intro a ha b hb
  simp at hb; subst hb
  simp only [List.mem_map] at ha
  obtain ⟨m, hm, rfl⟩ := ha
  exact hn m hm

theorem findAll_push (n : GNode) (t : Topo) (i : Nid) :
    findAll (pushNode n t) i = findAll t i ++ (if n.nid = i then [n] else []) := by
  unfold findAll pushNode
  by_cases h : n.nid = i <;> simp [List.filter_append, h]

theorem findAll_of_findNode {t t' : Topo} {i : Nid} {n : GNode} (h : findNode i t = (.ok n, t')) : findAll t i = [n] := by
  unfold findNode at h
  split at h
  · rename_i m hm; simp only [Prod.mk.injEq, Except.ok.injEq] at h; rw [hm, h.1]
  · simp at h

theorem findNode_push_old {n pn : GNode} {t : Topo} {i : Nid} (hp : findNode i t = (.ok pn, t))
    (hn : ∀ m ∈ t.nodes, m.nid ≠ n.nid) : findNode i (pushNode n t) = (.ok pn, pushNode n t) := by
  obtain ⟨hm, hi, _⟩ := findNode_ok hp
  have hne : ¬ n.nid = i := fun e => hn pn hm (by rw [hi, e])
  unfold findNode
  rw [findAll_push, findAll_of_findNode hp]; simp [hne]

theorem findNode_push_new {n : GNode} {t : Topo} (hn : ∀ m ∈ t.nodes, m.nid ≠ n.nid) :
    findNode n.nid (pushNode n t) = (.ok n, pushNode n t) := by
  unfold findNode
  rw [findAll_push]
  have : findAll t n.nid = [] := List.filter_eq_nil_iff.mpr fun y hy => by simpa using hn y hy
  simp [this]

theorem findNode_setEdge {i : Nid} {u : Topo} {n : GNode} {a b : Ref} {rel : Rel} (h : findNode i u = (.ok n, u)) :
    findNode i (setEdge a b rel u) = (.ok n, setEdge a b rel u) := by
  have := findAll_of_findNode h
  unfold findNode
  have e : findAll (setEdge a b rel u) i = findAll u i := rfl
  rw [e, this]

theorem addEdge_run {a b : Nid} {r : Rel} {na nb : GNode} {t : Topo} (ha : findNode a t = (.ok na, t))
    (hb : findNode b t = (.ok nb, t)) : addEdge a r b t = (.ok (), setEdge na.ref nb.ref r t) := by
  unfold addEdge
  rw [bind_ok ha, bind_ok hb]; rfl

/-- `n'` stands for `n`: the callers' `n` is a long structure literal, which the continuation then does not have to carry -/
theorem addGNode_step {β : Type} {n : GNode} {f : Unit → M Topo β} {t : Topo} {Q : Except Err β × Topo → Prop}
    (herr : Q (.error .query, t))
    (hok : ∀ n', n' = n → (∀ m ∈ t.nodes, m.nid ≠ n'.nid) → Q (f () (pushNode n' t))) : Q ((addGNode n >>= f) t) := by
  rcases addGNode_cases n t with h | ⟨h, hn⟩
  · rw [bind_err h]; exact herr
  · rw [bind_ok h]; exact hok n rfl hn

theorem typeOf_run {i : Nid} {x : GNode} {u : Topo} (h : findNode i u = (.ok x, u)) : typeOf i u = (.ok x.typ, u) := by
  unfold typeOf; rw [bind_ok h]; rfl

theorem typeOf_ok {i : Nid} {t t' : Topo} {ty : String} (h : typeOf i t = (.ok ty, t')) :
    ∃ x, findNode i t = (.ok x, t) ∧ ty = x.typ := by
  unfold typeOf at h
  obtain ⟨x, hx, h⟩ := ro_ok_inv (readOnly_findNode _) h
  simp only [pure_apply', Prod.mk.injEq, Except.ok.injEq] at h
  exact ⟨x, hx, h.1.symm⟩

theorem idsDistinct_drop {t : Topo} (h : IdsDistinct t) (r : Ref) : IdsDistinct (dropNode r t) :=
  List.Nodup.sublist (List.Sublist.map _ List.filter_sublist) h

theorem neighbors_nodup {s : Topo} (hd : IdsDistinct s) (r : Ref) (rel : Rel) (L : Cls) :
    ((neighbors s r rel L).map (·.nid)).Nodup :=
  List.Nodup.sublist (List.Sublist.map _ List.filter_sublist) hd

theorem deleteNode_run {t : Topo} (h : IdsDistinct t) {n : GNode} (hn : n ∈ t.nodes) :
    deleteNode n.nid t = (.ok (), dropNode n.ref t) := by
  unfold deleteNode; rw [bind_ok (findNode_of_mem h hn)]; rfl

theorem firstNeighbor_run {t : Topo} (h : IdsDistinct t) {n : GNode} (hn : n ∈ t.nodes) (rel : Rel) (L : Cls) :
    firstNeighbor n.nid rel L t = (.ok ((neighbors t n.ref rel L).map (·.nid)), t) := by
  unfold firstNeighbor; rw [bind_ok (findNode_of_mem h hn)]; rfl

theorem firstNeighbor_ok {i : Nid} {rel : Rel} {L : Cls} {t t' : Topo} {l : List Nid} (h : firstNeighbor i rel L t = (.ok l, t')) :
    ∃ x ∈ t.nodes, x.nid = i ∧ l = (neighbors t x.ref rel L).map (·.nid) := by
  unfold firstNeighbor at h
  obtain ⟨x, hx, h⟩ := ro_ok_inv (readOnly_findNode _) h
  obtain ⟨hxm, hxi, _⟩ := findNode_ok hx
  simp only [read_apply, Prod.mk.injEq, Except.ok.injEq] at h
  exact ⟨x, hxm, hxi, h.1.symm⟩

theorem mem_neighbors {s : Topo} {r : Ref} {rel : Rel} {L : Cls} {m : GNode} (h : m ∈ neighbors s r rel L) :
    m ∈ s.nodes ∧ m.cls = L ∧ adjacent s r m.ref rel = true := by
  have := List.mem_filter.mp h
  refine ⟨this.1, ?_, ?_⟩ <;> simp only [Bool.and_eq_true, beq_iff_eq] at this
  · exact this.2.1
  · exact this.2.2

theorem mem_neighbors_of {s : Topo} {r : Ref} {rel : Rel} {m : GNode} (hm : m ∈ s.nodes) (ha : adjacent s r m.ref rel = true) :
    m ∈ neighbors s r rel m.cls :=
  List.mem_filter.mpr ⟨hm, by simp [ha]⟩

theorem neighbors_cls {s : Topo} {r : Ref} {rel : Rel} {L : Cls} {m : GNode} (h : m ∈ neighbors s r rel L) : m.cls = L :=
  (mem_neighbors h).2.1

theorem findByName_ok {cls : Cls} {name : String} {s s' : Topo} {n : GNode} (h : findByName cls name s = (.ok n, s')) :
    n ∈ s.nodes ∧ n.cls = cls ∧ n.name = name ∧ s' = s := by
  unfold findByName at h
  split at h
  · rename_i m hm
    simp only [Prod.mk.injEq, Except.ok.injEq] at h
    obtain ⟨h1, h2⟩ := h
    subst h1; subst h2
    have : m ∈ s.nodes.filter (fun n => n.cls == cls && n.name == name) := by rw [hm]; simp
    have := List.mem_filter.mp this
    simp only [Bool.and_eq_true, beq_iff_eq] at this
    exact ⟨this.1, this.2.1, this.2.2, rfl⟩
  · simp at h

theorem mapM'_findNode {s : Topo} (hd : IdsDistinct s) : ∀ (l : List GNode), (∀ m ∈ l, m ∈ s.nodes) →
    M.mapM' findNode (l.map (·.nid)) s = (.ok l, s) := by
  intro l
  induction l with
  | nil => intro _; rfl
  | cons x xs ih =>
    intro h
    simp only [List.map_cons, M.mapM', bind_apply, findNode_of_mem hd (h x (List.mem_cons_self ..)),
      ih (fun m hm => h m (List.mem_cons_of_mem _ hm)), pure_apply]

theorem childrenOf_ok {s s' : Topo} (hd : IdsDistinct s) {p : Nid} {okCls : List Cls} {rel : Rel} {L : Cls} {l : List GNode}
    (h : childrenOf p okCls rel L s = (.ok l, s')) :
    ∃ pn ∈ s.nodes, pn.nid = p ∧ l = neighbors s pn.ref rel L ∧ s' = s := by
  unfold childrenOf at h
  obtain ⟨pn, h1, h⟩ := ro_ok_inv (readOnly_findNode _) h
  obtain ⟨hpn, rfl, _⟩ := findNode_ok h1
  obtain ⟨u, _, h⟩ := ro_ok_inv (readOnly_guard _ _) h
  rw [bind_ok (firstNeighbor_run hd hpn rel L), mapM'_findNode hd _ (fun m hm => (mem_neighbors hm).1)] at h
  simp only [Prod.mk.injEq, Except.ok.injEq] at h
  exact ⟨pn, hpn, rfl, h.1.symm, h.2.symm⟩

theorem childrenOf_parent {parent : Nid} {ok : List Cls} {rel : Rel} {L : Cls} {s s' : Topo} {l : List GNode}
    (h : childrenOf parent ok rel L s = (.ok l, s')) : ∃ p, findNode parent s = (.ok p, s) ∧ ok.contains p.cls = true := by
  unfold childrenOf at h
  obtain ⟨pn, hpn, hrest⟩ := ro_ok_inv (readOnly_findNode _) h
  obtain ⟨u, _, hg, _⟩ := bind_ok_inv hrest
  exact ⟨pn, hpn, guard_ok hg⟩

theorem childrenOf_parent_cls {parent : Nid} {ok : List Cls} {rel : Rel} {L : Cls} {s s' : Topo} {l : List GNode}
    (hd : IdsDistinct s) (h : childrenOf parent ok rel L s = (.ok l, s')) :
    ∀ m ∈ s.nodes, m.nid = parent → ok.contains m.cls = true := by
  obtain ⟨p, hp, hcls⟩ := childrenOf_parent h
  obtain ⟨hpm, hpi, _⟩ := findNode_ok hp
  intro m hm hmi
  rwa [eq_of_nid_eq hd hm hpm (hmi.trans hpi.symm)]

theorem child_by_name {s s' s'' : Topo} (hd : IdsDistinct s) {p : Nid} {okCls : List Cls} {rel : Rel} {L : Cls} {l : List GNode}
    {name : String} {e : Err} {x : GNode} (hl : childrenOf p okCls rel L s = (.ok l, s'))
    (hx : need (l.find? (fun n => n.name == name)) e s' = (.ok x, s'')) : x ∈ s.nodes ∧ x.cls = L ∧ x.name = name := by
  obtain ⟨pn, _, _, rfl, _⟩ := childrenOf_ok hd hl
  have hf := need_ok hx
  obtain ⟨h1, h2, _⟩ := mem_neighbors (List.mem_of_find?_eq_some hf)
  exact ⟨h1, h2, by simpa using List.find?_some hf⟩

theorem neighbors_eq_nil {t : Topo} {r : Ref} {rel : Rel} {L : Cls} (h : ∀ x ∈ t.nodes, x.cls = L → adjacent t r x.ref rel = false) :
    neighbors t r rel L = [] :=
  List.filter_eq_nil_iff.mpr fun x hx hp => by
    simp only [Bool.and_eq_true, beq_iff_eq] at hp
    rw [h x hx hp.1] at hp; exact Bool.false_ne_true hp.2

theorem neighbors_eq_singleton {t : Topo} (hd : IdsDistinct t) {r : Ref} {rel : Rel} {y : GNode} (hy : y ∈ t.nodes)
    (hadj : adjacent t r y.ref rel = true) (h : ∀ x ∈ t.nodes, x.cls = y.cls → adjacent t r x.ref rel = true → x.ref = y.ref) :
    neighbors t r rel y.cls = [y] :=
  filter_singleton hd hy fun x hx => by
    simp only [Bool.and_eq_true, beq_iff_eq]
    exact ⟨fun hp => (ref_eq_iff hd hx hy).mp (h x hx hp.1 hp.2), fun e => by subst e; exact ⟨rfl, hadj⟩⟩

/-- the ConnectionPoints on the far side of the links at `r`, with multiplicity (what `find_peer_connection_points` lists) -/
def peerNodes (s : Topo) (r : Ref) : List GNode :=
  (neighbors s r .connects .link).flatMap (fun f =>
    s.nodes.filter (fun k => k.cls == .connectionPoint && adjacentAny s f.ref k.ref && k.ref != r))

theorem mem_peerNodes {s : Topo} {r : Ref} {m : GNode} (h : m ∈ peerNodes s r) : m ∈ s.nodes ∧ m.cls = .connectionPoint ∧ m.ref ≠ r := by
  unfold peerNodes at h
  obtain ⟨f, _, hm⟩ := List.mem_flatMap.mp h
  have := List.mem_filter.mp hm
  simp only [Bool.and_eq_true, beq_iff_eq, bne_iff_ne, ne_eq] at this
  exact ⟨this.1, this.2.1.1, this.2.2⟩

theorem peersOf_run {t : Topo} (hd : IdsDistinct t) {n : GNode} (hn : n ∈ t.nodes) :
    peersOf n.nid t = (.ok ((peerNodes t n.ref).map (·.nid)), t) := by
  unfold peersOf secondNeighbors
  rw [bind_ok (m := findNode n.nid >>= _) (a := _) (s' := t) (by rw [bind_ok (findNode_of_mem hd hn)]; rfl)]
  simp only [pure_apply', peerNodes, List.map_flatMap, List.map_map]
  rfl

theorem flatMap_single {α : Type} {l : List GNode} (hn : (l.map (·.nid)).Nodup) {x : GNode} (hx : x ∈ l) {g : GNode → List α}
    (hz : ∀ z ∈ l, z ≠ x → g z = []) : l.flatMap g = g x := by
  induction l with
  | nil => cases hx
  | cons a l ih =>
    simp only [List.map_cons, List.nodup_cons, List.mem_map, not_exists, not_and] at hn
    rcases List.mem_cons.mp hx with rfl | hx'
    · have : l.flatMap g = [] := by
        rw [List.flatMap_eq_nil_iff]
        intro z hzl
        exact hz z (List.mem_cons_of_mem _ hzl) (fun e => hn.1 z hzl (by rw [e]))
      simp [List.flatMap_cons, this]
    · have ha : a ≠ x := fun e => hn.1 x hx' (by rw [e])
      rw [List.flatMap_cons, hz a (List.mem_cons_self ..) ha, List.nil_append]
      exact ih hn.2 hx' (fun z hzl => hz z (List.mem_cons_of_mem _ hzl))

theorem not_touches_of_closed {t : Topo} {r : Ref} (hc : Closed t) (hr : Absent t r) : ¬ touches t.edges r := by
  intro ⟨e, he, h⟩
  obtain ⟨⟨x, hx, hxe⟩, ⟨y, hy, hye⟩⟩ := hc e he
  rcases h with h | h
  · exact hr x hx (by rw [hxe, h])
  · exact hr y hy (by rw [hye, h])

theorem sameEnds_iff {e : GEdge} {a b : Ref} : sameEnds e a b = true ↔ (e.a = a ∧ e.b = b) ∨ (e.a = b ∧ e.b = a) := by
  simp [sameEnds]

theorem sameEnds_touches {e : GEdge} {a b : Ref} (h : sameEnds e a b = true) : (e.a = b ∨ e.b = b) :=
  (sameEnds_iff.mp h).elim (fun h => .inr h.2) (fun h => .inl h.1)

theorem sameEnds_touches_left {e : GEdge} {a b : Ref} (h : sameEnds e a b = true) : (e.a = a ∨ e.b = a) :=
  (sameEnds_iff.mp h).elim (fun h => .inl h.1) (fun h => .inr h.2)

theorem sameEnds_false_left {e : GEdge} {a b : Ref} (h1 : e.a ≠ a) (h2 : e.b ≠ a) : sameEnds e a b = false := by
  simp [sameEnds, h1, h2]

theorem adjacent_iff {t : Topo} {r x : Ref} {rel : Rel} :
    adjacent t r x rel = true ↔ ∃ e ∈ t.edges, e.rel = rel ∧ sameEnds e r x = true := by
  simp [adjacent, List.any_eq_true]

theorem adjacent_of_edge {t : Topo} {a b : Ref} {rel : Rel} (h : ⟨a, b, rel⟩ ∈ t.edges) :
    adjacent t a b rel = true ∧ adjacent t b a rel = true :=
  ⟨adjacent_iff.mpr ⟨_, h, rfl, by simp [sameEnds]⟩, adjacent_iff.mpr ⟨_, h, rfl, by simp [sameEnds]⟩⟩

theorem adjacentAny_iff {t : Topo} {r x : Ref} : adjacentAny t r x = true ↔ ∃ e ∈ t.edges, sameEnds e r x = true := by
  simp [adjacentAny, List.any_eq_true]

theorem adjacentAny_of_adjacent {t : Topo} {r x : Ref} {rel : Rel} (h : adjacent t r x rel = true) : adjacentAny t r x = true := by
  obtain ⟨e, he, _, hs⟩ := adjacent_iff.mp h
  exact adjacentAny_iff.mpr ⟨e, he, hs⟩

theorem adjacent_false_of_not_touch {E : List GEdge} {r x : Ref} {rel : Rel} (h : ¬ touches E r) :
    E.any (fun e => e.rel == rel && sameEnds e r x) = false := by
  rw [List.any_eq_false]
  intro e he hc
  simp only [Bool.and_eq_true] at hc
  exact h ⟨e, he, sameEnds_touches_left hc.2⟩

theorem setEdge_append {u : Topo} {a b : Ref} {rel : Rel} (h : ∀ e ∈ u.edges, sameEnds e a b = false) :
    setEdge a b rel u = { u with edges := u.edges ++ [⟨a, b, rel⟩] } := by
  unfold setEdge
  congr 2
  rw [List.filter_eq_self]
  intro e he
  simp [h e he]

theorem setEdge_fresh {t : Topo} {a b : Ref} {rel : Rel} (h : ¬ touches t.edges a ∨ ¬ touches t.edges b) :
    setEdge a b rel t = { t with edges := t.edges ++ [⟨a, b, rel⟩] } :=
  setEdge_append fun e he => Bool.eq_false_iff.mpr fun hs =>
    h.elim (fun h => h ⟨e, he, sameEnds_touches_left hs⟩) fun h => h ⟨e, he, sameEnds_touches hs⟩

theorem setEdge_pushNew {t : Topo} {a : Ref} {n : GNode} {rel : Rel} (hc : Closed t) (hn : ∀ m ∈ t.nodes, m.nid ≠ n.nid) :
    setEdge a n.ref rel (pushNode n t) = grow t [n] [⟨a, n.ref, rel⟩] :=
  setEdge_fresh (t := pushNode n t) (.inr (show ¬ touches t.edges n.ref from not_touches_of_closed hc (absent_of_fresh hn)))

theorem addEdge_fresh {t : Topo} {p : Nid} {pn n : GNode} {rel : Rel} (hc : Closed t) (hp : findNode p t = (.ok pn, t))
    (hn : ∀ m ∈ t.nodes, m.nid ≠ n.nid) : addEdge p rel n.nid (pushNode n t) = (.ok (), grow t [n] [⟨pn.ref, n.ref, rel⟩]) := by
  rw [addEdge_run (findNode_push_old hp hn) (findNode_push_new hn), setEdge_pushNew hc hn]

end FimVerif.Topo
