import FimVerif.Proofs.Lemmas.C16Validate
/-! Tags: every string `Tags.__init__` stores is in `TAG_PATTERN`, and a list of such strings is accepted as given.
`Re.avoids`: a check on the syntax of a pattern that excludes a character from every word of its language (used for "\n"). -/
namespace FimVerif.V16
open FimVerif.Regex FimVerif.Gen.Validators

theorem tagCheck_ok (hT : tagAnchor = .full) {i : Item} {s : List Char} (h : tagCheck i = .ok s) : tagRe.L s := by
  cases i with
  | other => cases h
  | str t =>
    simp only [tagCheck, hT] at h
    split at h <;> cases h
    exact accepts_full.mp ‹_›

theorem tagItems_ok (hT : tagAnchor = .full) {xs : List Item} : ∀ {l : List (List Char)}, tagItems xs = .ok l → ∀ t ∈ l, tagRe.L t := by
  fun_induction tagItems xs with
  | case1 => rintro l ⟨⟩; nofun
  | case2 | case3 => nofun
  | case4 i t s hc r hr ih =>
    rintro l ⟨⟩
    exact List.forall_mem_cons.mpr ⟨tagCheck_ok hT hc, ih hr⟩

theorem tagItems_of (hT : tagAnchor = .full) : ∀ (l : List (List Char)), (∀ t ∈ l, tagRe.L t) → tagItems (l.map Item.str) = .ok l := by
  intro l
  induction l with
  | nil => intro _; rfl
  | cons a r ih =>
    intro h
    have ha := accepts_full.mpr (h a (List.mem_cons_self ..))
    simp only [List.map_cons, tagItems, tagCheck, hT, ha, if_true, pure_eq]
    rw [ih (fun t ht => h t (List.mem_cons_of_mem _ ht))]

theorem tagsCtor_ok (hT : tagAnchor = .full) {args : List TArg} : ∀ {l : List (List Char)}, tagsCtor args = .ok l →
    ∀ t ∈ l, tagRe.L t := by
  fun_induction tagsCtor args with
  | case1 => rintro l ⟨⟩; simp
  | case2 | case3 => nofun
  | case4 a _ r h1 r' h2 ih =>
    rintro l ⟨⟩ t ht
    rcases List.mem_append.mp ht with ht | ht
    · cases a <;> exact tagItems_ok hT h1 t ht
    · exact ih h2 t ht

def Re.avoids (c : Char) : Re → Bool
  | .empty => true
  | .eps => true
  | .chr p => !p c
  | .cat a b => Re.avoids c a && Re.avoids c b
  | .alt a b => Re.avoids c a && Re.avoids c b
  | .star a => Re.avoids c a
  | .rep a _ _ => Re.avoids c a

theorem pow_avoids {P : List Char → Prop} {c : Char} (hP : ∀ w, P w → c ∉ w) :
    ∀ {k : Nat} {w : List Char}, Regex.Pow P k w → c ∉ w := by
  intro k
  induction k with
  | zero => intro w h; simp only [Regex.Pow] at h; subst h; simp
  | succ k ih =>
    intro w h
    obtain ⟨u, v, rfl, hu, hv⟩ := h
    exact fun hc => (List.mem_append.mp hc).elim (hP u hu) (ih hv)

theorem avoids_sound (c : Char) (r : Re) : Re.avoids c r = true → ∀ w, r.L w → c ∉ w := by
  induction r with
  | empty | eps => simp [Re.L]
  | chr p =>
    rintro ha w ⟨x, rfl, hx⟩ hc
    rw [List.mem_singleton.mp hc] at ha
    simp [Re.avoids, hx] at ha
  | cat a b iha ihb =>
    simp only [Re.avoids, Bool.and_eq_true]
    rintro ⟨h1, h2⟩ w ⟨u, v, rfl, hu, hv⟩
    exact fun hc => (List.mem_append.mp hc).elim (iha h1 u hu) (ihb h2 v hv)
  | alt a b iha ihb =>
    simp only [Re.avoids, Bool.and_eq_true]
    exact fun ⟨h1, h2⟩ w hw => hw.elim (iha h1 w) (ihb h2 w)
  | star a iha => exact fun h w ⟨k, hk⟩ => pow_avoids (iha h) hk
  | rep a lo hi iha => exact fun h w ⟨k, _, _, hk⟩ => pow_avoids (iha h) hk

end FimVerif.V16
