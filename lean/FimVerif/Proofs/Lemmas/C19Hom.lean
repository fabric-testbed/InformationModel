import FimVerif.Model.Cypher
import FimVerif.Proofs.Lemmas.ListAux
/-!
C19: what every comparison of two renderings shares.  A loop body is rendered atom by atom, so two settings (environment and row) that
render each atom alike - up to a map `φ` of texts that distributes over concatenation: the identity, or filling the holes - render
atom lists and loop bodies alike (`renderAtoms_hom`, `renderInner_hom`).  With `φ` the identity and two environments: a template
looks only at the mappings it iterates over (`render_congr`), which bounds the environments the hole theorems have to evaluate.
-/
namespace FimVerif.Cypher

def Inner.atoms : Inner → List Atom
  | .atom a => [a]
  | .opt _ body => body

theorem Inner.mem_leaks {i : Inner} {x : Text} : x ∈ i.leaks ↔ ∃ a ∈ i.atoms, x ∈ a.leaks := by
  cases i <;> simp [Inner.leaks, Inner.atoms]

theorem innerPlain_iff {i : Inner} : innerPlain i = true ↔ ∀ a ∈ i.atoms, atomPlain a = true := by
  cases i <;> simp [innerPlain, Inner.atoms]

theorem flatten_id (l : List Text) : id l.flatten = (l.map id).flatten := by
  rw [List.map_id]; rfl

section
variable {φ : Text → Text} (hφ : ∀ l : List Text, φ l.flatten = (l.map φ).flatten) {e e' : Env} {r r' : Row}
include hφ

theorem renderAtoms_hom {as : List Atom} (h : ∀ a ∈ as, a.render e' r' = φ (a.render e r)) :
    renderAtoms e' r' as = φ (renderAtoms e r as) := by
  rw [renderAtoms, renderAtoms, hφ, List.map_map]
  exact congrArg List.flatten (List.map_congr_left h)

theorem renderInner_hom (hhas : ∀ f, r'.has f = r.has f) {body : List Inner}
    (h : ∀ i ∈ body, ∀ a ∈ i.atoms, a.render e' r' = φ (a.render e r)) :
    renderInner e' r' body = φ (renderInner e r body) := by
  rw [renderInner, renderInner, hφ, List.map_map]
  refine congrArg List.flatten (List.map_congr_left fun i hi => ?_)
  cases i with
  | atom a => exact h _ hi a (List.mem_singleton.2 rfl)
  | opt fs as =>
    simp only [Function.comp, Inner.render, funext hhas]
    split
    · exact renderAtoms_hom hφ (h _ hi)
    · exact (hφ []).symm

end

theorem getMap_mapRows {e e' : Env} {f : Row → Row} (h : e'.maps = e.maps.map fun p => (p.1, p.2.map f)) (m : Text) :
    getMap e' m = (getMap e m).map f := by
  unfold getMap
  simp only [h, List.find?_map, Function.comp_def]
  cases List.find? (fun p : Text × List Row => p.1 == m) e.maps <;> rfl

theorem argRows_mapRows {e e' : Env} {f : Row → Row} (h : e'.maps = e.maps.map fun p => (p.1, p.2.map f)) (src : MapSrc) :
    argRows e' src = (argRows e src).map f := by
  unfold argRows
  cases src.arg with
  | none => rfl
  | some m => exact getMap_mapRows h m

def Piece.mapArg : Piece → Option Text
  | .rep src _ _ => src.arg
  | _ => none

def mapArgs (t : List Piece) : List Text := t.filterMap Piece.mapArg

theorem mapArgs_noMaps {t : List Piece} (h : usesMaps t = false) : mapArgs t = [] :=
  List.filterMap_eq_nil_iff.mpr fun p hp => by
    cases p with
    | atom a => rfl
    | rep src mode body => exact absurd (List.any_eq_false.mp h _ hp) (by simp)

section
variable {e e' : Env} (hi : e.idents = e'.idents) (hv : e.values = e'.values)
include hi hv

theorem Atom.render_congr {r : Row} {a : Atom} : a.render e r = a.render e' r := by
  cases a <;> simp only [Atom.render, hi, hv]

theorem renderAtoms_congr (r : Row) (as : List Atom) : renderAtoms e r as = renderAtoms e' r as :=
  renderAtoms_hom flatten_id fun _ _ => Atom.render_congr hi hv

theorem renderInner_congr (r : Row) (body : List Inner) : renderInner e r body = renderInner e' r body :=
  renderInner_hom flatten_id (fun _ => rfl) fun _ _ _ _ => Atom.render_congr hi hv

theorem Piece.render_pieceOK_congr {t : List Piece} (hm : ∀ m ∈ mapArgs t, getMap e m = getMap e' m) {p : Piece} (hp : p ∈ t) :
    p.render e = p.render e' ∧ pieceOK e p = pieceOK e' p := by
  cases p with
  | atom a => exact ⟨Atom.render_congr hi hv, rfl⟩
  | rep src mode body =>
    have ha : argRows e src = argRows e' src := by
      unfold argRows
      cases h : src.arg with
      | none => rfl
      | some m => exact hm m (List.mem_filterMap.mpr ⟨_, hp, h⟩)
    have hr : rows e src = rows e' src := by simp only [rows, ha, renderAtoms_congr hi hv]
    simp only [Piece.render, pieceOK, keysOK, hr, ha, renderInner_congr hi hv, and_self]

theorem render_congr {t : List Piece} (hm : ∀ m ∈ mapArgs t, getMap e m = getMap e' m) : render e t = render e' t :=
  congrArg List.flatten (List.map_congr_left fun _ hp => (Piece.render_pieceOK_congr hi hv hm hp).1)

theorem renderOK_congr {t : List Piece} (hm : ∀ m ∈ mapArgs t, getMap e m = getMap e' m) : renderOK e t = renderOK e' t :=
  List.all_congr' fun _ hp => (Piece.render_pieceOK_congr hi hv hm hp).2

end

end FimVerif.Cypher
