import FimVerif.Proofs.Lemmas.C03Class
import FimVerif.Proofs.Lemmas.C03Parse
import FimVerif.Model.CodecHist
/-! `plain` (distinct keys, floats as number lexemes) for the shapes the codecs of C03 write: an object with distinct keys and plain
members (`plain_obj`), a value of a guard's domain (`inDomain_plain`).  For a plain list or dict the text level adds nothing
(`container_text`). -/
namespace FimVerif.C03
open FimVerif FimVerif.Codec JVal Hist JParse

theorem plain_obj (kvs : List (String × JVal)) (hv : ∀ p ∈ kvs, plain p.2 = true) (hn : (kvs.map (·.1)).Nodup) :
    plain (.obj kvs) = true := by
  simp only [plain, Bool.and_eq_true, decide_eq_true_eq]
  refine ⟨?_, hn⟩
  clear hn
  induction kvs with
  | nil => rfl
  | cons p t ih =>
    simp only [plainK, Bool.and_eq_true]
    exact ⟨hv p List.mem_cons_self, ih fun q hq => hv q (List.mem_cons_of_mem _ hq)⟩

theorem plainL_strs (xs : List JVal) (h : xs.all isStr = true) : plainL xs = true := by
  induction xs with
  | nil => rfl
  | cons x t ih =>
    simp only [List.all_cons, Bool.and_eq_true] at h
    cases x with
    | str s => exact ih h.2
    | _ => cases h.1

theorem inDomain_plain_of_floatLex (g : Guard) (v : JVal) (h : inDomain g v = true)
    (hf : ∀ r, v = .float r → isFloatLex r.toList = true) : plain v = true := by
  cases v with
  | float r => exact hf r rfl
  | arr xs =>
    have : xs.all isStr = true := by cases g <;> simp_all [inDomain]
    exact plainL_strs xs this
  | obj kvs => cases g <;> cases h
  | _ => rfl

/-- outside `Location` (str or float) a value of the documented domain holds no float -/
theorem inDomain_plain (g : Guard) (v : JVal) (hg : g ≠ .strOrFloat) (h : inDomain g v = true) : plain v = true :=
  inDomain_plain_of_floatLex g v h (fun r e => by subst e; cases g <;> simp_all [inDomain])

/-- the empty text and `None` are the two texts the decoders take for "no value" -/
theorem container_text (j : JVal) (hp : plain j = true) (hj : isContainer j = true) :
    j.render ≠ "" ∧ j.render ≠ "None" ∧ parse j.render = some j := by
  have ne : ∀ s, s = "" ∨ s = "None" → j.render ≠ s := by
    intro s hs e
    have := congrArg String.toList e
    rw [render_toList] at this
    cases j with
    | arr xs => rcases hs with rfl | rfl <;> simp [rc] at this
    | obj kvs => rcases hs with rfl | rfl <;> simp [rc] at this
    | _ => cases hj
  exact ⟨ne _ (.inl rfl), ne _ (.inr rfl), parse_render j hp⟩

theorem plain_optStr (o : Option String) : plain (optStr o) = true := by cases o <;> rfl

end FimVerif.C03
