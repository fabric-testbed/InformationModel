import FimVerif.Proofs.Lemmas.C12Add
import FimVerif.Proofs.Lemmas.AddNew
import FimVerif.Proofs.Lemmas.ListAux
/-! Per-node dictionaries (`NodeDelegs`) as lists of (node, delegation) entries (`flat`), and the insertion loop of
`Pools.generate_delegations_by_node_id` (`ret[node].add_delegations(d)`, entry after entry) in closed form (C12). -/
namespace FimVerif.C12
open FimVerif.Deleg

variable {D : Type}

/-- a delegation found on a node -/
abbrev Entry (D : Type) := String × Delegation D

def flat (R : NodeDelegs D) : List (Entry D) := R.flatMap (fun e => e.2.items.map (fun d => (e.1, d)))

/-- what a node's `Delegations` dictionary is keyed by -/
def keyOf (e : Entry D) : String × String := (e.1, e.2.id)

theorem flat_cons (e : String × Delegations D) (R : NodeDelegs D) :
    flat (e :: R) = e.2.items.map (fun d => (e.1, d)) ++ flat R := by
  simp [flat, List.flatMap_cons]

theorem flat_append (A B : NodeDelegs D) : flat (A ++ B) = flat A ++ flat B := by
  simp [flat, List.flatMap_append]

theorem flat_perm {R R' : NodeDelegs D} (h : R'.Perm R) : (flat R').Perm (flat R) := List.Perm.flatMap_right _ h

theorem mem_flat {R : NodeDelegs D} {n : String} {d : Delegation D} :
    (n, d) ∈ flat R ↔ ∃ e ∈ R, e.1 = n ∧ d ∈ e.2.items := by
  simp only [flat, List.mem_flatMap, List.mem_map, Prod.mk.injEq]
  constructor
  · rintro ⟨e, he, x, hx, rfl, rfl⟩; exact ⟨e, he, rfl, hx⟩
  · rintro ⟨e, he, rfl, hd⟩; exact ⟨e, he, d, hd, rfl, rfl⟩

/-- what a Python dict of `Delegations` of one type is in the list model: every node once, and inside a node every delegation id
once (`keys`, said for all nodes at once) -/
structure RInv (ty : DType) (R : NodeDelegs D) : Prop where
  ty_ : ∀ e ∈ R, e.2.ty = ty
  nodes : R.Pairwise (fun a b => a.1 ≠ b.1)
  keys : ((flat R).map keyOf).Nodup

theorem rinv_perm (ty : DType) {R R' : NodeDelegs D} (h : R'.Perm R) (hR : RInv ty R) : RInv ty R' :=
  ⟨fun e he => hR.ty_ e (h.mem_iff.mp he),
   (h.pairwise_iff (fun hxy => Ne.symm hxy)).mpr hR.nodes,
   ((flat_perm h).map keyOf).nodup_iff.mpr hR.keys⟩

theorem items_ids_distinct (R : NodeDelegs D) (h : ((flat R).map keyOf).Nodup) :
    ∀ e ∈ R, e.2.items.Pairwise (fun a b => a.id ≠ b.id) := fun e he =>
  (List.pairwise_map.mp ((List.pairwise_flatMap.mp (List.pairwise_map.mp h)).1 e he)).imp
    fun hab hid => hab (by simp [keyOf, hid])

theorem key_mem_flat (R : NodeDelegs D) (node id : String) :
    (node, id) ∈ (flat R).map keyOf ↔ ∃ e ∈ R, e.1 = node ∧ ∃ d ∈ e.2.items, d.id = id := by
  simp only [flat, keyOf, List.mem_map, List.mem_flatMap]
  constructor
  · rintro ⟨x, ⟨e, he, d, hd, rfl⟩, hx⟩
    simp only [Prod.mk.injEq] at hx
    exact ⟨e, he, hx.1, d, hd, hx.2⟩
  · rintro ⟨e, he, rfl, d, hd, rfl⟩
    exact ⟨(e.1, d), ⟨e, he, d, hd, rfl⟩, rfl⟩

/-- the dictionary after `ret[node].add_delegations(d)` (creating `ret[node]` when absent) has succeeded -/
def putAt (ty : DType) (node : String) (d : Delegation D) : NodeDelegs D → NodeDelegs D
  | [] => [(node, { ty := ty, items := [d] })]
  | e :: l => if e.1 = node then (e.1, { e.2 with items := e.2.items ++ [d] }) :: l else e :: putAt ty node d l

theorem putAt_keys (ty : DType) (node : String) (d : Delegation D) (R : NodeDelegs D) :
    (putAt ty node d R).map (·.1) = addNew (R.map (·.1)) node := by
  unfold addNew
  fun_induction putAt ty node d R with
  | case1 => rfl
  | case2 e l hen => simp [hen]
  | case3 e l hen ih =>
    simp only [List.map_cons, ih, List.mem_cons, Ne.symm hen, false_or]
    split <;> rfl

theorem flat_putAt (ty : DType) (node : String) (d : Delegation D) (R : NodeDelegs D) :
    (flat (putAt ty node d R)).Perm (flat R ++ [(node, d)]) := by
  fun_induction putAt ty node d R with
  | case1 => simp [flat]
  | case2 e l hen =>
    rw [flat_cons, flat_cons]
    simp only [List.map_append, List.map_cons, List.map_nil, hen]
    exact List.perm_snoc_mid
  | case3 e l hen ih =>
    rw [flat_cons, flat_cons, List.append_assoc]
    exact List.Perm.append_left _ ih

theorem putAt_ty (ty : DType) (node : String) (d : Delegation D) (R : NodeDelegs D) (h : ∀ e ∈ R, e.2.ty = ty) :
    ∀ b ∈ putAt ty node d R, b.2.ty = ty := by
  fun_induction putAt ty node d R with
  | case1 => intro b hb; rw [List.mem_singleton.mp hb]
  | case2 e l hen =>
    intro b hb
    rcases List.mem_cons.mp hb with rfl | hb
    · exact h e (by simp)
    · exact h b (by simp [hb])
  | case3 e l hen ih =>
    intro b hb
    rcases List.mem_cons.mp hb with rfl | hb
    · exact h b (by simp)
    · exact ih (fun x hx => h x (by simp [hx])) b hb

theorem putAt_pairwise (ty : DType) (node : String) (d : Delegation D) (R : NodeDelegs D)
    (h : R.Pairwise (fun a b => a.1 ≠ b.1)) : (putAt ty node d R).Pairwise (fun a b => a.1 ≠ b.1) := by
  refine List.pairwise_map.mp (?_ : ((putAt ty node d R).map (·.1)).Nodup)
  rw [putAt_keys]
  exact nodup_addNew _ node (List.pairwise_map.mpr h)

theorem rinv_putAt (ty : DType) (node : String) (d : Delegation D) (R : NodeDelegs D) (hR : RInv ty R)
    (hfresh : (node, d.id) ∉ (flat R).map keyOf) : RInv ty (putAt ty node d R) :=
  ⟨putAt_ty ty node d R hR.ty_, putAt_pairwise ty node d R hR.nodes,
    (((flat_putAt ty node d R).trans (List.perm_append_singleton _ _)).map keyOf).nodup_iff.mpr
      (List.nodup_cons.mpr ⟨hfresh, hR.keys⟩)⟩

theorem addAt_eq (ty : DType) (node : String) (d : Delegation D) (R : NodeDelegs D) (hty : ∀ e ∈ R, e.2.ty = ty)
    (hn : R.Pairwise (fun a b => a.1 ≠ b.1)) (hd : d.ty = ty) :
    addAt ty node d R =
      if (node, d.id) ∈ (flat R).map keyOf then .error .delegation else .ok (putAt ty node d R) := by
  simp only [key_mem_flat]
  fun_induction addAt ty node d R with
  | case1 => simp [putAt, addDelegation, hd, hasId, bind, Except.bind, pure, Except.pure]
  | case2 e l hen =>
    -- the other nodes are different, so only `e` can hold the slot
    have hl : ¬ ∃ b ∈ l, b.1 = node ∧ ∃ x ∈ b.2.items, x.id = d.id := fun ⟨b, hb, hbn, _⟩ =>
      (List.pairwise_cons.mp hn).1 b hb (hen.trans hbn.symm)
    simp only [List.mem_cons, or_and_right, exists_or, exists_eq_left, hen, true_and, hl, or_false, addDelegation_eq, hd,
      hty e (by simp), ne_eq, not_true_eq_false, if_false, putAt, if_true]
    split <;> rfl
  | case3 e l hen ih =>
    rw [ih (fun b hb => hty b (by simp [hb])) hn.of_cons]
    simp only [List.mem_cons, or_and_right, exists_or, exists_eq_left, hen, false_and, false_or, putAt, if_false]
    split <;> rfl

def putAll (ty : DType) (EL : List (Entry D)) (R : NodeDelegs D) : NodeDelegs D :=
  EL.foldl (fun r e => putAt ty e.1 e.2 r) R

theorem flat_putAll (ty : DType) (EL : List (Entry D)) (R : NodeDelegs D) :
    (flat (putAll ty EL R)).Perm (flat R ++ EL) := by
  simpa [putAll] using List.foldl_perm_snoc flat _ id (fun R e => flat_putAt ty e.1 e.2 R) EL R

theorem mem_putAll_keys (ty : DType) (EL : List (Entry D)) (R : NodeDelegs D) (n : String) :
    n ∈ (putAll ty EL R).map (·.1) ↔ n ∈ R.map (·.1) ∨ n ∈ EL.map (·.1) := by
  induction EL generalizing R with
  | nil => simp [putAll]
  | cons e EL ih =>
    rw [putAll, List.foldl_cons, ← putAll, ih, putAt_keys, mem_addNew, List.map_cons, List.mem_cons, or_assoc]

/-- `RInv` of the result is part of the statement because the induction needs it of every intermediate dictionary (`addAt_eq`) -/
theorem addAt_foldlM (ty : DType) (EL : List (Entry D)) (R : NodeDelegs D) (hR : RInv ty R)
    (hty : ∀ e ∈ EL, e.2.ty = ty) :
    EL.foldlM (fun r e => addAt ty e.1 e.2 r) R =
        (if ((flat R ++ EL).map keyOf).Nodup then .ok (putAll ty EL R) else .error .delegation) ∧
      (((flat R ++ EL).map keyOf).Nodup → RInv ty (putAll ty EL R)) := by
  induction EL generalizing R with
  | nil => simp [putAll, hR, hR.keys, pure, Except.pure]
  | cons e EL ih =>
    rw [List.foldlM_cons, addAt_eq ty e.1 e.2 R hR.ty_ hR.nodes (hty e (by simp))]
    by_cases hin : (e.1, e.2.id) ∈ (flat R).map keyOf
    · have hn : ¬ ((flat R ++ e :: EL).map keyOf).Nodup := by
        rw [List.map_append, List.map_cons]
        exact fun h => (List.nodup_append.mp h).2.2 _ hin _ List.mem_cons_self rfl
      rw [if_pos hin, if_neg hn]
      exact ⟨rfl, fun h => absurd h hn⟩
    · rw [if_neg hin]
      have := ih _ (rinv_putAt ty e.1 e.2 R hR hin) (fun x hx => hty x (by simp [hx]))
      have hp : ((flat (putAt ty e.1 e.2 R) ++ EL).map keyOf).Perm ((flat R ++ e :: EL).map keyOf) := by
        rw [show flat R ++ e :: EL = (flat R ++ [e]) ++ EL by simp]
        exact ((flat_putAt ty e.1 e.2 R).append_right EL).map keyOf
      simp only [hp.nodup_iff] at this
      exact this

theorem rinv_nil (ty : DType) : RInv ty ([] : NodeDelegs D) := ⟨by simp, List.Pairwise.nil, by simp [flat]⟩

end FimVerif.C12
