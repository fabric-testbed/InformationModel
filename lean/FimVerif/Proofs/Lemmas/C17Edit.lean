import FimVerif.Proofs.Lemmas.C17Dict
/-! Edit scripts on name-keyed dictionaries and what a dictionary level reports about them (C17). -/
namespace FimVerif.Diff

/-- one edit of a dictionary: `add_x(x)`, `remove_x(k)`, or a script `e` applied to the child stored under `k` -/
inductive DEdit (α ε : Type) where
  | add (x : α)
  | remove (k : String)
  | modify (k : String) (e : ε)

section
variable {α ε : Type} [Named α]

def DEdit.target : DEdit α ε → String
  | .add x => name x
  | .remove k => k
  | .modify k _ => k

/-- a script is itself a dictionary, keyed by the key each edit touches: `WfDict es` says that no key is touched twice, `get? es k` is
the edit that touches `k` -/
instance : Named (DEdit α ε) := ⟨DEdit.target⟩

/-- `info.add_x(x)` is `d[x.resource_name] = x`; `info.remove_x(k)` is `d.pop(k)`; a child script is applied in place -/
def applyD1 (app : ε → α → α) : DEdit α ε → List α → List α
  | .add x, d => if hasKey d (name x) then d.map (fun y => if name y == name x then x else y) else d ++ [x]
  | .remove k, d => d.filter (fun y => !(name y == k))
  | .modify k e, d => d.map (fun y => if name y == k then app e y else y)

def applyD (app : ε → α → α) (es : List (DEdit α ε)) (d : List α) : List α :=
  es.foldl (fun d e => applyD1 app e d) d

/-- an edit makes sense on `d`: added keys are new, removed / modified keys exist -/
def okFor (d : List α) : DEdit α ε → Bool
  | .add x => !hasKey d (name x)
  | .remove k => hasKey d k
  | .modify k _ => hasKey d k

/-- non-conflicting script: no key is touched twice, and every edit makes sense on the original dictionary -/
def NC (es : List (DEdit α ε)) (d : List α) : Prop := WfDict es ∧ ∀ e ∈ es, okFor d e = true

instance (es : List (DEdit α ε)) (d : List α) : Decidable (NC es d) := by unfold NC; infer_instance

/-- what the dictionary holds under the key of the edit afterwards, given what it held there before -/
def DEdit.result (app : ε → α → α) (old : Option α) : DEdit α ε → Option α
  | .add x => some x
  | .remove _ => none
  | .modify _ e => old.map (app e)

theorem get?_applyD1 (app : ε → α → α) (happ : ∀ e y, name (app e y) = name y) (e : DEdit α ε) (d : List α) (k : String) :
    get? (applyD1 app e d) k = if e.target = k then e.result app (get? d k) else get? d k := by
  -- the `add` and `remove` branches of `applyD1` are `dictSet` and `dictPop` written out
  cases e with
  | add x => exact get?_dictSet d x k
  | remove k0 => exact get?_dictPop d k0 k
  | modify k0 e' => exact get?_map_at (app e') k0 (fun y hy => (happ e' y).trans hy) d k

theorem get?_applyD (app : ε → α → α) (happ : ∀ e y, name (app e y) = name y) (es : List (DEdit α ε)) (d : List α)
    (hw : WfDict es) (k : String) :
    get? (applyD app es d) k = match get? es k with
      | none => get? d k
      | some e => e.result app (get? d k) := by
  induction es generalizing d with
  | nil => rfl
  | cons e es ih =>
    simp only [WfDict, List.map_cons, List.nodup_cons] at hw
    have hstep : applyD app (e :: es) d = applyD app es (applyD1 app e d) := rfl
    rw [hstep, ih _ hw.2, get?_cons, get?_applyD1 app happ e d k]
    by_cases hk : e.target = k
    · -- no later edit touches `k` again
      have h2 : get? es k = none := by
        rw [get?_eq_none_iff, ← Bool.not_eq_true, hasKey_iff_mem, ← hk]
        exact hw.1
      simp only [h2, show name e = k from hk, hk, if_true]
    · simp only [show ¬ name e = k from hk, hk, if_false]

/-- the `*Info` object is created by the first `add_x` when it was missing -/
def applyO (app : ε → α → α) (es : List (DEdit α ε)) (a : Option (List α)) : Option (List α) :=
  if es.isEmpty then a else some (applyD app es (dictOf a))

theorem dictOf_applyO (app : ε → α → α) (es : List (DEdit α ε)) (a : Option (List α)) :
    dictOf (applyO app es a) = applyD app es (dictOf a) := by
  unfold applyO
  cases es with
  | nil => rfl
  | cons e es => rfl

theorem NC.old {es : List (DEdit α ε)} {d : List α} (h : NC es d) {k : String} {e : DEdit α ε} (he : get? es k = some e) :
    match e with
    | .add _ => get? d k = none
    | _ => ∃ x, get? d k = some x := by
  obtain ⟨hm, hk⟩ := get?_some_mem he
  have hok := h.2 e hm
  cases e with
  | add x => exact (get?_eq_none_iff d k).2 (by rw [← (show name x = k from hk)]; simpa [okFor] using hok)
  | remove k' => exact get?_of_hasKey ((show k' = k from hk) ▸ hok)
  | modify k' e' => exact get?_of_hasKey ((show k' = k from hk) ▸ hok)

theorem edited_partner (app : ε → α → α) (happ : ∀ e y, name (app e y) = name y) {a : Option (List α)} {es : List (DEdit α ε)}
    (ha : WfDict (dictOf a)) (hnc : NC es (dictOf a)) {x y : α} (hx : x ∈ dictOf a)
    (hy : y ∈ get? (dictOf (applyO app es a)) (name x)) : y = x ∨ ∃ e, DEdit.modify (name x) e ∈ es ∧ y = app e x := by
  have hgx := get?_self ha hx
  have h := get?_applyD app happ es (dictOf a) hnc.1 (name x)
  rw [← dictOf_applyO, Option.mem_def.1 hy] at h
  cases he : get? es (name x) with
  | none =>
    rw [he] at h
    simp only [hgx, Option.some.injEq] at h
    exact Or.inl h
  | some e =>
    rw [he] at h
    have hold := hnc.old he
    obtain ⟨hem, hen⟩ := get?_some_mem he
    cases e with
    | add z => cases hgx.symm.trans hold
    | remove k => simp [DEdit.result] at h
    | modify k e' =>
      cases (show k = name x from hen)
      simp only [DEdit.result, hgx, Option.map_some, Option.some.injEq] at h
      exact Or.inr ⟨e', hem, h⟩

/-- what the script itself says the level must report: the added names, the removed names, and for every child script
the flag `expFlag` predicts for it (when not NONE) -/
def expLevel (expFlag : ε → α → Flags) (d : List α) (es : List (DEdit α ε)) : Level :=
  { added := es.filterMap (fun e => match e with | .add x => some (name x) | _ => none),
    removed := es.filterMap (fun e => match e with | .remove k => some k | _ => none),
    modified := es.filterMap (fun e => match e with
      | .modify k e' =>
        match get? d k with
        | some x => if expFlag e' x = Flags.none then none else some (k, expFlag e' x)
        | none => none
      | _ => none) }

theorem mem_expLevel_added (expFlag : ε → α → Flags) (d : List α) (es : List (DEdit α ε)) (k : String) :
    k ∈ (expLevel expFlag d es).added ↔ ∃ x, DEdit.add x ∈ es ∧ name x = k := by
  simp only [expLevel, List.mem_filterMap]
  constructor
  · rintro ⟨e, he, h⟩
    cases e with
    | add x => exact ⟨x, he, by simpa using h⟩
    | remove _ => simp at h
    | modify _ _ => simp at h
  · rintro ⟨x, hx, rfl⟩; exact ⟨_, hx, rfl⟩

theorem mem_expLevel_removed (expFlag : ε → α → Flags) (d : List α) (es : List (DEdit α ε)) (k : String) :
    k ∈ (expLevel expFlag d es).removed ↔ DEdit.remove k ∈ es := by
  simp only [expLevel, List.mem_filterMap]
  constructor
  · rintro ⟨e, he, h⟩
    cases e with
    | add x => simp at h
    | remove k' => simp only [Option.some.injEq] at h; subst h; exact he
    | modify _ _ => simp at h
  · intro h; exact ⟨_, h, rfl⟩

theorem mem_expLevel_modified (expFlag : ε → α → Flags) (d : List α) (es : List (DEdit α ε)) (k : String) (f : Flags) :
    (k, f) ∈ (expLevel expFlag d es).modified ↔
      ∃ e' x, DEdit.modify k e' ∈ es ∧ get? d k = some x ∧ expFlag e' x = f ∧ f ≠ Flags.none := by
  simp only [expLevel, List.mem_filterMap]
  constructor
  · rintro ⟨e, he, h⟩
    cases e with
    | add x => simp at h
    | remove _ => simp at h
    | modify k' e' =>
      simp only at h
      cases hg : get? d k' with
      | none => simp [hg] at h
      | some x =>
        simp only [hg] at h
        split at h
        · simp at h
        · rename_i hn
          simp only [Option.some.injEq, Prod.mk.injEq] at h
          obtain ⟨rfl, rfl⟩ := h
          exact ⟨e', x, he, hg, rfl, hn⟩
  · rintro ⟨e', x, he, hg, rfl, hn⟩
    exact ⟨_, he, by simp [hg, hn]⟩

theorem expLevel_at (expFlag : ε → α → Flags) (d : List α) (es : List (DEdit α ε)) (hw : WfDict es) (k : String) :
    (k ∈ (expLevel expFlag d es).added ↔ ∃ x, get? es k = some (.add x)) ∧
    (k ∈ (expLevel expFlag d es).removed ↔ get? es k = some (.remove k)) ∧
    ∀ f, (k, f) ∈ (expLevel expFlag d es).modified ↔
      ∃ e x, get? es k = some (.modify k e) ∧ get? d k = some x ∧ expFlag e x = f ∧ f ≠ Flags.none := by
  simp only [mem_expLevel_added, mem_expLevel_removed, mem_expLevel_modified, get?_eq_some_iff hw]
  exact ⟨⟨fun ⟨x, hx, hk⟩ => ⟨x, hx, hk⟩, fun ⟨x, hx, hk⟩ => ⟨x, hx, hk⟩⟩, ⟨fun h => ⟨h, rfl⟩, fun h => h.1⟩,
    fun f => ⟨fun ⟨e, x, he, h⟩ => ⟨e, x, ⟨he, rfl⟩, h⟩, fun ⟨e, x, he, h⟩ => ⟨e, x, he.1, h⟩⟩⟩

/-- `expFlag` is the flag as the caller predicts it from the child script (`hF`) -/
theorem level_edit (flag : α → α → Flags) (app : ε → α → α) (happ : ∀ e y, name (app e y) = name y)
    {expFlag : ε → α → Flags} {a : Option (List α)} {es : List (DEdit α ε)} (ha : WfDict (dictOf a)) (hnc : NC es (dictOf a))
    (hself : ∀ x ∈ dictOf a, flag x x = Flags.none)
    (hF : ∀ k e x, DEdit.modify k e ∈ es → get? (dictOf a) k = some x → flag x (app e x) = expFlag e x) :
    Level.Equiv (levelDiff flag a (applyO app es a)) (expLevel expFlag (dictOf a) es) := by
  have hget := get?_applyD app happ es (dictOf a) hnc.1
  suffices h : ∀ k,
      (k ∈ (levelDiff flag a (applyO app es a)).added ↔ k ∈ (expLevel expFlag (dictOf a) es).added) ∧
      (k ∈ (levelDiff flag a (applyO app es a)).removed ↔ k ∈ (expLevel expFlag (dictOf a) es).removed) ∧
      ∀ f, (k, f) ∈ (levelDiff flag a (applyO app es a)).modified ↔
        (k, f) ∈ (expLevel expFlag (dictOf a) es).modified from
    ⟨fun k => (h k).1, fun k => (h k).2.1, fun ⟨k, f⟩ => (h k).2.2 f⟩
  intro k
  obtain ⟨e1, e2, e3⟩ := expLevel_at expFlag (dictOf a) es hnc.1 k
  simp only [mem_level_added, mem_level_removed, mem_level_modified ha, e1, e2, e3, dictOf_applyO, hasKey_eq_isSome, hget k]
  -- both sides now speak of `get? es k` and `get? (dictOf a) k` only: go through the edit that touches `k`, if any, and what
  -- `NC` says the old dictionary holds under `k`; what is left in each case is a computation
  cases hg : get? es k with
  | none =>
    cases hoa : get? (dictOf a) k with
    | none => simp
    | some x => simpa using hself x (get?_some_mem hoa).1
  | some e =>
    have hold := hnc.old hg
    obtain ⟨he, hk⟩ := get?_some_mem hg
    cases e with
    | add x => simp [DEdit.result, show get? (dictOf a) k = none from hold]
    | remove k' =>
      cases (show k' = k from hk)
      obtain ⟨x, hx⟩ := hold
      simp [DEdit.result, hx]
    | modify k' e' =>
      cases (show k' = k from hk)
      obtain ⟨x, hx⟩ := hold
      simp [DEdit.result, hx, hF k e' x he hx]

end
end FimVerif.Diff
