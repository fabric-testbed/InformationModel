import FimVerif.Model.Diff
import FimVerif.Proofs.Lemmas.ListAux
/-! Name-keyed dictionaries (`*Info` objects), what one dictionary level of a `diff` method reports about two of them, and their two writes
`dictSet` / `dictPop` (C17). -/
namespace FimVerif.Diff
variable {α : Type} [Named α]

def WfDict (d : List α) : Prop := (d.map name).Nodup

instance (d : List α) : Decidable (WfDict d) := by unfold WfDict; infer_instance

theorem hasKey_iff_mem (d : List α) (k : String) : hasKey d k = true ↔ k ∈ d.map name := by
  simp [hasKey]

theorem hasKey_self {d : List α} {x : α} (h : x ∈ d) : hasKey d (name x) = true :=
  (hasKey_iff_mem d _).2 (List.mem_map_of_mem h)

theorem hasKey_of_names {b b' : List α} (h : b.map name = b'.map name) : hasKey b = hasKey b' := by
  funext k; rw [Bool.eq_iff_iff, hasKey_iff_mem, hasKey_iff_mem, h]

theorem get?_eq_none_iff (d : List α) (k : String) : get? d k = none ↔ hasKey d k = false := by
  simp [get?, hasKey]

theorem get?_cons (x : α) (d : List α) (k : String) : get? (x :: d) k = if name x = k then some x else get? d k := by
  by_cases h : name x = k <;> simp [get?, h]

theorem get?_some_mem {d : List α} {k : String} {y : α} (h : get? d k = some y) : y ∈ d ∧ name y = k := by
  unfold get? at h
  exact ⟨List.mem_of_find?_eq_some h, by simpa using List.find?_some h⟩

theorem get?_self {d : List α} (hd : WfDict d) {x : α} (hx : x ∈ d) : get? d (name x) = some x :=
  List.find?_key_of_nodup name hd hx

theorem get?_eq_some_iff {d : List α} (hd : WfDict d) (k : String) (y : α) :
    get? d k = some y ↔ y ∈ d ∧ name y = k :=
  ⟨get?_some_mem, fun ⟨hm, hn⟩ => hn ▸ get?_self hd hm⟩

theorem partners_at {R : α → α → Prop} {a b : List α} (h : ∀ x ∈ a, ∀ y ∈ get? b (name x), R x y) {k : String} {x y : α}
    (hx : get? a k = some x) (hy : get? b k = some y) : R x y := by
  obtain ⟨hm, rfl⟩ := get?_some_mem hx
  exact h x hm y hy

theorem hasKey_eq_isSome (d : List α) (k : String) : hasKey d k = (get? d k).isSome := by
  rw [Bool.eq_iff_iff]; simp [get?, hasKey, List.find?_isSome]

theorem hasKey_of_get? {d : List α} {k : String} {y : α} (h : get? d k = some y) : hasKey d k = true := by
  rw [hasKey_eq_isSome, h]; rfl

theorem get?_of_hasKey {d : List α} {k : String} (h : hasKey d k = true) : ∃ y, get? d k = some y :=
  Option.isSome_iff_exists.1 ((hasKey_eq_isSome d k).symm.trans h)

theorem get?_map (f : α → α) (hf : ∀ y, name (f y) = name y) (d : List α) (k : String) :
    get? (d.map f) k = (get? d k).map f :=
  List.find?_map_key name f hf d k

/-- covers both `d[k0] = x` over an existing key and a child script applied in place -/
theorem get?_map_at (g : α → α) (k0 : String) (hg : ∀ y, name y = k0 → name (g y) = k0) (d : List α) (k : String) :
    get? (d.map fun y => if name y == k0 then g y else y) k = if k0 = k then (get? d k).map g else get? d k := by
  rw [get?_map _ fun y => by split; exact (hg y (beq_iff_eq.1 ‹_›)).trans (beq_iff_eq.1 ‹_›).symm; rfl]
  cases hy : get? d k with
  | none => simp
  | some y =>
    cases (get?_some_mem hy).2
    by_cases hk : k0 = name y
    · simp [hk]
    · simp [hk, Ne.symm hk]

theorem mem_dictAdded (a b : List α) (x : α) : x ∈ dictAdded a b ↔ x ∈ b ∧ hasKey a (name x) = false := by
  simp [dictAdded, List.mem_filter]

theorem mem_dictRemoved (a b : List α) (x : α) : x ∈ dictRemoved a b ↔ x ∈ a ∧ hasKey b (name x) = false := by
  simp [dictRemoved, List.mem_filter]

theorem mem_dictCommon (a b : List α) (x : α) : x ∈ dictCommon a b ↔ x ∈ a ∧ hasKey b (name x) = true := by
  simp [dictCommon, List.mem_filter]

/-- `_dict_diff` / `_dict_common` select by a test on the key -/
theorem hasKey_filter (p : String → Bool) (d : List α) (k : String) :
    hasKey (d.filter fun x => p (name x)) k = (hasKey d k && p k) := by
  rw [Bool.eq_iff_iff, Bool.and_eq_true]
  simp only [hasKey_iff_mem, List.mem_map, List.mem_filter]
  exact ⟨fun ⟨x, ⟨hx, hp⟩, hk⟩ => ⟨⟨x, hx, hk⟩, hk ▸ hp⟩, fun ⟨⟨x, hx, hk⟩, hp⟩ => ⟨x, ⟨hx, hk ▸ hp⟩, hk⟩⟩

theorem hasKey_dictAdded (a b : List α) (k : String) : hasKey (dictAdded a b) k = (hasKey b k && !hasKey a k) :=
  hasKey_filter (fun k => !hasKey a k) b k

theorem hasKey_dictCommon (a b : List α) (k : String) : hasKey (dictCommon a b) k = (hasKey a k && hasKey b k) :=
  hasKey_filter (hasKey b) a k

theorem dictAdded_eq_removed (a b : List α) : dictAdded a b = dictRemoved b a := rfl

theorem dictAdded_self (a : List α) : dictAdded a a = [] := by
  simp only [dictAdded, List.filter_eq_nil_iff]
  intro x hx; simp [hasKey_self hx]

theorem dictRemoved_self (a : List α) : dictRemoved a a = [] := dictAdded_self a

theorem dictCommon_self (a : List α) : dictCommon a a = a := by
  simp only [dictCommon, List.filter_eq_self]
  intro x hx; exact hasKey_self hx

theorem modLoop_eq_filterMap (flag : α → α → Flags) (b l : List α) :
    modLoop flag b l = l.filterMap fun x =>
      (get? b (name x)).bind fun y => if flag x y = Flags.none then none else some (name x, flag x y) := by
  induction l with
  | nil => rfl
  | cons x xs ih =>
    rw [List.filterMap_cons, ← ih, modLoop]
    cases get? b (name x) with
    | none => rfl
    | some y => by_cases hf : flag x y = Flags.none <;> simp [hf]

theorem mem_modLoop (flag : α → α → Flags) (b l : List α) (k : String) (f : Flags) :
    (k, f) ∈ modLoop flag b l ↔ ∃ x ∈ l, ∃ y, get? b (name x) = some y ∧ name x = k ∧ flag x y = f ∧ f ≠ Flags.none := by
  simp only [modLoop_eq_filterMap, List.mem_filterMap, Option.bind_eq_some_iff]
  constructor
  · rintro ⟨x, hx, y, hy, h⟩
    by_cases hf : flag x y = Flags.none
    · simp [hf] at h
    · simp only [hf, if_false, Option.some.injEq, Prod.mk.injEq] at h
      exact ⟨x, hx, y, hy, h.1, h.2, h.2 ▸ hf⟩
  · rintro ⟨x, hx, y, hy, rfl, rfl, hn⟩
    exact ⟨x, hx, y, hy, by simp [hn]⟩

theorem modLoop_keys_sublist (flag : α → α → Flags) (b l : List α) :
    ((modLoop flag b l).map Prod.fst).Sublist (l.map name) := by
  induction l with
  | nil => simp [modLoop]
  | cons x xs ih =>
    simp only [modLoop]
    cases hg : get? b (name x) with
    | none => exact ih.trans (List.sublist_cons_self _ _)
    | some y =>
      by_cases hf : flag x y = Flags.none
      · simp only [hf, if_true]; exact ih.trans (List.sublist_cons_self _ _)
      · simp only [hf, if_false, List.map_cons]; exact ih.cons_cons _

/-- the `*Info` object may be missing: then it behaves as an empty dictionary -/
abbrev dictOf (o : Option (List α)) : List α := o.getD []

theorem dictAdded_nil_left (y : List α) : dictAdded ([] : List α) y = y := by
  simp [dictAdded, hasKey]
theorem dictRemoved_nil_right (x : List α) : dictRemoved x ([] : List α) = x := by
  simp [dictRemoved, hasKey]
theorem dictCommon_nil_right (x : List α) : dictCommon x ([] : List α) = [] := by
  simp [dictCommon, hasKey]

/-- the three `if`s collapse to one uniform computation on `dictOf` -/
theorem levelDiff_norm (flag : α → α → Flags) (a b : Option (List α)) :
    levelDiff flag a b =
      { added := (dictAdded (dictOf a) (dictOf b)).map name,
        removed := (dictRemoved (dictOf a) (dictOf b)).map name,
        modified := modLoop flag (dictOf b) (dictCommon (dictOf a) (dictOf b)) } := by
  cases a <;> cases b <;>
    simp only [dictOf, Option.getD_none, Option.getD_some, dictAdded_nil_left, dictRemoved_nil_right, dictCommon_nil_right] <;> rfl

theorem mem_level_added {flag : α → α → Flags} {a b : Option (List α)} (k : String) :
    k ∈ (levelDiff flag a b).added ↔ hasKey (dictOf b) k = true ∧ hasKey (dictOf a) k = false := by
  rw [levelDiff_norm, ← hasKey_iff_mem, hasKey_dictAdded, Bool.and_eq_true, Bool.not_eq_true']

theorem level_dual {flag : α → α → Flags} (a b : Option (List α)) :
    (levelDiff flag a b).added = (levelDiff flag b a).removed := by
  rw [levelDiff_norm, levelDiff_norm]; rfl

theorem mem_level_removed {flag : α → α → Flags} {a b : Option (List α)} (k : String) :
    k ∈ (levelDiff flag a b).removed ↔ hasKey (dictOf a) k = true ∧ hasKey (dictOf b) k = false := by
  rw [← level_dual b a]
  exact mem_level_added k

theorem mem_level_modified {flag : α → α → Flags} {a b : Option (List α)} (ha : WfDict (dictOf a))
    (k : String) (f : Flags) :
    (k, f) ∈ (levelDiff flag a b).modified ↔
      ∃ x y, get? (dictOf a) k = some x ∧ get? (dictOf b) k = some y ∧ flag x y = f ∧ f ≠ Flags.none := by
  rw [levelDiff_norm]
  simp only [mem_modLoop, mem_dictCommon]
  constructor
  · rintro ⟨x, ⟨hx, _⟩, y, hy, rfl, hf, hn⟩
    exact ⟨x, y, get?_self ha hx, hy, hf, hn⟩
  · rintro ⟨x, y, hx, hy, hf, hn⟩
    obtain ⟨hxm, rfl⟩ := get?_some_mem hx
    exact ⟨x, ⟨hxm, hasKey_of_get? hy⟩, y, hy, rfl, hf, hn⟩

theorem level_modified_nodup {flag : α → α → Flags} {a b : Option (List α)} (ha : WfDict (dictOf a)) :
    ((levelDiff flag a b).modified.map Prod.fst).Nodup := by
  rw [levelDiff_norm]
  refine List.Nodup.sublist (modLoop_keys_sublist flag _ _) ?_
  exact List.Nodup.sublist (List.Sublist.map _ (List.filter_sublist)) ha

theorem isEmpty_congr {β} (x y : List β) (hxy : ∀ k, k ∈ x ↔ k ∈ y) : x.isEmpty = y.isEmpty := by
  rw [Bool.eq_iff_iff, List.isEmpty_iff, List.isEmpty_iff, List.eq_nil_iff_forall_not_mem, List.eq_nil_iff_forall_not_mem]
  exact forall_congr' fun k => not_congr (hxy k)

theorem Level.eq_empty_iff (l : Level) : l = {} ↔ l.added = [] ∧ l.removed = [] ∧ l.modified = [] := by
  cases l; simp only [Level.mk.injEq]

/-- the level reports something: the test every descent makes of the level below -/
def Level.nonempty (l : Level) : Bool := !l.added.isEmpty || !l.removed.isEmpty || !l.modified.isEmpty

theorem Level.nonempty_eq_false_iff (l : Level) : l.nonempty = false ↔ l = {} := by
  simp only [Level.nonempty, Bool.or_eq_false_iff, Bool.not_eq_false', List.isEmpty_iff, Level.eq_empty_iff, and_assoc]

/-- same report up to order -/
def Level.Equiv (l1 l2 : Level) : Prop :=
  (∀ k, k ∈ l1.added ↔ k ∈ l2.added) ∧ (∀ k, k ∈ l1.removed ↔ k ∈ l2.removed) ∧ (∀ p, p ∈ l1.modified ↔ p ∈ l2.modified)

theorem Level.Equiv.nonempty_eq {l1 l2 : Level} (h : Level.Equiv l1 l2) : l1.nonempty = l2.nonempty := by
  unfold Level.nonempty
  rw [isEmpty_congr _ _ h.1, isEmpty_congr _ _ h.2.1, isEmpty_congr _ _ h.2.2]

/-- `d[x.resource_name] = x` (an existing key keeps its position) -/
def dictSet (d : List α) (x : α) : List α :=
  if hasKey d (name x) then d.map (fun y => if name y == name x then x else y) else d ++ [x]

/-- `d.pop(k)` if present -/
def dictPop (d : List α) (k : String) : List α := d.filter (fun y => !(name y == k))

theorem get?_dictSet (d : List α) (x : α) (k : String) : get? (dictSet d x) k = if name x = k then some x else get? d k := by
  unfold dictSet
  split
  · rename_i hk
    obtain ⟨z, hz⟩ := get?_of_hasKey hk
    rw [get?_map_at (fun _ => x) (name x) (fun _ _ => rfl)]
    by_cases hkx : name x = k
    · subst hkx; simp [hz]
    · simp [hkx]
  · rename_i hk
    simp only [get?, List.find?_append]
    by_cases hkx : name x = k
    · subst hkx
      have : List.find? (fun y => name y == name x) d = none := by
        simpa [get?] using (get?_eq_none_iff d (name x)).2 (by simpa using hk)
      simp [this]
    · simp [hkx]

theorem get?_dictPop (d : List α) (k0 k : String) : get? (dictPop d k0) k = if k0 = k then none else get? d k := by
  simp only [dictPop, get?, List.find?_filter]
  by_cases hk : k0 = k
  · subst hk
    simp
  · simp only [hk, if_false]
    congr 1
    funext y
    by_cases hy : name y = k
    · simp [hy, Ne.symm hk]
    · simp [hy]

theorem wf_dictSet (d : List α) (x : α) (h : WfDict d) : WfDict (dictSet d x) := by
  unfold dictSet
  split
  · have : (d.map (fun y => if name y == name x then x else y)).map name = d.map name := by
      rw [List.map_map]
      apply List.map_congr_left
      intro y _
      simp only [Function.comp]
      split
      · rename_i e; exact (beq_iff_eq.1 e).symm
      · rfl
    unfold WfDict; rw [this]; exact h
  · rename_i hk
    unfold WfDict at *
    rw [List.map_append, List.nodup_append]
    refine ⟨h, by simp, fun n hn m hm e => hk ((hasKey_iff_mem d _).2 ?_)⟩
    rw [List.map_cons, List.map_nil, List.mem_singleton] at hm
    exact hm ▸ e ▸ hn

theorem wf_dictPop (d : List α) (k : String) (h : WfDict d) : WfDict (dictPop d k) :=
  List.Nodup.sublist (List.Sublist.map _ List.filter_sublist) h

end FimVerif.Diff
