import FimVerif.Proofs.Lemmas.StoreInv
/-! C04: the node list an import appends (`relabel`): lookup by internal id, membership in the imported graph; `igContent`, the
    content an imported graph has by itself, is what `extract_graph` reads back from a stored graph (`abs_extract`). -/
namespace FimVerif.Store
open FimVerif FimVerif.Gen.StoreConsts

theorem relabel_length (base : Nat) (l : List Props) : (relabel base l).length = l.length := by
  induction l generalizing base with
  | nil => rfl
  | cons a l ih => simp [relabel, ih]

theorem find_relabel (base : Nat) (l : List Props) (k : Nat) :
    (relabel base l).find? (fun n => n.iid == base + k) = (l[k]?).map (fun a => ⟨base + k, a⟩) := by
  induction l generalizing base k with
  | nil => simp [relabel]
  | cons a l ih =>
    cases k with
    | zero => simp [relabel]
    | succ k =>
      have : (base == base + (k + 1)) = false := by simp
      simp only [relabel, List.find?_cons, this, List.getElem?_cons_succ]
      have := ih (base + 1) k
      rw [show base + 1 + k = base + (k + 1) by omega] at this
      exact this

theorem nidOf_pos (ns : List SNode) (i : Nat) : nidOf ns i = (ns[posOf ns i]?).bind (fun n => AMap.get nodeId n.attrs) := by
  unfold nidOf posOf
  rw [List.find?_eq_getElem?_findIdx]

theorem nodesOf_delGraphNl_self (s : Store) (g : String) : nodesOf (delGraphNl g s) g = [] := by
  simp only [nodesOf, delGraphNl, List.filter_filter]
  rw [List.filter_eq_nil_iff]; intro n _; simp

theorem inG_of_mem_relabel {g : String} {base : Nat} {l : List Props} (hl : ∀ a ∈ l, AMap.get graphId a = some (.str g))
    {n : SNode} (hn : n ∈ relabel base l) : inG g n = true :=
  beq_iff_eq.2 (hl _ (mem_relabel_attrs hn))

theorem filter_relabel_all (g : String) (base : Nat) (l : List Props) (hl : ∀ a ∈ l, AMap.get graphId a = some (.str g)) :
    (relabel base l).filter (inG g) = relabel base l :=
  List.filter_eq_self.2 fun _ hn => inG_of_mem_relabel hl hn

/-- the content an imported graph has by itself -/
def igContent (ig : IGraph) : AGraph :=
  ⟨ig.nodes.map (AMap.erase graphId),
   ig.edges.map (fun e => ((ig.nodes[e.1]?).bind (AMap.get nodeId), (ig.nodes[e.2.1]?).bind (AMap.get nodeId), e.2.2))⟩

theorem igContent_view (ns : List SNode) (es : List SEdge) :
    igContent ⟨ns.map (·.attrs), es.map (fun e => (posOf ns e.a, posOf ns e.b, e.attrs))⟩ = absView ns es := by
  unfold igContent absView
  congr 1
  · simp [List.map_map]
  · simp only [List.map_map]
    apply List.map_congr_left
    intro e _
    simp only [Function.comp, nidOf_pos, List.getElem?_map]
    congr 1
    · cases ns[posOf ns e.a]? <;> rfl
    · congr 1
      cases ns[posOf ns e.b]? <;> rfl

theorem abs_extract (s : Store) (g : String) (ig : IGraph) (hig : extractGraph s g = some ig) :
    igContent ig = abs s g :=
  extractGraph_some hig ▸ igContent_view _ _

end FimVerif.Store
