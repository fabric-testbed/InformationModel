import FimVerif.Proofs.Lemmas.C08Disc
/-! `WF` development.  The user-level removal calls under the invariant: which interfaces `_disconnect_interfaces` visits in the current
graph, and the calls themselves (`ResA`: the pre-state minus `A` plus everything owned, invariant re-established). -/
namespace FimVerif.Remove

theorem mem_withSubs_minus {g : G} {A : List Nat} {a : Nat} (haA : a ∉ A) (i : Nat) :
    i ∈ withSubs (g.minus A) a ↔ i ∈ withSubs g a ∧ i ∉ A := by
  rw [mem_withSubs, mem_withSubs, kind_minus_keep (contains_false haA), mem_nbrs_minus haA, or_and_right, and_assoc]
  exact or_congr_left ⟨fun e => ⟨e, e ▸ haA⟩, And.left⟩

/-- **one level down in the current graph**: a list `L.flatMap F` of the pre-state, walked in `g.minus A`, shows what is not in `A`,
provided `A` is closed from `L` to `F` (an element of `L` that is gone has taken its part of the list with it) -/
theorem mem_flatMap_minus {L' L A : List Nat} {F' F : Nat → List Nat} {x : Nat}
    (hL : ∀ s, s ∈ L' ↔ s ∈ L ∧ s ∉ A) (hF : ∀ s ∈ L, s ∉ A → (x ∈ F' s ↔ x ∈ F s ∧ x ∉ A))
    (hcl : ∀ s ∈ L, x ∈ F s → s ∈ A → x ∈ A) : x ∈ L'.flatMap F' ↔ x ∈ L.flatMap F ∧ x ∉ A := by
  simp only [List.mem_flatMap]
  constructor
  · rintro ⟨s, hs, hx⟩
    obtain ⟨hsL, hsA⟩ := (hL s).mp hs
    exact ⟨⟨s, hsL, ((hF s hsL hsA).mp hx).1⟩, ((hF s hsL hsA).mp hx).2⟩
  · rintro ⟨⟨s, hsL, hx⟩, hxA⟩
    have hsA : s ∉ A := fun h => hxA (hcl s hsL hx h)
    exact ⟨s, (hL s).mpr ⟨hsL, hsA⟩, (hF s hsL hsA).mpr ⟨hx, hxA⟩⟩

theorem mem_deepIfs_minus {g : G} {A : List Nat} (hF : FamC g A) {Lc Lg : List Nat}
    (hL : ∀ a, a ∈ Lc ↔ a ∈ Lg ∧ a ∉ A) (hLg : ∀ a ∈ Lg, g.cls? a = some .cp ∧ isSub g a = false) (i : Nat) :
    i ∈ deepIfs (g.minus A) Lc ↔ i ∈ deepIfs g Lg ∧ i ∉ A :=
  mem_flatMap_minus hL (fun _ _ haA => mem_withSubs_minus haA i) fun a ha hi haA =>
    (mem_withSubs.mp hi).elim (fun e => e ▸ haA) fun h => (hF a (hLg a ha).1 (hLg a ha).2 i h.2).mpr haA

/-- **a user-level removal call**: `_disconnect_interfaces` over the ports `Lc` the current graph shows (those of `Lg` still present;
with their sub-interfaces, the connection points below `x`), then `rem` (which removes what is below `x`) -/
theorem api_res (g : G) (hW : WF g = true) (A : List Nat) (hA : InvA g A) (x : Nat) (hxl : NL g x) (hxA : x ∉ A)
    (rem : G → Nat → Except Err G) {Lc Lg : List Nat} (hL : ∀ a, a ∈ Lc ↔ a ∈ Lg ∧ a ∉ A)
    (hLg : ∀ a ∈ Lg, g.cls? a = some .cp ∧ isSub g a = false) (hdeep : ∀ i, i ∈ deepIfs g Lg ↔ Below g x i ∧ g.cls? i = some .cp)
    (hrem : Removes (InvD g) (Below g) g rem x) :
    ResA g A (Own g x) ((disconnectDeep (g.minus A) Lc).bind fun g1 => rem g1 x) := by
  have hI : ∀ i, i ∈ deepIfs (g.minus A) Lc ↔ Below g x i ∧ g.cls? i = some .cp ∧ i ∉ A := fun i => by
    rw [mem_deepIfs_minus hA.famC hL hLg i, hdeep i, and_assoc]
  obtain ⟨hInv, hD, hPC⟩ := hA
  obtain ⟨A1, hr1, hsub1, hmem1, hD1, _, hxA1⟩ :=
    Res.fold disconnectStep (fun i => PortOf g i) (deepIfs (g.minus A) Lc) (A := A) ⟨⟨hInv, hD⟩, fun i hi y hp => Or.inl (hPC i hi y hp), hxA⟩
      fun pfx i sfx hs A' hA' _ =>
        have hiI := (hI i).mp (hs ▸ List.mem_append_right _ (List.mem_cons_self ..))
        disconnectStep_resJ g hW x hxl A' hA' i hiI.2.1 hiI.1
  obtain ⟨A2, hr2, hsub2, hmem2, hInv2, hD2⟩ := hrem A1 hD1 hxA1
  have hmem : ∀ y, NL g y → (y ∈ A2 ↔ y ∈ A ∨ Own g x y) := by
    intro y hy
    rw [hmem2 y hy]
    by_cases hb : Below g x y
    · exact ⟨fun _ => Or.inr ⟨y, hb, Or.inl rfl⟩, fun _ => Or.inr hb⟩
    · rw [hmem1 y ⟨hy, hb⟩]
      constructor
      · rintro ((h | ⟨i, hi, hp⟩) | h)
        · exact Or.inl h
        · exact Or.inr ⟨i, ((hI i).mp hi).1, Or.inr hp⟩
        · exact absurd h hb
      · rintro (h | ⟨i, hbi, rfl | hp⟩)
        · exact Or.inl (Or.inl h)
        · exact absurd hbi hb
        · by_cases hiA : i ∈ A
          · exact Or.inl (Or.inl (hPC i hiA y hp))
          · exact Or.inl (Or.inr ⟨i, (hI i).mpr ⟨hbi, hp.cls, hiA⟩, hp⟩)
  refine ⟨A2, by rw [show disconnectDeep (g.minus A) Lc = _ from hr1]; exact hr2, fun y hy => hsub2 y (hsub1 y hy), hmem, hInv2, hD2,
    fun i hi y hp => ?_⟩
  rcases (hmem i (cls_ne_link hp.cls)).mp hi with h | ⟨j, hb, rfl | hq⟩
  · exact hsub2 y (hsub1 y (hPC i h y hp))
  · exact (hmem y (cls_ne_link hp.port_cls)).mpr (Or.inr ⟨i, hb, Or.inr hp⟩)
  · rw [portOf_back (wf_peer hW) hq hp]
    exact (hmem j (cls_ne_link hq.cls)).mpr (Or.inr ⟨j, hb, Or.inl rfl⟩)

theorem mem_directIfs_minus {g : G} {A : List Nat} (hD : DownC g A) {p : Nat} (hpA : p ∉ A) (a : Nat) :
    a ∈ directIfs (g.minus A) p ↔ a ∈ directIfs g p ∧ a ∉ A :=
  mem_flatMap_minus (mem_nbrs_minus hpA) (fun _ _ hsA => mem_nbrs_minus hsA a) fun s hs ha hsA =>
    hD s hsA a (children_ns (mem_nbrs_cls hs) ▸ ha)

theorem mem_ifaceListNode_minus {g : G} {A : List Nat} (hD : DownC g A) {n : Nat}
    (hnA : n ∉ A) (a : Nat) : a ∈ ifaceListNode (g.minus A) n ↔ a ∈ ifaceListNode g n ∧ a ∉ A := by
  have hcomps : a ∈ ((g.minus A).nbrs n .has .comp).flatMap (directIfs (g.minus A)) ↔
      a ∈ (g.nbrs n .has .comp).flatMap (directIfs g) ∧ a ∉ A :=
    mem_flatMap_minus (mem_nbrs_minus hnA) (fun _ _ hcA => mem_directIfs_minus hD hcA a) fun c hc ha hcA => by
      -- a component that is gone has taken its services, and they their ports
      obtain ⟨s, hs, ha⟩ := mem_directIfs.mp ha
      exact hD s (hD c hcA s (children_comp (mem_nbrs_cls hc) ▸ hs)) a (children_ns (mem_nbrs_cls hs) ▸ ha)
  simp only [ifaceListNode, List.mem_append, hcomps, mem_directIfs_minus hD hnA, or_and_right]

theorem removeNsApi_resA (g : G) (hW : WF g = true) (s : Nat) (hc : g.cls? s = some .ns) :
    Removes (InvA g) (Own g) g removeNsApi s := fun A hA hsA => by
  simp only [removeNsApi, cls_minus_keep (contains_false hsA), hc, beq_self_eq_true, ite_true, bind_eq]
  exact api_res g hW A hA s (cls_ne_link hc) hsA removeNs (mem_nbrs_minus hsA)
    (fun a ha => ⟨mem_nbrs_cls ha, port_not_sub hc ha⟩) (mem_deepIfs_ns (wf_cp hW) hc) (removeNs_res g hW s hc).downC

theorem removeComponentApi_resA (g : G) (hW : WF g = true) (c : Nat) (hc : g.cls? c = some .comp) :
    Removes (InvA g) (Own g) g removeComponentApi c := fun A hA hcA => by
  simp only [removeComponentApi, cls_minus_keep (contains_false hcA), hc, beq_self_eq_true, ite_true, bind_eq]
  exact api_res g hW A hA c (cls_ne_link hc) hcA removeComp (mem_directIfs_minus hA.downC hcA) (fun _ => directIfs_port)
    (mem_deepIfs_comp (wf_cp hW) hc) (removeComp_res g hW c hc)

/-- the common body of `Topology.remove_node` and `remove_facility` -/
theorem removeNodeBody_resA (g : G) (hW : WF g = true) (n : Nat) (hc : g.cls? n = some .node) :
    Removes (InvA g) (Own g) g (fun g n => (disconnectDeep g (ifaceListNode g n)).bind (fun g1 => removeNodeG g1 n)) n :=
  fun A hA hnA => api_res g hW A hA n (cls_ne_link hc) hnA removeNodeG (mem_ifaceListNode_minus hA.downC hnA)
    (fun _ => ifaceListNode_port) (mem_deepIfs_node (wf_cp hW) hc) (removeNodeG_res g hW n hc)

theorem removeNodeApi_resA (g : G) (hW : WF g = true) (n : Nat) (hc : g.cls? n = some .node) (hk : g.kind? n ≠ some kFacility) :
    Removes (InvA g) (Own g) g removeNodeApi n := fun A hA hnA => by
  have hk' : (g.cls? n == some .node && g.kind? n != some kFacility) = true := by simp [hc, hk]
  simp only [removeNodeApi, cls_minus_keep (contains_false hnA), kind_minus_keep (contains_false hnA), hk', ite_true, bind_eq]
  exact removeNodeBody_resA g hW n hc A hA hnA

theorem removeFacilityApi_resA (g : G) (hW : WF g = true) (n : Nat) (hc : g.cls? n = some .node) (hk : g.kind? n = some kFacility) :
    Removes (InvA g) (Own g) g removeFacilityApi n := fun A hA hnA => by
  have hk' : (g.cls? n == some .node && g.kind? n == some kFacility) = true := by simp [hc, hk]
  simp only [removeFacilityApi, cls_minus_keep (contains_false hnA), kind_minus_keep (contains_false hnA), hk', ite_true, bind_eq]
  exact removeNodeBody_resA g hW n hc A hA hnA

theorem removeSwitchApi_resA (g : G) (hW : WF g = true) (n : Nat) (hc : g.cls? n = some .node) (hk : g.kind? n = some kSwitch) :
    Removes (InvA g) (Own g) g removeSwitchApi n := fun A hA hnA => by
  have hk' : (g.cls? n == some .node && g.kind? n == some kSwitch) = true := by simp [hc, hk]
  simp only [removeSwitchApi, cls_minus_keep (contains_false hnA), kind_minus_keep (contains_false hnA), hk', ite_true]
  exact removeNodeApi_resA g hW n hc (by rw [hk]; decide) A hA hnA

theorem pruneIface_resA (g : G) (hW : WF g = true) (i : Nat) (hc : g.cls? i = some .cp) (hs : isSub g i = false) :
    Removes (InvA g) (Own g) g (fun g i => (disconnectDeep g [i]).bind (fun g1 => removeCp g1 i true)) i := fun A hA hiA =>
  api_res g hW A hA i (cls_ne_link hc) hiA (fun g i => removeCp g i true) (Lg := [i])
    (fun a => by simp only [List.mem_singleton]; exact ⟨fun h => ⟨h, h ▸ hiA⟩, And.left⟩)
    (fun a ha => List.mem_singleton.mp ha ▸ ⟨hc, hs⟩) (mem_deepIfs_cp (wf_cp hW) hc hs) (removeCpTop_res g hW i hc hs).downC

end FimVerif.Remove
