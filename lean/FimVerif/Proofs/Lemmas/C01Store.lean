import FimVerif.Model.GraphML
import FimVerif.Proofs.Lemmas.ListAux
/-! The shared store: its invariant, `__del_graph_nl`, and what `extract_graph` reads - the nodes stamped with the id and the
edges among them (`ownEdges`) - so that it is blind to appended nodes of other graphs and to the deletion of another graph. -/
namespace FimVerif.C01
open FimVerif.GraphML

def StoreInv (s : Store) : Prop :=
  (s.nodes.map (·.iid)).Nodup ∧ (∀ n ∈ s.nodes, n.iid < s.nextId) ∧
  (∀ e ∈ s.edges, e.a ∈ s.nodes.map (·.iid) ∧ e.b ∈ s.nodes.map (·.iid))

instance (s : Store) : Decidable (StoreInv s) := by unfold StoreInv; exact inferInstance

/-- the Boolean the driver evaluates on every store handed over by the harness is the invariant of the theorems -/
theorem invB_iff (s : Store) : s.invB = true ↔ StoreInv s := by
  unfold Store.invB StoreInv
  simp only [Bool.and_eq_true, decide_eq_true_eq, List.all_eq_true, List.contains_iff_mem]
  constructor
  · rintro ⟨⟨h1, h2⟩, h3⟩
    exact ⟨h1, h2, h3⟩
  · rintro ⟨h1, h2, h3⟩
    exact ⟨⟨h1, h2⟩, h3⟩

theorem StoreInv.id_lt {s : Store} (h : StoreInv s) : ∀ x ∈ s.nodes.map (·.iid), x < s.nextId := fun _ hx =>
  let ⟨n, hn, e⟩ := List.mem_map.1 hx
  e ▸ h.2.1 n hn

/-- where the theorems meet the generated relabelling offsets: the shared store numbers an imported graph from its
    `start_id`, the disjoint store from 1 (`gen/serial.py` reads `first_label` out of `add_graph` / `add_graph_direct`) -/
@[simp] theorem sharedFirst_eval (n : Nat) : Gen.Serial.sharedFirstLabel.eval n = n := rfl
@[simp] theorem disjointFirst_eval (n : Nat) : Gen.Serial.disjointFirstLabel.eval n = 1 := rfl

theorem initialStartId_pos : 0 < Gen.Serial.initialStartId := by decide

theorem inGraph_iff {g : Val} {n : SNode} : Store.inGraph g n = true ↔ n.attrs.get? "GraphID" = some g := beq_iff_eq

theorem mem_graphNodes {s : Store} {g : Val} {n : SNode} :
    n ∈ s.graphNodes g ↔ n ∈ s.nodes ∧ n.attrs.get? "GraphID" = some g := by
  rw [Store.graphNodes, List.mem_filter, inGraph_iff]

theorem mem_delGraph_nodes {s : Store} {g : Val} {n : SNode} :
    n ∈ (s.delGraph g).nodes ↔ n ∈ s.nodes ∧ n ∉ s.graphNodes g := by
  simp only [Store.delGraph, Store.graphNodes, List.mem_filter, Bool.not_eq_true', not_and, Bool.not_eq_true]
  exact ⟨fun ⟨h1, h2⟩ => ⟨h1, fun _ => h2⟩, fun ⟨h1, h2⟩ => ⟨h1, h2 h1⟩⟩

theorem mem_delGraph_edges {s : Store} {g : Val} {e : Edge Nat} :
    e ∈ (s.delGraph g).edges ↔ e ∈ s.edges ∧ e.a ∉ (s.graphNodes g).map (·.iid) ∧ e.b ∉ (s.graphNodes g).map (·.iid) := by
  simp only [Store.delGraph, List.mem_filter, Bool.and_eq_true, Bool.not_eq_true', List.contains_eq_mem, decide_eq_false_iff_not]

theorem delGraph_graphNodes (s : Store) (g : Val) : (s.delGraph g).graphNodes g = [] :=
  List.eq_nil_iff_forall_not_mem.2 fun _ hn =>
    let ⟨h1, h2⟩ := mem_graphNodes.1 hn
    (mem_delGraph_nodes.1 h1).2 (mem_graphNodes.2 ⟨(mem_delGraph_nodes.1 h1).1, h2⟩)

theorem delGraph_nextId (s : Store) (g : Val) : (s.delGraph g).nextId = s.nextId := rfl

theorem delGraph_free (s : Store) (g : Val) (h : s.graphNodes g = []) : s.delGraph g = s := by
  have hn : ∀ n ∈ s.nodes, ¬ Store.inGraph g n = true := List.filter_eq_nil_iff.1 h
  cases s with
  | mk nodes edges nextId =>
    have hnodes : nodes.filter (fun n => !Store.inGraph g n) = nodes :=
      List.filter_eq_self.mpr fun n hn' => by simp [hn n hn']
    have h' : Store.graphNodes ⟨nodes, edges, nextId⟩ g = [] := h
    simp [Store.delGraph, h', hnodes]

theorem storeInv_empty : StoreInv Store.empty := by
  refine ⟨List.nodup_nil, ?_, ?_⟩ <;> intro x hx <;> cases hx

theorem storeInv_delGraph (s : Store) (hs : StoreInv s) (g : Val) : StoreInv (s.delGraph g) := by
  refine ⟨(List.Sublist.map _ List.filter_sublist).nodup hs.1, fun n hn => hs.2.1 n (mem_delGraph_nodes.1 hn).1, fun e he => ?_⟩
  obtain ⟨he, ha', hb'⟩ := mem_delGraph_edges.1 he
  obtain ⟨ha, hb⟩ := hs.2.2 e he
  have key : ∀ x ∈ s.nodes.map (·.iid), x ∉ (s.graphNodes g).map (·.iid) → x ∈ (s.delGraph g).nodes.map (·.iid) := by
    intro x hx hnd
    obtain ⟨n, hn, rfl⟩ := List.mem_map.mp hx
    exact List.mem_map_of_mem (mem_delGraph_nodes.2 ⟨hn, fun h => hnd (List.mem_map_of_mem h)⟩)
  exact ⟨key _ ha ha', key _ hb hb'⟩

/-- the edges of the store `extract_graph(g)` reads: those with both ends stamped with `g` (the induced subgraph;
    an edge leading out of the graph - `merge_nodes` leaves such - is not one of them) -/
def ownEdges (s : Store) (g : Val) : List (Edge Nat) :=
  s.edges.filter fun e => ((s.graphNodes g).map (·.iid)).contains e.a && ((s.graphNodes g).map (·.iid)).contains e.b

theorem mem_ownEdges {s : Store} {g : Val} {e : Edge Nat} :
    e ∈ ownEdges s g ↔ e ∈ s.edges ∧ e.a ∈ (s.graphNodes g).map (·.iid) ∧ e.b ∈ (s.graphNodes g).map (·.iid) := by
  simp only [ownEdges, List.mem_filter, Bool.and_eq_true, List.contains_iff_mem]

theorem extract_eq_some (s : Store) (g : Val) (G0 : Graph Nat) (h : s.extract g = some G0) :
    s.graphNodes g ≠ [] ∧ G0.nodes = (s.graphNodes g).map (fun n => (n.iid, n.attrs)) ∧
    G0.edges = iterFrom (ownEdges s g) [] ((s.graphNodes g).map (·.iid)) := by
  revert h
  fun_cases Store.extract s g with
  | case1 => intro h; cases h
  | case2 ns hemp ids es => intro h; cases h; exact ⟨fun hn => hemp (List.isEmpty_iff.2 hn), rfl, rfl⟩

theorem extract_congr (s s' : Store) (g : Val) (hn : s'.graphNodes g = s.graphNodes g) (he : ownEdges s' g = ownEdges s g) :
    s'.extract g = s.extract g := by
  unfold ownEdges at he
  rw [hn] at he
  unfold Store.extract
  simp only [hn, he]

theorem extract_append_other (s1 : Store) (g : Val) (newNodes : List SNode) (newEdges : List (Edge Nat))
    (htag : ∀ n ∈ newNodes, n.attrs.get? "GraphID" ≠ some g)
    (hfar : ∀ e ∈ newEdges, e.a ∉ (s1.graphNodes g).map (·.iid) ∨ e.b ∉ (s1.graphNodes g).map (·.iid)) (k : Nat) :
    Store.extract ⟨s1.nodes ++ newNodes, s1.edges ++ newEdges, k⟩ g = s1.extract g := by
  have hgn : Store.graphNodes ⟨s1.nodes ++ newNodes, s1.edges ++ newEdges, k⟩ g = s1.graphNodes g :=
    List.filter_append_right_nil fun n hn => Bool.eq_false_iff.2 fun h => htag n hn (inGraph_iff.1 h)
  refine extract_congr s1 _ g hgn ?_
  unfold ownEdges
  rw [hgn]
  refine List.filter_append_right_nil fun e he => ?_
  rcases hfar e he with h | h <;> simp [h]

theorem graphNodes_delGraph_other (s : Store) (g g' : Val) (hne : g ≠ g') : (s.delGraph g').graphNodes g = s.graphNodes g := by
  simp only [Store.delGraph, Store.graphNodes, List.filter_filter]
  refine List.filter_congr fun n _ => ?_
  by_cases h : Store.inGraph g n = true
  · have : Store.inGraph g' n = false :=
      Bool.eq_false_iff.2 fun h' => hne (Option.some.inj ((inGraph_iff.1 h).symm.trans (inGraph_iff.1 h')))
    simp [h, this]
  · simp [h]

theorem extract_delGraph_other (s : Store) (hs : StoreInv s) (g g' : Val) (hne : g ≠ g') :
    (s.delGraph g').extract g = s.extract g := by
  have hgn := graphNodes_delGraph_other s g g' hne
  refine extract_congr s _ g hgn ?_
  unfold ownEdges
  rw [hgn]
  simp only [Store.delGraph, List.filter_filter]
  refine List.filter_congr fun e _ => ?_
  -- a node of `g` is not a node of `g'`: internal ids are distinct
  have key : ∀ x, x ∈ (s.graphNodes g).map (·.iid) → x ∉ (s.graphNodes g').map (·.iid) := by
    intro x hx hx'
    obtain ⟨n, hn, rfl⟩ := List.mem_map.mp hx
    obtain ⟨m, hm, hmn⟩ := List.mem_map.mp hx'
    obtain ⟨hn1, hn2⟩ := mem_graphNodes.1 hn
    obtain ⟨hm1, hm2⟩ := mem_graphNodes.1 hm
    cases List.eq_of_nodup_map (·.iid) hs.1 hm1 hn1 hmn
    exact hne (Option.some.inj (hn2.symm.trans hm2))
  by_cases ha : e.a ∈ (s.graphNodes g).map (·.iid)
  · by_cases hb : e.b ∈ (s.graphNodes g).map (·.iid)
    · simp [ha, hb, key _ ha, key _ hb]
    · simp [hb]
  · simp [ha]

end FimVerif.C01
