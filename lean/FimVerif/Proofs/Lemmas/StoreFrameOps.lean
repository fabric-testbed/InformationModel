import FimVerif.Proofs.Lemmas.StoreFrame
/-! C04: every operation changes only the graphs `Op.affects` lists (`frame_affects`); one that writes no `GraphID` only its
    target (`frame_step`). -/
namespace FimVerif.Store
open FimVerif FimVerif.Gen.StoreConsts

theorem findNode_not_in (s : Store) (h : Inv s) (g g' nid : String) (i : Nat) (hf : findNode s g nid = .ok i)
    (hne : g' ≠ g) : idIn (nodesOf s g') i = false := by
  obtain ⟨n, hn, rfl⟩ := findNode_isNode hf
  exact idIn_nodesOf_of_ne s h n hn.mem g g' hn.inG hne

theorem str_ne {g g' : String} (hne : g' ≠ g) : some (Val.str g) ≠ some (Val.str g') :=
  fun e => hne (Val.str.inj (Option.some.inj e)).symm

theorem gid_ne_of_inG {g g' : String} {n : SNode} (hg : inG g n = true) (hne : g' ≠ g) :
    AMap.get graphId n.attrs ≠ some (.str g') :=
  beq_iff_eq.1 hg ▸ str_ne hne

theorem frames_updNode (g g' : String) (s : Store) (h : Inv s) (f : Props → Props) (n : SNode) (hn : n ∈ s.nodes)
    (hg : inG g n = true) (hne : g' ≠ g) (hf : AMap.get graphId (f n.attrs) ≠ some (.str g')) :
    Frames g' s (updNode n.iid f s) := by
  have only : ∀ m ∈ s.nodes, decide (m.iid = n.iid) = true → m = n :=
    fun m hm hc => List.eq_of_nodup_map (·.iid) h.1 hm hn (of_decide_eq_true hc)
  have := frames_updNodes g' s (fun m => decide (m.iid = n.iid)) f
    (fun m hm hc => only m hm hc ▸ inG_of_ne hg hne)
    (fun m hm hc => by rw [only m hm hc]; exact hf)
  exact updNode_eq n.iid f s ▸ this

theorem frames_updFound (s : Store) (h : Inv s) (g g' nid : String) (i : Nat) (hf : findNode s g nid = .ok i)
    (f : Props → Props) (hne : g' ≠ g)
    (hfp : ∀ a, AMap.get graphId a = some (.str g) → AMap.get graphId (f a) ≠ some (.str g')) :
    Frames g' s (updNode i f s) := by
  obtain ⟨n, hn, rfl⟩ := findNode_isNode hf
  exact frames_updNode g g' s h f n hn.mem hn.inG hne (hfp _ (beq_iff_eq.1 hn.inG))

theorem gidOf_none_of_not_has (p : Props) (h : AMap.has graphId p = false) : gidOf p = none := by
  unfold gidOf
  rw [AMap.get_update_of_not_has _ _ _ h]
  rfl

theorem affects_false {op : Op} {g' : String} (h : op.affects g' = false) : g' ≠ op.target ∧ Val.str g' ∉ op.gidWrites := by
  simp only [Op.affects, Bool.or_eq_false_iff, beq_eq_false_iff_ne, ne_eq, List.contains_eq_mem, decide_eq_false_iff_not] at h
  exact h.1

theorem gid_update_ne {g g' : String} {a p : Props} (ha : AMap.get graphId a = some (.str g)) (hne : g' ≠ g)
    (hw : Val.str g' ∉ (gidOf p).toList) : AMap.get graphId (AMap.update a p) ≠ some (.str g') := by
  rw [AMap.get_update_has]
  split
  · intro e; exact hw (by simp [gidOf, e])
  · exact ha ▸ str_ne hne

theorem gid_set_ne {g g' k : String} {v : Val} {a : Props} (ha : AMap.get graphId a = some (.str g)) (hne : g' ≠ g)
    (hw : Val.str g' ∉ (if k = graphId then [v] else [])) : AMap.get graphId (AMap.set k v a) ≠ some (.str g') := by
  by_cases hk : k = graphId
  · subst hk; rw [AMap.get_set_eq]
    intro e; injection e with e; exact hw (by simp [e])
  · rw [AMap.get_set_ne _ _ _ _ (Ne.symm hk), ha]
    exact str_ne hne

/-- the `GraphID` of the surviving dictionary is the caller's, the other node's, a pair or `None` -/
theorem frames_mergeNodes {s : Store} (h : Inv s) {g nid g2 g' : String} {pol : Option (List (String × Policy))} {u v : Nat}
    {mine theirs np : Props} (hu : findNode s g nid = .ok u) (hv : findNode s g2 nid = .ok v) (huv : u ≠ v)
    (hm : nodeAttrs s u = some mine) (ht : nodeAttrs s v = some theirs)
    (hnp : match pol with | none => np = mine | some p => mergeProps theirs p mine = .ok np)
    (h1 : g' ≠ g) (h2 : g' ≠ g2) : Frames g' s (updNode u (fun _ => np) (contract u v s)) := by
  obtain ⟨nu, hnu, rfl⟩ := findNode_isNode hu
  obtain ⟨nv, hnv, rfl⟩ := findNode_isNode hv
  have em : nu.attrs = mine := attrs_of_nodeAttrs h hnu.mem hm
  have et : nv.attrs = theirs := attrs_of_nodeAttrs h hnv.mem ht
  refine (frames_contract g' _ _ s (findNode_not_in s h g g' nid _ hu h1) (findNode_not_in s h g2 g' nid _ hv h2)).trans ?_
  refine frames_updNode g g' _ (inv_contract s _ _ h (findNode_idIn s g nid _ hu) huv) _ nu
    (mem_contract_nodes.2 ⟨hnu.mem, huv⟩) hnu.inG h1 ?_
  cases pol with
  | none => exact hnp ▸ em ▸ gid_ne_of_inG hnu.inG h1
  | some pol =>
    rw [mergeProps_policy hnp, ← em, beq_iff_eq.1 hnu.inG, ← et, Option.map_some]
    unfold policyVal
    simp only [beq_iff_eq.1 hnv.inG, Option.getD_some]
    -- by what the policy says about `GraphID`: not named, `discard`, `overwrite`, `combine`, unknown word
    split <;> intro e
    · exact str_ne h1 e
    · exact str_ne h1 e
    · exact str_ne h2 e
    · cases e
    · cases e

theorem Effect.frames {s : Store} {op : Op} {r : R} (e : Effect s op r) (h : Inv s) {g' : String}
    (ha : op.affects g' = false) : Frames g' s r.2 := by
  obtain ⟨hne, hw⟩ := affects_false ha
  have imported : ∀ (g : String) (ns : List Props) (es : List (Nat × Nat × Props)), g' ≠ g →
      (∀ a ∈ ns, AMap.get graphId a ≠ some (.str g')) → Frames g' s (appendGraph ns es (delGraphNl g s)) :=
    fun g ns es hg hns => (frames_delGraphNl g g' s h hg).trans (frames_appendGraph g' _ (inv_delGraphNl s g h) ns es hns)
  have tagged : ∀ (g : String) (ns : List Props), g' ≠ g →
      ∀ a ∈ ns.map (AMap.set graphId (.str g)), AMap.get graphId a ≠ some (.str g') :=
    fun g ns hg a ha => gid_of_tagged ha ▸ str_ne hg
  cases e with
  | refused => exact .refl _ _
  | answered => exact .refl _ _
  | addNode g nid label props =>
    rw [updNode_fresh s h]
    refine frames_appendGraph g' s h _ _ fun a ha => ?_
    rw [List.mem_singleton.1 ha]
    exact gid_update_ne (g := g) (by simp [AMap.get]) hne (Op.gidWrites_addNode g nid label props ▸ hw)
  | deleteNode g nid i hi => exact frames_removeNode g' s i (findNode_not_in s h g g' nid i hi hne)
  | addLink g a rel b props ia ib attrs hia => exact frames_addEdge g' s ia ib _ (.inl (findNode_not_in s h g g' a ia hia hne))
  | updateNodeProperty g nid k v i _ hi => exact frames_updFound s h g g' nid i hi _ hne fun a ha => gid_set_ne ha hne hw
  | unsetNodeProperty g nid k i _ hk hi =>
    refine frames_updFound s h g g' nid i hi _ hne fun a ha => ?_
    rw [AMap.get_erase_ne _ _ _ (ne_of_mem_of_not_mem graphId_mem_noUnset hk), ha]
    exact str_ne hne
  | updateNodesProperty g k v =>
    exact frames_updNodes g' s (inG g) (AMap.set k v) (fun m _ hc => inG_of_ne hc hne)
      fun m _ hc => gid_set_ne (beq_iff_eq.1 hc) hne hw
  | updateNodeProperties g nid p i _ hi => exact frames_updFound s h g g' nid i hi _ hne fun a ha => gid_update_ne ha hne hw
  | updateLinkProperty g a b kind k v ia ib f hia =>
    exact frames_updEdge g' s ia ib f (.inl (findNode_not_in s h g g' a ia hia hne))
  | unsetLinkProperty g a b kind k ia ib f hia =>
    exact frames_updEdge g' s ia ib f (.inl (findNode_not_in s h g g' a ia hia hne))
  | updateLinkProperties g a b kind p ia ib f hia =>
    exact frames_updEdge g' s ia ib f (.inl (findNode_not_in s h g g' a ia hia hne))
  | deleteGraph g => exact frames_delGraphNl g g' s h hne
  | importRefused g ig => exact frames_delGraphNl g g' s h hne
  | addGraph g ig => exact imported g _ _ hne (tagged g _ hne)
  | addGraphDirect g ig =>
    exact imported g _ _ hne fun a ha e => hw (List.mem_filterMap.2 ⟨a, by simpa [IGraph.close] using ha, e⟩)
  | cloneRefused g g2 => exact frames_delGraphNl g2 g' s h hne
  | clone g g2 ig => exact imported g2 _ _ hne (tagged g2 _ hne)
  | mergeNodes g nid g2 pol u v mine theirs np hu hv huv hm ht hnp =>
    exact frames_mergeNodes h hu hv huv hm ht hnp hne fun e => by simp [Op.affects, e] at ha
  | delAllGraphs => simp [Op.affects] at ha

theorem frame_affects (op : Op) (s : Store) (g' : String) (h : Inv s) (ha : op.affects g' = false) :
    Frames g' s (step op s).2 := (step_effect op s).frames h ha

theorem affects_of_keepsGraphId (op : Op) (g' : String) (hk : op.keepsGraphId = true) (hne : g' ≠ op.target) :
    op.affects g' = false := by
  have hw : Val.str g' ∉ op.gidWrites := by
    cases op with
    | addNode g nid label props =>
      simp [Op.gidWrites_addNode, gidOf_none_of_not_has _ (by simpa [Op.keepsGraphId_addNode] using hk)]
    | updateNodeProperties g nid p => simp [Op.gidWrites, gidOf_none_of_not_has p (by simpa [Op.keepsGraphId] using hk)]
    | updateNodeProperty g nid k v => simp [Op.gidWrites, show k ≠ graphId by simpa [Op.keepsGraphId] using hk]
    | updateNodesProperty g k v => simp [Op.gidWrites, show k ≠ graphId by simpa [Op.keepsGraphId] using hk]
    | addGraphDirect g ig =>
      simp only [Op.keepsGraphId, List.all_eq_true, beq_iff_eq] at hk
      simp only [Op.gidWrites, List.mem_filterMap, not_exists, not_and]
      intro a ha e
      rw [hk a ha] at e
      exact hne (Val.str.inj (Option.some.inj e)).symm
    | _ => exact List.not_mem_nil
  unfold Op.affects
  simp only [Bool.or_eq_false_iff, beq_eq_false_iff_ne, ne_eq, List.contains_eq_mem, decide_eq_false_iff_not]
  refine ⟨⟨hne, hw⟩, ?_⟩
  cases op <;> first | rfl | cases hk

theorem frame_step (op : Op) (s : Store) (g' : String) (h : Inv s) (hk : op.keepsGraphId = true)
    (hne : g' ≠ op.target) : Frames g' s (step op s).2 :=
  frame_affects op s g' h (affects_of_keepsGraphId op g' hk hne)

end FimVerif.Store
