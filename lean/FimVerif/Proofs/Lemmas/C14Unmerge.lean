import FimVerif.Proofs.Lemmas.C14UnStep
/-! C14: `unmerge` after `merge` is the inverse (under guards), and of an id that occurs nowhere a no-op: both through `unmerge_ok_iff`,
node by node (`unKeep_mergeAt`, `unKeep_stampT`, `unKeep_fresh`). -/
namespace FimVerif.Cbm

def Node.norm (n : Node) : Node := { n with ldel := n.ldel.norm, cdel := n.cdel.norm }
def Graph.norm (g : Graph) : Graph := ⟨g.nodes.map Node.norm, g.edges⟩

/-- the graph id occurs nowhere in `c` -/
def Graph.Fresh (c : Graph) (gid : String) : Prop :=
  ∀ n ∈ c.nodes, gid ∉ n.prov ∧ n.ldel.mentions gid = false ∧ n.cdel.mentions gid = false
instance (c : Graph) (gid : String) : Decidable (c.Fresh gid) := by unfold Graph.Fresh; infer_instance

/-- every element has provenance, at least one contributor: one with none would not come back from merge + unmerge (`unmerge_adm` deletes
an element when its list becomes empty) -/
def Graph.Proved (c : Graph) : Prop := ∀ n ∈ c.nodes, n.prov ≠ []
instance (c : Graph) : Decidable c.Proved := by unfold Graph.Proved; infer_instance

/-- `a` brings no new connection between two elements of `c`: such a connection would stay after the unmerge (connections carry no
provenance, `unmerge_inverse_counterexample_edge`) -/
def EdgeGuard (c : Graph) (a : Adm) : Prop :=
  ∀ e ∈ a.g.edges, e.a ∈ c.ids → e.b ∈ c.ids → c.hasEdge e.a e.b = true
instance (c : Graph) (a : Adm) : Decidable (EdgeGuard c a) := by unfold EdgeGuard; infer_instance

theorem unKeep_fresh {gid : String} {n : Node} (h : gid ∉ n.prov ∧ n.ldel.mentions gid = false ∧ n.cdel.mentions gid = false) :
    n.unOk gid = true ∧ unKeep gid n = some n ∧ unT gid n = n := by
  obtain ⟨f1, f2, f3⟩ := h
  simp [Node.unOk, unKeep, unT, provUnmerge_fresh f1, Deleg.un_unmentioned f2, Deleg.un_unmentioned f3]

theorem unKeep_mergeAt {c : Graph} (a : Adm) (done : List String) {n : Node} (hn : n ∈ c.nodes) (hf : c.Fresh a.id) (hp : c.Proved) :
    (mergeAt a.stamped a.id done n).unOk a.id = true ∧
    unKeep a.id (mergeAt a.stamped a.id done n) = some (unT a.id (mergeAt a.stamped a.id done n)) ∧
    (unT a.id (mergeAt a.stamped a.id done n)).norm = n.norm := by
  obtain ⟨f1, f2, f3⟩ := hf n hn
  have plain : n.unOk a.id = true ∧ unKeep a.id n = some (unT a.id n) ∧ (unT a.id n).norm = n.norm := by
    obtain ⟨h1, h2, h3⟩ := unKeep_fresh (hf n hn)
    rw [h3]
    exact ⟨h1, h2, rfl⟩
  unfold mergeAt
  split
  · split
    · rename_i tn htn
      obtain ⟨an, _, rfl⟩ := Option.map_eq_some_iff.mp ((node?_stamped a n.id).symm.trans htn)
      have hl := Deleg.un_take_rk an.ldel f2
      have hc := Deleg.un_take_rk an.cdel f3
      simp [Node.unOk, unKeep, Node.norm, unT, mergeNode, stampT, hl, hc, provUnmerge_appended f1 (hp n hn)]
    · exact plain
  · exact plain

theorem unKeep_stampT (aid : String) (an : Node) : (stampT aid an).unOk aid = true ∧ unKeep aid (stampT aid an) = none :=
  ⟨by simp [Node.unOk, stampT, Deleg.unOk_rk], by simp [unKeep, stampT, provUnmerge_single]⟩

theorem filterMap_eq_map_of {α β : Type} {f : α → Option β} {g : α → β} {l : List α} (h : ∀ x ∈ l, f x = some (g x)) :
    l.filterMap f = l.map g := by
  rw [List.filterMap_congr' (g := some ∘ g) h, List.filterMap_eq_map]

theorem closed_filter_edges {c : Graph} (hc : c.Closed) :
    c.edges.filter (fun e => c.ids.contains e.a && c.ids.contains e.b) = c.edges :=
  List.filter_eq_self.mpr fun e he => by simp [hc e he]

theorem unmerge_merge {c : Graph} {a : Adm} {g : Graph} (hc : c.WF) (hm : mergeN c a = (none, g))
    (hf : c.Fresh a.id) (hp : c.Proved) (hg : EdgeGuard c a) :
    (unmerge g a.id).1 = none ∧ (unmerge g a.id).2.norm = c.norm := by
  have hs := merge_step hc.closed hm
  have hne : g.nodes ≠ [] := nodes_ne_nil_mono hs.nonempty fun i hi => by rw [hs.has, hi, Bool.or_true]
  have hgeq := hs.eq
  subst hgeq
  have hnodes := mergeCore_nodes c a.stamped a.id (common c a.g)
  have hold := fun n (hn : n ∈ c.nodes) => unKeep_mergeAt a (common c a.g) hn hf hp
  have hnew : ∀ n ∈ a.stamped.nodes.filter (fun tn => !c.ids.contains tn.id), n.unOk a.id = true ∧ unKeep a.id n = none := by
    intro n hn
    obtain ⟨an, _, rfl⟩ := List.mem_map.mp (List.mem_filter.mp hn).1
    exact unKeep_stampT a.id an
  -- the elements `c` had come back in their order, the new ones go
  have hkeep : (mergeCore c a.stamped a.id (common c a.g) true).nodes.filterMap (unKeep a.id) =
      c.nodes.map fun n => unT a.id (mergeAt a.stamped a.id (common c a.g) n) := by
    rw [hnodes, List.filterMap_append, List.filterMap_map, filterMap_eq_map_of (f := unKeep a.id ∘ _) fun n hn => (hold n hn).2.1,
      List.filterMap_eq_nil_iff.mpr fun n hn => (hnew n hn).2, List.append_nil]
  have hids : (c.nodes.map fun n => unT a.id (mergeAt a.stamped a.id (common c a.g) n)).map (·.id) = c.ids := by
    rw [List.map_map]
    exact List.map_congr_left fun n _ => mergeAt_id _ _ _ n
  -- the connections between them are those of `c`: `a` adds none there (`EdgeGuard`)
  have hedges : (mergeCore c a.stamped a.id (common c a.g) true).edges.filter
      (fun e => c.ids.contains e.a && c.ids.contains e.b) = c.edges := by
    rw [mergeCore_edges, List.filter_append, closed_filter_edges hc.closed]
    refine List.append_right_eq_self.mpr (List.filter_eq_nil_iff.mpr ?_)
    intro e he hcontra
    have he' := List.mem_filter.mp he
    simp only [Bool.and_eq_true, List.contains_iff_mem] at hcontra
    simp [hg e he'.1 hcontra.1 hcontra.2] at he'
  rw [unmerge_ok_iff.mpr ⟨hne, by
    rw [hnodes]
    intro n hn
    rcases List.mem_append.mp hn with h | h
    · obtain ⟨m, hm', rfl⟩ := List.mem_map.mp h
      exact (hold m hm').1
    · exact (hnew n h).1, rfl⟩]
  refine ⟨rfl, ?_⟩
  simp only [unmerged, Graph.norm, hkeep, hids, hedges, List.map_map]
  congr 1
  exact List.map_congr_left fun n hn => (hold n hn).2.2

theorem unmerge_fresh_noop {c : Graph} {gid : String} (hc : c.Closed) (hne : c.nodes ≠ []) (hf : c.Fresh gid) :
    unmerge c gid = (none, c) := by
  rw [unmerge_ok_iff.mpr ⟨hne, fun n hn => (unKeep_fresh (hf n hn)).1, rfl⟩]
  have hk : c.nodes.filterMap (unKeep gid) = c.nodes := by
    rw [filterMap_eq_map_of fun n hn => (unKeep_fresh (hf n hn)).2.1, List.map_id']
  have := closed_filter_edges hc
  unfold Graph.ids at this
  simp only [unmerged, hk, this]

end FimVerif.Cbm
