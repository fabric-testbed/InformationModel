import FimVerif.Proofs.Lemmas.TopoAtomicDrop
import FimVerif.Proofs.Lemmas.TopoAtomicGrow
/-! `Topology._disconnect_interfaces` (`detachAll`) as a removing pass, and the user-level removals built on it.
With the skip of interfaces that are already gone (commit c460287, flag `Rules.detachSkipsGone`) every step of the loop
returns in any restriction of the start state that dropped Links and ServicePorts only, provided the start state has: distinct
ids, every ServicePort owned by exactly one service (`SpOwned`), at most one ServicePort peer per interface (`SpPeer1`), no
ConnectionPoint hanging off a ServicePort (`SpLeaf`). -/
namespace FimVerif.Topo
open FimVerif FimVerif.M

def SpOwned (s : Topo) : Prop :=
  ∀ p ∈ s.nodes, p.cls = .connectionPoint → p.typ = "ServicePort" → (neighbors s p.ref .connects .networkService).length = 1

/-- an interface has at most one ServicePort peer (counted as `get_peers` counts them) -/
def SpPeer1 (s : Topo) : Prop :=
  ∀ n ∈ s.nodes, n.cls = .connectionPoint → ((peerNodes s n.ref).filter (fun m => m.typ == "ServicePort")).length ≤ 1

instance (s : Topo) : Decidable (SpOwned s) := by unfold SpOwned; infer_instance
instance (s : Topo) : Decidable (SpPeer1 s) := by unfold SpPeer1; infer_instance

def SpOrLink (s : Topo) (x : Ref) : Prop :=
  x.cls = .link ∨ (x.cls = .connectionPoint ∧ ∃ m ∈ s.nodes, m.ref = x ∧ m.typ = "ServicePort")

structure DetachHyp (s : Topo) : Prop where
  ds : IdsDistinct s
  own : SpOwned s
  p1 : SpPeer1 s
  leaf : SpLeaf s

instance (s : Topo) : Decidable (DetachHyp s) :=
  if h : IdsDistinct s ∧ SpOwned s ∧ SpPeer1 s ∧ SpLeaf s then isTrue ⟨h.1, h.2.1, h.2.2.1, h.2.2.2⟩
  else isFalse (fun x => h ⟨x.ds, x.own, x.p1, x.leaf⟩)

theorem spPeer1_restrict {s : Topo} (h : SpPeer1 s) (k : Ref → Bool) : SpPeer1 (restrict k s) := by
  intro n hn hc
  have h1 := h n (mem_restrict_nodes.mp hn).1 hc
  exact Nat.le_trans ((peerNodes_restrict_sublist s k n.ref).filter _).length_le h1

theorem spOwned_restrict {s : Topo} (h : SpOwned s) {k : Ref → Bool} (hk : ∀ x, k x = false → x.cls = .link ∨ x.cls = .connectionPoint) :
    SpOwned (restrict k s) := by
  intro p hp hc ht
  obtain ⟨hp1, hp2⟩ := mem_restrict_nodes.mp hp
  rw [neighbors_restrict_eq hp2 (fun x hx => by
    cases h1 : k x
    · rcases hk x h1 with h2 | h2 <;> rw [hx] at h2 <;> cases h2
    · rfl)]
  exact h p hp1 hc ht

/-- the inner body of `detachAll` -/
def detachOne (ii : Nid) : M Topo Unit := do
  let there2 ← read (fun (s : Topo) => s.nodes.any (fun m => m.nid == ii && m.cls == .connectionPoint))
  if Gen.Rules.detachSkipsGone && !there2 then Pure.pure () else do
  let peers ← peersOf ii
  let pn ← mapM' findNode peers
  let sp := pn.filter (fun n => n.typ == "ServicePort")
  match sp with
  | [] => Pure.pure ()
  | [p] => do
      let _ ← parentService p.nid
      let _ ← disconnectInterface [] (.iface ii "")
      Pure.pure ()
  | _ => raise .topology

/-- the outer body of `detachAll` (`detachAll_eq` ties both to the model by `rfl`) -/
def detachStep (i : Nid) : M Topo Unit := do
  let there ← read (fun (s : Topo) => s.nodes.any (fun m => m.nid == i && m.cls == .connectionPoint))
  if Gen.Rules.detachSkipsGone && !there then Pure.pure () else do
  let n ← findNode i
  let kids ← if n.typ == "DedicatedPort" then firstNeighbor i .connects .connectionPoint else Pure.pure []
  M.forEach (i :: kids) detachOne

theorem detachAll_eq (ifs : List Nid) : detachAll ifs = M.forEach ifs detachStep := rfl

theorem any_cp {t : Topo} {i : Nid} (h : t.nodes.any (fun m => m.nid == i && m.cls == .connectionPoint) = true) :
    ∃ m ∈ t.nodes, m.nid = i ∧ m.cls = .connectionPoint := by
  rw [List.any_eq_true] at h
  obtain ⟨m, hm, hp⟩ := h
  simp only [Bool.and_eq_true, beq_iff_eq] at hp
  exact ⟨m, hm, hp.1, hp.2⟩

theorem parentService_run {t : Topo} (hd : IdsDistinct t) {p : GNode} (hp : p ∈ t.nodes)
    (h1 : (neighbors t p.ref .connects .networkService).length = 1) : ∃ q, parentService p.nid t = (.ok q, t) := by
  obtain ⟨q, hq⟩ := List.length_eq_one_iff.mp h1
  have hqm : q ∈ t.nodes := (mem_neighbors (by rw [hq]; simp : q ∈ neighbors t p.ref .connects .networkService)).1
  refine ⟨q, ?_⟩
  unfold parentService getParent
  rw [bind_ok (m := firstNeighbor p.nid .connects .networkService >>= _) (a := some q) (s' := t) (by
    rw [bind_ok (firstNeighbor_run hd hp .connects .networkService), hq]
    simp only [List.map_cons, List.map_nil]
    rw [bind_ok (findNode_of_mem hd hqm)]; rfl)]
  rfl

theorem detachOne_spec {t : Topo} (h : DetachHyp t) (ii : Nid) : Rm (SpOrLink t) t (detachOne ii t) := by
  obtain ⟨hd, hown, hp1, hsl⟩ := h
  unfold detachOne
  rw [read_bind]
  simp only [flag_detachSkipsGone, Bool.true_and]
  cases hth : t.nodes.any (fun m => m.nid == ii && m.cls == .connectionPoint)
  · exact Rm.nil
  · obtain ⟨m, hm, rfl, hcls⟩ := any_cp hth
    simp only [Bool.not_true, Bool.false_eq_true, if_false]
    rw [bind_ok (peersOf_run hd hm), bind_ok (mapM'_findNode hd _ (fun x hx => (mem_peerNodes hx).1))]
    have hlen := hp1 m hm hcls
    cases hsp : (peerNodes t m.ref).filter (fun n => n.typ == "ServicePort") with
    | nil => simp only []; exact Rm.nil
    | cons p rest =>
      rw [hsp] at hlen
      have hr : rest = [] := by
        cases rest with
        | nil => rfl
        | cons _ _ => simp at hlen
      subst hr
      simp only []
      have hpm : p ∈ (peerNodes t m.ref).filter (fun n => n.typ == "ServicePort") := by rw [hsp]; simp
      obtain ⟨hpp, hpt⟩ := List.mem_filter.mp hpm
      obtain ⟨hpn, hpc, _⟩ := mem_peerNodes hpp
      have hpt' : p.typ = "ServicePort" := by simpa using hpt
      obtain ⟨q, hq⟩ := parentService_run hd hpn (hown p hpn hpc hpt')
      rw [bind_ok hq]
      obtain ⟨k, hk, hq'⟩ := removeCpAndLinks_spec hd hpn true
      refine ⟨k, ?_, fun x hx => ?_⟩
      · rw [bind_apply', disconnectInterface_run hd hm hsp, bind_ok hk]; rfl
      · rcases hq' x hx with h | ⟨h1, h2⟩ | h
        · exact .inr ⟨by rw [h]; simp [hpc], p, hpn, h.symm, hpt'⟩
        · exact (spLeaf_no_cp hsl hpn hpt' h1 h2).elim
        · exact .inl h

theorem SpOrLink.cls {s : Topo} {x : Ref} (h : SpOrLink s x) : x.cls = .link ∨ x.cls = .connectionPoint := by
  rcases h with h | ⟨h, _⟩
  · exact .inl h
  · exact .inr h

theorem DetachHyp.restrict {s : Topo} (h : DetachHyp s) {k : Ref → Bool} (hk : ∀ x, k x = false → SpOrLink s x) :
    DetachHyp (restrict k s) :=
  ⟨idsDistinct_restrict h.ds k, spOwned_restrict h.own (fun x hx => (hk x hx).cls), spPeer1_restrict h.p1 k, spLeaf_restrict h.leaf k⟩

theorem detachOne_step {s : Topo} (h : DetachHyp s) (b : Nid) (k : Ref → Bool) (hk : ∀ x, k x = false → SpOrLink s x) :
    Rm (SpOrLink s) (restrict k s) (detachOne b (restrict k s)) := by
  refine (detachOne_spec (h.restrict hk) b).mono ?_
  intro x hx
  rcases hx with hx | ⟨h1, m, hm, h2, h3⟩
  · exact .inl hx
  · exact .inr ⟨h1, m, (mem_restrict_nodes.mp hm).1, h2, h3⟩

/-- `Topology._disconnect_interfaces` always returns, and only Links and ServicePorts go -/
theorem detachAll_spec {s : Topo} (h : DetachHyp s) (ifs : List Nid) : Rm (SpOrLink s) s (detachAll ifs s) := by
  rw [detachAll_eq]
  have := Rm.forEach' (C := SpOrLink s) (s := s) (f := detachStep)
    (by
      intro i k hk
      have h' := h.restrict hk
      unfold detachStep
      rw [read_bind]
      simp only [flag_detachSkipsGone, Bool.true_and]
      cases hth : (restrict k s).nodes.any (fun m => m.nid == i && m.cls == .connectionPoint)
      · exact Rm.nil
      · obtain ⟨m, hm, rfl, hcls⟩ := any_cp hth
        simp only [Bool.not_true, Bool.false_eq_true, if_false]
        rw [bind_ok (findNode_of_mem h'.ds hm)]
        split
        · rw [bind_ok (firstNeighbor_run h'.ds hm .connects .connectionPoint)]
          exact Rm.forEach' (detachOne_step h) _ k hk
        · rw [bind_ok (show (Pure.pure [] : M Topo (List Nid)) (restrict k s) = (.ok [], restrict k s) from rfl)]
          exact Rm.forEach' (detachOne_step h) _ k hk)
    ifs (fun _ => true) (by intro x hx; cases hx)
  rw [restrict_true] at this
  exact this

theorem kept_of_cls {s : Topo} {k : Ref → Bool} (hk : ∀ x, k x = false → SpOrLink s x) {x : Ref}
    (h1 : x.cls ≠ .link) (h2 : x.cls ≠ .connectionPoint) : k x = true := by
  cases h : k x
  · rcases (hk x h).cls with h3 | h3
    · exact absurd h3 h1
    · exact absurd h3 h2
  · rfl

theorem detach_then {s : Topo} {α : Type} (h : DetachHyp s) (ifs : List Nid) {tail : M Topo α}
    (ht : ∀ k : Ref → Bool, (∀ x, k x = false → SpOrLink s x) → ¬ failed (tail (restrict k s))) :
    FS s ((detachAll ifs >>= fun _ => tail) s) := by
  obtain ⟨k, hk, hq⟩ := detachAll_spec h ifs
  rw [bind_ok hk]
  intro hf
  exact absurd hf (ht k hq)

/-- the second look-up by name finds the node again: the disconnect loop removes Links and ServicePorts only -/
theorem detach_removeNodeGraph_fs {name : String} {n : GNode} {s : Topo} (h : DetachHyp s) (hcp : CpEdgeOk s)
    (hn : findByName .networkNode name s = (.ok n, s)) :
    FS s ((do
      let ifs ← nodeInterfaces n.nid
      detachAll ifs
      let n2 ← findByName .networkNode name
      removeNodeGraph n2.nid) s) := by
  refine ro_step (readOnly_nodeInterfaces _) FS.err (fun ifs _ => ?_)
  obtain ⟨hn1, hn2, _, _⟩ := findByName_ok hn
  refine detach_then h ifs (fun k hk => ?_)
  have hkn : ∀ x : Ref, x.cls = .networkNode → k x = true :=
    fun x hx => kept_of_cls hk (by rw [hx]; intro e; cases e) (by rw [hx]; intro e; cases e)
  rw [bind_ok (findByName_restrict hn hkn)]
  exact (removeNodeGraph_spec (idsDistinct_restrict h.ds k) (cpEdgeOk_restrict hcp k)
    (mem_restrict_nodes.mpr ⟨hn1, hkn _ (by simp [hn2])⟩) hn2).not_failed

theorem removeNode_fs (name : String) (s : Topo) (h : DetachHyp s) (hcp : CpEdgeOk s) : FS s (removeNode name s) := by
  unfold removeNode
  refine ro_step (readOnly_listNames ..) FS.err (fun _ _ => ?_)
  refine ro_step (readOnly_guard ..) FS.err (fun _ _ => ?_)
  exact ro_step (readOnly_findByName ..) FS.err (fun _ hn => detach_removeNodeGraph_fs h hcp hn)

theorem removeFacility_fs (name : String) (s : Topo) (h : DetachHyp s) (hcp : CpEdgeOk s) : FS s (removeFacility name s) := by
  unfold removeFacility
  refine ro_step (readOnly_findByName ..) FS.err (fun _ hn => ?_)
  exact ro_step (readOnly_guard ..) FS.err (fun _ _ => detach_removeNodeGraph_fs h hcp hn)

theorem removeSwitch_fs (name : String) (s : Topo) (h : DetachHyp s) (hcp : CpEdgeOk s) : FS s (removeSwitch name s) := by
  unfold removeSwitch
  refine ro_step (readOnly_findByName ..) FS.err (fun _ _ => ?_)
  exact ro_step (readOnly_guard ..) FS.err (fun _ _ => removeNode_fs name s h hcp)

theorem detach_removeNs_fs {ns : GNode} {s : Topo} (h : DetachHyp s) (hcp : CpEdgeOk s) (hn1 : ns ∈ s.nodes)
    (hn2 : ns.cls = .networkService) :
    FS s ((do
      let cps ← childrenOf ns.nid [.link, .networkService] .connects .connectionPoint
      detachAll (cps.map fun x : GNode => x.nid)
      removeNs ns.nid) s) := by
  refine ro_step (readOnly_childrenOf ..) FS.err (fun cps _ => ?_)
  refine detach_then h _ (fun k hk => ?_)
  have hkn : k ns.ref = true := kept_of_cls hk (by simp [hn2]) (by simp [hn2])
  exact (removeNs_spec (idsDistinct_restrict h.ds k) (cpEdgeOk_restrict hcp k) (mem_restrict_nodes.mpr ⟨hn1, hkn⟩) hn2).not_failed

theorem removeService_fs (name : String) (s : Topo) (h : DetachHyp s) (hcp : CpEdgeOk s) : FS s (removeService name s) := by
  unfold removeService
  refine ro_step (readOnly_findByName ..) FS.err (fun n hn => ?_)
  obtain ⟨hn1, hn2, _, _⟩ := findByName_ok hn
  exact detach_removeNs_fs h hcp hn1 hn2

theorem nodeRemoveService_fs (parent : Nid) (name : String) (s : Topo) (h : DetachHyp s) (hcp : CpEdgeOk s) :
    FS s (nodeRemoveService parent name s) := by
  unfold nodeRemoveService
  refine ro_step (readOnly_childrenOf ..) FS.err (fun nss hnss => ?_)
  refine ro_step (readOnly_need ..) FS.err (fun ns hns => ?_)
  obtain ⟨hn1, hn2, _⟩ := child_by_name h.ds hnss hns
  exact detach_removeNs_fs h hcp hn1 hn2

theorem removeComponent_fs (parent : Nid) (name : String) (s : Topo) (h : DetachHyp s) (hcp : CpEdgeOk s) :
    FS s (removeComponent parent name s) := by
  unfold removeComponent
  refine ro_step (readOnly_childrenOf ..) FS.err (fun comps hcomps => ?_)
  refine ro_step (readOnly_need ..) FS.err (fun cmp hcmp => ?_)
  refine ro_step (readOnly_secondNeighbors ..) FS.err (fun l _ => ?_)
  obtain ⟨hn1, hn2, _⟩ := child_by_name h.ds hcomps hcmp
  refine detach_then h _ (fun k hk => ?_)
  have hkn : k cmp.ref = true := kept_of_cls hk (by simp [hn2]) (by simp [hn2])
  exact (removeCompGraph_spec (idsDistinct_restrict h.ds k) (cpEdgeOk_restrict hcp k) (mem_restrict_nodes.mpr ⟨hn1, hkn⟩) hn2).not_failed

theorem removeChildInterface_fs (port : Nid) (cache : Cache) (name : String) (s : Topo) (h : DetachHyp s)
    (hnsp : ∀ m ∈ s.nodes, m.name = name → m.cls = .connectionPoint → m.typ ≠ "ServicePort") :
    FS s (removeChildInterface port cache name s) := by
  unfold removeChildInterface
  refine ro_step (readOnly_findNode _) FS.err (fun _ _ => ?_)
  refine ro_step (readOnly_guard ..) FS.err (fun _ _ => ?_)
  refine ro_step (readOnly_childrenOf ..) FS.err (fun kids hkids => ?_)
  refine ro_step (readOnly_need ..) FS.err (fun kid hkid => ?_)
  obtain ⟨hn1, hn2, hnm⟩ := child_by_name h.ds hkids hkid
  refine detach_then h _ (fun k hk => ?_)
  have hkn : k kid.ref = true := by
    cases hkk : k kid.ref
    · rcases hk _ hkk with h1 | ⟨_, m, hm, h2, h3⟩
      · simp [hn2] at h1
      · have : m = kid := (ref_eq_iff h.ds hm hn1).mp h2
        subst this
        exact absurd h3 (hnsp m hm hnm hn2)
    · rfl
  obtain ⟨k', hk', _⟩ := removeCpAndLinks_spec (idsDistinct_restrict h.ds k) (mem_restrict_nodes.mpr ⟨hn1, hkn⟩) false
  rw [bind_ok hk']
  simp

end FimVerif.Topo
