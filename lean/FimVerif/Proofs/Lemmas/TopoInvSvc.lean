import FimVerif.Proofs.Lemmas.TopoInvRemove
import FimVerif.Proofs.Lemmas.TopoInvNames
import FimVerif.Proofs.Lemmas.TopoAtomicRollback
/-!
# C07 — `add_network_service` (topology and node form)

When the constructor returns, the service node (and its `has` edge) was appended (`svcNew_cases`, C09) and every interface connected
in turn (`connect_stable`); the guards on the interfaces are stated on the start state and shown stable along the loop (`Grows`).
When it raises, the rollback has given back the start state: that is C09's `svcNew_atomic`, whose hypotheses follow from the
invariant and the guards (`svcNew_fs`).  So the constructor keeps every `BuildStable` predicate (`svcNew_stable`).
-/
namespace FimVerif.Topo
open FimVerif FimVerif.M FimVerif.Gen

/-- the id is not one the library will draw from counter `c` on (uuid4 never returns an id that is already around) -/
def notFuture (c : Nat) : Nid → Prop
  | .gen j => j < c
  | .user _ => True
instance (c : Nat) (i : Nid) : Decidable (notFuture c i) := by cases i <;> unfold notFuture <;> infer_instance

theorem notFuture_mono {c c' : Nat} (h : c ≤ c') {i : Nid} (hi : notFuture c i) : notFuture c' i := by
  cases i <;> simp only [notFuture] at hi ⊢; omega

theorem notFuture_ne {c k : Nat} {i : Nid} (hi : notFuture c i) (hk : c ≤ k) : i ≠ .gen k := by
  intro e; subst e; simp only [notFuture] at hi; omega

def FreshFromC (c : Nat) (s : Topo) : Prop := ∀ m ∈ s.nodes, notFuture c m.nid
instance (c : Nat) (s : Topo) : Decidable (FreshFromC c s) := by unfold FreshFromC; infer_instance

/-- what is asked of an interface handed to `connect_interface` / `add_network_service(interfaces=…)` -/
def IfOk (s : Topo) (c : Nat) : IfArg → Prop
  | .bogus => True
  | .iface iid iname => notFuture c iid ∧ HandleOk s iid .connectionPoint ∧ NoSpIn s [.iface iid iname]
instance (s : Topo) (c : Nat) (i : IfArg) : Decidable (IfOk s c i) := by cases i <;> unfold IfOk <;> infer_instance

/-- what holds before each round of the constructor's interface loop, `c` being the uuid counter of that round -/
structure LoopInvP (P : Topo → Prop) (s : Topo) (svc : Nid) (c : Nat) (rest : List IfArg) : Prop where
  inv : P s
  fresh : FreshFromC c s
  svcOk : HandleOk s svc .networkService
  svcNF : notFuture c svc
  ifs : ∀ i ∈ rest, IfOk s c i

abbrev LoopInv := LoopInvP InvS

/-- how the state grows along the loop: only by ConnectionPoints / Links with ids drawn from `c` on -/
structure Grows (c c' : Nat) (s s' : Topo) : Prop where
  nodes : ∃ N, s'.nodes = s.nodes ++ N ∧ ∀ n ∈ N, (∃ k, c ≤ k ∧ k < c' ∧ n.nid = .gen k) ∧ (n.cls = .connectionPoint ∨ n.cls = .link)

theorem Grows.all {c c' : Nat} {s s' : Topo} (g : Grows c c' s s') {Q : GNode → Prop} (hold : ∀ m ∈ s.nodes, Q m)
    (hnew : ∀ n k, c ≤ k → k < c' → n.nid = .gen k → (n.cls = .connectionPoint ∨ n.cls = .link) → Q n) : ∀ m ∈ s'.nodes, Q m := by
  obtain ⟨N, hN, hN'⟩ := g.nodes
  intro m hm
  rw [hN] at hm
  rcases List.mem_append.mp hm with hm | hm
  · exact hold m hm
  · obtain ⟨⟨k, h1, h2, h3⟩, h4⟩ := hN' m hm
    exact hnew m k h1 h2 h3 h4

theorem handleOk_grows {c c' : Nat} {s s' : Topo} (g : Grows c c' s s') {x : Nid} {K : Cls} (h : HandleOk s x K) (hx : notFuture c x) :
    HandleOk s' x K :=
  g.all h fun _ _ hk _ hnk _ hmx => absurd (hmx.symm.trans hnk) (notFuture_ne hx hk)

theorem nameHyp_grows {c c' : Nat} {s s' : Topo} (g : Grows c c' s s') {iname : String} (h : NameHyp s iname) : NameHyp s' iname :=
  g.all h fun _ _ _ _ _ hc hoc => by
    rcases hoc with h1 | h1 <;> rcases hc with h2 | h2 <;> rw [h1] at h2 <;> cases h2

theorem FreshFromC.two {c : Nat} {s : Topo} (h : FreshFromC c s) : ∀ m ∈ s.nodes, m.nid ≠ .gen c ∧ m.nid ≠ .gen (c + 1) :=
  fun m hm => ⟨notFuture_ne (h m hm) (Nat.le_refl _), notFuture_ne (h m hm) (Nat.le_succ _)⟩

theorem connect_Grows (fl : Flavour) {c : Nat} (svc : Nid) {iid : Nid} (iname : String) (cache : Cache) {s : Topo}
    (hi : IdsOk s) (hc : ClosedOk s) (hcp : HandleOk s iid .connectionPoint) (hfr : FreshFromC c s) :
    Grows c (c + 2) s (connectInterface fl c svc cache (.iface iid iname) s).2 := by
  refine (connect_spec fl c svc iid iname cache s hi hc hcp hfr.two).state ⟨[], (List.append_nil _).symm, fun _ h => nomatch h⟩
    fun _ _ h => ?_
  obtain ⟨_, _, cp, ln, _, _, _, _, _, _, hcc, hci, _, hlc, _, hli, _, rfl⟩ := h
  refine ⟨[cp, ln], rfl, fun n hn => ?_⟩
  simp only [List.mem_cons, List.mem_nil_iff, or_false] at hn
  rcases hn with rfl | rfl
  · exact ⟨⟨c, Nat.le_refl _, Nat.lt_add_of_pos_right (by decide), hci⟩, .inl hcc⟩
  · exact ⟨⟨c + 1, Nat.le_succ _, Nat.lt_succ_self _, hli⟩, .inr hlc⟩

/-- the loop's guards (stated for ids below the counter) survive any growth by interfaces / links with ids drawn from the counter on -/
theorem LoopInvP.grows {P : Topo → Prop} {c c' : Nat} {s s' : Topo} {svc : Nid} {rest rest' : List IfArg} (hl : LoopInvP P s svc c rest)
    (g : Grows c c' s s') (hcc : c ≤ c') (hsub : rest' ⊆ rest) (h1 : P s') : LoopInvP P s' svc c' rest' := by
  refine ⟨h1, g.all (fun m hm => notFuture_mono hcc (hl.fresh m hm)) fun _ _ _ hk hnk _ => by rw [hnk]; exact hk,
    handleOk_grows g hl.svcOk hl.svcNF, notFuture_mono hcc hl.svcNF, fun i hi => ?_⟩
  have h := hl.ifs i (hsub hi)
  cases i with
  | bogus => trivial
  | iface iid nm =>
    obtain ⟨hnf, hcp, hnsp⟩ := h
    refine ⟨notFuture_mono hcc hnf, handleOk_grows g hcp hnf, g.all hnsp fun _ _ hk _ hnk _ _ i hi a b hab => ?_⟩
    simp at hi; subst hi; cases hab
    rw [hnk]; exact (notFuture_ne hnf hk).symm

/-- the rollback handler always re-raises: a loop body that returns is a `connect_interface` that returned -/
theorem svcLoop_body_ok {fl : Flavour} {svc : Nid} {st : String} {c : Nat} {i : IfArg} {connected : List IfArg} {cache cache' : Cache}
    {s s1 : Topo}
    (h : M.tryCatch (do guardrails st i; connectInterface fl c svc cache i : M Topo Cache) rollbackCatches
      (fun e => do
        M.forEach connected (fun ii => do let _ ← disconnectInterface cache ii; Pure.pure ())
        removeNs svc
        raise e) s = (.ok cache', s1)) :
    ∃ iid iname, i = .iface iid iname ∧ connectInterface fl c svc cache (.iface iid iname) s = (.ok cache', s1) := by
  have hbody := tryCatch_ok_inv (fun e t b t' => by
    show (M.forEach connected _ >>= fun _ => (removeNs svc >>= fun _ => raise e)) t ≠ _
    intro hc
    obtain ⟨_, t1, _, h2⟩ := bind_ok_inv hc
    exact bind_raise_ne_ok _ _ _ _ _ h2) h
  obtain ⟨_, _, hconn⟩ := ro_ok_inv (readOnly_guardrails _ _) hbody
  cases i with
  | bogus => unfold connectInterface at hconn; simp at hconn
  | iface iid iname => exact ⟨iid, iname, rfl, hconn⟩

structure SvcStable (P : Topo → Prop) : Prop where
  ids : ∀ s, P s → IdsOk s
  closed : ∀ s, P s → ClosedOk s
  conn : ∀ (fl : Flavour) (c : Nat) (svc iid : Nid) (iname : String) (cache : Cache) (s : Topo), HandleOk s svc .networkService →
    HandleOk s iid .connectionPoint → (∀ m ∈ s.nodes, m.nid ≠ .gen c ∧ m.nid ≠ .gen (c + 1)) → NoSpIn s [.iface iid iname] → P s →
    P (connectInterface fl c svc cache (.iface iid iname) s).2

theorem BuildStable.svc {P : Topo → Prop} (hP : BuildStable P) : SvcStable P :=
  ⟨hP.ids, hP.closed, fun fl c svc iid iname cache s h1 h2 h3 h4 h => connect_stable hP fl c svc iid iname cache s h1 h2 h3 h4 h⟩

theorem LoopInvP.next {P : Topo → Prop} (hP : SvcStable P) {fl : Flavour} {c : Nat} {svc iid : Nid} {iname : String} {rest : List IfArg}
    {cache r : Cache} {s s1 : Topo} (hl : LoopInvP P s svc c (.iface iid iname :: rest))
    (hconn : connectInterface fl c svc cache (.iface iid iname) s = (.ok r, s1)) : LoopInvP P s1 svc (c + 2) rest := by
  obtain ⟨_, hcp, hnsp⟩ := hl.ifs _ (List.mem_cons_self ..)
  have hinv := hP.conn fl c svc iid iname cache s hl.svcOk hcp hl.fresh.two hnsp hl.inv
  have hgr := connect_Grows fl svc iname cache (hP.ids _ hl.inv) (hP.closed _ hl.inv) hcp hl.fresh
  rw [hconn] at hinv hgr
  exact hl.grows hgr (by omega) (List.subset_cons_self ..) hinv

theorem svcLoop_okP {P : Topo → Prop} (hP : SvcStable P) (fl : Flavour) (svc : Nid) (st : String) :
    ∀ (rest : List IfArg) (c : Nat) (connected : List IfArg) (cache r : Cache) (s s' : Topo), LoopInvP P s svc c rest →
      svcLoop fl svc st c rest connected cache s = (.ok r, s') → P s' := by
  intro rest
  induction rest with
  | nil =>
    intro c connected cache r s s' hl hok
    unfold svcLoop at hok
    simp only [pure_apply', Prod.mk.injEq] at hok
    rw [← hok.2]; exact hl.inv
  | cons i rest ih =>
    intro c connected cache r s s' hl hok
    unfold svcLoop at hok
    obtain ⟨cache', s1, htc, hrest⟩ := bind_ok_inv hok
    obtain ⟨iid, iname, rfl, hconn⟩ := svcLoop_body_ok htc
    exact ih (c + 2) _ cache' r s1 s' (hl.next hP hconn) hrest

theorem svcLoop_ok (fl : Flavour) (svc : Nid) (st : String) :
    ∀ (rest : List IfArg) (c : Nat) (connected : List IfArg) (cache r : Cache) (s s' : Topo), LoopInv s svc c rest →
      svcLoop fl svc st c rest connected cache s = (.ok r, s') → InvS s' := svcLoop_okP buildStable_invS.svc fl svc st

/-- the parent, when one is named, is in the model (C09's `svcNew_atomic` asks that the constructor finds it) and is a node or a component -/
def ParentOk (s : Topo) : Option Nid → Prop
  | none => True
  | some p => (∃ m ∈ s.nodes, m.nid = p) ∧ ∀ m ∈ s.nodes, m.nid = p → (m.cls = .networkNode ∨ m.cls = .component)
instance (s : Topo) (p : Option Nid) : Decidable (ParentOk s p) := by cases p <;> unfold ParentOk <;> infer_instance

def NidArgOk (c : Nat) : Option Nid → Prop
  | none => True
  | some x => notFuture c x
instance (c : Nat) (o : Option Nid) : Decidable (NidArgOk c o) := by cases o <;> unfold NidArgOk <;> infer_instance

/-- no interface of the list carries the id the service gets (`LoopInvP.start`) -/
def IfNotSelf (id : Nid) : IfArg → Prop
  | .bogus => True
  | .iface iid _ => iid ≠ id
instance (id : Nid) (i : IfArg) : Decidable (IfNotSelf id i) := by cases i <;> unfold IfNotSelf <;> infer_instance

/-- the guard of `add_network_service` / `add_port_mirror_service` in the covered alphabets of `Proofs/C07.lean` -/
structure SvcGuards (s : Topo) (c : Nat) (parent : Option Nid) (a : SvcArgs) : Prop where
  typ : TypeArgOk .networkService a.nstype
  fresh : FreshFromC c s
  nid : NidArgOk c a.nid
  parent : ParentOk s parent
  ifs : ∀ i ∈ a.ifs, IfOk s c i ∧ IfNotSelf (pick a.nid c).1 i

instance (s : Topo) (c : Nat) (parent : Option Nid) (a : SvcArgs) : Decidable (SvcGuards s c parent a) :=
  if h : TypeArgOk .networkService a.nstype ∧ FreshFromC c s ∧ NidArgOk c a.nid ∧ ParentOk s parent ∧
      ∀ i ∈ a.ifs, IfOk s c i ∧ IfNotSelf (pick a.nid c).1 i then
    isTrue ⟨h.1, h.2.1, h.2.2.1, h.2.2.2.1, h.2.2.2.2⟩
  else isFalse (fun g => h ⟨g.typ, g.fresh, g.nid, g.parent, g.ifs⟩)

/-- at loop entry: the guards were stated on `s`; the one node that has come in since is the service, which is no interface of the list, no
ServicePort, and carries an id that was free -/
theorem LoopInvP.start {P : Topo → Prop} {s : Topo} {c : Nat} {parent : Option Nid} {a : SvcArgs} {sn : GNode} {pn : Option GNode}
    (g : SvcGuards s c parent a) (f : SvcFresh s c parent a sn pn) (hB : P (svcBase s sn pn)) :
    LoopInvP P (svcBase s sn pn) sn.nid (pick a.nid c).2 a.ifs := by
  have hle := le_pick a.nid c
  -- the id the service gets, caller-supplied or drawn, is not one the library draws later
  have hidnf : notFuture (pick a.nid c).2 (pick a.nid c).1 := by
    have hn := g.nid
    cases ha : a.nid with
    | none => exact Nat.lt_succ_self c
    | some x => rw [ha] at hn; exact hn
  have hifs := g.ifs
  rw [← f.nid] at hidnf hifs
  have all : ∀ {Q : GNode → Prop}, (∀ m ∈ s.nodes, Q m) → Q sn → ∀ m ∈ (svcBase s sn pn).nodes, Q m := by
    intro Q hold hnew m hm
    rw [svcBase_nodes] at hm
    rcases List.mem_append.mp hm with hm | hm
    · exact hold m hm
    · rw [List.mem_singleton.mp hm]; exact hnew
  refine ⟨hB, all (fun m hm => notFuture_mono hle (g.fresh m hm)) hidnf, all (fun m hm hmi => absurd hmi (f.fresh m hm)) (fun _ => f.cls),
    hidnf, fun i hi => ?_⟩
  obtain ⟨hio, hns⟩ := hifs i hi
  cases i with
  | bogus => trivial
  | iface iid nm =>
    obtain ⟨h1, h2, h4⟩ := hio
    refine ⟨notFuture_mono hle h1, all h2 (fun hmi => absurd hmi.symm hns), all h4 (fun ht => ?_)⟩
    have := g.typ _ f.typ
    rw [ht, sp_not_service_type] at this; cases this

theorem findNode_of_unique {s : Topo} (hi : IdsOk s) {p : Nid} (h : ∃ m ∈ s.nodes, m.nid = p) : ∃ pn, findNode p s = (.ok pn, s) := by
  obtain ⟨m, hm, hmp⟩ := h
  exact ⟨m, by rw [← hmp]; exact findNode_of_mem hi hm⟩

theorem SvcGuards.parentFound {s : Topo} {c : Nat} {parent : Option Nid} {a : SvcArgs} (g : SvcGuards s c parent a) (hi : IdsOk s) :
    ∀ p, parent = some p → ∃ pn, findNode p s = (.ok pn, s) := by
  intro p hp
  have := g.parent
  rw [hp] at this
  exact findNode_of_unique hi this.1

/-- a constructor that returned: the service node went in by `hpush` or `hatt`, and the loop carried `P` from there (`svcLoop_okP`) -/
theorem svcNew_ok_invP {P : Topo → Prop} (hP : SvcStable P) (fl : Flavour) (c : Nat) (parent : Option Nid) (a : SvcArgs) (s s' : Topo)
    (r : Nid × Cache) (h : P s) (g : SvcGuards s c parent a)
    (hpush : ∀ sn : GNode, sn.cls = .networkService → sn.name = a.name → nodeOk sn = true → (∀ m ∈ s.nodes, m.nid ≠ sn.nid) →
      (∀ m ∈ s.nodes, m.cls = .networkService → m.name ≠ a.name) → P (pushNode sn s))
    (hatt : ∀ (p : Nid) (pn sn : GNode), parent = some p → pn ∈ s.nodes → pn.nid = p → sn.cls = .networkService → sn.name = a.name →
      nodeOk sn = true → (∀ m ∈ s.nodes, m.nid ≠ sn.nid) → P (grow s [sn] [⟨pn.ref, sn.ref, .has⟩]))
    (hok : svcNew fl c parent a s = (.ok r, s')) : P s' := by
  refine svcNew_cases (Q := fun x => ∀ r s', x = (.ok r, s') → P s') (fun _ _ => hP.closed _ h) (g.parentFound (hP.ids _ h))
    (fun e r s' he => by simp at he) (fun sn pn f r s' hok => ?_) r s' hok
  obtain ⟨cache, s2, hloop, hpure⟩ := bind_ok_inv hok
  simp only [pure_apply', Prod.mk.injEq] at hpure
  rw [← hpure.2]
  have hv : nodeOk sn = true := nodeOk_of f.cls (g.typ _ f.typ)
  have hB : P (svcBase s sn pn) := by
    cases parent with
    | none =>
      cases pn with
      | none => exact hpush sn f.cls f.name hv f.fresh (f.unused rfl)
      | some x => exact f.par.elim
    | some p =>
      cases pn with
      | none => exact f.par.elim
      | some x =>
        obtain ⟨hm, hi, _⟩ := findNode_ok f.par
        exact hatt p x sn rfl hm hi f.cls f.name hv f.fresh
  exact svcLoop_okP hP fl _ _ a.ifs _ [] [] cache _ s2 (.start g f hB) hloop

/-! along the loop alone (whatever was connected before, so that the handler need not restore anything) "at most one" still holds after
every outcome: the rollback handler only deletes -/

theorem svcLoop_invD (fl : Flavour) (svc : Nid) (st : String) :
    ∀ (rest : List IfArg) (c : Nat) (connected : List IfArg) (cache : Cache) (s : Topo), LoopInvP InvD s svc c rest →
      InvD (svcLoop fl svc st c rest connected cache s).2 := by
  intro rest
  induction rest with
  | nil => intro c connected cache s hl; unfold svcLoop; exact hl.inv
  | cons i rest ih =>
    intro c connected cache s hl
    unfold svcLoop
    refine state_after_then (tryCatch_state ?_ fun e => ?_) fun cache' s1 htc _ => ?_
    · refine state_after_ro (readOnly_guardrails _ _) hl.inv (fun _ _ => ?_)
      cases i with
      | bogus => unfold connectInterface; exact hl.inv
      | iface iid iname =>
        obtain ⟨_, hcp, hnsp⟩ := hl.ifs _ (List.mem_cons_self ..)
        exact connect_stable buildStable_invD fl c svc iid iname cache s hl.svcOk hcp hl.fresh.two hnsp hl.inv
    · refine Preserves.bind (preserves_forEach fun ii => ?_) fun _ => ?_
      · exact Preserves.bind (preserves_disconnectInterface dropStable_invD _ _) (fun _ => ReadOnly.preserves (readOnly_pure _))
      · exact Preserves.bind (preserves_removeNs dropStable_invD _) (fun _ => ReadOnly.preserves (readOnly_raise _))
    · obtain ⟨iid, iname, rfl, hconn⟩ := svcLoop_body_ok htc
      exact ih (c + 2) _ cache' s1 (hl.next buildStable_invD.svc hconn)

def ReturnsOrUnchanged {α : Type} (m : M Topo α) (s : Topo) : Prop := ¬ failed (m s) ∨ (m s).2 = s
instance {α : Type} (m : M Topo α) (s : Topo) : Decidable (ReturnsOrUnchanged m s) := by unfold ReturnsOrUnchanged; infer_instance

theorem ReturnsOrUnchanged.state {α : Type} {m : M Topo α} {s : Topo} {P : Topo → Prop} (hout : ReturnsOrUnchanged m s) (h : P s)
    (hok : ∀ r s', m s = (.ok r, s') → P s') : P (m s).2 := by
  rcases hout with hnf | hu
  · obtain ⟨r, s', hr⟩ := ok_of_not_failed hnf
    rw [hr]; exact hok r s' hr
  · rw [hu]; exact h

theorem rou_of_fs {α : Type} {m : M Topo α} {s : Topo} (h : FS s (m s)) : ReturnsOrUnchanged m s := by
  by_cases hf : failed (m s)
  · exact .inr (h hf)
  · exact .inl hf

/-- C09's `svcNew_atomic` asks what the guards and the invariant give -/
theorem svcNew_fs (fl : Flavour) (c : Nat) (parent : Option Nid) (a : SvcArgs) (s : Topo) (hi : IdsOk s) (hc : ClosedOk s)
    (g : SvcGuards s c parent a) : FS s (svcNew fl c parent a s) := by
  refine svcNew_atomic fl c parent a s hi hc (fun m hm k hk => notFuture_ne (g.fresh m hm) hk) ?_ (g.parentFound hi) fun i hi => ?_
  · intro k hk hn
    have := g.nid
    rw [hn] at this
    exact absurd rfl (notFuture_ne this hk)
  · obtain ⟨h1, h2⟩ := g.ifs i hi
    cases i with
    | bogus => trivial
    | iface iid nm => exact ⟨h2, h1.2.1, fun k hk => notFuture_ne h1.1 hk⟩

theorem svcNew_rou (fl : Flavour) (c : Nat) (parent : Option Nid) (a : SvcArgs) (s : Topo) (hi : IdsOk s) (hc : ClosedOk s)
    (g : SvcGuards s c parent a) : ReturnsOrUnchanged (svcNew fl c parent a) s := rou_of_fs (svcNew_fs fl c parent a s hi hc g)

theorem addService_rou (fl : Flavour) (c : Nat) (a : SvcArgs) (s : Topo) (hi : IdsOk s) (hc : ClosedOk s)
    (g : SvcGuards s c none a) : ReturnsOrUnchanged (addService fl c a) s := svcNew_rou fl c none a s hi hc g

/-- `Node.add_network_service` is two checks that only read, then the constructor; the second check says that no service of the parent
carries the name -/
theorem nodeAddService_cases {fl : Flavour} {c : Nat} {parent : Nid} {a : SvcArgs} {s : Topo} {Q : Except Err (Nid × Cache) × Topo → Prop}
    (hi : IdsOk s) (herr : ∀ e, Q (.error e, s))
    (hnew : (∀ pn, findNode parent s = (.ok pn, s) → ∀ m ∈ kids s pn.ref .has .networkService, m.name ≠ a.name) →
      Q (svcNew fl c (some parent) a s)) : Q (nodeAddService fl c parent a s) := by
  unfold nodeAddService
  refine ro_step (by ro) herr (fun _ hch => ?_)
  refine ro_step (by ro) herr (fun _ hg => ?_)
  exact hnew (sibling_free hi hch (guard_ok hg))

theorem nodeAddService_rou (fl : Flavour) (c : Nat) (parent : Nid) (a : SvcArgs) (s : Topo) (hi : IdsOk s) (hc : ClosedOk s)
    (g : SvcGuards s c (some parent) a) : ReturnsOrUnchanged (nodeAddService fl c parent a) s :=
  rou_of_fs (nodeAddService_cases (Q := FS s) hi FS.err fun _ => svcNew_fs fl c (some parent) a s hi hc g)

/-- the service node goes in by `push` or `attach`, the interfaces by `connect_interface` -/
theorem svcNew_stable {P : Topo → Prop} (hP : BuildStable P) (fl : Flavour) (c : Nat) (parent : Option Nid) (a : SvcArgs) (s : Topo)
    (g : SvcGuards s c parent a)
    (hnm : ∀ p pn, parent = some p → findNode p s = (.ok pn, s) → ∀ m ∈ kids s pn.ref .has .networkService, m.name ≠ a.name)
    (h : P s) : P (svcNew fl c parent a s).2 := by
  refine (svcNew_rou fl c parent a s (hP.ids _ h) (hP.closed _ h) g).state h fun r s' hok => ?_
  refine svcNew_ok_invP hP.svc fl c parent a s s' r h g ?_ ?_ hok
  · intro sn hsc hsn hv hfr hnd
    exact hP.push h hfr hv hsc (.inr rfl) (hsn ▸ hnd)
  · intro p pn sn hpar hpnm hpni hsc hsn hv hfr
    have hpo := g.parent
    rw [hpar] at hpo
    have hpc := hpo.2 pn hpnm hpni
    have hpn : findNode p s = (.ok pn, s) := by rw [← hpni]; exact findNode_of_mem (hP.ids _ h) hpnm
    refine hP.attach h hpnm hfr hv ?_ ?_ (by simp [hsc]) (.inr (.inr ?_))
    · rcases hpc with hc | hc <;> simp [edgeOk, hc, hsc]
    · rcases hpc with hc | hc <;> simp [hc]
    · rw [hsc, hsn]; exact hnm p pn hpar hpn

theorem addService_stable {P : Topo → Prop} (hP : BuildStable P) (fl : Flavour) (c : Nat) (a : SvcArgs) (s : Topo)
    (g : SvcGuards s c none a) (h : P s) : P (addService fl c a s).2 :=
  svcNew_stable hP fl c none a s g (fun _ _ hp => nomatch hp) h

theorem nodeAddService_stable {P : Topo → Prop} (hP : BuildStable P) (fl : Flavour) (c : Nat) (parent : Nid) (a : SvcArgs) (s : Topo)
    (g : SvcGuards s c (some parent) a) (h : P s) : P (nodeAddService fl c parent a s).2 :=
  nodeAddService_cases (Q := fun r => P r.2) (hP.ids _ h) (fun _ => h) fun hnm =>
    svcNew_stable hP fl c (some parent) a s g (fun _ pn hp hpn => by cases hp; exact hnm pn hpn) h

theorem invS_addService (fl : Flavour) (c : Nat) (a : SvcArgs) (s : Topo) (g : SvcGuards s c none a)
    (hout : ReturnsOrUnchanged (addService fl c a) s) (h : InvS s) : InvS (addService fl c a s).2 :=
  addService_stable buildStable_invS fl c a s g h

theorem invS_nodeAddService (fl : Flavour) (c : Nat) (parent : Nid) (a : SvcArgs) (s : Topo) (g : SvcGuards s c (some parent) a)
    (hout : ReturnsOrUnchanged (nodeAddService fl c parent a) s) (h : InvS s) : InvS (nodeAddService fl c parent a s).2 :=
  nodeAddService_stable buildStable_invS fl c parent a s g h

theorem invD_addService (fl : Flavour) (c : Nat) (a : SvcArgs) (s : Topo) (g : SvcGuards s c none a) (h : InvD s) :
    InvD (addService fl c a s).2 := addService_stable buildStable_invD fl c a s g h

theorem invD_nodeAddService (fl : Flavour) (c : Nat) (parent : Nid) (a : SvcArgs) (s : Topo) (g : SvcGuards s c (some parent) a)
    (h : InvD s) : InvD (nodeAddService fl c parent a s).2 := nodeAddService_stable buildStable_invD fl c parent a s g h

theorem invSN_addService (fl : Flavour) (c : Nat) (a : SvcArgs) (s : Topo) (g : SvcGuards s c none a)
    (hout : ReturnsOrUnchanged (addService fl c a) s) (h : InvSN s) : InvSN (addService fl c a s).2 :=
  addService_stable buildStable_invSN fl c a s g h

theorem invSN_nodeAddService (fl : Flavour) (c : Nat) (parent : Nid) (a : SvcArgs) (s : Topo) (g : SvcGuards s c (some parent) a)
    (hout : ReturnsOrUnchanged (nodeAddService fl c parent a) s) (h : InvSN s) : InvSN (nodeAddService fl c parent a s).2 :=
  nodeAddService_stable buildStable_invSN fl c parent a s g h

/-- a service without interfaces under a node or component: no loop, so no guard on ids -/
theorem nodeAddService_nil_stable {P : Topo → Prop} (hP : AttachStable P) (fl : Flavour) (c : Nat) (p : Nid) (a : SvcArgs) (s : Topo)
    (ha : a.ifs = []) (hty : TypeArgOk .networkService a.nstype) (hpar : ParentOk s (some p)) (h : P s) :
    P (nodeAddService fl c p a s).2 := by
  refine nodeAddService_cases (Q := fun r => P r.2) (hP.ids _ h) (fun _ => h) fun hnm => ?_
  refine svcNew_cases (Q := fun r => P r.2) (fun _ _ => hP.closed _ h) (fun q hq => by cases hq; exact findNode_of_unique (hP.ids _ h) hpar.1)
    (fun _ => h) (fun sn pn f => ?_)
  cases pn with
  | none => exact f.par.elim
  | some pn =>
    rw [ha, state_after_bind _ _ (fun _ _ => rfl)]
    unfold svcLoop
    obtain ⟨hpnm, hpni, _⟩ := findNode_ok f.par
    have hpc := hpar.2 pn hpnm hpni
    -- as in `svcNew_stable`: the service hangs on a `has` edge from a node or component none of whose services carries the name
    refine hP.attach h hpnm f.fresh (nodeOk_of f.cls (hty _ f.typ)) ?_ ?_ (by simp [f.cls]) (.inr (.inr ?_))
    · rcases hpc with hc | hc <;> simp [edgeOk, hc, f.cls]
    · rcases hpc with hc | hc <;> simp [hc]
    · rw [f.cls, f.name]; exact hnm pn f.par

theorem invSN_nodeAddService_nil (fl : Flavour) (c : Nat) (p : Nid) (a : SvcArgs) (s : Topo) (ha : a.ifs = [])
    (hty : TypeArgOk .networkService a.nstype) (hpar : ParentOk s (some p)) (h : InvSN s) : InvSN (nodeAddService fl c p a s).2 :=
  nodeAddService_nil_stable buildStable_invSN.toAttachStable fl c p a s ha hty hpar h

/-- a top-level service without interfaces: the constructor's own duplicate-name check keeps the top-level scope -/
theorem invSN_addService_nil (fl : Flavour) (c : Nat) (a : SvcArgs) (s : Topo) (ha : a.ifs = [])
    (hty : TypeArgOk .networkService a.nstype) (h : InvSN s) : InvSN (addService fl c a s).2 := by
  show InvSN (svcNew fl c none a s).2
  refine svcNew_cases (Q := fun r => InvSN r.2) (fun _ hp => nomatch hp) (fun _ hp => nomatch hp) (fun _ => h) (fun sn pn f => ?_)
  cases pn with
  | some x => exact f.par.elim
  | none =>
    rw [ha, state_after_bind _ _ (fun _ _ => rfl)]
    unfold svcLoop
    exact buildStable_invSN.push h f.fresh (nodeOk_of f.cls (hty _ f.typ)) f.cls (.inr rfl) (f.name ▸ f.unused rfl)

end FimVerif.Topo
