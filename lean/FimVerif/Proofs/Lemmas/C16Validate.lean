import FimVerif.Model.Validate16
import FimVerif.Proofs.Lemmas.C16Regex
/-! The Labels object; `Valid` is the invariant of `_set_fields`.
How a call site anchors its pattern is a hypothesis (`hl`, `hs` here, `hT` for tags, `hA` for names), so that among the general
theorems `C16.anchors_full` is the one place that depends on the generated anchors (examples and counterexamples on concrete
strings evaluate through them). -/
namespace FimVerif.V16
open FimVerif.Regex FimVerif.Gen.Validators

theorem throw_eq {α} (e : String) : (throw e : Res α) = .error e := rfl
theorem pure_eq {α} (a : α) : (pure a : Res α) = .ok a := rfl

theorem ite_error_ok_iff {α} {c : Prop} [Decidable c] {x : Res α} {e : String} {b : α} :
    (if c then .error e else x) = .ok b ↔ ¬ c ∧ x = .ok b := by
  by_cases h : c <;> simp [h]

/-- The documented domain of label field `k`: the language of its regex (if it has one) and its range predicate
(if it has one). -/
def InDomain (k : String) (s : List Char) : Prop :=
  (∀ r, labelRegex.lookup k = some r → r.L s) ∧ (∀ cs, labelRange.lookup k = some cs → evalRange s cs = .ok true)

theorem inDomain_iff {k : String} {r : Re} {cs : List Cmp} (hr : labelRegex.lookup k = some r)
    (hc : labelRange.lookup k = some cs) (s : List Char) : InDomain k s ↔ r.L s ∧ evalRange s cs = .ok true := by
  simp [InDomain, hr, hc]

def Unvalidated (k : String) : Prop := labelRegex.lookup k = none ∧ labelRange.lookup k = none

def ItemOk (k : String) : Item → Prop
  | .str s => InDomain k s
  | .other => False              -- a list element that is not a str is never stored (the assertion in _set_fields)

theorem ItemOk.str {k : String} {i : Item} (h : ItemOk k i) : ∃ s, i = .str s ∧ InDomain k s := by
  cases i with
  | str s => exact ⟨s, rfl, h⟩
  | other => exact h.elim

def ValOk (k : String) : Val → Prop
  | .none => True
  | .str s => InDomain k s
  | .list xs => ∀ i ∈ xs, ItemOk k i
  | .other => False

def Valid (o : LObj) : Prop := ∀ kv ∈ o, ValOk kv.1 kv.2

theorem valid_default : Valid defaultObj := by
  intro kv h
  simp only [defaultObj, List.mem_map] at h
  obtain ⟨f, _, rfl⟩ := h
  trivial

theorem valid_setKey {o : LObj} {k : String} {v : Val} (ho : Valid o) (hv : ValOk k v) : Valid (setKey k v o) := by
  fun_induction setKey k v o with
  | case1 => exact ho
  | case2 k' v' t hk =>
    obtain ⟨-, ht⟩ := List.forall_mem_cons.mp ho
    exact List.forall_mem_cons.mpr ⟨by rwa [beq_iff_eq.mp hk], ht⟩
  | case3 k' v' t hk ih =>
    obtain ⟨h1, ht⟩ := List.forall_mem_cons.mp ho
    exact List.forall_mem_cons.mpr ⟨h1, ih ht⟩

theorem mem_setKey {k : String} {v : Val} : ∀ {o : LObj}, k ∈ o.map (·.1) → (k, v) ∈ setKey k v o := by
  intro o
  induction o with
  | nil => intro h; simp at h
  | cons a t ih =>
    intro h
    obtain ⟨k', v'⟩ := a
    simp only [setKey]
    split
    · rename_i hk
      rw [beq_iff_eq.mp hk]; exact List.mem_cons_self ..
    · rename_i hk
      rcases List.mem_cons.mp h with h | h
      · exact absurd (beq_iff_eq.mpr h.symm) hk
      · exact List.mem_cons_of_mem _ (ih h)

theorem keys_setKey {k : String} {v : Val} : ∀ {o : LObj}, (setKey k v o).map (·.1) = o.map (·.1) := by
  intro o
  fun_induction setKey k v o <;> simp_all

theorem regexItems_iff {r : Re} {xs : List Item} :
    regexItems r xs = .ok () ↔ ∀ i ∈ xs, ∃ s, i = .str s ∧ accepts labelAnchorList r s = true := by
  fun_induction regexItems r xs <;> simp [*, throw_eq, pure_eq]

theorem rangeItems_iff {cs : List Cmp} {xs : List Item} :
    rangeItems cs xs = .ok () ↔ ∀ i ∈ xs, ∃ s, i = .str s ∧ evalRange s cs = .ok true := by
  fun_induction rangeItems cs xs <;> simp [*, throw_eq, pure_eq]

theorem checkRegex_str (k : String) (s : List Char) :
    checkRegex k (.str s) = .ok () ↔ ∀ r, labelRegex.lookup k = some r → accepts labelAnchorScalar r s = true := by
  simp only [checkRegex]
  cases labelRegex.lookup k with
  | none => simp [pure_eq]
  | some r => by_cases h : accepts labelAnchorScalar r s = true <;> simp [h, pure_eq, throw_eq]

theorem checkRegex_list (k : String) (xs : List Item) :
    checkRegex k (.list xs) = .ok () ↔
      ∀ i ∈ xs, ∀ r, labelRegex.lookup k = some r → ∃ s, i = .str s ∧ accepts labelAnchorList r s = true := by
  simp only [checkRegex]
  cases labelRegex.lookup k with
  | none => simp [pure_eq]
  | some r => exact regexItems_iff.trans ⟨fun h i hi _ hr => by cases hr; exact h i hi, fun h i hi => h i hi r rfl⟩

theorem checkRange_str (k : String) (s : List Char) :
    checkRange k (.str s) = .ok () ↔ ∀ cs, labelRange.lookup k = some cs → evalRange s cs = .ok true := by
  simp only [checkRange]
  cases labelRange.lookup k with
  | none => simp [pure_eq]
  | some cs =>
    cases he : evalRange s cs with
    | error e => simp [he]
    | ok b => cases b <;> simp [he, pure_eq, throw_eq]

theorem checkRange_list (k : String) (xs : List Item) :
    checkRange k (.list xs) = .ok () ↔
      ∀ i ∈ xs, ∀ cs, labelRange.lookup k = some cs → ∃ s, i = .str s ∧ evalRange s cs = .ok true := by
  simp only [checkRange]
  cases labelRange.lookup k with
  | none => simp [pure_eq]
  | some cs => exact rangeItems_iff.trans ⟨fun h i hi _ hc => by cases hc; exact h i hi, fun h i hi => h i hi cs rfl⟩

theorem strs_of_noOther : ∀ {xs : List Item}, (Val.list xs).hasOther = false → ∃ ss : List (List Char), xs = ss.map .str
  | [], _ => ⟨[], rfl⟩
  | .str s :: t, h => by
    obtain ⟨ss, rfl⟩ := strs_of_noOther (xs := t) (by simpa [Val.hasOther] using h)
    exact ⟨s :: ss, rfl⟩
  | .other :: t, h => by simp [Val.hasOther] at h

theorem checks_iff_valOk {k : String} {v : Val} (hl : labelAnchorList = .full) (hs : labelAnchorScalar = .full)
    (hn : v ≠ .none) (ho : v ≠ .other) (hno : v.hasOther = false) :
    checkRegex k v = .ok () ∧ checkRange k v = .ok () ↔ ValOk k v := by
  cases v with
  | none => exact absurd rfl hn
  | other => exact absurd rfl ho
  | str s => rw [checkRegex_str, checkRange_str, hs]; simp only [accepts_full]; rfl
  | list xs =>
    obtain ⟨ss, rfl⟩ := strs_of_noOther hno
    simp only [checkRegex_list, checkRange_list, hl, accepts_full, ValOk, List.forall_mem_map, ItemOk, InDomain,
      Item.str.injEq, exists_eq_left', forall_and]

theorem valOk_noOther {k : String} {v : Val} (hv : ValOk k v) : v.hasOther = false := by
  cases v with
  | list xs =>
    refine Bool.eq_false_iff.mpr fun h => ?_
    obtain ⟨i, hi, hio⟩ := List.any_eq_true.mp h
    rw [beq_iff_eq.mp hio] at hi
    exact hv _ hi
  | _ => rfl

theorem setField_ok_iff {fg : Bool} {o o' : LObj} {k : String} {v : Val} :
    setField fg o k v = .ok o' ↔
      v ≠ .none ∧ v ≠ .other ∧ v.hasOther = false ∧
      ((labelFields.contains k = true ∧ checkRegex k v = .ok () ∧ checkRange k v = .ok () ∧ o' = setKey k v o) ∨
       (labelFields.contains k = false ∧ fg = true ∧ o' = o)) := by
  cases v with
  | none | other => simp [setField, throw_eq]
  | str s | list xs =>
    simp only [setField]
    cases hno : Val.hasOther _
    · cases hk : labelFields.contains k
      · cases fg <;> simp [throw_eq, pure_eq, @eq_comm _ o']
      · cases h1 : checkRegex k _ <;> cases h2 : checkRange k _ <;> simp [pure_eq, @eq_comm _ o']
    · simp [throw_eq]

theorem setFields_preserves {fg : Bool} {P : LObj → Prop}
    (hstep : ∀ {o o' : LObj} {k : String} {v : Val}, setField fg o k v = .ok o' → P o → P o')
    {kw : List (String × Val)} {o o' : LObj} (h : setFields fg o kw = .ok o') (ho : P o) : P o' := by
  fun_induction setFields fg o kw with
  | case1 => cases h; exact ho
  | case2 => cases h
  | case3 o k v t o₁ h1 ih => exact ih h (hstep h1 ho)

theorem setFields_sound {fg : Bool} (hl : labelAnchorList = .full) (hs : labelAnchorScalar = .full)
    {kw : List (String × Val)} {o o' : LObj} (h : setFields fg o kw = .ok o') (ho : Valid o) : Valid o' := by
  refine setFields_preserves (P := Valid) (fun hf ho => ?_) h ho
  obtain ⟨hn, hot, hno, ⟨_, h1, h2, rfl⟩ | ⟨_, _, rfl⟩⟩ := setField_ok_iff.mp hf
  · exact valid_setKey ho ((checks_iff_valOk hl hs hn hot hno).mp ⟨h1, h2⟩)
  · exact ho

theorem setFields_complete (fg : Bool) (hl : labelAnchorList = .full) (hs : labelAnchorScalar = .full) :
    ∀ (kw : List (String × Val)) (o : LObj), (∀ kv ∈ kw, ValOk kv.1 kv.2 ∧ kv.2 ≠ .none) →
      (fg = true ∨ ∀ kv ∈ kw, labelFields.contains kv.1 = true) →
      setFields fg o kw = .ok (kw.foldl (fun o kv => if labelFields.contains kv.1 then setKey kv.1 kv.2 o else o) o) := by
  intro kw
  induction kw with
  | nil => intro o _ _; rfl
  | cons a t ih =>
    intro o h hf
    obtain ⟨k, v⟩ := a
    obtain ⟨⟨hv, hn⟩, ht⟩ := List.forall_mem_cons.mp h
    have ho : v ≠ .other := by rintro rfl; exact hv
    have hno := valOk_noOther hv
    have hstep : setField fg o k v = .ok (if labelFields.contains k then setKey k v o else o) := by
      refine setField_ok_iff.mpr ⟨hn, ho, hno, ?_⟩
      cases hk : labelFields.contains k
      · exact Or.inr ⟨rfl, hf.resolve_right fun hc => Bool.false_ne_true (hk ▸ hc _ (List.mem_cons_self ..)), rfl⟩
      · obtain ⟨h1, h2⟩ := (checks_iff_valOk hl hs hn ho hno).mpr hv
        exact Or.inl ⟨rfl, h1, h2, rfl⟩
    simp only [setFields, hstep, List.foldl_cons]
    exact ih _ ht (hf.imp_right fun hc kv hkv => hc kv (List.mem_cons_of_mem _ hkv))

theorem jsonKeys_sublist (kw : List (String × Val)) : (jsonKeys kw).Sublist kw := by
  unfold jsonKeys; split
  · exact List.filter_sublist
  · exact List.Sublist.refl _

theorem jsonKeys_eq_self {kw : List (String × Val)} (h : ∀ kv ∈ kw, labelFields.contains kv.1 = true) : jsonKeys kw = kw := by
  unfold jsonKeys; split
  · exact List.filter_eq_self.mpr h
  · rfl

theorem toDict_ok {o : LObj} (ho : Valid o) : ∀ kv ∈ jsonKeys (toDict o), ValOk kv.1 kv.2 ∧ kv.2 ≠ .none := by
  intro kv h
  have h := (jsonKeys_sublist _).subset h
  simp only [toDict, List.mem_filter] at h
  refine ⟨ho kv h.1, ?_⟩
  intro hc
  simp [hc] at h

theorem readBack_total (hl : labelAnchorList = .full) (hs : labelAnchorScalar = .full) {o : LObj} (ho : Valid o) :
    ∃ r, readBack o = .ok r := by
  unfold readBack
  split
  · exact ⟨none, rfl⟩
  · exact ⟨some _, by simp [setFields_complete true hl hs _ defaultObj (toDict_ok ho) (Or.inl rfl)]; rfl⟩

theorem readBack_valid (hl : labelAnchorList = .full) (hs : labelAnchorScalar = .full) {o o' : LObj}
    (h : readBack o = .ok (some o')) : Valid o' := by
  unfold readBack at h
  split at h
  · cases h
  · split at h
    · cases h
    · rename_i h3; cases h; exact setFields_sound hl hs h3 valid_default

end FimVerif.V16
