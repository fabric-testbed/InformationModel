import FimVerif.Model.Lock
/-! Soundness of the collecting interpreter `ai` for an arbitrary monitor.  The two lock monitors: the saturating `lockStep cap` that
`ai` runs is the exact `lockStepC` under the map `capSt`, and `lockStepC` counts (`run_counts`).  The lock monitor looks at
`acq`/`rel` only, so instantiating a skeleton does not change what `ai` computes for it. -/
namespace FimVerif.Lock
variable {Q : Type} [DecidableEq Q]

omit [DecidableEq Q] in
theorem loop_sound (δ : Q → Micro → Q) (b : Stmt) (I : List Q) (r : Res Q)
    (hcl : ∀ x ∈ r.norm, x ∈ I)
    (ihb : ∀ q ∈ I, ∀ tr o, Exec b tr o → runQ δ q tr ∈ r.get o) {tr : List Micro} {o : Out} (h : Exec (.loop b) tr o) :
    ∀ q ∈ I, runQ δ q tr ∈ (Res.mk I r.ret r.exc).get o := by
  generalize hs : Stmt.loop b = s at h
  induction h with
  | loopDone => intro q hq; exact hq
  | loopStep h1 _ _ ih2 =>
    intro q hq; cases hs
    rw [runQ_append]; exact ih2 rfl _ (hcl _ (ihb q hq _ _ h1))
  | @loopAbort b' t1 o' h1 hne _ =>
    intro q hq; cases hs
    have := ihb q hq _ _ h1
    cases o'
    · exact absurd rfl hne
    · exact this
    · exact this
  | _ => cases hs

theorem ai_sound (δ : Q → Micro → Q) (s : Stmt) (S : List Q) : ∀ r, ai δ s S = some r →
    ∀ q ∈ S, ∀ tr o, Exec s tr o → runQ δ q tr ∈ r.get o := by
  -- one case per branch of `ai`; in those that return `none` there is nothing to show
  fun_induction ai δ s S <;> intro r h q hq tr o he <;> cases h
  next => cases he; exact hq
  next m b S _ =>
    have hm : δ q m ∈ union (S.map (δ · m)) [] := mem_union.mpr (.inl (List.mem_map.mpr ⟨q, hq, rfl⟩))
    cases he with
    | primOk => exact hm
    | primRaiseBefore => exact mem_union.mpr (.inl hq)
    | primRaiseAfter => exact mem_union.mpr (.inr hm)
  next => cases he; exact hq
  next => cases he; exact hq
  next a b S ra hra rb hrb iha ihb =>
    cases he with
    | seqNorm h1 h2 =>
      rw [runQ_append]
      have := ihb _ hrb _ (iha _ hra q hq _ _ h1) _ _ h2
      cases o
      · exact this
      · exact List.mem_append_right _ this
      · exact List.mem_append_right _ this
    | seqAbort h1 hne =>
      have := iha _ hra q hq _ _ h1
      cases o
      · exact absurd rfl hne
      · exact List.mem_append_left _ this
      · exact List.mem_append_left _ this
  next a b S ra rb hrb hra iha ihb =>
    cases he with
    | iteL h1 =>
      have := iha _ hra q hq _ _ h1
      cases o <;> exact mem_union.mpr (.inl this)
    | iteR h1 =>
      have := ihb _ hrb q hq _ _ h1
      cases o <;> exact mem_union.mpr (.inr this)
  next b S I _ rb hrb hc _ ihb =>
    simp only [Bool.and_eq_true] at hc
    exact loop_sound δ b I rb (fun x hx => subset_mem hc.2 hx) (fun q hq => ihb _ hrb q hq) he q (subset_mem hc.1 hq)
  next b f S rb hrb fn fr fe hfe hfr hfn ihb ihn ihr ihe =>
    cases he with
    | finNorm h1 h2 =>
      rw [runQ_append]
      have hb := ihb _ hrb q hq _ _ h1
      cases o
      · exact ihn _ hfn _ hb _ _ h2
      · simp only [Res.get, List.mem_append]; exact .inl (.inl (.inl (ihr _ hfr _ hb _ _ h2)))
      · simp only [Res.get, List.mem_append]; exact .inl (.inl (.inl (ihe _ hfe _ hb _ _ h2)))
    | @finOver _ _ _ _ o1 _ h1 h2 hne =>
      rw [runQ_append]
      have hb := ihb _ hrb q hq _ _ h1
      cases o with
      | norm => exact absurd rfl hne
      | ret | exc =>
        simp only [Res.get, List.mem_append]
        cases o1
        · exact .inl (.inl (.inr (ihn _ hfn _ hb _ _ h2)))
        · exact .inl (.inr (ihr _ hfr _ hb _ _ h2))
        · exact .inr (ihe _ hfe _ hb _ _ h2)
  next b hd S rb hrb rh hrh ihb ihh =>
    cases he with
    | excPass h1 hne =>
      have := ihb _ hrb q hq _ _ h1
      cases o
      · exact List.mem_append_left _ this
      · exact List.mem_append_left _ this
      · exact absurd rfl hne
    | excCatch h1 h2 =>
      rw [runQ_append]
      have := ihh _ hrh _ (ihb _ hrb q hq _ _ h1) _ _ h2
      cases o
      · exact List.mem_append_right _ this
      · exact List.mem_append_right _ this
      · exact this
  next b S rb hrb ihb =>
    cases he with
    | callNorm h1 => exact List.mem_append_left _ (ihb _ hrb q hq _ _ h1)
    | callRet h1 => exact List.mem_append_right _ (ihb _ hrb q hq _ _ h1)
    | callExc h1 => exact ihb _ hrb q hq _ _ h1

theorem allExits_sound (δ : Q → Micro → Q) (good : Q → Bool) (q0 : Q) (s : Stmt)
    (h : allExits δ good q0 s = true) {tr : List Micro} {o : Out} (he : Exec s tr o) :
    good (runQ δ q0 tr) = true := by
  unfold allExits at h
  split at h
  · cases h
  · rename_i r hr
    have hm := ai_sound δ s [q0] r hr q0 (by simp) tr o he
    simp only [Bool.and_eq_true, List.all_eq_true] at h
    cases o
    · exact h.1.1 _ hm
    · exact h.1.2 _ hm
    · exact h.2 _ hm

theorem lockStep_other (cap : Nat) {m : Micro} (h1 : m ≠ .acq) (h2 : m ≠ .rel) (q : LockSt) : lockStep cap q m = q := by
  cases q with
  | none => rfl
  | some x => obtain ⟨h, n⟩ := x; cases m <;> first | rfl | exact absurd rfl h1 | exact absurd rfl h2

theorem lockStepC_other {m : Micro} (h1 : m ≠ .acq) (h2 : m ≠ .rel) (q : LockSt) : lockStepC q m = q := by
  cases q with
  | none => rfl
  | some x => obtain ⟨h, n⟩ := x; cases m <;> first | rfl | exact absurd rfl h1 | exact absurd rfl h2

theorem runQ_lockStepC_none (tr : List Micro) : runQ lockStepC none tr = none := by
  induction tr with
  | nil => rfl
  | cons m tr ih => exact ih

/-- saturation of the release count at `cap`: the map from the exact lock monitor `lockStepC` (of `lockRun`) to the finite-state
monitor `lockStep cap` that `balanced` runs -/
def capSt (cap : Nat) : LockSt → LockSt
  | none => none
  | some (h, n) => some (h, min n cap)

theorem lockStep_cap (cap : Nat) (q : LockSt) (m : Micro) : lockStep cap (capSt cap q) m = capSt cap (lockStepC q m) := by
  by_cases h1 : m = .acq
  · subst h1
    match q with
    | none | some (true, _) | some (false, _) => rfl
  by_cases h2 : m = .rel
  · subst h2
    match q with
    | none | some (false, _) => rfl
    | some (true, n) => exact congrArg (fun k => some (false, k)) (by omega)
  rw [lockStep_other cap h1 h2, lockStepC_other h1 h2]

theorem run_cap (cap : Nat) (tr : List Micro) (q : LockSt) :
    runQ (lockStep cap) (capSt cap q) tr = capSt cap (runQ lockStepC q tr) :=
  List.foldl_hom (capSt cap) (lockStep_cap cap)

theorem run_counts (tr : List Micro) : ∀ (h : Bool) (n : Nat) (h' : Bool) (n' : Nat),
    runQ lockStepC (some (h, n)) tr = some (h', n') →
    n' = n + tr.count .rel ∧ (if h then 1 else 0) + tr.count .acq = tr.count .rel + (if h' then 1 else 0) := by
  induction tr with
  | nil => intro h n h' n' e; cases e; exact ⟨rfl, Nat.add_comm _ _⟩
  | cons m tr ih =>
    intro h n h' n' e
    rw [runQ_cons] at e
    by_cases h1 : m = .acq
    · subst h1
      cases h with
      | true => exact nomatch (runQ_lockStepC_none tr).symm.trans e    -- acquired while held: the step gives `none`
      | false => have := ih _ _ _ _ e; simp at this ⊢; omega
    by_cases h2 : m = .rel
    · subst h2
      cases h with
      | false => exact nomatch (runQ_lockStepC_none tr).symm.trans e   -- released while free: the step gives `none`
      | true => have := ih _ _ _ _ e; simp at this ⊢; omega
    rw [lockStepC_other h1 h2] at e
    rw [List.count_cons_of_ne h1, List.count_cons_of_ne h2]
    exact ih _ _ _ _ e

theorem instMicro_lock (g k : Nat) {m : Micro} (h1 : m ≠ .acq) (h2 : m ≠ .rel) :
    instMicro g k m ≠ .acq ∧ instMicro g k m ≠ .rel := by
  cases m with
  | add c _ n | addFrom c _ lo n => simp only [instMicro]; split <;> exact ⟨nofun, nofun⟩
  | acq => exact absurd rfl h1
  | rel => exact absurd rfl h2
  | _ => exact ⟨nofun, nofun⟩

theorem lockStep_inst (g k cap : Nat) (q : LockSt) (m : Micro) : lockStep cap q (instMicro g k m) = lockStep cap q m := by
  by_cases h1 : m = .acq
  · subst h1; rfl
  by_cases h2 : m = .rel
  · subst h2; rfl
  rw [lockStep_other cap h1 h2, lockStep_other cap (instMicro_lock g k h1 h2).1 (instMicro_lock g k h1 h2).2]

theorem ai_inst (g k cap : Nat) (s : Stmt) : ∀ S : List LockSt, ai (lockStep cap) (instStmt g k s) S = ai (lockStep cap) s S := by
  -- `ai` sees a primitive only through the monitor, and the lock monitor does not see the parameters
  fun_induction instStmt g k s <;> intro S <;> simp only [ai, lockStep_inst, *]

theorem balanced_inst (g k : Nat) (s : Stmt) : balanced (instStmt g k s) = balanced s := by
  simp only [balanced, allExits, ai_inst]

end FimVerif.Lock
