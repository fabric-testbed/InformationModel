import FimVerif.Model.RemovePlan
/-! Independent of how exactness is proved.  Bridge: the plan-interpreted calls (`Model/RemovePlan.lean`, what the driver runs) are the
hand-written calls of `Model/Remove.lean` (what the theorems are about), for the plans that `Generated/RemovalPlan.lean` holds; the
file is regenerated from /repo on every run and these proofs are checked against it again.  `_fun`: an equation between functions (it
rewrites the body of a loop); `_eq`: the same pointwise. -/
namespace FimVerif.Remove
open FimVerif.Gen.RemovalPlan

theorem removeCpP_eq (g : G) (x : Nat) (dp : Option Bool) :
    removeCpP g x dp = removeCp g x (dp.getD true) := by
  simp [removeCpP, removeCp, cpDel, cpFamilyP, cpFamily, cpLinksP, cpLinks, cpOnlyChild, cpLinkEnds, cpDeleteParentDefault]

theorem removeCpP_none : (fun g i => removeCpP g i none) = (fun g i => removeCp g i true) := by
  funext g i; rw [removeCpP_eq]; rfl

theorem bind_pure_ok (m : Except Err G) : (m.bind fun g' => Except.ok g') = m := by cases m <;> rfl

theorem removeNsP_fun : removeNsP = removeNs := by
  funext g x
  unfold removeNsP removeNs
  split
  · simp only [gRemoveNs, runG, removeCpP_none, bind_pure_ok]
  · rfl

theorem removeCompP_fun : removeCompP = removeComp := by
  funext g x
  unfold removeCompP removeComp
  split
  · simp only [gRemoveComp, runG, removeNsP_fun, bind_pure_ok]
  · rfl

theorem removeNodeGP_fun : removeNodeGP = removeNodeG := by
  funext g x
  unfold removeNodeGP removeNodeG
  split
  · simp only [gRemoveNode, runG, removeNsP_fun, removeCompP_fun, bind_pure_ok, bind]
  · rfl

theorem removeLinkGP_fun : removeLinkGP = removeLinkG := by
  funext g x
  unfold removeLinkGP removeLinkG
  split <;> simp [gRemoveLink, runG]

theorem runApi_disc (c : ApiCtx) (s : S) (g : G) :
    runApi c [⟨.disc, false⟩, s] g = (disconnectDeep g (c.ifs g)).bind (fun g1 => stepApi c s g1) := by
  simp only [runApi, List.foldlM_cons, List.foldlM_nil]
  show (disconnectDeep g (c.ifs g) >>= fun g1 => stepApi c s g1 >>= pure) = _
  cases disconnectDeep g (c.ifs g) with
  | error e => rfl
  | ok g1 => show (stepApi c s g1 >>= pure) = stepApi c s g1; cases stepApi c s g1 <;> rfl

theorem removeNodeApiP_fun : removeNodeApiP = removeNodeApi := by
  funext g n
  unfold removeNodeApiP removeNodeApi
  split
  · rw [removeNode, runApi_disc]
    simp only [stepApi, removeNodeIfs, ifsOfList, ifsOf, removeNodeGP_fun]
    rfl
  · rfl

theorem removeFacilityApiP_eq (g : G) (n : Nat) : removeFacilityApiP g n = removeFacilityApi g n := by
  unfold removeFacilityApiP removeFacilityApi
  split
  · rw [removeFacility, runApi_disc]
    simp only [stepApi, removeFacilityIfs, ifsOfList, ifsOf, removeNodeGP_fun]
    rfl
  · rfl

theorem removeSwitchApiP_eq (g : G) (n : Nat) : removeSwitchApiP g n = removeSwitchApi g n := by
  unfold removeSwitchApiP removeSwitchApi
  split
  · simp only [removeSwitch, removeNodeApiP_fun]
  · rfl

theorem removeComponentApiP_fun : removeComponentApiP = removeComponentApi := by
  funext g c
  unfold removeComponentApiP removeComponentApi
  split
  · rw [FimVerif.Gen.RemovalPlan.nodeRemoveComponent, runApi_disc]
    simp only [stepApi, nodeRemoveComponentIfs, ifsOfList, ifsOf, removeCompP_fun]
    rfl
  · rfl

/-- `_prune_ns` has the plan of `remove_network_service` -/
theorem runApi_ns (g : G) (s : Nat) (a : IfsArg) (ha : a = .ifsOfLookedUp ∨ a = .ifsOfFreshHandle) :
    runApi { x := s, ifs := ifsOfList [a] s } [⟨.disc, false⟩, ⟨.gns, false⟩] g =
      (disconnectDeep g (g.nbrs s .connects .cp)).bind (fun g1 => removeNs g1 s) := by
  rw [runApi_disc]
  rcases ha with rfl | rfl <;> simp only [stepApi, ifsOfList, ifsOf, removeNsP_fun]

theorem removeNsApiP_eq (g : G) (s : Nat) : removeNsApiP g s = removeNsApi g s := by
  unfold removeNsApiP removeNsApi
  split
  · have hsame : (removeNetworkService == nodeRemoveNetworkService) = true := by decide
    rw [if_pos hsame, removeNetworkService, removeNetworkServiceIfs, runApi_ns g s _ (.inl rfl)]
    rfl
  · rfl

theorem removeLinkApiP_eq (g : G) (l : Nat) : removeLinkApiP g l = removeLinkApi g l := by
  unfold removeLinkApiP removeLinkApi
  split
  · rename_i h
    have hc : g.cls? l = some .link := by simpa using h
    simp only [removeLink, runApi, List.foldlM_cons, List.foldlM_nil, bind_pure, stepApi, removeLinkGP_fun, removeLinkG, hc,
      beq_self_eq_true, ite_true, removeCpP_none]
    rfl
  · rfl

theorem removeChildP_eq (g : G) (h : List IfH) (p c : Nat) : removeChildP g h p c = removeChild g h p c := by
  unfold removeChildP removeChild
  split
  · rw [removeChildInterface, runApi_disc]
    simp only [stepApi, removeChildInterfaceIfs, ifsOfList, ifsOf, removeCpP_eq, Option.getD_some]
    cases disconnectDeep g [c] <;> rfl
  · rfl

theorem removeInterfaceP_eq (g : G) (h : List IfH) (i : Nat) : removeInterfaceP g h i = removeInterface g h i := by
  simp only [removeInterfaceP, Gen.RemovalPlan.removeInterface, removeCpP_eq, Option.getD_none]
  rfl

theorem pruneP_eq (g : G) (ns cs ss is : List Nat) : pruneP g ns cs ss is = prune g ns cs ss is := by
  have hns : (fun g s => if g.cls? s == some .ns then runApi { x := s, ifs := ifsOfList pruneNsFnIfs s } pruneNsFn g else .error .query) =
      removeNsApi := by
    funext g s
    rw [pruneNsFn, pruneNsFnIfs, runApi_ns g s _ (.inr rfl)]
    rfl
  have hif : (fun g i => runApi { x := i, ifs := ifsOfList pruneInterfaceFnIfs i } pruneInterfaceFn g) =
      (fun g i => (disconnectDeep g [i]).bind (fun g1 => removeCp g1 i true)) := by
    funext g i
    rw [pruneInterfaceFn, runApi_disc]
    simp only [stepApi, pruneInterfaceFnIfs, ifsOfList, ifsOf, removeCpP_eq, Option.getD_none]
  simp only [pruneP, pruneLoops, List.foldlM_cons, List.foldlM_nil, bind_pure, pruneBody, pruneNodeFn, pruneComponentsFn,
    hns, hif, removeNodeApiP_fun, removeComponentApiP_fun, ite_true, Bool.false_eq_true, ite_false]
  rfl

end FimVerif.Remove
