import FimVerif.Model.Arm
/-! What `DelProp.restrict` and `Node.rewrite` do (only the delegation properties of a node change, and only `d` is left in them);
`genAdm` as the ARM filtered by the keep set: its nodes, ids and edges; membership in `delIds`. -/
namespace FimVerif.Arm

namespace DelProp

@[simp] theorem entries_absent : absent.entries = [] := rfl
@[simp] theorem entries_blank : blank.entries = [] := rfl
@[simp] theorem entries_dels (es) : (dels es).entries = es := rfl

theorem find_entry (p : DelProp) (d : String) :
    (p.entries.find? (fun e => e.1 == d) = none ∧ d ∉ p.keys) ∨
    (∃ v, p.entries.find? (fun e => e.1 == d) = some (d, v) ∧ d ∈ p.keys) := by
  cases h : p.entries.find? (fun e => e.1 == d) with
  | none =>
    refine .inl ⟨rfl, fun hm => ?_⟩
    obtain ⟨e, he, rfl⟩ := List.mem_map.1 hm
    simpa using List.find?_eq_none.1 h e he
  | some e =>
    obtain ⟨k, v⟩ := e
    obtain rfl : k = d := by simpa using List.find?_some h
    exact .inr ⟨v, rfl, List.mem_map.2 ⟨_, List.mem_of_find?_eq_some h, rfl⟩⟩

theorem keys_restrict (p : DelProp) (d : String) :
    (p.restrict d).keys = if d ∈ p.keys then [d] else [] := by
  unfold restrict
  rcases find_entry p d with ⟨h, hk⟩ | ⟨v, h, hk⟩
  · rw [h, if_neg hk]; rfl
  · rw [h, if_pos hk]; rfl

theorem get_restrict (p : DelProp) (d k : String) :
    (p.restrict d).get k = if k = d then p.get d else none := by
  unfold restrict get
  rcases find_entry p d with ⟨h, _⟩ | ⟨v, h, _⟩
  · simp [h]
  · rw [h]
    by_cases hk : k = d
    · subst hk; simp [entries]
    · simp [entries, hk, Ne.symm hk]

theorem isDels_of_mem_keys {p : DelProp} {d : String} (h : d ∈ p.keys) : p.isDels = true := by
  cases p <;> simp_all [keys, entries, isDels]

end DelProp

@[simp] theorem Node.rewrite_id (n : Node) (d : String) : (n.rewrite d).id = n.id := by
  unfold Node.rewrite; split <;> rfl
@[simp] theorem Node.rewrite_cls (n : Node) (d : String) : (n.rewrite d).cls = n.cls := by
  unfold Node.rewrite; split <;> rfl
@[simp] theorem Node.rewrite_props (n : Node) (d : String) : (n.rewrite d).props = n.props := by
  unfold Node.rewrite; split <;> rfl

theorem Node.catalogued_of_holds {n : Node} {d : String} (h : n.holds d = true) : n.catalogued = true := by
  unfold Node.holds at h
  unfold Node.catalogued
  simp only [Bool.or_eq_true, List.contains_eq_mem, decide_eq_true_eq] at h ⊢
  exact h.imp DelProp.isDels_of_mem_keys DelProp.isDels_of_mem_keys

theorem Node.rewrite_of_catalogued {n : Node} (d : String) (h : n.catalogued = true) :
    n.rewrite d = { n with ldel := n.ldel.restrict d, cdel := n.cdel.restrict d } := by
  unfold Node.rewrite; simp [h]

theorem Node.rewrite_eq_self_of_not_catalogued {n : Node} (d : String) (h : n.catalogued = false) : n.rewrite d = n := by
  unfold Node.rewrite; simp [h]

theorem Node.not_catalogued {n : Node} (h : n.catalogued = false) : n.ldel.isDels = false ∧ n.cdel.isDels = false :=
  Bool.or_eq_false_iff.1 h

theorem Node.rewrite_keys_sub (n : Node) (d k : String)
    (hk : k ∈ (n.rewrite d).ldel.keys ++ (n.rewrite d).cdel.keys) : k = d := by
  by_cases hc : n.catalogued = true
  · rw [Node.rewrite_of_catalogued d hc, DelProp.keys_restrict, DelProp.keys_restrict] at hk
    rcases List.mem_append.1 hk with h | h <;> (split at h <;> simp_all)
  · -- a node that has a key at all is catalogued
    rw [Node.rewrite_eq_self_of_not_catalogued d (by simpa using hc)] at hk
    exact absurd (Node.catalogued_of_holds (by simpa [Node.holds] using hk)) hc

theorem mem_genAdm_nodes {cfg : Cfg} {g : G} {d : String} {m : Node} :
    m ∈ (genAdm cfg g d).nodes ↔ ∃ n ∈ g.nodes, n.id ∈ keepSet cfg g d ∧ m = n.rewrite d := by
  unfold genAdm
  simp only [List.mem_map, List.mem_filter, decide_eq_true_eq]
  constructor
  · rintro ⟨n, ⟨hn, hk⟩, rfl⟩; exact ⟨n, hn, hk, rfl⟩
  · rintro ⟨n, hn, hk, rfl⟩; exact ⟨n, ⟨hn, hk⟩, rfl⟩

theorem genAdm_ids (cfg : Cfg) (g : G) (d : String) :
    (genAdm cfg g d).ids = g.ids.filter (fun x => decide (x ∈ keepSet cfg g d)) := by
  unfold genAdm G.ids
  simp only [List.map_map, List.filter_map]
  congr 1
  funext n; simp

theorem mem_genAdm_edges {cfg : Cfg} {g : G} {d : String} {e : Edge} :
    e ∈ (genAdm cfg g d).edges ↔ e ∈ g.edges ∧ e.a ∈ keepSet cfg g d ∧ e.b ∈ keepSet cfg g d := by
  unfold genAdm; simp

theorem mem_delIds {g : G} {d : String} : d ∈ delIds g ↔ ∃ n ∈ g.nodes, n.holds d = true := by
  unfold delIds Node.holds
  rw [List.mem_eraseDups]
  simp only [List.mem_flatMap, List.mem_append, Bool.or_eq_true, List.contains_eq_mem, decide_eq_true_eq]

end FimVerif.Arm
