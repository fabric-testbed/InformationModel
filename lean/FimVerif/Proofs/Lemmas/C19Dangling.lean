import FimVerif.Model.Cypher
/-!
C19: `scan` never clears the `dangling` flag, and an empty entry (a comma followed by a comma / closing bracket / nothing, or an
opening bracket followed by a comma) sets it - at any position of any token list, from any state.
-/
namespace FimVerif.Cypher

theorem flush_dangling (s : St) : s.flush.dangling = s.dangling := rfl

theorem close_dangling (s : St) (r : Bool) : (s.close r).dangling = s.dangling := rfl

theorem finish_dangling (s : St) : s.finish.dangling = s.dangling := rfl

theorem stepKw_dangling (s : St) (p1 nx : Option Tok) (lw : Codes) : (stepKw s p1 nx lw).dangling = s.dangling := by
  simp only [stepKw, apply_ite St.dangling, close_dangling, flush_dangling, ite_self]

theorem stepId_dangling (s : St) (p2 p1 : Option Tok) (x : Codes) (rest : List Tok) : (stepId s p2 p1 x rest).dangling = s.dangling := by
  simp only [stepId, apply_ite St.dangling, ite_self]

theorem stepSym_dangling (s : St) (p1 nx : Option Tok) (c : Nat) :
    (stepSym s p1 nx c).dangling = (s.dangling || ((c == cp%',' && commaBad nx) || (isOpener c && isSym nx cp%','))) := by
  simp only [stepSym, apply_ite St.dangling, ite_self]

theorem step_dangling_mono {s : St} {p2 p1 : Option Tok} {cur : Tok} {rest : List Tok} (h : s.dangling = true) :
    (step s p2 p1 cur rest).dangling = true := by
  unfold step
  split
  · rw [stepKw_dangling]; exact h
  · rw [stepId_dangling]; exact h
  · rw [stepSym_dangling, h]; rfl
  · exact h

theorem scan_dangling_mono {l : List Tok} {p2 p1 : Option Tok} {s : St} (h : s.dangling = true) :
    (scan l p2 p1 s).dangling = true := by
  induction l generalizing p2 p1 s with
  | nil => exact h
  | cons cur rest ih => exact ih (step_dangling_mono h)

theorem scan_dangling_of_sym (c : Nat) (post : List Tok)
    (h : ((c == cp%',' && commaBad post.head?) || (isOpener c && isSym post.head? cp%',')) = true) :
    ∀ (pre : List Tok) (p2 p1 : Option Tok) (s : St), (scan (pre ++ Tok.sym c :: post) p2 p1 s).dangling = true
  | [], p2, p1, s => by
    rw [List.nil_append, scan]
    exact scan_dangling_mono (by rw [step, stepSym_dangling, h, Bool.or_true])
  | t :: pre, p2, p1, s => by
    rw [List.cons_append, scan]
    exact scan_dangling_of_sym c post h pre p1 (some t) _

theorem dangling_mem_defects (text : Text) (supplied : List Text)
    (h : (scan (classify none (lexRaw text).toks) none none St.init).dangling = true) :
    "dangling-comma" ∈ (lint text supplied).defects := by
  unfold lint lintCodes
  simp only [h, if_true, List.mem_append, List.mem_singleton, true_or, or_true]

end FimVerif.Cypher
