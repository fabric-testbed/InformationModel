import FimVerif.Model.CodecPhase
/-! The phase model of MaintenanceInfo.  Every cell the record or the caller holds is below `next` (`WF`, kept by every step).  A copying
`finalize` moves the entries to cells from `next` on, which therefore no handle names: record and caller are separated (`Sep`,
`finalize_sep`), and when a finalized record hands out copies only, every later step keeps them so and leaves the view alone (`sep_step`). -/
namespace FimVerif.Phase
variable {α : Type}

theorem mem_setNode {l : List (String × Nat)} {n : String} {c : Nat} {p : String × Nat} (h : p ∈ setNode l n c) : p.2 = c ∨ p ∈ l := by
  fun_induction setNode l n c with
  | case1 => simp at h; subst h; exact .inl rfl
  | case2 c m d r =>
    rcases List.mem_cons.mp h with h | h
    · subst h; exact .inl rfl
    · exact .inr (List.mem_cons_of_mem _ h)
  | case3 n c m d r hm ih =>
    rcases List.mem_cons.mp h with h | h
    · subst h; exact .inr (List.mem_cons_self ..)
    · exact (ih h).imp_right (List.mem_cons_of_mem _)

theorem lookup_mem {l : List (String × Nat)} {n : String} {c : Nat} (h : lookup l n = some c) : (n, c) ∈ l := by
  fun_induction lookup l n with
  | case1 => cases h
  | case2 m d r => cases h; exact List.mem_cons_self ..
  | case3 n m d r hm ih => exact List.mem_cons_of_mem _ (ih h)

theorem content_upd {l : List (String × Nat)} {h : Nat → α} {c : Nat} {e : α} (hc : ∀ p ∈ l, p.2 ≠ c) :
    content l (upd h c e) = content l h :=
  List.map_congr_left fun p hp => by simp only [upd, if_neg (hc p hp)]

theorem copyAll_spec (l : List (String × Nat)) (h : Nat → α) : ∀ nx,
    content (copyAll nx l h).1 (copyAll nx l h).2 = content l h ∧
    ∀ p ∈ (copyAll nx l h).1, nx ≤ p.2 ∧ p.2 < nx + l.length := by
  induction l with
  | nil => intro nx; simp [copyAll, content]
  | cons q r ih =>
    obtain ⟨n, c⟩ := q
    intro nx
    obtain ⟨i1, i2⟩ := ih (nx + 1)
    refine ⟨?_, ?_⟩
    · simp only [copyAll, content, List.map_cons]
      congr 1
      · simp [upd]
      · exact (content_upd fun p hp => by have := (i2 p hp).1; omega).trans i1
    · intro p hp
      simp only [copyAll] at hp
      rcases List.mem_cons.mp hp with hp | hp
      · subst hp; simp
      · have := i2 p hp; simp only [List.length_cons]; omega

theorem wf_init (d : α) : WF (init d) := by simp [WF, init]

theorem WF.grow {s t : St α} (w : WF s) (hn : s.next ≤ t.next) (h1 : ∀ p ∈ t.nodes, p.2 < t.next ∨ p ∈ s.nodes)
    (h2 : ∀ c ∈ t.handles, c < t.next ∨ c ∈ s.handles) : WF t :=
  ⟨fun p hp => (h1 p hp).elim id fun h => Nat.lt_of_lt_of_le (w.1 p h) hn,
   fun c hc => (h2 c hc).elim id fun h => Nat.lt_of_lt_of_le (w.2 c h) hn⟩

theorem wf_step (f : Flags) (s : St α) (o : Op α) (w : WF s) : WF (step f s o) := by
  cases o with
  | add n e =>
    simp only [step]
    split
    · exact w
    · split
      · exact w.grow (Nat.le_succ _) (fun p hp => (mem_setNode hp).imp_left fun h => by simp [h])
          fun c hc => (List.mem_cons.mp hc).imp_left fun h => by simp [h]
      · exact w.grow (Nat.le_add_right _ 2) (fun p hp => (mem_setNode hp).imp_left fun h => by simp [h])
          fun c hc => (List.mem_cons.mp hc).imp_left fun h => by simp [h]; omega
  | get n =>
    simp only [step]
    split
    · exact w
    · next c hl =>
      generalize (if s.lock = true then !f.getLockedCopies else f.getOpenHandsOutOwn) = own
      cases own
      · exact w.grow (Nat.le_succ _) (fun p hp => .inr hp) fun x hx => (List.mem_cons.mp hx).imp_left fun h => by simp [h]
      · exact w.grow (Nat.le_refl _) (fun p hp => .inr hp)
          fun x hx => (List.mem_cons.mp hx).imp_left fun h => by rw [h]; exact w.1 _ (lookup_mem hl)
  | finalize =>
    simp only [step]
    split
    · exact w.grow (Nat.le_add_right _ _) (fun p hp => .inl ((copyAll_spec s.nodes s.heap s.next).2 p hp).2) fun c hc => .inr hc
    · exact w
  | edit c e =>
    simp only [step]
    split <;> exact w

theorem wf_run (f : Flags) (ops : List (Op α)) : ∀ s : St α, WF s → WF (run f s ops) := by
  induction ops with
  | nil => intro s w; exact w
  | cons o r ih => intro s w; exact ih _ (wf_step f s o w)

theorem finalize_sep (f : Flags) (hf : f.finalizeCopies = true) (s : St α) (w : WF s) :
    Sep (step f s .finalize) ∧ view (step f s .finalize) = view s := by
  obtain ⟨c1, c2⟩ := copyAll_spec s.nodes s.heap s.next
  simp only [step, hf, if_true, Sep, view]
  refine ⟨⟨by trivial, ?_⟩, c1⟩
  intro p hp hh
  have := (c2 p hp).1
  have := w.2 _ hh
  omega

theorem sep_step (f : Flags) (hf : f.finalizeCopies = true) (hg : f.getLockedCopies = true) (s : St α) (o : Op α) (w : WF s) (sp : Sep s) :
    Sep (step f s o) ∧ view (step f s o) = view s := by
  obtain ⟨w1, w2⟩ := w
  obtain ⟨lk, sp⟩ := sp
  cases o with
  | add n e =>
    have : step f s (.add n e) = s := by simp only [step, lk, if_true]
    rw [this]; exact ⟨⟨lk, sp⟩, rfl⟩
  | get n =>
    simp only [step]
    split
    · exact ⟨⟨lk, sp⟩, rfl⟩
    · next c hl =>
      simp only [lk, hg, if_true, Bool.not_true, Bool.false_eq_true, if_false]
      refine ⟨⟨by trivial, ?_⟩, ?_⟩
      · intro p hp hh
        rcases List.mem_cons.mp hh with h | h
        · have := w1 p hp; omega
        · exact sp p hp h
      · exact content_upd fun p hp => by have := w1 p hp; omega
  | finalize =>
    have := finalize_sep f hf s ⟨w1, w2⟩
    exact this
  | edit c e =>
    simp only [step]
    split
    · next hc =>
      exact ⟨⟨lk, sp⟩, content_upd fun p hp h => sp p hp (h ▸ hc)⟩
    · exact ⟨⟨lk, sp⟩, rfl⟩

theorem sep_run (f : Flags) (hf : f.finalizeCopies = true) (hg : f.getLockedCopies = true) (ops : List (Op α)) :
    ∀ s : St α, WF s → Sep s → view (run f s ops) = view s := by
  induction ops with
  | nil => intro s _ _; rfl
  | cons o r ih =>
    intro s w sp
    have h := sep_step f hf hg s o w sp
    simp only [run]
    rw [ih _ (wf_step f s o w) h.1, h.2]

theorem run_append (f : Flags) (a b : List (Op α)) : ∀ s : St α, run f s (a ++ b) = run f (run f s a) b := by
  induction a with
  | nil => intro s; rfl
  | cons o r ih => intro s; simp only [List.cons_append, run]; exact ih _

end FimVerif.Phase
