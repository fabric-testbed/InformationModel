import FimVerif.Proofs.Lemmas.C08Sep
/-! User level: the disconnect loop (`_disconnect_interfaces`) that precedes the graph-level removal in the user-level calls.  Up to
`mem_spEnds` the file serves both developments; from `LinksClear` on, the separation development only: the loop under `SepDisc*` and
the closed forms `*ApiDel` of the calls under `Sep*Api`. -/
namespace FimVerif.Remove

theorem mem_spPeers {g : G} {i p : Nat} :
    p ∈ spPeers g i ↔ ∃ l ∈ g.nbrs i .connects .link, p ∈ g.nbrs l .connects .cp ∧ p ≠ i ∧ g.kind? p = some kServicePort := by
  simp only [spPeers, peers, List.mem_filter, List.mem_flatMap, beq_iff_eq, bne_iff_ne, ne_eq]
  exact ⟨fun ⟨⟨l, hl, hp, hne⟩, hk⟩ => ⟨l, hl, hp, hne, hk⟩, fun ⟨l, hl, hp, hne, hk⟩ => ⟨⟨l, hl, hp, hne⟩, hk⟩⟩

theorem spPeers_minus_links {g : G} {A : List Nat} {i : Nat} (hi : i ∉ A) (hl : ∀ l ∈ g.nbrs i .connects .link, l ∉ A) :
    spPeers (g.minus A) i = (spPeers g i).filter (fun p => !A.contains p) := by
  simp only [spPeers, peers, nbrs_minus (contains_false hi), List.filter_eq_self.mpr fun l h => not_contains (hl l h),
    List.filter_filter, List.filter_flatMap]
  refine List.flatMap_congr' fun l h => ?_
  rw [nbrs_minus (contains_false (hl l h)), List.filter_filter]
  refine List.filter_congr fun q _ => ?_
  rw [kind_minus]
  by_cases hq : q ∈ A <;> simp [List.contains_eq_mem, hq]

theorem spPeers_gone {g : G} {D : List Nat} {i : Nat} (hi : i ∈ D) : spPeers (g.minus D) i = [] := by
  simp [spPeers, peers, nbrs_minus_eq, hi]

/-- the interfaces `_disconnect_interfaces` visits -/
def deepIfs (g : G) (ifs : List Nat) : List Nat := ifs.flatMap (withSubs g)

theorem mem_withSubs {g : G} {a i : Nat} :
    i ∈ withSubs g a ↔ i = a ∨ (g.kind? a = some kDedicatedPort ∧ i ∈ g.nbrs a .connects .cp) := by
  simp only [withSubs, List.mem_cons]
  by_cases hk : g.kind? a = some kDedicatedPort <;> simp [hk]

theorem withSubs_of_ne {g : G} {c : Nat} (hk : g.kind? c ≠ some kDedicatedPort) : withSubs g c = [c] := by
  simp [withSubs, hk]

theorem deepIfs_singleton (g : G) (i : Nat) : deepIfs g [i] = withSubs g i := List.flatMap_singleton ..

theorem deepIfs_append (g : G) (L L' : List Nat) : deepIfs g (L ++ L') = deepIfs g L ++ deepIfs g L' := List.flatMap_append

theorem deepIfs_flatMap (g : G) (L : List Nat) (F : Nat → List Nat) :
    deepIfs g (L.flatMap F) = L.flatMap fun s => deepIfs g (F s) := List.flatMap_assoc

/-- the ServicePorts a link peers -/
def spEnds (g : G) (l : Nat) : List Nat := (g.nbrs l .connects .cp).filter (fun p => g.kind? p == some kServicePort)

theorem mem_spEnds {g : G} {l p : Nat} : p ∈ spEnds g l ↔ p ∈ g.nbrs l .connects .cp ∧ g.kind? p = some kServicePort := by
  simp only [spEnds, List.mem_filter, beq_iff_eq]

/-- `A` holds no link of `i` and no end of one: `get_peers` on `g.minus A` answers as on `g` -/
def LinksClear (g : G) (A : List Nat) (i : Nat) : Bool :=
  (g.nbrs i .connects .link).all (fun l => !A.contains l && (g.nbrs l .connects .cp).all (fun e => !A.contains e))

theorem linksClear_iff {g : G} {A : List Nat} {i : Nat} :
    LinksClear g A i = true ↔ ∀ l ∈ g.nbrs i .connects .link, l ∉ A ∧ ∀ e ∈ g.nbrs l .connects .cp, e ∉ A := by
  simp only [LinksClear, Bool.and_eq_true, Bool.not_eq_true', List.all_eq_true, List.contains_eq_mem, decide_eq_false_iff_not]

theorem spPeers_minus {g : G} {A : List Nat} {i : Nat} (hi : A.contains i = false) (h : LinksClear g A i = true) :
    spPeers (g.minus A) i = spPeers g i := by
  have hall := linksClear_iff.mp h
  rw [spPeers_minus_links (by simpa [List.contains_eq_mem] using hi) fun l hl => (hall l hl).1]
  refine List.filter_eq_self.mpr fun p hp => ?_
  obtain ⟨l, hl, hpl, _⟩ := mem_spPeers.mp hp
  exact not_contains ((hall l hl).2 p hpl)

/-- what the disconnect loop deletes for interface `i`: the service-side port (with its link) when there is exactly one -/
def discDel (g : G) (i : Nat) : List Nat :=
  match spPeers g i with
  | [p] => cpDel g p true
  | _ => []

/-- one iteration of the disconnect loop after `A` does what it would do in `g`: no peer, or one ServicePort whose single service `A`
has left alone and whose removal is separated from `A`; several peers make the loop raise -/
def SepDisc (g : G) (A : List Nat) (i : Nat) : Bool :=
  g.has i && !A.contains i && LinksClear g A i &&
  (match spPeers g i with
   | [] => true
   | [p] => (g.nbrs p .connects .ns).length == 1 && (g.nbrs p .connects .ns).all (fun s => !A.contains s) &&
            g.has p && Sep g A p true
   | _ => false)

def SepDiscSeq (g : G) : List Nat → List Nat → Bool
  | _, [] => true
  | A, i :: is => SepDisc g A i && SepDiscSeq g (A ++ discDel g i) is

theorem disconnectStep_after {g : G} {A : List Nat} {i : Nat} (hd : SepDisc g A i = true) :
    disconnectStep (g.minus A) i = .ok (g.minus (A ++ discDel g i)) := by
  simp only [SepDisc, Bool.and_eq_true, Bool.not_eq_true'] at hd
  obtain ⟨⟨⟨hi, hiA⟩, hlc⟩, hm⟩ := hd
  have hi' : (g.minus A).has i = true := by rw [has_minus, hiA, hi]; rfl
  unfold disconnectStep
  rw [spPeers_minus hiA hlc]
  cases hsp : spPeers g i with
  | nil => simp [discDel, hsp]
  | cons p rest =>
    cases rest with
    | nil =>
      simp only [hsp, Bool.and_eq_true, beq_iff_eq] at hm
      obtain ⟨⟨⟨hlen, hnsA⟩, hp⟩, hsep⟩ := hm
      have hpA : A.contains p = false := fam_notin (sepFam_of_sep hsep) p (mem_cpFamily_self (dp := true))
      have hlen' : ((g.minus A).nbrs p .connects .ns).length = 1 := by rw [nbrs_minus_clean hpA hnsA]; exact hlen
      simp only [hlen', beq_self_eq_true, ite_true, disconnectG, hi', spPeers_minus hiA hlc, hsp,
        removeCp_after hp hsep, Except.map, discDel]
    | cons q rest' => simp [hsp] at hm

theorem disconnectAll_after {g : G} {is A : List Nat} (h : SepDiscSeq g A is = true) :
    disconnectAll (g.minus A) is = .ok (g.minus (A ++ is.flatMap (discDel g))) :=
  seq_after (fun _ _ _ => rfl) (fun _ _ => disconnectStep_after) h

theorem disconnectDeep_after {g : G} {ifs : List Nat} (h : SepDiscSeq g [] (deepIfs g ifs) = true) :
    disconnectDeep g ifs = .ok (g.minus ((deepIfs g ifs).flatMap (discDel g))) := by
  have h1 := disconnectAll_after h
  rw [minus_nil] at h1
  simpa [disconnectDeep, deepIfs] using h1

/-- closed form of `Topology.remove_node(name)` / `remove_facility`: the ports disconnected first (for every interface
and sub-interface), then the node's structure -/
def nodeApiDel (g : G) (n : Nat) : List Nat := (deepIfs g (ifaceListNode g n)).flatMap (discDel g) ++ nodeDel g n

def SepNodeApi (g : G) (n : Nat) : Bool :=
  SepDiscSeq g [] (deepIfs g (ifaceListNode g n)) && SepNode g ((deepIfs g (ifaceListNode g n)).flatMap (discDel g)) n

/-- the common body of `Topology.remove_node` and `remove_facility` -/
theorem removeNodeBody_exact (g : G) (n : Nat) (h : SepNodeApi g n = true) :
    (disconnectDeep g (ifaceListNode g n) >>= fun g1 => removeNodeG g1 n) = .ok (g.minus (nodeApiDel g n)) := by
  simp only [SepNodeApi, Bool.and_eq_true] at h
  simp only [disconnectDeep_after h.1, bind, Except.bind]
  exact removeNodeG_after h.2

def compApiDel (g : G) (c : Nat) : List Nat := (deepIfs g (ifaceListComp g c)).flatMap (discDel g) ++ compDel g c

def SepCompApi (g : G) (c : Nat) : Bool :=
  SepDiscSeq g [] (deepIfs g (ifaceListComp g c)) && SepComp g ((deepIfs g (ifaceListComp g c)).flatMap (discDel g)) c

/-- closed form of `Topology.remove_network_service` / `Node.remove_network_service` -/
def nsApiDel (g : G) (s : Nat) : List Nat := (deepIfs g (g.nbrs s .connects .cp)).flatMap (discDel g) ++ nsDel g s

def SepNsApi (g : G) (s : Nat) : Bool :=
  SepDiscSeq g [] (deepIfs g (g.nbrs s .connects .cp)) && SepNs g ((deepIfs g (g.nbrs s .connects .cp)).flatMap (discDel g)) s

/-- closed form of `Topology.remove_link` -/
def linkApiDel (g : G) (l : Nat) : List Nat := l :: (spEnds g l).flatMap (fun p => cpDel g p true)

/-- `_prune_interface`: disconnect, then `remove_cp_and_links` -/
def ifaceApiDel (g : G) (i : Nat) : List Nat := (deepIfs g [i]).flatMap (discDel g) ++ cpDel g i true

/-- what `remove_child_interface(c)` deletes: the port and link of a connected child, then the child with its link -/
def childDel (g : G) (c : Nat) : List Nat := (deepIfs g [c]).flatMap (discDel g) ++ cpDel g c false

theorem removeChild_exact (g : G) (h : List IfH) (p c : Nat) (hk : g.kind? p = some kDedicatedPort) (hc : g.has c = true)
    (h1 : SepDiscSeq g [] (deepIfs g [c]) = true) (h2 : Sep g ((deepIfs g [c]).flatMap (discDel g)) c false = true) :
    removeChild g h p c = .ok (g.minus (childDel g c), hDrop h c) := by
  simp only [removeChild, hk, beq_self_eq_true, ite_true, disconnectDeep_after h1, bind, Except.bind,
    removeCp_after hc h2, Except.map, childDel]

end FimVerif.Remove
