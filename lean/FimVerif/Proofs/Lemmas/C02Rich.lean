import FimVerif.Model.SliverRich
import FimVerif.Proofs.C03
import FimVerif.Proofs.Lemmas.C12Codec
import FimVerif.Proofs.Lemmas.C02Check
import FimVerif.Proofs.Lemmas.C02Routes
/-! C02's codec hypothesis `FieldLaw` discharged for the value model `SliverRich.rich`, whose encoders / decoders are the models
of C03 and C12: one value (`rich_rowLaw`, from their round-trip theorems), a field map (`fieldLaw_rich`), a tree (`typed_wf`). -/
namespace FimVerif.C02
open FimVerif FimVerif.Sliver FimVerif.Gen.SliverMap FimVerif.SliverRich

/-- the validators a `JSONField` class is decoded with: only `Labels` has any -/
def validFor (R : Params) (cls : String) : String → JVal → Bool := if cls = "Labels" then R.valid else fun _ _ => true

/-- class names whose `from_json` is not the generic `JSONField.from_json` -/
def specialClasses : List String := ["Tags", "Gateway", "PathInfo", "ERO", "MaintenanceInfo"]

/-- **the well-typed values of a row**: value `v` is one the property read by from-row `f` (written with encoder `e`)
can hold, in the domain on which its class's own codec is lossless (C03 / C12) -/
def WTVal (R : Params) (e : Enc) (f : FromRow) : RVal → Prop
  | .str _ => (e = Enc.ident ∨ e = Enc.str) ∧ f.dec = Dec.ident ∧ f.norm ≠ Norm.ipAddress
  | .ip _ => (e = Enc.ident ∨ e = Enc.str) ∧ f.dec = Dec.ident ∧ f.norm = Norm.ipAddress
  | .enum c n => (e = Enc.ident ∨ e = Enc.str) ∧ (f.dec = Dec.typeFromStr ∨ f.dec = Dec.fromString) ∧ c = f.arg ∧
      (enumMember c n).isSome = true
  | .jf c x => e = Enc.toJson ∧ f.dec = Dec.fromJson ∧ f.arg = c ∧ c ∉ specialClasses ∧
      ∃ spec, spec ∈ Gen.Fields.all ∧ specOf c = some spec ∧ Codec.WellTyped spec (validFor R c) x ∧ Codec.encode spec x ≠ none
  | .tags ts => e = Enc.toJson ∧ f.dec = Dec.fromJson ∧ f.arg = "Tags" ∧ ∀ t ∈ ts, R.okTag t = true
  | .gw g => e = Enc.toJson ∧ f.dec = Dec.fromJson ∧ f.arg = "Gateway" ∧
      ∃ l, Codec.WellTyped Gen.Fields.labels R.valid l ∧ Codec.gatewayNew Gen.Fields.labels R.valid (some l) = .ok (some g)
  | .pinfo p => e = Enc.toJson ∧ f.dec = Dec.fromJson ∧ f.arg = "PathInfo" ∧ C03.PIDomain p ∧ p.strict = .bool false
  | .ero p => e = Enc.toJson ∧ f.dec = Dec.fromJson ∧ f.arg = "ERO" ∧ C03.PIDomain p ∧ ∃ b, p.strict = .bool b
  | .minfo m => e = Enc.toJson ∧ f.dec = Dec.fromJson ∧ f.arg = "MaintenanceInfo" ∧ m.lock = true ∧
      ∀ p ∈ m.nodes, C03.EntryOK R.iso p.2
  | .deleg ds => e = Enc.toJson ∧ f.dec = Dec.fromJson ∧ delegTy f.arg = some ds.ty ∧ C12.WF Deleg.detOps ds
  | .jdata c t => e = Enc.jsonData ∧ f.dec = Dec.jsonDataCtor ∧ f.arg = c ∧
      Codec.jdFromText R.validJson (maxOf c) t = .ok t
  | .tuple _ => e = Enc.jsonDumps ∧ f.dec = Dec.jsonLoads
  | .bool _ => e = Enc.jsonDumps ∧ f.dec = Dec.jsonLoads

theorem norm_ok (R : Params) (n : Norm) (v : RVal) (h : n = Norm.ipAddress → ∀ s, v ≠ .str s) :
    (rich R).norm n v = .ok v := by
  cases n
  · rfl
  · rfl
  · cases v <;> first | rfl | exact absurd rfl (h rfl _)

theorem rich_enc_text (R : Params) {e : Enc} (he : e = Enc.ident ∨ e = Enc.str) (v : RVal) :
    (rich R).enc e [v] = match textOf v with | some s => .text s | none => .bad := by
  rcases he with rfl | rfl <;> rfl

theorem readVal_of_dec (R : Params) (f : FromRow) (x : RP) (v : RVal)
    (hd : (rich R).dec f.dec f.arg x = .ok (some v)) (hn : f.norm = Norm.ipAddress → ∀ s, v ≠ .str s) :
    readVal (rich R) f x = .ok (some v) := by
  unfold readVal
  rw [hd]
  simp only [setRow, norm_ok R f.norm v hn]

/-- **the row law for every well-typed value**, from the round-trip theorems of C03 and C12.  Every case but `ip` (whose setter turns
the decoded string into the address object) has one shape: the decoder gives the value back, by the round-trip theorem of the value's
class, and the setter stores it as it is (`readVal_of_dec`). -/
theorem rich_rowLaw (R : Params) (e : Enc) (f : FromRow) (v : RVal) (h : WTVal R e f v) :
    readVal (rich R) f ((rich R).enc e [v]) = .ok (some v) := by
  cases v with
  | str s =>
    obtain ⟨he, hd, hn⟩ := h
    refine readVal_of_dec R f _ _ ?_ (fun h => absurd h hn)
    rw [rich_enc_text R he, hd]
    rfl
  | ip s =>
    obtain ⟨he, hd, hn⟩ := h
    unfold readVal
    rw [rich_enc_text R he, hd]
    show setRow (rich R) f (some (.str s)) = _
    unfold setRow
    rw [hn]
    rfl
  | enum c n =>
    obtain ⟨he, hd, hc, hm⟩ := h
    subst hc
    refine readVal_of_dec R f _ _ ?_ (fun _ _ => nofun)
    obtain ⟨w, hw⟩ := Option.isSome_iff_exists.mp hm
    have : Except.ok ((enumMember f.arg n).map fun _ => RVal.enum f.arg n) = Except.ok (ε := Err) (some (.enum f.arg n)) := by
      rw [hw]; rfl
    rw [rich_enc_text R he]
    rcases hd with hd | hd <;> rw [hd] <;> exact this
  | jf c x =>
    obtain ⟨he, hd, ha, hsp, spec, hmem, hspec, hwt, hne⟩ := h
    subst he
    refine readVal_of_dec R f _ _ ?_ (fun _ _ => nofun)
    have hrt := C03.all_classes_lossless spec hmem (validFor R c) x hwt
    cases hj : Codec.encode spec x with
    | none => exact absurd hj hne
    | some j =>
      have hdec := hrt.2 j hj
      simp only [specialClasses, List.mem_cons, List.mem_nil_iff, or_false, not_or] at hsp
      simp only [rich, hspec, hj, hd, ha, hsp.1, hsp.2.1, hsp.2.2.1, hsp.2.2.2.1, hsp.2.2.2.2, if_false]
      unfold validFor at hdec
      rw [hdec]
      rfl
  | tags ts =>
    obtain ⟨he, hd, ha, hok⟩ := h
    subst he
    refine readVal_of_dec R f _ _ ?_ (fun _ _ => nofun)
    simp only [rich, hd, ha, if_true, C03.tags_roundtrip R.okTag ts hok]
    rfl
  | gw g =>
    obtain ⟨he, hd, ha, l, hl, hg⟩ := h
    subst he
    refine readVal_of_dec R f _ _ ?_ (fun _ _ => nofun)
    have := C03.gateway_roundtrip R.valid l g hl hg
    simp only [rich, hd, ha, if_true, this]
    simp [exc]
  | pinfo p =>
    obtain ⟨he, hd, ha, hdom, hs⟩ := h
    subst he
    refine readVal_of_dec R f _ _ ?_ (fun _ _ => nofun)
    obtain ⟨⟨j, hj⟩, _⟩ := C03.pathinfo_encode_total p hdom
    have := C03.pathinfo_roundtrip p hdom hs j hj
    simp only [rich, hd, ha, hj, this]
    simp [exc]
  | ero p =>
    obtain ⟨he, hd, ha, hdom, b, hs⟩ := h
    subst he
    refine readVal_of_dec R f _ _ ?_ (fun _ _ => nofun)
    obtain ⟨_, ⟨j, hj⟩⟩ := C03.pathinfo_encode_total p hdom
    have := C03.ero_roundtrip p hdom b hs j hj
    simp only [rich, hd, ha, hj, this]
    simp [exc]
  | minfo m =>
    obtain ⟨he, hd, ha, hl, hent⟩ := h
    subst he
    refine readVal_of_dec R f _ _ ?_ (fun _ _ => nofun)
    obtain ⟨j, hj⟩ := (C03.encode_requires_finalize m).mpr hl
    have := C03.maintenance_roundtrip R.iso m hl hent j hj
    simp only [rich, hd, ha, hj, this]
    simp [exc]
  | deleg ds =>
    obtain ⟨he, hd, hty, hwf⟩ := h
    subst he
    refine readVal_of_dec R f _ _ ?_ (fun _ _ => nofun)
    simp only [rich, hd, hty, C12.encode_wf Deleg.detOps ds hwf, C12.decode_encoded Deleg.detOps ds hwf]
  | jdata c t =>
    obtain ⟨he, hd, ha, hok⟩ := h
    subst he
    refine readVal_of_dec R f _ _ ?_ (fun _ _ => nofun)
    simp only [rich, hd, ha, hok]
    rfl
  | tuple xs =>
    obtain ⟨he, hd⟩ := h
    subst he
    refine readVal_of_dec R f _ _ ?_ (fun _ _ => nofun)
    rw [hd]
    rfl
  | bool b =>
    obtain ⟨he, hd⟩ := h
    subst he
    refine readVal_of_dec R f _ _ ?_ (fun _ _ => nofun)
    rw [hd]
    rfl

/-! `Flags`: every member is an explicit value (`False` is a value, not "not set"), so no `Flags` object is written as the
empty text (`drop := .keepAll` in the generated class table): the `Codec.encode spec x ≠ none` condition of `WTVal`'s `jf` case
holds for every `Flags`, and the all-`False` object is inside the domain of the `_typed_partial` round trips. -/
theorem flags_never_absent (x : Codec.Fields) : Codec.encode Gen.Fields.flags x ≠ none := by
  intro h
  exact ((C03.encode_none_iff _ _).1 h).2 rfl

theorem flags_value_typed (R : Params) (e : Enc) (f : FromRow) (x : Codec.Fields)
    (he : e = Enc.toJson) (hd : f.dec = Dec.fromJson) (ha : f.arg = "Flags")
    (hx : Codec.WellTyped Gen.Fields.flags (validFor R "Flags") x) : WTVal R e f (.jf "Flags" x) := by
  refine ⟨he, hd, ha, by decide, Gen.Fields.flags, by simp [Gen.Fields.all], by rfl, hx, flags_never_absent x⟩

theorem flags_all_false_wellTyped (R : Params) :
    Codec.WellTyped Gen.Fields.flags (validFor R "Flags") (Codec.defaults Gen.Fields.flags) := by
  refine ⟨?_, fun k hk => Codec.dfltOf_not_mem _ k hk⟩
  intro f hf
  right
  have hv : validFor R "Flags" = fun _ _ => true := by simp [validFor]
  rw [hv]
  simp [Gen.Fields.flags] at hf
  rcases hf with rfl | rfl | rfl | rfl <;> decide

theorem flags_all_false_typed (R : Params) (f : FromRow) (hd : f.dec = Dec.fromJson) (ha : f.arg = "Flags") :
    WTVal R Enc.toJson f (.jf "Flags" (Codec.defaults Gen.Fields.flags)) :=
  flags_value_typed R _ f _ rfl hd ha (flags_all_false_wellTyped R)

/-- what `fieldLaw_rich` needs of a table beyond `rowsOK`, about the always-written rows and the row of the image pair (evaluated
over the generated tables: `rich_rows_ok`) -/
def richRowsOK (T : KindTable) : Bool :=
  T.toRows.all (fun r => !r.always || T.fromRows.all (fun f => f.gprop != r.gprop || (f.dec == Dec.jsonLoads && f.noneOk))) &&
  T.fromRows.all (fun f => !pairKeys.contains f.key ||
    ((rowOf T f).keys == ["image_ref", "image_type"] && (rowOf T f).enc == Enc.commaJoin && f.dec == Dec.commaRSplit &&
      f.norm == Norm.ident && ((f.key == "image_ref" && f.arg == "0") || (f.key == "image_type" && f.arg == "1"))))

theorem richRowsOK_always {T : KindTable} (h : richRowsOK T = true) (r : ToRow) (hr : r ∈ T.toRows) (hal : r.always = true)
    (f : FromRow) (hf : f ∈ T.fromRows) (hg : f.gprop = r.gprop) : f.dec = Dec.jsonLoads ∧ f.noneOk = true := by
  simp only [richRowsOK, Bool.and_eq_true, List.all_eq_true] at h
  have h1 := h.1 r hr
  rw [hal] at h1
  simp only [Bool.not_true, Bool.false_or, List.all_eq_true, Bool.or_eq_true, bne_iff_ne, ne_eq, Bool.and_eq_true, beq_iff_eq] at h1
  rcases h1 f hf with h2 | h2
  · exact absurd hg h2
  · exact h2

theorem richRowsOK_pair {T : KindTable} (h : richRowsOK T = true) (f : FromRow) (hf : f ∈ T.fromRows) (hp : f.key ∈ pairKeys) :
    (rowOf T f).keys = ["image_ref", "image_type"] ∧ (rowOf T f).enc = Enc.commaJoin ∧ f.dec = Dec.commaRSplit ∧
      f.norm = Norm.ident ∧ ((f.key = "image_ref" ∧ f.arg = "0") ∨ (f.key = "image_type" ∧ f.arg = "1")) := by
  simp only [richRowsOK, Bool.and_eq_true, List.all_eq_true] at h
  have h1 := h.2 f hf
  have hc : pairKeys.contains f.key = true := by simpa using hp
  rw [hc] at h1
  simp only [Bool.not_true, Bool.false_or, Bool.and_eq_true, Bool.or_eq_true, beq_iff_eq] at h1
  exact ⟨h1.1.1.1.1, h1.1.1.1.2, h1.1.1.2, h1.1.2, h1.2⟩

/-- **typed field maps**: every set property outside the image pair holds a well-typed value of its row; when both
halves of the image pair are set they are strings and the type has no comma (the known `image_type-comma` finding) -/
def TypedFields (R : Params) (T : KindTable) (s : Sliver.Fields RVal) : Prop :=
  (∀ f ∈ T.fromRows, f.key ∉ pairKeys → ∀ v, s f.key = some v → WTVal R (rowOf T f).enc f v) ∧
  (∀ a b, s "image_ref" = some a → s "image_type" = some b → ∃ x y, a = .str x ∧ b = .str y ∧ ',' ∉ y.toList)

theorem fieldLaw_rich (R : Params) (T : KindTable) (hT : tableOK T = true) (hR : rowsOK T = true) (hX : richRowsOK T = true)
    (s : Sliver.Fields RVal) (ht : TypedFields R T s) : FieldLaw (rich R) T s := by
  intro r hr f hf hg
  have hro := rowOf_eq (tableFacts hT).nodup_g r hr f hg
  by_cases hp : f.key ∈ pairKeys
  · -- the row of the image pair: both halves set (strings, no comma in the type) or nothing written; it is not an always-written
    -- row, since those are read by `json.loads` and this one by the split at the last comma
    obtain ⟨hkeys, henc, hdec, hnorm, harg⟩ := richRowsOK_pair hX f hf hp
    rw [hro] at hkeys henc
    have hnal : r.always = true → False := by
      intro hal
      have := (richRowsOK_always hX r hr hal f hf hg).1
      rw [hdec] at this
      cases this
    rw [hkeys, rowVals_pair]
    cases ha : s "image_ref" with
    | none => exact fun hal => (hnal hal).elim
    | some a =>
      cases hb : s "image_type" with
      | none => exact fun hal => (hnal hal).elim
      | some b =>
        obtain ⟨x, y, rfl, rfl, hy⟩ := ht.2 a b ha hb
        have hsplit := rsplitComma_join x y hy
        show readVal (rich R) f ((rich R).enc r.enc [RVal.str x, RVal.str y]) = .ok (s f.key)
        unfold readVal
        rcases harg with ⟨hk, h0⟩ | ⟨hk, h1⟩
        · simp only [rich, henc, hdec, hsplit, h0, setRow, hnorm, hk, ha, if_true]
        · simp only [rich, henc, hdec, hsplit, h1, setRow, hnorm, hk, hb]
          rfl
  · -- a row of one attribute: `rich_rowLaw` for a value, `json.loads("null")` into a setter that takes `None` for an always-written row
    obtain ⟨_, hk, _⟩ := rowsOK_single hR f hf hp
    rw [hro] at hk
    rw [hk, rowVals_singleton s f.key]
    cases hv : s f.key with
    | some v =>
      have := ht.1 f hf hp v hv
      rw [hro] at this
      exact rich_rowLaw R r.enc f v this
    | none =>
      intro hal
      obtain ⟨hd, hn⟩ := richRowsOK_always hX r hr hal f hf hg
      show readVal (rich R) f ((rich R).encNone r.enc) = .ok none
      unfold readVal
      simp only [rich, hd, setRow, hn]
      rfl

/-- equality of values is decided classically (the values contain `__dict__`s as functions); the tree theorems of C02
hold for any `DecidableEq` instance -/
noncomputable instance : DecidableEq RVal := fun a b => Classical.propDecidable (a = b)

mutual
/-- **typed sliver trees**: `WF` with the codec hypothesis replaced by well-typedness of the values -/
def TypedTree (R : Params) : Sliver RVal → Prop
  | .mk k _ f ks => tableOf k ∈ tables ∧ TypedFields R (tableOf k) f ∧ FateShared (tableOf k) f ∧
      Required (tableOf k) f ∧ TypedKids R k ks ∧ (ks.map keyOf).Nodup
def TypedKids (R : Params) (parent : Kind) : List (Sliver RVal) → Prop
  | [] => True
  | c :: cs => (slotOf parent c.kind).isSome = true ∧ childOk c = true ∧ TypedTree R c ∧ TypedKids R parent cs
end

mutual
theorem typed_wf (R : Params) (hall : ∀ T ∈ tables, tableOK T = true ∧ rowsOK T = true ∧ richRowsOK T = true) :
    ∀ (s : Sliver RVal), TypedTree R s → WF (rich R) s
  | .mk k i f ks, h => by
    simp only [TypedTree] at h
    obtain ⟨hT, htf, hfate, hreq, hkids, hnd⟩ := h
    obtain ⟨h1, h2, h3⟩ := hall _ hT
    simp only [WF]
    exact ⟨h1, fieldLaw_rich R _ h1 h2 h3 f htf, hfate, hreq, typed_wfKids R hall k ks hkids, hnd⟩
theorem typed_wfKids (R : Params) (hall : ∀ T ∈ tables, tableOK T = true ∧ rowsOK T = true ∧ richRowsOK T = true)
    (parent : Kind) : ∀ (ks : List (Sliver RVal)), TypedKids R parent ks → WFKids (rich R) parent ks
  | [], _ => by simp [WFKids]
  | c :: cs, h => by
    simp only [TypedKids] at h
    simp only [WFKids]
    exact ⟨h.1, h.2.1, typed_wf R hall c h.2.2.1, typed_wfKids R hall parent cs h.2.2.2⟩
end

/-- a field map given as a list (the first entry of a name counts) -/
def fieldsOfList (kvs : List (String × RVal)) : Sliver.Fields RVal := fun k => (kvs.find? (fun e => e.1 == k)).map (·.2)

theorem typedFields_ofList (R : Params) (T : KindTable) (kvs : List (String × RVal))
    (h : ∀ kv ∈ kvs, ∀ f ∈ T.fromRows, f.key = kv.1 → f.key ∉ pairKeys → WTVal R (rowOf T f).enc f kv.2)
    (hp : ∀ a b, fieldsOfList kvs "image_ref" = some a → fieldsOfList kvs "image_type" = some b →
      ∃ x y, a = .str x ∧ b = .str y ∧ ',' ∉ y.toList) : TypedFields R T (fieldsOfList kvs) := by
  refine ⟨?_, hp⟩
  intro f hf hpk v hv
  unfold fieldsOfList at hv
  cases hfind : kvs.find? (fun e => e.1 == f.key) with
  | none => rw [hfind] at hv; cases hv
  | some kv =>
    rw [hfind] at hv
    simp only [Option.map_some, Option.some.injEq] at hv
    have hmem := List.mem_of_find?_eq_some hfind
    have hkey : kv.1 = f.key := by simpa using List.find?_some hfind
    rw [← hv]
    exact h kv hmem f hf hkey.symm hpk

end FimVerif.C02
