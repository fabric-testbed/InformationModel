import FimVerif.Model.Sliver
import FimVerif.Proofs.Lemmas.ListAux
/-! C02: the table check, the field laws, lookup lemmas for `toProps` / `fromProps`, and from them the flat round trip
`props_roundtrip_partial`. -/
namespace FimVerif.C02
open FimVerif.Sliver FimVerif.Gen.SliverMap

/-- which decoder undoes which encoder (the closed set of codec pairs) -/
def codecPair : Enc → Dec → Bool
  | .ident, .ident => true
  | .str, .typeFromStr => true
  | .str, .fromString => true
  | .str, .ident => true          -- str(x) of something whose setter rebuilds it from the string (ip address) or that is a str
  | .toJson, .fromJson => true
  | .jsonDumps, .jsonLoads => true
  | .jsonData, .jsonDataCtor => true
  | .commaJoin, .commaSplit => true
  | .commaJoin, .commaRSplit => true
  | _, _ => false

/-- settable "properties" that are containment, not values (handled as children) -/
def structuralKeys : List String := ["network_service_info"]

/-- from-row `f` reads what to-row `r` writes -/
def pairs (r : ToRow) (f : FromRow) : Bool :=
  r.gprop == f.gprop && r.keys.contains f.key && codecPair r.enc f.dec && (f.absent == Absent.none || r.always)

def tableOK (T : KindTable) : Bool :=
  decide (T.toRows.map (·.gprop)).Nodup &&
  decide (T.fromRows.map (·.key)).Nodup &&
  T.fromRows.all (fun f => T.toRows.any (fun r => pairs r f)) &&
  T.toRows.all (fun r => r.keys.all (fun k => T.fromRows.any (fun f => f.key == k && f.gprop == r.gprop))) &&
  T.settable.all (fun k => structuralKeys.contains k || T.fromRows.any (fun f => f.key == k)) &&
  T.fromRows.any (fun f => f.key == "name") && T.fromRows.any (fun f => f.key == "type")

/-- what `tableOK` checks, as the proofs use it.  Two of its checks have no user and only describe the generated data: the fourth
conjunct (every attribute a to-row reads is rebuilt from the same graph property) and the `codecPair` conjunct of `pairs` (the proofs
take the codec law as the hypothesis `FieldLaw`, not from the names of encoder and decoder) -/
structure TableFacts (T : KindTable) : Prop where
  nodup_g : (T.toRows.map (·.gprop)).Nodup
  nodup_k : (T.fromRows.map (·.key)).Nodup
  /-- the last disjunction: a property that can be missing from the dictionary is read as `None` -/
  pair : ∀ f ∈ T.fromRows, ∃ r ∈ T.toRows, r.gprop = f.gprop ∧ f.key ∈ r.keys ∧ (f.absent = Absent.none ∨ r.always = true)
  settable : ∀ k ∈ T.settable, k ∈ structuralKeys ∨ k ∈ T.fromRows.map (·.key)
  has_name : "name" ∈ T.fromRows.map (·.key)
  has_type : "type" ∈ T.fromRows.map (·.key)

theorem tableFacts {T : KindTable} (h : tableOK T = true) : TableFacts T := by
  simp only [tableOK, Bool.and_eq_true, decide_eq_true_eq, List.all_eq_true, List.any_eq_true, Bool.or_eq_true,
    List.contains_iff_mem, beq_iff_eq] at h
  obtain ⟨⟨⟨⟨⟨⟨h1, h2⟩, h3⟩, -⟩, h5⟩, h6⟩, h7⟩ := h
  have key : ∀ {k}, (∃ f ∈ T.fromRows, f.key = k) → k ∈ T.fromRows.map (·.key) := fun ⟨f, hf, he⟩ => List.mem_map.mpr ⟨f, hf, he⟩
  refine ⟨h1, h2, fun f hf => ?_, fun k hk => (h5 k hk).imp id key, key h6, key h7⟩
  obtain ⟨r, hr, hp⟩ := h3 f hf
  simp only [pairs, Bool.and_eq_true, Bool.or_eq_true, beq_iff_eq, List.contains_iff_mem] at hp
  exact ⟨r, hr, hp.1.1.1, hp.1.1.2, hp.2⟩

section
variable {V P : Type}

/-- what `set_properties` stores for from-row `f` when the graph property holds `x` -/
def readVal (C : Codecs V P) (f : FromRow) (x : P) : Except Err (Option V) :=
  match C.dec f.dec f.arg x with
  | .ok ov => setRow C f ov
  | .error e => .error e

/-- **Codec hypothesis**: decoding what a row encodes gives each of its fields back (a theorem for the value model
`SliverRich.rich`: `fieldLaw_rich`). -/
def FieldLaw (C : Codecs V P) (T : KindTable) (s : Fields V) : Prop :=
  ∀ r ∈ T.toRows, ∀ f ∈ T.fromRows, f.gprop = r.gprop →
    match rowVals s r.keys with
    | some vs => readVal C f (C.enc r.enc vs) = .ok (s f.key)
    | none => r.always = true → readVal C f (C.encNone r.enc) = .ok (s f.key)

/-- **Fate sharing**: a row that reads several attributes is written only when all are set, so either all or none
of them may be set (`image_ref` / `image_type`). -/
def FateShared (T : KindTable) (s : Fields V) : Prop :=
  ∀ r ∈ T.toRows, rowVals s r.keys = none → r.always = false → ∀ k ∈ r.keys, s k = none

/-- properties whose setter rejects `None` (`name`) are set -/
def Required (T : KindTable) (s : Fields V) : Prop :=
  ∀ f ∈ T.fromRows, f.noneOk = false → ∀ r ∈ T.toRows, r.gprop = f.gprop → rowVals s r.keys ≠ none

/-- the fields the from-table rebuilds -/
def restrict (T : KindTable) (s : Fields V) : Fields V :=
  fun k => if k ∈ T.fromRows.map (·.key) then s k else none

theorem rowVals_singleton (s : Fields V) (k : Key) : rowVals s [k] = (s k).map (fun v => [v]) := by
  unfold rowVals
  cases h : s k <;> simp [List.mapM_cons, h]

theorem rowVals_pair (s : Fields V) (k₁ k₂ : Key) :
    rowVals s [k₁, k₂] = (s k₁).bind fun a => (s k₂).map fun b => [a, b] := by
  unfold rowVals
  cases h₁ : s k₁ <;> cases h₂ : s k₂ <;> simp [List.mapM_cons, h₁, h₂]

/-- the entry to-row `r` leaves under its graph property, `old` being the entry before -/
def rowOut (C : Codecs V P) (s : Fields V) (r : ToRow) (old : Option P) : Option P :=
  match rowVals s r.keys with
  | some vs => some (C.enc r.enc vs)
  | none => if r.always then some (C.encNone r.enc) else old

theorem applyTo_apply (C : Codecs V P) (s : Fields V) (p : Props P) (r : ToRow) (g : String) :
    applyTo C s p r g = if g = r.gprop then rowOut C s r (p g) else p g := by
  unfold applyTo rowOut
  cases rowVals s r.keys with
  | some vs => rfl
  | none => cases r.always <;> simp [Props.set]

theorem foldl_applyTo_notin (C : Codecs V P) (s : Fields V) (rows : List ToRow) (p : Props P) (g : String)
    (h : g ∉ rows.map (·.gprop)) : (rows.foldl (applyTo C s) p) g = p g :=
  List.foldl_invariant (fun q : Props P => q g = p g) rfl fun q hq r hr => by
    rw [applyTo_apply, if_neg fun e => h (List.mem_map.mpr ⟨r, hr, e.symm⟩), hq]

theorem toProps_mem (C : Codecs V P) (T : KindTable) (s : Fields V) (r : ToRow)
    (hnd : (T.toRows.map (·.gprop)).Nodup) (hr : r ∈ T.toRows) :
    toProps C T s r.gprop = rowOut C s r none := by
  obtain ⟨l1, l2, e⟩ := List.append_of_mem hr
  unfold toProps
  rw [e, List.map_append, List.map_cons, List.nodup_append] at hnd
  -- the rows after `r` and the rows before it write other graph properties
  rw [e, List.foldl_append, List.foldl_cons, foldl_applyTo_notin C s l2 _ _ (List.nodup_cons.mp hnd.2.1).1, applyTo_apply, if_pos rfl,
    foldl_applyTo_notin C s l1 _ _ fun h => hnd.2.2 _ h _ List.mem_cons_self rfl]
  rfl

theorem toProps_notin (C : Codecs V P) (T : KindTable) (s : Fields V) (g : String)
    (h : g ∉ T.toRows.map (·.gprop)) : toProps C T s g = none := by
  unfold toProps
  rw [foldl_applyTo_notin C s _ _ g h]
  rfl

theorem fromRowsGo_frame (C : Codecs V P) (p : Props P) (rows : List FromRow) (s0 s' : Fields V) (k : Key)
    (hk : k ∉ rows.map (·.key)) (h : fromRowsGo C p rows s0 = .ok s') : s' k = s0 k := by
  induction rows generalizing s0 with
  | nil => simp only [fromRowsGo] at h; cases h; rfl
  | cons r rs ih =>
    simp only [List.map_cons, List.mem_cons, not_or] at hk
    simp only [fromRowsGo] at h
    split at h
    · cases h
    · rw [ih _ hk.2 h]
      simp [Fields.set, hk.1]

theorem fromRowsGo_ok (C : Codecs V P) (p : Props P) (rows : List FromRow) (s0 s' : Fields V)
    (hnd : (rows.map (·.key)).Nodup) (h : fromRowsGo C p rows s0 = .ok s') :
    ∀ f ∈ rows, readRow C p f = .ok (s' f.key) := by
  induction rows generalizing s0 with
  | nil => intro f hf; cases hf
  | cons r rs ih =>
    simp only [List.map_cons, List.nodup_cons] at hnd
    simp only [fromRowsGo] at h
    split at h
    · cases h
    · rename_i v hv
      intro f hf
      rcases List.mem_cons.mp hf with he | he
      · subst he
        rw [fromRowsGo_frame C p rs _ s' _ hnd.1 h, hv]
        simp [Fields.set]
      · exact ih _ hnd.2 h f he

theorem fromRowsGo_eq (C : Codecs V P) (p : Props P) (s : Fields V) (rows : List FromRow) (s0 : Fields V)
    (h : ∀ f ∈ rows, readRow C p f = .ok (s f.key)) :
    fromRowsGo C p rows s0 = .ok fun k => if k ∈ rows.map (·.key) then s k else s0 k := by
  induction rows generalizing s0 with
  | nil => rfl
  | cons r rs ih =>
    simp only [fromRowsGo, h r List.mem_cons_self, ih _ fun f hf => h f (List.mem_cons_of_mem _ hf)]
    congr 1
    funext k
    by_cases hk : k = r.key <;> simp [hk, Fields.set]

theorem getProperty_attrGet_of_readRow (C : Codecs V P) (T : KindTable) (hnd : (T.fromRows.map (·.key)).Nodup) (p : Props P)
    (s' : Fields V) (hs' : fromProps C T p = .ok s') (f : FromRow) (hf : f ∈ T.fromRows) (x : Option V)
    (h : readRow C p f = .ok x) :
    getProperty C T p f.key = .ok x ∧ ∀ a : AttrRoute, a.prop = f.key → attrGet C T p a = .ok x := by
  have hg : getProperty C T p f.key = .ok x := by
    unfold getProperty
    rw [hs', ← Except.ok.inj ((fromRowsGo_ok C p T.fromRows Fields.empty s' hnd hs' f hf).symm.trans h)]
  exact ⟨hg, fun a ha => by unfold attrGet; rw [ha]; exact hg⟩

theorem readRow_some (C : Codecs V P) (p : Props P) (f : FromRow) (x : P) (h : p f.gprop = some x) :
    readRow C p f = readVal C f x := by
  unfold readRow decodeRow readVal
  rw [h]
  rfl

theorem readRow_none (C : Codecs V P) (p : Props P) (f : FromRow) (h : p f.gprop = none) (ha : f.absent = Absent.none) :
    readRow C p f = setRow C f none := by
  unfold readRow decodeRow
  rw [h, ha]

theorem readRow_congr (C : Codecs V P) (p q : Props P) (f : FromRow) (h : q f.gprop = p f.gprop) :
    readRow C q f = readRow C p f := by
  unfold readRow decodeRow
  rw [h]

theorem readRow_toProps (C : Codecs V P) (T : KindTable) (s : Fields V) (hT : tableOK T = true)
    (hlaw : FieldLaw C T s) (hfate : FateShared T s) (hreq : Required T s) (f : FromRow) (hf : f ∈ T.fromRows) :
    readRow C (toProps C T s) f = .ok (s f.key) := by
  obtain ⟨r, hr, hgp, hkey, habs⟩ := (tableFacts hT).pair f hf
  have hval := toProps_mem C T s r (tableFacts hT).nodup_g hr
  rw [hgp] at hval
  have hl := hlaw r hr f hf hgp.symm
  unfold rowOut at hval
  cases hv : rowVals s r.keys with
  | some vs =>
    rw [hv] at hval hl
    rw [readRow_some C _ f _ hval]
    exact hl
  | none =>
    rw [hv] at hval hl
    cases hal : r.always with
    | true =>
      rw [hal] at hval
      rw [readRow_some C _ f _ hval]
      exact hl hal
    | false =>
      -- nothing was written: the field itself is unset (fate sharing), and the setter takes the `None` read for it (`Required`)
      rw [hal] at hval
      have ha : f.absent = Absent.none := by
        rcases habs with h | h
        · exact h
        · rw [hal] at h; cases h
      rw [readRow_none C _ f hval ha, hfate r hr hv hal f.key hkey]
      unfold setRow
      cases hn : f.noneOk with
      | true => rfl
      | false => exact absurd hv (hreq f hf hn r hr hgp)

/--
**Flat round trip** (`<kind>_sliver_from_graph_properties_dict ∘ <kind>_sliver_to_graph_properties_dict`): for every
value model, every table passing the check, and every field assignment satisfying the codec law, the rebuilt sliver
has exactly the original value in every property the class can set.

`_partial`: the full statement has no `FateShared` hypothesis; it is false for the code as it is
(`props_roundtrip_counterexample`; known findings `C02:roundtrip:all-paths:node:image_ref:lost`, `…image_type:lost`).
-/
theorem props_roundtrip_partial (C : Codecs V P) (T : KindTable) (s : Fields V) (hT : tableOK T = true)
    (hlaw : FieldLaw C T s) (hfate : FateShared T s) (hreq : Required T s) :
    fromProps C T (toProps C T s) = .ok (restrict T s) :=
  fromRowsGo_eq C _ s T.fromRows Fields.empty fun f hf => readRow_toProps C T s hT hlaw hfate hreq f hf

end
end FimVerif.C02
