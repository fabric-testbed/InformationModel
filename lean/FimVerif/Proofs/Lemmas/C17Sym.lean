import FimVerif.Proofs.Lemmas.C17Tree
/-!
Symmetry of the "modified" part of a report (C17): a level lists the same children with the same flags in both directions when the flag
function is symmetric on the common pairs; `ifaceFlag` and `compFlagP` are when both sides agree on the kinds (`KindsAgree`).
-/
namespace FimVerif.Diff

section
variable {V : Type} [DecidableEq V]

theorem propDiff_comm (a b : Props V) : propDiff a b = propDiff b a := by
  simp only [propDiff, ne_eq, Flags.mk.injEq, decide_eq_decide, and_true]
  exact ⟨not_congr eq_comm, not_congr eq_comm, not_congr eq_comm⟩

theorem descFlag_comm (p q : Props V) (s : Bool) : descFlag p q s = descFlag q p s := by
  unfold descFlag; rw [propDiff_comm]

end

section
variable {α : Type} [Named α]

theorem mem_level_modified_comm (flag : α → α → Flags) {a b : Option (List α)} (ha : WfDict (dictOf a)) (hb : WfDict (dictOf b))
    (hsym : ∀ x ∈ dictOf a, ∀ y ∈ get? (dictOf b) (name x), flag x y = flag y x) (k : String) (f : Flags) :
    (k, f) ∈ (levelDiff flag a b).modified ↔ (k, f) ∈ (levelDiff flag b a).modified := by
  rw [mem_level_modified ha, mem_level_modified hb]
  constructor
  · rintro ⟨x, y, hx, hy, hf, hn⟩
    exact ⟨y, x, hy, hx, by rw [← partners_at hsym hx hy]; exact hf, hn⟩
  · rintro ⟨y, x, hy, hx, hf, hn⟩
    exact ⟨x, y, hx, hy, by rw [partners_at hsym hx hy]; exact hf, hn⟩

/-- added and removed change places, the modified are the same -/
theorem level_nonempty_comm (flag : α → α → Flags) {a b : Option (List α)} (ha : WfDict (dictOf a)) (hb : WfDict (dictOf b))
    (hsym : ∀ x ∈ dictOf a, ∀ y ∈ get? (dictOf b) (name x), flag x y = flag y x) :
    (levelDiff flag a b).nonempty = (levelDiff flag b a).nonempty := by
  unfold Level.nonempty
  rw [level_dual a b, ← level_dual b a,
    isEmpty_congr _ _ (fun p : String × Flags => mem_level_modified_comm flag ha hb hsym p.1 p.2),
    Bool.or_comm (!(levelDiff flag b a).removed.isEmpty)]

end

section
variable {V : Type} [DecidableEq V]

theorem selfMod_snd_comm (n n' : String) (a b : Props V) :
    (selfMod n a b).map Prod.snd = (selfMod n' b a).map Prod.snd := by
  unfold selfMod
  rw [propDiff_comm b a]
  split <;> rfl

/-- the two sides agree on which interfaces are dedicated ports -/
def Svc.KindsAgree (a b : Svc V) : Prop :=
  ∀ x ∈ dictOf a.ifs, ∀ y ∈ get? (dictOf b.ifs) x.name, x.dedicated = y.dedicated

instance (a b : Svc V) : Decidable (Svc.KindsAgree a b) := by unfold Svc.KindsAgree; infer_instance

omit [DecidableEq V] in
theorem Svc.KindsAgree.refl (s : Svc V) (hw : WfDict (dictOf s.ifs)) : Svc.KindsAgree s s := by
  intro x hx y hy
  cases (get?_self hw hx).symm.trans hy
  rfl

theorem ifaceFlag_comm (x y : Iface V) (hx : x.Wf) (hy : y.Wf) (hd : x.dedicated = y.dedicated) : ifaceFlag x y = ifaceFlag y x := by
  rw [ifaceFlag_eq, ifaceFlag_eq, descFlag_comm, hd,
    level_nonempty_comm leafFlag hx hy (fun u _ v _ => propDiff_comm u.props v.props)]

theorem ifaceFlag_comm_of {a b : Svc V} (ha : a.Wf) (hb : b.Wf) (hk : Svc.KindsAgree a b) :
    ∀ x ∈ dictOf a.ifs, ∀ y ∈ get? (dictOf b.ifs) (name x), ifaceFlag x y = ifaceFlag y x :=
  fun x hx y hy => ifaceFlag_comm x y (ha.2 x hx) (hb.2 y (get?_some_mem hy).1) (hk x hx y hy)

theorem svcDiff_isSome_comm (a b : Svc V) (ha : a.Wf) (hb : b.Wf) (hk : Svc.KindsAgree a b) :
    (svcDiff a b).isSome = (svcDiff b a).isSome := by
  rw [svcDiff_eq_mk, svcDiff_eq_mk, mkReport_isSome, mkReport_isSome,
    level_nonempty_comm ifaceFlag ha.1 hb.1 (ifaceFlag_comm_of ha hb hk)]
  congr 2
  rw [Bool.eq_iff_iff, List.isEmpty_iff, List.isEmpty_iff, selfMod_eq_nil_iff, selfMod_eq_nil_iff]
  exact eq_comm

/-- the two sides agree on which components are SmartNICs and, below those, on which interfaces are dedicated ports -/
def Node.KindsAgree (a b : Node V) : Prop :=
  ∀ x ∈ dictOf a.comps, ∀ y ∈ get? (dictOf b.comps) x.name,
    x.smart = y.smart ∧ ∀ sx ∈ (dictOf x.svcs).head?, ∀ sy ∈ (dictOf y.svcs).head?, Svc.KindsAgree sx sy

instance (a b : Node V) : Decidable (Node.KindsAgree a b) := by unfold Node.KindsAgree; infer_instance

theorem compFlagP_comm (x y : Comp V) (hx : x.Wf) (hy : y.Wf)
    (hk : x.smart = y.smart ∧ ∀ sx ∈ (dictOf x.svcs).head?, ∀ sy ∈ (dictOf y.svcs).head?, Svc.KindsAgree sx sy) :
    compFlagP x y = compFlagP y x := by
  rw [compFlagP_eq, compFlagP_eq, descFlag_comm, hk.1]
  congr 2
  cases hhx : (dictOf x.svcs).head? with
  | none => cases (dictOf y.svcs).head? <;> rfl
  | some sx =>
    cases hhy : (dictOf y.svcs).head? with
    | none => rfl
    | some sy => exact svcDiff_isSome_comm sx sy (hx sx hhx) (hy sy hhy) (hk.2 sx hhx sy hhy)

end

section
variable {α : Type} [Named α]

/-! `dictRun` replays a bare sequence of `add_*` / `remove_*` calls, as the driver does for its `dictops` requests. -/

inductive DictOp (α : Type) where
  | set (x : α)
  | pop (k : String)

def dictRun (ops : List (DictOp α)) (d : List α) : List α :=
  ops.foldl (fun d o => match o with | .set x => dictSet d x | .pop k => dictPop d k) d

end

end FimVerif.Diff
