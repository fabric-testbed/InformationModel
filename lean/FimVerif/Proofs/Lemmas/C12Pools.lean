import FimVerif.Proofs.Lemmas.C12Inc
/-! From a pool family to per-node delegations (C12): the entries a family stands for (`allEntries`); `buildPools` and `generate` on a
family in closed form. -/
namespace FimVerif.C12
open FimVerif.Deleg

variable {D : Type}

/-- the definition entry of a pool (on its defining node) and its reference entry (on a node it applies to); for a pool that is
`PoolOk` the `getD` defaults (here, in `clashKeys` and in `indexPut`) are never taken -/
def defEntry (ty : DType) (p : Pool D) : Delegation D :=
  { ty := ty, id := p.deleg.getD "", fmt := .definition, pool := some p.pid, details := p.details }
def refEntry (ty : DType) (p : Pool D) : Delegation D :=
  { ty := ty, id := p.deleg.getD "", fmt := .reference, pool := some p.pid, details := none }
def entriesOf (ty : DType) (p : Pool D) : List (Entry D) :=
  (p.on_.getD "", defEntry ty p) :: p.for_.map (fun n => (n, refEntry ty p))
def allEntries (ty : DType) (P : List (Pool D)) : List (Entry D) := P.flatMap (entriesOf ty)

theorem mem_entriesOf {ty : DType} {p : Pool D} {e : Entry D} :
    e ∈ entriesOf ty p ↔ e = (p.on_.getD "", defEntry ty p) ∨ ∃ n ∈ p.for_, e = (n, refEntry ty p) := by
  simp only [entriesOf, List.mem_cons, List.mem_map, eq_comm]

theorem entriesOf_fields {ty : DType} {p : Pool D} {e : Entry D} (h : e ∈ entriesOf ty p) :
    e.2.pool = some p.pid ∧ e.2.id = p.deleg.getD "" ∧ e.2.ty = ty ∧ e.2.fmt ≠ .single := by
  obtain rfl | ⟨n, -, rfl⟩ := mem_entriesOf.mp h <;> exact ⟨rfl, rfl, rfl, nofun⟩

theorem def_of_mem_entriesOf {ty : DType} {p : Pool D} {e : Entry D} (h : e ∈ entriesOf ty p) (hf : e.2.fmt = .definition) :
    e = (p.on_.getD "", defEntry ty p) := by
  obtain rfl | ⟨n, -, rfl⟩ := mem_entriesOf.mp h
  · rfl
  · cases hf

theorem mem_allEntries {ty : DType} {P : List (Pool D)} {e : Entry D} :
    e ∈ allEntries ty P ↔ ∃ p ∈ P, e ∈ entriesOf ty p := List.mem_flatMap

theorem entry_own {ty : DType} {P : List (Pool D)} (hd : Distinct P) {p : Pool D} (hp : p ∈ P) {e : Entry D}
    (he : e ∈ allEntries ty P) (hpool : e.2.pool = some p.pid) : e ∈ entriesOf ty p := by
  obtain ⟨p', hp', he'⟩ := mem_allEntries.mp he
  rw [(entriesOf_fields he').1] at hpool
  rwa [← List.eq_of_nodup_map Pool.pid (List.pairwise_map.mpr hd) hp' hp (Option.some.inj hpool)]

/-- a pool of the container's type that passes `validate_pool` and whose details are of the container's kind; its name is
not the reserved `singlePoolName` (which `Pool(...)` and `add_pool` refuse: `C12.reserved_name_rejected`) -/
structure PoolOk (ops : DetailOps D) (ty : DType) (p : Pool D) : Prop where
  ty_ : p.ty = ty
  name : p.pid ≠ Gen.DelegConsts.singlePoolName
  deleg : p.deleg ≠ none
  on_ : p.on_ ≠ none
  for_ : p.for_ ≠ []
  details : match p.details with | none => False | some x => ops.kindOf x = ty

/-- the property's quantifier: valid pools with distinct ids -/
structure Family (ops : DetailOps D) (ty : DType) (P : List (Pool D)) : Prop where
  ok : ∀ p ∈ P, PoolOk ops ty p
  distinct : Distinct P

/-- the (node, delegation id) slots the family needs: one on the defining node, one per reference node -/
def clashKeys (P : List (Pool D)) : List (String × String) :=
  P.flatMap (fun p => (p.on_.getD "", p.deleg.getD "") :: p.for_.map (fun n => (n, p.deleg.getD "")))

/-- no node needs two entries under one delegation id -/
def NoClash (P : List (Pool D)) : Prop := (clashKeys P).Nodup

instance (P : List (Pool D)) : Decidable (NoClash P) := by unfold NoClash; infer_instance

theorem keys_allEntries (ty : DType) (P : List (Pool D)) : (allEntries ty P).map keyOf = clashKeys P := by
  simp [allEntries, clashKeys, List.map_flatMap, entriesOf, keyOf, defEntry, refEntry, Function.comp_def]

theorem nodup_keys_iff {ty : DType} {P : List (Pool D)} {L : List (Entry D)} (h : L.Perm (allEntries ty P)) :
    (L.map keyOf).Nodup ↔ NoClash P := by
  rw [(h.map keyOf).nodup_iff, keys_allEntries]
  rfl

/-- what `add_pool` tests -/
def admitted (ty : DType) (p : Pool D) : Bool := decide (p.ty = ty) && decide (p.pid ≠ Gen.DelegConsts.singlePoolName)

theorem addPool_eq (ps : Pools D) (p : Pool D) :
    addPool ps p = if admitted ps.ty p then .ok { ps with byId := putPool p ps.byId } else .error .pool := by
  by_cases h1 : p.ty = ps.ty <;> by_cases h2 : p.pid = Gen.DelegConsts.singlePoolName <;> simp [addPool, admitted, h1, h2]

theorem addPool_foldlM (ty : DType) (P Q0 : List (Pool D)) (hd : Distinct (Q0 ++ P)) :
    P.foldlM addPool ({ ty := ty, byId := Q0, index := none } : Pools D)
      = if P.all (admitted ty) then .ok { ty := ty, byId := Q0 ++ P, index := none } else .error .pool := by
  induction P generalizing Q0 with
  | nil => simp [pure, Except.pure]
  | cons p P ih =>
    rw [List.foldlM_cons, addPool_eq, List.all_cons]
    show (if admitted ty p then _ else _) >>= _ = _
    cases admitted ty p
    · rfl
    · rw [putPool_fresh p Q0 fun q hq => (List.pairwise_append.mp hd).2.2 q hq p (by simp)]
      simpa [List.append_assoc, bind, Except.bind] using ih (Q0 ++ [p]) (by simpa [List.append_assoc] using hd)

/-- an index as the list of its filings (delegation id, pool), in index order -/
def filed (idx : List (String × List (Pool D))) : List (String × Pool D) :=
  idx.flatMap (fun e => e.2.map (fun p => (e.1, p)))

theorem filed_indexAdd (k : String) (p : Pool D) (idx : List (String × List (Pool D))) :
    (filed (indexAdd k p idx)).Perm (filed idx ++ [(k, p)]) := by
  fun_induction indexAdd k p idx with
  | case1 => simp [filed]
  | case2 e l hek =>
    simp only [filed, List.flatMap_cons, List.map_append, List.map_cons, List.map_nil, hek]
    exact List.perm_snoc_mid
  | case3 e l hek ih =>
    simp only [filed, List.flatMap_cons, List.append_assoc]
    exact List.Perm.append_left _ ih

/-- the clauses of `validate_pool` -/
def validated (p : Pool D) : Bool := p.deleg.isSome && p.on_.isSome && !p.for_.isEmpty && p.details.isSome

theorem validated_iff (p : Pool D) :
    validated p = true ↔ p.deleg ≠ none ∧ p.on_ ≠ none ∧ p.for_ ≠ [] ∧ p.details ≠ none := by
  simp [validated, Option.isSome_iff_ne_none, and_assoc]

/-- where `build_index_by_delegation_id` files a pool that passed `validate_pool` -/
def indexPut (idx : List (String × List (Pool D))) (p : Pool D) : List (String × List (Pool D)) :=
  indexAdd (p.deleg.getD "") p idx

theorem indexStep_eq (idx : List (String × List (Pool D))) (p : Pool D) :
    indexStep idx p = if validated p then .ok (indexPut idx p) else .error .pool := by
  unfold indexStep validatePool validated indexPut
  cases p.deleg with
  | none => rfl
  | some k =>
    cases p.on_ with
    | none => rfl
    | some n =>
      cases p.for_ with
      | nil => rfl
      | cons a l => cases p.details <;> rfl

theorem indexStep_foldlM (P : List (Pool D)) (idx : List (String × List (Pool D))) :
    P.foldlM indexStep idx = if P.all validated then .ok (P.foldl indexPut idx) else .error .pool := by
  induction P generalizing idx with
  | nil => rfl
  | cons p P ih =>
    rw [List.foldlM_cons, indexStep_eq, List.all_cons]
    cases validated p
    · rfl
    · exact ih _

theorem indexGo_validated (l : List (Pool D)) (idx : List (String × List (Pool D))) (h : l.all validated = true) :
    indexGo idx l = (l.foldl indexPut idx, none) := by
  induction l generalizing idx with
  | nil => rfl
  | cons p l ih =>
    rw [List.all_cons, Bool.and_eq_true] at h
    rw [indexGo, indexStep_eq, h.1]
    exact ih _ h.2

/-- the index `build_index_by_delegation_id` builds over the pools `P` when every one passes `validate_pool` -/
def indexOf (P : List (Pool D)) : List (String × List (Pool D)) := P.foldl indexPut []

/-- the container after `add_pool` of every pool of `P` and `build_index_by_delegation_id`, when neither raised -/
def builtPools (ty : DType) (P : List (Pool D)) : Pools D := { ty := ty, byId := P, index := some (indexOf P) }

/-- `hd`: `add_pool` under a name that is already there replaces the pool -/
theorem buildPools_eq (ty : DType) (P : List (Pool D)) (hd : Distinct P) :
    buildPools ty P = if P.all (admitted ty) && P.all validated then .ok (builtPools ty P) else .error .pool := by
  unfold buildPools emptyPools
  rw [addPool_foldlM ty P [] (by simpa using hd)]
  cases P.all (admitted ty)
  · rfl
  · show buildIndex ({ ty := ty, byId := P, index := none } : Pools D) = _
    unfold buildIndex
    dsimp only
    rw [indexStep_foldlM]
    cases P.all validated <;> rfl

theorem poolOk_iff (ops : DetailOps D) (ty : DType) (p : Pool D) :
    PoolOk ops ty p ↔ admitted ty p = true ∧ validated p = true ∧ ∀ x, p.details = some x → ops.kindOf x = ty := by
  rw [validated_iff]
  constructor
  · intro h
    have hd := h.details
    exact ⟨by simp [admitted, h.ty_, h.name], ⟨h.deleg, h.on_, h.for_, fun hx => by rw [hx] at hd; exact hd⟩,
      fun x hx => by rw [hx] at hd; exact hd⟩
  · rintro ⟨h1, ⟨a, b, c, d⟩, h3⟩
    simp only [admitted, Bool.and_eq_true, decide_eq_true_eq] at h1
    refine ⟨h1.1, h1.2, a, b, c, ?_⟩
    cases hx : p.details with
    | none => exact absurd hx d
    | some x => exact h3 x hx

/-- `Family` by evaluation, for concrete pools -/
theorem family_of_checks {ops : DetailOps D} {ty : DType} {P : List (Pool D)} (hd : Distinct P)
    (h : P.all (fun p => admitted ty p && validated p && p.details.all fun x => ops.kindOf x = ty) = true) : Family ops ty P := by
  refine ⟨fun p hp => (poolOk_iff ops ty p).mpr ?_, hd⟩
  have := List.all_eq_true.mp h p hp
  simp only [Bool.and_eq_true, Option.all_eq_true, decide_eq_true_eq] at this
  exact ⟨this.1.1, this.1.2, this.2⟩

theorem Family.all_admitted {ops : DetailOps D} {ty : DType} {P : List (Pool D)} (h : Family ops ty P) : P.all (admitted ty) = true :=
  List.all_eq_true.mpr fun p hp => ((poolOk_iff ops ty p).mp (h.ok p hp)).1

theorem Family.all_validated {ops : DetailOps D} {ty : DType} {P : List (Pool D)} (h : Family ops ty P) : P.all validated = true :=
  List.all_eq_true.mpr fun p hp => ((poolOk_iff ops ty p).mp (h.ok p hp)).2.1

theorem buildPools_family (ops : DetailOps D) (ty : DType) (P : List (Pool D)) (h : Family ops ty P) :
    buildPools ty P = .ok (builtPools ty P) := by
  rw [buildPools_eq ty P h.distinct, h.all_admitted, h.all_validated]
  rfl

theorem buildPools_ty {ty : DType} {P : List (Pool D)} (hd : Distinct P) {ps : Pools D}
    (hb : buildPools ty P = .ok ps) : ps.ty = ty := by
  rw [buildPools_eq ty P hd] at hb
  split at hb <;> cases hb
  rfl

theorem buildIndexS_validated (ps : Pools D) (h : ps.byId.all validated = true) :
    buildIndexS ps = (builtPools ps.ty ps.byId, none) := by
  unfold buildIndexS
  rw [indexGo_validated ps.byId [] h]
  rfl

/-- **`Family` is what the API accepts**, the kind of the details apart (a pool whose details are of the other kind makes
`generate` raise: `generate_rejects_mixed_pool_details`) -/
theorem family_of_buildPools (ops : DetailOps D) (ty : DType) (P : List (Pool D)) (ps : Pools D) (hd : Distinct P)
    (hk : ∀ p ∈ P, ∀ x, p.details = some x → ops.kindOf x = ty) (h : buildPools ty P = .ok ps) : Family ops ty P := by
  rw [buildPools_eq ty P hd] at h
  split at h
  · rename_i hc
    rw [Bool.and_eq_true, List.all_eq_true, List.all_eq_true] at hc
    exact ⟨fun p hp => (poolOk_iff ops ty p).mpr ⟨hc.1 p hp, hc.2 p hp, hk p hp⟩, hd⟩
  · cases h

theorem genPool_entries (ops : DetailOps D) (ty : DType) (p : Pool D) (ret : NodeDelegs D) (h : PoolOk ops ty p) :
    genPool ops ty (p.deleg.getD "") p ret = (entriesOf ty p).foldlM (fun r e => addAt ty e.1 e.2 r) ret := by
  have hdet := h.details
  cases hx : p.details with
  | none => simp [hx] at hdet
  | some x =>
    simp only [hx] at hdet
    cases hon : p.on_ with
    | none => exact absurd hon h.on_
    | some node =>
      have hname := h.name
      simp only [genPool, mkDelegation, hx, setDetails, hdet, hon, entriesOf, defEntry, refEntry, List.foldlM_cons,
        List.foldlM_map, bind, Except.bind, Option.getD]
      simp [hname]

theorem generate_flat (ops : DetailOps D) (ty : DType) (idx : List (String × List (Pool D))) (r : NodeDelegs D)
    (hidx : ∀ kp ∈ filed idx, kp.1 = kp.2.deleg.getD "" ∧ PoolOk ops ty kp.2) :
    idx.foldlM (fun ret e => e.2.foldlM (fun ret p => genPool ops ty e.1 p ret) ret) r
      = (allEntries ty ((filed idx).map (·.2))).foldlM (fun r e => addAt ty e.1 e.2 r) r := by
  rw [allEntries, List.foldlM_flatMap, List.foldlM_map, filed, List.foldlM_flatMap]
  apply List.foldlM_congr
  intro b e he
  rw [List.foldlM_map]
  apply List.foldlM_congr
  intro b' p hp
  obtain ⟨hk, hok⟩ := hidx (e.1, p) (List.mem_flatMap.mpr ⟨e, he, List.mem_map_of_mem hp⟩)
  rw [← genPool_entries ops ty p b' hok, ← hk]

/-- the per-node dictionaries `generate_delegations_by_node_id` returns on `builtPools ty P` when it returns -/
def genOf (ty : DType) (P : List (Pool D)) : NodeDelegs D :=
  putAll ty (allEntries ty ((filed (indexOf P)).map (·.2))) []

theorem filed_indexOf (ty : DType) (P : List (Pool D)) :
    (∀ kp ∈ filed (indexOf P), kp.1 = kp.2.deleg.getD "" ∧ kp.2 ∈ P) ∧
      (allEntries ty ((filed (indexOf P)).map (·.2))).Perm (allEntries ty P) := by
  have h : (filed (indexOf P)).Perm (P.map fun p => (p.deleg.getD "", p)) :=
    List.foldl_perm_snoc filed indexPut _ (fun idx p => filed_indexAdd _ p idx) P []
  refine ⟨fun kp hkp => ?_, List.Perm.flatMap_right _ (by simpa [Function.comp_def] using h.map (·.2))⟩
  obtain ⟨p, hp, rfl⟩ := List.mem_map.mp (h.mem_iff.mp hkp)
  exact ⟨rfl, hp⟩

theorem flat_genOf (ty : DType) (P : List (Pool D)) : (flat (genOf ty P)).Perm (allEntries ty P) :=
  (flat_putAll ty _ []).trans (filed_indexOf ty P).2

theorem genOf_nodes (ty : DType) (P : List (Pool D)) (n : String) :
    n ∈ (genOf ty P).map (·.1) ↔ n ∈ (allEntries ty P).map (·.1) := by
  rw [genOf, mem_putAll_keys, List.map_nil]
  simp only [List.not_mem_nil, false_or]
  exact ((filed_indexOf ty P).2.map _).mem_iff

theorem genOf_node_pool (ops : DetailOps D) (ty : DType) (P : List (Pool D)) (hF : Family ops ty P) :
    ∀ b ∈ genOf ty P, ∃ p ∈ P, some b.1 = p.on_ ∨ b.1 ∈ p.for_ := by
  intro b hb
  obtain ⟨e, he, heb⟩ := List.mem_map.mp ((genOf_nodes ty P b.1).mp (List.mem_map_of_mem hb))
  obtain ⟨p, hp, hep⟩ := mem_allEntries.mp he
  refine ⟨p, hp, ?_⟩
  rw [← heb]
  obtain rfl | ⟨n, hn, rfl⟩ := mem_entriesOf.mp hep
  · exact Or.inl (Option.getD_of_ne_none (hF.ok p hp).on_ _)
  · exact Or.inr hn

/-- `generate` walks the index, and the filings of the index are the pools of `P` each under its own delegation id (`filed_indexOf`),
so the loop is the insertion loop `addAt` over a permutation of `allEntries ty P` (`generate_flat`), which `addAt_foldlM` decides -/
theorem generate_eq (ops : DetailOps D) (ty : DType) (P : List (Pool D)) (hF : Family ops ty P) :
    generate ops (builtPools ty P) = (if NoClash P then .ok (genOf ty P) else .error .delegation) ∧
      (NoClash P → RInv ty (genOf ty P)) := by
  obtain ⟨hidx, hperm⟩ := filed_indexOf ty P
  have := addAt_foldlM ty (allEntries ty ((filed (indexOf P)).map (·.2))) [] (rinv_nil ty)
    fun e he => let ⟨p, _, hp⟩ := mem_allEntries.mp he; (entriesOf_fields hp).2.2.1
  rw [show flat ([] : NodeDelegs D) = [] from rfl, List.nil_append] at this
  simp only [nodup_keys_iff hperm] at this
  refine ⟨?_, this.2⟩
  show (indexOf P).foldlM (fun ret e => e.2.foldlM (fun ret p => genPool ops ty e.1 p ret) ret) [] = _
  rw [generate_flat ops ty _ [] fun kp hkp => ⟨(hidx kp hkp).1, hF.ok _ (hidx kp hkp).2⟩]
  exact this.1

theorem generate_family (ops : DetailOps D) (ty : DType) (P : List (Pool D)) (hF : Family ops ty P) (hN : NoClash P) :
    generate ops (builtPools ty P) = .ok (genOf ty P) ∧ RInv ty (genOf ty P) ∧ (flat (genOf ty P)).Perm (allEntries ty P) :=
  ⟨by rw [(generate_eq ops ty P hF).1, if_pos hN], (generate_eq ops ty P hF).2 hN, flat_genOf ty P⟩

/-- a pool whose details are of the other kind never turns into delegations: `generate` raises whenever the index holds one -/
theorem generate_rejects_mixed_pool_details (ops : DetailOps D) (ps : Pools D) (idx : List (String × List (Pool D)))
    (hidx : ps.index = some idx) (e : String × List (Pool D)) (he : e ∈ idx) (p : Pool D) (hp : p ∈ e.2) (x : D)
    (hx : p.details = some x) (hk : ops.kindOf x ≠ ps.ty) : ∃ err, generate ops ps = .error err := by
  cases hg : generate ops ps with
  | error err => exact ⟨err, rfl⟩
  | ok R =>
    -- had `generate` returned, so had the loop over `e.2`, and in it the step for `p`
    unfold generate at hg
    rw [hidx] at hg
    obtain ⟨ret, ret', h1⟩ := List.foldlM_ok_all hg e he
    obtain ⟨ret, ret', h2⟩ := List.foldlM_ok_all h1 p hp
    unfold genPool at h2
    cases hm : (mkDelegation ps.ty e.1 .definition (some p.pid) : Except Err (Delegation D)) with
    | error err => simp [hm, bind, Except.bind] at h2
    | ok pd =>
      obtain ⟨rfl, _⟩ := mkDelegation_ok hm
      simp [hm, hx, setDetails, hk, bind, Except.bind] at h2

end FimVerif.C12
