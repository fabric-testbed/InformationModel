import FimVerif.Proofs.Lemmas.C13Basic
import FimVerif.Proofs.Lemmas.ListAux
/-! Adjacency and the two-hop query `firstSecond`; the link loop `linkClose` (it only adds, every pair comes from a kept connection
point, and run to the fixed point it is closed: `linkClose_closed`, with `unseen` as the measure); what the keep set contains and
is closed under. -/
namespace FimVerif.Arm

/-- `y` is a neighbour of `x` over an edge of relation `r` -/
def G.adj (g : G) (x y r : String) : Prop := (y, r) ∈ g.nbrs x

theorem G.adj_iff {g : G} {x y r : String} :
    g.adj x y r ↔ ∃ e ∈ g.edges, e.rel = r ∧ ((e.a = x ∧ e.b = y) ∨ (e.b = x ∧ e.a = y)) := by
  unfold G.adj G.nbrs
  rw [List.mem_filterMap]
  refine exists_congr fun e => and_congr_right fun _ => ?_
  -- which ends of `e` are `x`: an edge at `x` contributes its other end; a loop at `x` satisfies both alternatives alike
  by_cases h1 : e.a = x <;> by_cases h2 : e.b = x <;> simp [h1, h2, and_comm]

theorem G.adj_of_edge {g : G} {e : Edge} (he : e ∈ g.edges) :
    g.adj e.a e.b e.rel ∧ g.adj e.b e.a e.rel := by
  constructor
  · exact G.adj_iff.2 ⟨e, he, rfl, Or.inl ⟨rfl, rfl⟩⟩
  · exact G.adj_iff.2 ⟨e, he, rfl, Or.inr ⟨rfl, rfl⟩⟩

theorem G.adj_symm {g : G} {x y r : String} (h : g.adj x y r) : g.adj y x r := by
  rw [G.adj_iff] at h ⊢
  rcases h with ⟨e, he, hr, h | h⟩
  · exact ⟨e, he, hr, Or.inr ⟨h.2, h.1⟩⟩
  · exact ⟨e, he, hr, Or.inl ⟨h.2, h.1⟩⟩

theorem mem_firstHop {g : G} {x n : String} {t : Trace} :
    n ∈ firstHop g x t ↔ g.adj x n t.rel1 ∧ g.hasCls n t.l1 = true := by
  simp [firstHop, G.adj]

theorem not_mem_dropList {dropsK : Bool} {g : G} {n k : String} {t : Trace}
    (hkn : k ≠ n) (hsimple : ∀ r, g.adj n k r → r = t.rel2) : k ∉ dropList dropsK g n t := by
  unfold dropList
  split
  · simp only [List.mem_map, List.mem_filter]
    rintro ⟨⟨k', r⟩, ⟨hm, hr⟩, rfl⟩
    simp [hsimple r hm] at hr
  · split <;> simp [hkn]

theorem mem_secondHop_of {dropsK : Bool} {g : G} {x n k : String} {t : Trace}
    (h2 : g.adj n k t.rel2) (hl2 : g.hasCls k t.l2 = true) (hkx : k ≠ x) (hkn : k ≠ n)
    (hsimple : ∀ r, g.adj n k r → r = t.rel2) : k ∈ secondHop dropsK g x n t := by
  unfold secondHop
  simp only [List.mem_filter, List.mem_map]
  refine ⟨⟨⟨⟨(k, t.rel2), h2, rfl⟩, ?_⟩, hl2⟩, by simpa using hkx⟩
  have := not_mem_dropList (dropsK := dropsK) hkn hsimple
  simpa using this

theorem secondHop_sound {dropsK : Bool} {g : G} {x n k : String} {t : Trace}
    (h : k ∈ secondHop dropsK g x n t) : (∃ r, g.adj n k r) ∧ g.hasCls k t.l2 = true ∧ k ≠ x := by
  unfold secondHop at h
  simp only [List.mem_filter, List.mem_map] at h
  rcases h with ⟨⟨⟨⟨⟨a, r⟩, hm, rfl⟩, _⟩, hl2⟩, hne⟩
  exact ⟨⟨r, hm⟩, hl2, by simpa using hne⟩

theorem mem_firstSecond {dropsK : Bool} {g : G} {x n k : String} {t : Trace} :
    (n, k) ∈ firstSecond dropsK g x t ↔ n ∈ firstHop g x t ∧ k ∈ secondHop dropsK g x n t := by
  unfold firstSecond
  simp only [List.mem_flatMap, List.mem_map, Prod.mk.injEq]
  constructor
  · rintro ⟨n', hn, k', hk, rfl, rfl⟩; exact ⟨hn, hk⟩
  · rintro ⟨hn, hk⟩; exact ⟨n, hn, k, hk, rfl, rfl⟩

theorem mem_firstSecond_of {dropsK : Bool} {g : G} {x n k : String} {t : Trace}
    (h1 : g.adj x n t.rel1) (hl1 : g.hasCls n t.l1 = true)
    (h2 : g.adj n k t.rel2) (hl2 : g.hasCls k t.l2 = true) (hkx : k ≠ x) (hkn : k ≠ n)
    (hsimple : ∀ r, g.adj n k r → r = t.rel2) :
    (n, k) ∈ firstSecond dropsK g x t :=
  mem_firstSecond.2 ⟨mem_firstHop.2 ⟨h1, hl1⟩, mem_secondHop_of h2 hl2 hkx hkn hsimple⟩

theorem mem_pairIds {ps : List (String × String)} {x : String} :
    x ∈ pairIds ps ↔ ∃ p ∈ ps, x = p.1 ∨ x = p.2 := by
  unfold pairIds; simp

theorem hasCls_mem_ids {g : G} {x c : String} (h : g.hasCls x c = true) : x ∈ g.ids := by
  unfold G.hasCls G.clsOf at h
  cases hf : g.nodes.find? (fun n => n.id == x) with
  | none => simp [hf] at h
  | some n =>
    have h1 := List.find?_some hf
    have h2 := List.mem_of_find?_eq_some hf
    have : n.id = x := by simpa using h1
    exact List.mem_map.2 ⟨n, h2, this⟩

theorem hasCls_unique {g : G} {x c c' : String} (h : g.hasCls x c = true) (h' : g.hasCls x c' = true) : c = c' :=
  Option.some.inj ((eq_of_beq h).symm.trans (eq_of_beq h'))

theorem mem_keepSet {cfg : Cfg} {g : G} {d x : String} :
    x ∈ keepSet cfg g d ↔ x ∈ keep0 cfg g d ∨ (∃ p ∈ linkPairs cfg g d, x = p.1 ∨ x = p.2) ∨
      (∃ p ∈ ownerPairs cfg g d, x = p.1 ∨ x = p.2) := by
  unfold keepSet
  simp only [List.mem_append, mem_pairIds, or_assoc]

theorem linkPairs_sub_keepSet {cfg : Cfg} {g : G} {d : String} {p : String × String}
    (h : p ∈ linkPairs cfg g d) : p.1 ∈ keepSet cfg g d ∧ p.2 ∈ keepSet cfg g d :=
  ⟨mem_keepSet.2 (.inr (.inl ⟨p, h, .inl rfl⟩)), mem_keepSet.2 (.inr (.inl ⟨p, h, .inr rfl⟩))⟩

theorem ownerPairs_sub_keepSet {cfg : Cfg} {g : G} {d : String} {p : String × String}
    (h : p ∈ ownerPairs cfg g d) : p.1 ∈ keepSet cfg g d ∧ p.2 ∈ keepSet cfg g d :=
  ⟨mem_keepSet.2 (.inr (.inr ⟨p, h, .inl rfl⟩)), mem_keepSet.2 (.inr (.inr ⟨p, h, .inr rfl⟩))⟩

theorem mem_linkStep {cfg : Cfg} {g : G} {front : List String} {p : String × String} :
    p ∈ linkStep cfg g front ↔ ∃ c ∈ front, ∃ t ∈ cfg.linkTraces, p ∈ firstSecond cfg.dropsK g c t := by
  unfold linkStep; simp

theorem mem_ownerStep {cfg : Cfg} {g : G} {cps : List String} {p : String × String} :
    p ∈ ownerStep cfg g cps ↔ ∃ c ∈ cps, ∃ t ∈ cfg.ownerTraces, p ∈ firstSecond cfg.dropsK g c t := by
  unfold ownerStep; simp

theorem mem_newCps {cfg : Cfg} {g : G} {seen front : List String} {c : String} :
    c ∈ newCps cfg g seen front ↔ (∃ p ∈ linkStep cfg g front, p.2 = c) ∧ c ∉ seen := by
  unfold newCps
  simp only [List.mem_filter, List.mem_eraseDups, List.mem_map, Bool.not_eq_true', List.contains_eq_mem,
    decide_eq_false_iff_not]

theorem firstSecond_cls {dropsK : Bool} {g : G} {x : String} {t : Trace} {p : String × String}
    (h : p ∈ firstSecond dropsK g x t) : g.hasCls p.1 t.l1 = true ∧ g.hasCls p.2 t.l2 = true := by
  obtain ⟨n, k⟩ := p
  exact ⟨(mem_firstHop.1 (mem_firstSecond.1 h).1).2, (secondHop_sound (mem_firstSecond.1 h).2).2.1⟩

theorem linkClose_zero (cfg : Cfg) (g : G) (seen front : List String) (acc : List (String × String)) :
    linkClose cfg g 0 seen front acc = (acc, seen) := rfl

theorem linkClose_nil (cfg : Cfg) (g : G) (fuel : Nat) (seen : List String) (acc : List (String × String)) :
    linkClose cfg g fuel seen [] acc = (acc, seen) := by
  cases fuel <;> simp [linkClose]

theorem linkClose_succ (cfg : Cfg) (g : G) (fuel : Nat) (seen front : List String) (acc : List (String × String))
    (h : front ≠ []) :
    linkClose cfg g (fuel + 1) seen front acc =
      linkClose cfg g fuel (seen ++ newCps cfg g seen front) (newCps cfg g seen front) (acc ++ linkStep cfg g front) := by
  have : front.isEmpty = false := by cases front <;> simp_all
  simp [linkClose, this]

theorem linkClose_mono (cfg : Cfg) (g : G) (fuel : Nat) (seen front : List String) (acc : List (String × String)) :
    (∀ c ∈ seen, c ∈ (linkClose cfg g fuel seen front acc).2) ∧ (∀ p ∈ acc, p ∈ (linkClose cfg g fuel seen front acc).1) := by
  fun_induction linkClose cfg g fuel seen front acc
  next => exact ⟨fun _ h => h, fun _ h => h⟩
  next => exact ⟨fun _ h => h, fun _ h => h⟩
  next ih => exact ⟨fun c h => ih.1 c (List.mem_append_left _ h), fun p h => ih.2 p (List.mem_append_left _ h)⟩

theorem linkClose_sound (cfg : Cfg) (g : G) (fuel : Nat) (seen front : List String) (acc : List (String × String))
    (hfs : ∀ c ∈ front, c ∈ seen) :
    ∀ p ∈ (linkClose cfg g fuel seen front acc).1,
      p ∈ acc ∨ ∃ c ∈ (linkClose cfg g fuel seen front acc).2, ∃ t ∈ cfg.linkTraces, p ∈ firstSecond cfg.dropsK g c t := by
  fun_induction linkClose cfg g fuel seen front acc
  next => exact fun p hp => .inl hp
  next => exact fun p hp => .inl hp
  next fuel seen front acc _ ih =>
    intro p hp
    rcases ih (fun c h => List.mem_append_right _ h) p hp with h | h
    · rcases List.mem_append.1 h with h | h
      · exact .inl h
      · obtain ⟨c, hc, t, ht, hfs'⟩ := mem_linkStep.1 h
        exact .inr ⟨c, (linkClose_mono cfg g fuel _ _ _).1 c (List.mem_append_left _ (hfs c hc)), t, ht, hfs'⟩
    · exact .inr h

theorem linkClose_snd (cfg : Cfg) (g : G) (fuel : Nat) (seen front : List String) (acc : List (String × String))
    (hacc : ∀ p ∈ acc, p.2 ∈ seen) :
    ∀ p ∈ (linkClose cfg g fuel seen front acc).1, p.2 ∈ (linkClose cfg g fuel seen front acc).2 := by
  fun_induction linkClose cfg g fuel seen front acc
  next => exact hacc
  next => exact hacc
  next fuel seen front acc _ ih =>
    refine ih fun p hp => ?_
    rcases List.mem_append.1 hp with h | h
    · exact List.mem_append_left _ (hacc p h)
    · by_cases hs : p.2 ∈ seen
      · exact List.mem_append_left _ hs
      · exact List.mem_append_right _ (mem_newCps.2 ⟨⟨p, h, rfl⟩, hs⟩)

theorem linkClose_first (cfg : Cfg) (g : G) (fuel : Nat) (seen front : List String) (acc : List (String × String))
    (hf : fuel ≠ 0) : ∀ p ∈ linkStep cfg g front, p ∈ (linkClose cfg g fuel seen front acc).1 := by
  obtain ⟨fuel, rfl⟩ := Nat.exists_eq_succ_of_ne_zero hf
  intro p hp
  by_cases hf : front = []
  · subst hf; simp [linkStep] at hp
  · rw [linkClose_succ _ _ _ _ _ _ hf]
    exact (linkClose_mono cfg g fuel _ _ _).2 p (List.mem_append.2 (Or.inr hp))

def LinkNext (cfg : Cfg) (g : G) (a b : String) : Prop :=
  ∃ t ∈ cfg.linkTraces, ∃ n, (n, b) ∈ firstSecond cfg.dropsK g a t

/-- `b` is reached from `a` by following link traces from connection point to connection point -/
inductive LinkReach (cfg : Cfg) (g : G) : String → String → Prop
  | refl (a : String) : LinkReach cfg g a a
  | step {a b c : String} : LinkReach cfg g a b → LinkNext cfg g b c → LinkReach cfg g a c

theorem LinkReach.head {cfg : Cfg} {g : G} {a b c : String} (h1 : LinkNext cfg g a b) (h2 : LinkReach cfg g b c) :
    LinkReach cfg g a c := by
  induction h2 with
  | refl => exact .step (.refl a) h1
  | step _ hn ih => exact .step ih hn

theorem linkClose_reach (cfg : Cfg) (g : G) (fuel : Nat) (seen front : List String) (acc : List (String × String))
    (hfs : ∀ c ∈ front, c ∈ seen) :
    ∀ c ∈ (linkClose cfg g fuel seen front acc).2, ∃ c0 ∈ seen, LinkReach cfg g c0 c := by
  fun_induction linkClose cfg g fuel seen front acc
  next => exact fun c hc => ⟨c, hc, .refl c⟩
  next => exact fun c hc => ⟨c, hc, .refl c⟩
  next fuel seen front acc _ ih =>
    intro c hc
    obtain ⟨c0, hc0, hr⟩ := ih (fun c h => List.mem_append_right _ h) c hc
    rcases List.mem_append.1 hc0 with h | h
    · exact ⟨c0, h, hr⟩
    · obtain ⟨⟨n, k⟩, hp, rfl⟩ := (mem_newCps.1 h).1
      obtain ⟨c1, hc1, t, ht, hfs'⟩ := mem_linkStep.1 hp
      exact ⟨c1, hfs c1 hc1, LinkReach.head ⟨t, ht, n, hfs'⟩ hr⟩

/-- the measure that bounds the number of passes of `linkClose`: nodes of the graph not yet among the kept connection points -/
def unseen (g : G) (seen : List String) : Nat := (g.ids.filter (fun x => !seen.contains x)).length

theorem filter_length_lt {α : Type} {l : List α} {p q : α → Bool} (hpq : ∀ x, q x = true → p x = true)
    {a : α} (ha : a ∈ l) (hp : p a = true) (hq : q a = false) : (l.filter q).length < (l.filter p).length := by
  rw [← List.filter_filter_of_imp q p l fun x _ => hpq x]
  exact List.length_filter_lt_length_iff_exists.2 ⟨a, List.mem_filter.2 ⟨ha, hp⟩, by simp [hq]⟩

theorem unseen_lt {cfg : Cfg} {g : G} {seen front : List String} (h : newCps cfg g seen front ≠ []) :
    unseen g (seen ++ newCps cfg g seen front) < unseen g seen := by
  cases hn : newCps cfg g seen front with
  | nil => exact absurd hn h
  | cons a rest =>
    have ha : a ∈ newCps cfg g seen front := by rw [hn]; exact List.mem_cons_self ..
    rcases mem_newCps.1 ha with ⟨⟨p, hp, hpa⟩, hns⟩
    rcases mem_linkStep.1 hp with ⟨c, _, t, _, hfs⟩
    have hid : a ∈ g.ids := hpa ▸ hasCls_mem_ids (firstSecond_cls hfs).2
    rw [← hn]
    unfold unseen
    apply filter_length_lt (a := a) _ hid
    · simpa using hns
    · simp [ha]
    · intro x hx
      simp only [Bool.not_eq_true', List.contains_eq_mem, decide_eq_false_iff_not, List.mem_append, not_or] at hx ⊢
      exact hx.1

theorem unseen_le (g : G) (seen : List String) : unseen g seen ≤ g.nodes.length := by
  unfold unseen G.ids
  exact Nat.le_trans (List.length_filter_le _ _) (by simp)

theorem linkStep_single_sub {cfg : Cfg} {g : G} {front : List String} {c : String} (hc : c ∈ front) :
    ∀ p ∈ linkStep cfg g [c], p ∈ linkStep cfg g front := by
  intro p hp
  rcases mem_linkStep.1 hp with ⟨c', hc', t, ht, h⟩
  simp only [List.mem_cons, List.not_mem_nil, or_false] at hc'
  subst hc'
  exact mem_linkStep.2 ⟨c', hc, t, ht, h⟩

/-- the link loop run to its regular exit is closed.  `hinv` is the loop invariant (a connection point seen is still to be traced
or has had all its pairs found); each pass that finds something moves a graph node out of `unseen`, so fuel above `unseen`
reaches the exit. -/
theorem linkClose_closed (cfg : Cfg) (g : G) (fuel : Nat) (seen front : List String) (acc : List (String × String))
    (hfs : ∀ c ∈ front, c ∈ seen)
    (hinv : ∀ c ∈ seen, c ∈ front ∨ ∀ p ∈ linkStep cfg g [c], p ∈ acc)
    (hfuel : unseen g seen < fuel) :
    ∀ c ∈ (linkClose cfg g fuel seen front acc).2, ∀ p ∈ linkStep cfg g [c], p ∈ (linkClose cfg g fuel seen front acc).1 := by
  fun_induction linkClose cfg g fuel seen front acc
  next => exact absurd hfuel (Nat.not_lt_zero _)
  next seen front acc hf =>
    intro c hc
    rcases hinv c hc with h | h
    · rw [List.isEmpty_iff.1 hf] at h; cases h
    · exact h
  next fuel seen front acc _ ih =>
    have hinv' : ∀ c ∈ seen ++ newCps cfg g seen front, c ∈ newCps cfg g seen front ∨
        ∀ p ∈ linkStep cfg g [c], p ∈ acc ++ linkStep cfg g front := by
      intro c hc
      rcases List.mem_append.1 hc with h | h
      · rcases hinv c h with h' | h'
        · exact .inr fun p hp => List.mem_append_right _ (linkStep_single_sub h' p hp)
        · exact .inr fun p hp => List.mem_append_left _ (h' p hp)
      · exact .inl h
    by_cases hn : newCps cfg g seen front = []
    · -- nothing new: the next pass is the regular exit, whatever fuel is left
      rw [hn, linkClose_nil]
      intro c hc
      rw [hn] at hinv'
      rcases hinv' c hc with h | h
      · cases h
      · exact h
    · exact ih (fun c h => List.mem_append_right _ h) hinv' (by have := unseen_lt (g := g) hn; omega)

theorem mem_ownerPairs {cfg : Cfg} {g : G} {d : String} {p : String × String} :
    p ∈ ownerPairs cfg g d ↔ ∃ c ∈ keepCps2 cfg g d, ∃ t ∈ cfg.ownerTraces, p ∈ firstSecond cfg.dropsK g c t := by
  unfold ownerPairs; exact mem_ownerStep

theorem mem_keepCps {cfg : Cfg} {g : G} {d c : String} :
    c ∈ keepCps cfg g d ↔ c ∈ keep0 cfg g d ∧ g.hasCls c cfg.cpClass = true := by
  unfold keepCps; simp

theorem keepCps_sub_keepCps2 {cfg : Cfg} {g : G} {d c : String} (h : c ∈ keepCps cfg g d) : c ∈ keepCps2 cfg g d :=
  (linkClose_mono cfg g _ _ _ _).1 c h

theorem linkPairs_sound {cfg : Cfg} {g : G} {d : String} {p : String × String} (h : p ∈ linkPairs cfg g d) :
    ∃ c ∈ keepCps2 cfg g d, ∃ t ∈ cfg.linkTraces, p ∈ firstSecond cfg.dropsK g c t :=
  (linkClose_sound cfg g _ _ _ _ (fun _ h => h) p h).resolve_left List.not_mem_nil

theorem linkPairs_snd {cfg : Cfg} {g : G} {d : String} {p : String × String} (h : p ∈ linkPairs cfg g d) :
    p.2 ∈ keepCps2 cfg g d :=
  linkClose_snd cfg g _ _ _ _ (fun p h => by cases h) p h

theorem linkPairs_of_keepCps {cfg : Cfg} {g : G} {d c : String} {t : Trace} {p : String × String}
    (hr : cfg.linkRounds ≠ some 0) (hc : c ∈ keepCps cfg g d) (ht : t ∈ cfg.linkTraces)
    (hp : p ∈ firstSecond cfg.dropsK g c t) : p ∈ linkPairs cfg g d := by
  refine linkClose_first cfg g _ _ _ _ ?_ p (mem_linkStep.2 ⟨c, hc, t, ht, hp⟩)
  unfold linkFuel
  split
  · next h => exact fun e => hr (e ▸ h)
  · exact Nat.succ_ne_zero _

theorem linkPairs_of_keepCps2 {cfg : Cfg} {g : G} {d c : String} {t : Trace} {p : String × String}
    (hr : cfg.linkRounds = none) (hc : c ∈ keepCps2 cfg g d) (ht : t ∈ cfg.linkTraces)
    (hp : p ∈ firstSecond cfg.dropsK g c t) : p ∈ linkPairs cfg g d := by
  have hfuel : unseen g (keepCps cfg g d) < linkFuel cfg g := by
    unfold linkFuel; rw [hr]; exact Nat.lt_succ_of_le (unseen_le g _)
  exact linkClose_closed cfg g _ _ _ _ (fun c h => h) (fun c h => Or.inl h) hfuel c hc p
    (mem_linkStep.2 ⟨c, List.mem_singleton.2 rfl, t, ht, hp⟩)

theorem keepCps2_reach {cfg : Cfg} {g : G} {d c : String} (h : c ∈ keepCps2 cfg g d) :
    ∃ c0 ∈ keepCps cfg g d, LinkReach cfg g c0 c :=
  linkClose_reach cfg g _ _ _ _ (fun _ h => h) c h

theorem reach_keepCps2 {cfg : Cfg} {g : G} {d c0 c : String} (hr : cfg.linkRounds = none)
    (h0 : c0 ∈ keepCps2 cfg g d) (h : LinkReach cfg g c0 c) : c ∈ keepCps2 cfg g d := by
  induction h with
  | refl => exact h0
  | step _ hn ih =>
    rcases hn with ⟨t, ht, n, hp⟩
    exact linkPairs_snd (linkPairs_of_keepCps2 hr ih ht hp)

/-- a definite connection point keeps every link and the far ends, for any number of passes but 0 (`closure_link_any`: every kept
connection point, when the loop runs to the fixed point) -/
theorem closure_link {cfg : Cfg} {g : G} {d c L p : String} {t : Trace} (hr : cfg.linkRounds ≠ some 0)
    (hc : c ∈ keep0 cfg g d) (hcp : g.hasCls c cfg.cpClass = true) (ht : t ∈ cfg.linkTraces)
    (h1 : g.adj c L t.rel1) (hL : g.hasCls L t.l1 = true) (h2 : g.adj L p t.rel2) (hp : g.hasCls p t.l2 = true)
    (hpc : p ≠ c) (hpL : p ≠ L) (hsimple : ∀ r, g.adj L p r → r = t.rel2) :
    L ∈ keepSet cfg g d ∧ p ∈ keepSet cfg g d ∧ p ∈ keepCps2 cfg g d := by
  have hm : (L, p) ∈ linkPairs cfg g d :=
    linkPairs_of_keepCps hr (mem_keepCps.2 ⟨hc, hcp⟩) ht (mem_firstSecond_of h1 hL h2 hp hpc hpL hsimple)
  have := linkPairs_sub_keepSet hm
  exact ⟨this.1, this.2, linkPairs_snd hm⟩

theorem keepSet_cases {cfg : Cfg} {g : G} {d x : String} (h : x ∈ keepSet cfg g d) : x ∈ keep0 cfg g d ∨
    ∃ c ∈ keepCps2 cfg g d, ∃ t p, p ∈ firstSecond cfg.dropsK g c t ∧ (x = p.1 ∨ x = p.2) ∧
      (t ∈ cfg.linkTraces ∧ p.2 ∈ keepCps2 cfg g d ∨ t ∈ cfg.ownerTraces) := by
  rcases mem_keepSet.1 h with h | ⟨p, hp, hx⟩ | ⟨p, hp, hx⟩
  · exact .inl h
  · obtain ⟨c, hc, t, ht, hfs⟩ := linkPairs_sound hp
    exact .inr ⟨c, hc, t, p, hfs, hx, .inl ⟨ht, linkPairs_snd hp⟩⟩
  · obtain ⟨c, hc, t, ht, hfs⟩ := mem_ownerPairs.1 hp
    exact .inr ⟨c, hc, t, p, hfs, hx, .inr ht⟩

theorem kept_cp_mem_keepCps2 {cfg : Cfg} {g : G} {d c : String}
    (hlt : ∀ t ∈ cfg.linkTraces, t.l1 ≠ cfg.cpClass)
    (hot : ∀ t ∈ cfg.ownerTraces, t.l1 ≠ cfg.cpClass ∧ t.l2 ≠ cfg.cpClass)
    (hc : c ∈ keepSet cfg g d) (hcp : g.hasCls c cfg.cpClass = true) : c ∈ keepCps2 cfg g d := by
  rcases keepSet_cases hc with hc | ⟨c0, _, t, ⟨n, k⟩, hfs, rfl | rfl, ht⟩
  · exact keepCps_sub_keepCps2 (mem_keepCps.2 ⟨hc, hcp⟩)
  · have h1 := hasCls_unique (firstSecond_cls hfs).1 hcp
    rcases ht with ⟨ht, _⟩ | ht
    · exact absurd h1 (hlt t ht)
    · exact absurd h1 (hot t ht).1
  · rcases ht with ⟨_, hk⟩ | ht
    · exact hk
    · exact absurd (hasCls_unique (firstSecond_cls hfs).2 hcp) (hot t ht).2

theorem closure_owner {cfg : Cfg} {g : G} {d c S o : String} {t : Trace}
    (hc : c ∈ keepCps2 cfg g d) (ht : t ∈ cfg.ownerTraces)
    (h1 : g.adj c S t.rel1) (hS : g.hasCls S t.l1 = true) (h2 : g.adj S o t.rel2) (ho : g.hasCls o t.l2 = true)
    (hoc : o ≠ c) (hoS : o ≠ S) (hsimple : ∀ r, g.adj S o r → r = t.rel2) :
    S ∈ keepSet cfg g d ∧ o ∈ keepSet cfg g d :=
  ownerPairs_sub_keepSet (p := (S, o))
    (mem_ownerPairs.2 ⟨c, hc, t, ht, mem_firstSecond_of h1 hS h2 ho hoc hoS hsimple⟩)

theorem closure_link_any {cfg : Cfg} {g : G} {d c L p : String} {t : Trace} (hr : cfg.linkRounds = none)
    (hlt : ∀ t ∈ cfg.linkTraces, t.l1 ≠ cfg.cpClass)
    (hot : ∀ t ∈ cfg.ownerTraces, t.l1 ≠ cfg.cpClass ∧ t.l2 ≠ cfg.cpClass)
    (hc : c ∈ keepSet cfg g d) (hcp : g.hasCls c cfg.cpClass = true) (ht : t ∈ cfg.linkTraces)
    (h1 : g.adj c L t.rel1) (hL : g.hasCls L t.l1 = true) (h2 : g.adj L p t.rel2) (hp : g.hasCls p t.l2 = true)
    (hpc : p ≠ c) (hpL : p ≠ L) (hsimple : ∀ r, g.adj L p r → r = t.rel2) :
    L ∈ keepSet cfg g d ∧ p ∈ keepSet cfg g d := by
  have hk := kept_cp_mem_keepCps2 hlt hot hc hcp
  exact linkPairs_sub_keepSet (p := (L, p))
    (linkPairs_of_keepCps2 hr hk ht (mem_firstSecond_of h1 hL h2 hp hpc hpL hsimple))

theorem keepSet_sub_ids {cfg : Cfg} {g : G} {d x : String} (h : x ∈ keepSet cfg g d) : x ∈ g.ids := by
  rcases keepSet_cases h with h | ⟨_, _, _, p, hfs, rfl | rfl, _⟩
  · rcases List.mem_append.1 h with h | h <;> exact (List.filter_sublist.map _).subset h
  · exact hasCls_mem_ids (firstSecond_cls hfs).1
  · exact hasCls_mem_ids (firstSecond_cls hfs).2

theorem mem_genAdm_ids {cfg : Cfg} {g : G} {d x : String} : x ∈ (genAdm cfg g d).ids ↔ x ∈ keepSet cfg g d := by
  rw [genAdm_ids, List.mem_filter, decide_eq_true_eq]
  exact ⟨And.right, fun h => ⟨keepSet_sub_ids h, h⟩⟩

end FimVerif.Arm
