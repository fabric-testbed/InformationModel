import FimVerif.Model.Sched
/-! Invariant of the interleaving model.  The transitions of the discipline monitor that do not end in `bad` are written out once as
the relation `Step` (`Step.of_ne_bad`, `Step.eq`); `QInv.step`, on which `Inv.step` rests, is by cases on `Step`, and `discStep` is
computed otherwise only at one fixed instruction (`QInv.release`, the `*_bad` lemmas) or at the state `bad` (`runQ_bad`). -/
namespace FimVerif.Sched
open FimVerif.Lock

def keys (l : List Node) : List (Nat × Nat) := l.map Node.key

/-- the sequential invariant of a store: live ids are distinct and below the counter of their space -/
def IdsOk (sh : Shared) : Prop := (keys sh.nodes).Nodup ∧ ∀ n ∈ sh.nodes, n.id < sh.ctr n.space

/-- `IdsOk` with the counter of id space `c` replaced by the bound `b`: what holds inside a locked region between the write of the
counter of `c` and the insertion of the nodes (in either order), or while `c` is rebuilt from scratch -/
structure Bnd (sh : Shared) (c b : Nat) : Prop where
  nodup : (keys sh.nodes).Nodup
  own : ∀ n ∈ sh.nodes, n.space = c → n.id < b
  oth : ∀ n ∈ sh.nodes, n.space ≠ c → n.id < sh.ctr n.space

theorem IdsOk.bnd {sh : Shared} (h : IdsOk sh) (c : Nat) : Bnd sh c (sh.ctr c) :=
  ⟨h.1, fun n hn hc => hc ▸ h.2 n hn, fun n hn _ => h.2 n hn⟩

theorem Bnd.idsOk {sh : Shared} {c b : Nat} (h : Bnd sh c b) (hb : b ≤ sh.ctr c) : IdsOk sh :=
  ⟨h.nodup, fun n hn => by
    by_cases hc : n.space = c
    · have := h.own n hn hc; rw [hc]; omega
    · exact h.oth n hn hc⟩

theorem Bnd.sublist {sh : Shared} {c b : Nat} {l : List Node} (h : Bnd sh c b) (hl : l.Sublist sh.nodes) :
    Bnd { sh with nodes := l } c b :=
  ⟨h.nodup.sublist (hl.map _), fun n hn => h.own n (hl.subset hn), fun n hn => h.oth n (hl.subset hn)⟩

theorem IdsOk.sublist {sh : Shared} {l : List Node} (h : IdsOk sh) (hl : l.Sublist sh.nodes) : IdsOk { sh with nodes := l } :=
  ((h.bnd 0).sublist hl).idsOk (Nat.le_refl _)

theorem Bnd.cons {sh : Shared} {c b lo : Nat} (g : Nat) (h : Bnd sh c b) (hlo : b ≤ lo) :
    Bnd { sh with nodes := ⟨c, lo, g⟩ :: sh.nodes } c (lo + 1) where
  nodup := List.nodup_cons.mpr ⟨fun hm => by
    obtain ⟨n, hn, hk⟩ := List.mem_map.mp hm
    simp only [Node.key, Prod.mk.injEq] at hk
    have := h.own n hn hk.1
    omega, h.nodup⟩
  own n hn hc := by
    rcases List.mem_cons.mp hn with rfl | hn
    · exact Nat.lt_succ_self _
    · exact Nat.lt_succ_of_lt (Nat.lt_of_lt_of_le (h.own n hn hc) hlo)
  oth n hn hc := by
    rcases List.mem_cons.mp hn with rfl | hn
    · exact absurd rfl hc
    · exact h.oth n hn hc

theorem Bnd.addIds {sh : Shared} {c b : Nat} (g lo k : Nat) (h : Bnd sh c b) (hlo : b ≤ lo) :
    Bnd { sh with nodes := addIds c g lo k sh.nodes } c (lo + k) := by
  induction k generalizing sh b lo with
  | zero => exact ⟨h.nodup, fun n hn hc => Nat.lt_of_lt_of_le (h.own n hn hc) hlo, h.oth⟩
  | succ k ih => exact Nat.add_right_comm lo 1 k ▸ ih (lo + 1) (h.cons g hlo) (Nat.le_refl _)

theorem Bnd.setCtr {sh : Shared} {c b : Nat} (h : Bnd sh c b) (v : Nat) : Bnd { sh with ctr := upd sh.ctr c v } c b :=
  ⟨h.nodup, h.own, fun n hn hc => by
    show n.id < upd sh.ctr c v n.space
    rw [upd_other hc]; exact h.oth n hn hc⟩

theorem Bnd.idsOk_setCtr {sh : Shared} {c b v : Nat} (h : Bnd sh c b) (hv : b ≤ v) : IdsOk { sh with ctr := upd sh.ctr c v } :=
  (h.setCtr v).idsOk (Nat.le_trans hv (Nat.le_of_eq upd_same.symm))

/-- the graph of `discStep` without `bad`: one constructor per accepting clause -/
inductive Step : DQ → Micro → DQ → Prop
  | loc {q} : q ≠ .bad → Step q .loc q
  | rdg {q} : q ≠ .bad → Step q .rdg q
  | acq : Step .out .acq .idle
  | ctor : Step .out (.ctor false) .out
  | relIdle : Step .idle .rel .out
  | relRd c : Step (.rd c) .rel .out
  | relRdB c k : Step (.rdB c k) .rel .out
  | relClr c : Step (.clr c) .rel .out
  | relRdBp c k i : Step (.rdBp c k i) .rel .out
  | read c : Step .idle (.read c) (.rd c)
  | del g : Step .idle (.del g) .idle
  | delAll : Step .idle .delAll .idle
  | delSpace c : Step .idle (.delSpace c) (.clr c)
  | rmOne g : Step .idle (.rmOne g) .idle
  | reread c : Step (.rd c) (.read c) (.rd c)
  | bump c k : Step (.rd c) (.bump c k) (.rdB c k)
  | bumpReg c k : Step (.rd c) (.bumpReg c k) (.rdB c k)
  | add c g k : Step (.rd c) (.add c g k) (.rdA c k)
  | ld c : Step (.rd c) (.ld c) (.rdl c)
  | ins0 c g : Step (.rd c) (.ins c g 0) (.rdA c 1)
  | st c k : Step (.rdl c) (.st c k) (.rdB c k)
  | addB c g k : Step (.rdB c k) (.add c g k) .idle
  | insB1 c g : Step (.rdB c 1) (.ins c g 0) .idle
  | insB c g k : 0 < k → k ≠ 1 → Step (.rdB c k) (.ins c g 0) (.rdBp c k 1)
  | insBpLast c g i : Step (.rdBp c (i + 1) i) (.ins c g i) .idle
  | insBp c g k i : i < k → i + 1 ≠ k → Step (.rdBp c k i) (.ins c g i) (.rdBp c k (i + 1))
  | bumpA c k : Step (.rdA c k) (.bump c k) .idle
  | bumpRegA c k : Step (.rdA c k) (.bumpReg c k) .idle
  | ldA c k : Step (.rdA c k) (.ld c) (.rdAl c k)
  | insA c g j : Step (.rdA c j) (.ins c g j) (.rdA c (j + 1))
  | stA c k : Step (.rdAl c k) (.st c k) .idle
  | delSpaceC c : Step (.clr c) (.delSpace c) (.clr c)
  | addFromC c g lo k : Step (.clr c) (.addFrom c g lo k) (.fil c (lo + k))
  | setCtrC c v : Step (.clr c) (.setCtr c v) .idle
  | addFromF c n g lo k : n ≤ lo → Step (.fil c n) (.addFrom c g lo k) (.fil c (lo + k))
  | setCtrF c n : Step (.fil c n) (.setCtr c n) .idle

theorem Step.of_ne_bad {q : DQ} {m : Micro} (hb : discStep q m ≠ .bad) : Step q m (discStep q m) := by
  revert hb
  fun_cases discStep q m
  all_goals intro hb
  -- clauses ending in `bad`; clauses whose condition is a single equation, which `fun_cases` has substituted
  all_goals first
    | exact absurd rfl hb
    | (constructor <;> first | assumption | nofun)
    | skip
  -- clauses whose condition is a conjunction of two equations
  all_goals try (rename_i h; obtain ⟨rfl, rfl⟩ := h; constructor)
  -- left, in the order of the clauses: the creation guard, and the conditions that contain an inequality
  next w h => cases w; exact .ctor; exact absurd rfl h
  next h => obtain ⟨rfl, h⟩ := h; exact .addFromF _ _ _ _ _ h
  next h => obtain ⟨rfl, rfl, _⟩ := h; exact .insB1 _ _
  next h hk => obtain ⟨rfl, rfl, h⟩ := h; exact .insB _ _ _ h hk
  next h => obtain ⟨rfl, rfl, _⟩ := h; exact .insBpLast _ _ _
  next h hk => obtain ⟨rfl, rfl, h⟩ := h; exact .insBp _ _ _ _ h hk

theorem Step.eq {q q' : DQ} {m : Micro} (hs : Step q m q') : discStep q m = q' := by
  cases hs with
  | loc hq | rdg hq => cases q <;> first | rfl | exact absurd rfl hq
  | acq | ctor | relIdle | relRd | relRdB | relClr | relRdBp | read | del | delAll | delSpace | rmOne => rfl
  | reread | bump | bumpReg | add | ld | st | ldA | delSpaceC | addFromC | setCtrC => exact if_pos rfl
  | ins0 | addB | bumpA | bumpRegA | insA | stA | setCtrF => exact if_pos ⟨rfl, rfl⟩
  | addFromF _ _ _ _ _ hle => exact if_pos ⟨rfl, hle⟩
  | insB1 => exact (if_pos ⟨rfl, rfl, Nat.one_pos⟩).trans (if_pos rfl)
  | insB _ _ _ hk hk1 => exact (if_pos ⟨rfl, rfl, hk⟩).trans (if_neg hk1)
  | insBpLast _ _ i => exact (if_pos ⟨rfl, rfl, Nat.lt_succ_self i⟩).trans (if_pos rfl)
  | insBp _ _ _ _ hik hne => exact (if_pos ⟨rfl, rfl, hik⟩).trans (if_neg hne)

theorem Step.out_iff {q q' : DQ} {m : Micro} (hs : Step q m q') (h1 : m ≠ .acq) (h2 : m ≠ .rel) : q' = .out ↔ q = .out := by
  cases hs <;> first | exact ⟨DQ.noConfusion, DQ.noConfusion⟩ | exact Iff.rfl | exact absurd rfl h1 | exact absurd rfl h2

theorem runQ_bad (p : List Micro) : runQ discStep .bad p = .bad := by
  induction p with
  | nil => rfl
  | cons m p ih => exact ih

theorem acc_ne_bad {q : DQ} {p : List Micro} (h : runQ discStep q p = .out) : q ≠ .bad := by
  intro e; subst e; rw [runQ_bad] at h; cases h

theorem out_step {m : Micro} (h : discStep .out m ≠ .bad) :
    (m = .acq ∧ discStep .out m = .idle) ∨
    (m ≠ .acq ∧ m ≠ .rel ∧ m ≠ .reinit ∧ discStep .out m = .out ∧ ∀ r t sh, effectT m r t sh = (sh, r, t)) := by
  have hs := Step.of_ne_bad h
  generalize discStep .out m = q' at hs ⊢
  cases hs with
  | acq => exact .inl ⟨rfl, rfl⟩
  | loc | rdg | ctor => exact .inr ⟨nofun, nofun, nofun, rfl, fun _ _ _ => rfl⟩

theorem reinit_bad (q : DQ) : discStep q .reinit = .bad := by
  cases q <;> rfl

theorem acq_bad {q : DQ} (hq : q ≠ .out) : discStep q .acq = .bad := by
  cases q <;> first | rfl | exact absurd rfl hq

theorem ctor_true_bad (q : DQ) : discStep q (.ctor true) = .bad := by
  cases q <;> rfl

theorem accepted_keeps_store (p : List Micro) (q : DQ) (h : runQ discStep q p = .out) : ∀ m ∈ p, m ≠ .ctor true ∧ m ≠ .reinit := by
  intro m hm
  -- the run passes through `m`, and what follows `m` is accepted, so the step on `m` is not `bad`
  obtain ⟨a, b, rfl⟩ := List.append_of_mem hm
  rw [runQ_append, runQ_cons] at h
  have hb := acc_ne_bad h
  exact ⟨fun e => hb (e ▸ ctor_true_bad _), fun e => hb (e ▸ reinit_bad _)⟩

theorem inside_iff (p : List Micro) : ∀ q : DQ, runQ discStep q p = .out → (inside p = true ↔ q ≠ .out) := by
  fun_induction inside p <;> intro q h
  next => cases h; exact ⟨nofun, fun h => absurd rfl h⟩
  all_goals
    rw [runQ_cons] at h
    have hs := Step.of_ne_bad (acc_ne_bad h)
    generalize discStep q _ = q' at h hs
  next => cases hs; exact ⟨nofun, fun h => absurd rfl h⟩
  next => cases hs <;> exact ⟨nofun, fun _ => rfl⟩
  next m p h1 h2 ih => rw [ih q' h, Ne, Ne, hs.out_iff h1 h2]

/-- what the holder of the lock knows about the shared state, by monitor state -/
def QInv (q : DQ) (reg tmp : Nat) (sh : Shared) : Prop :=
  match q with
  | .out => True
  | .idle => IdsOk sh
  | .rd c => IdsOk sh ∧ reg = sh.ctr c
  | .rdB c k => Bnd sh c reg ∧ reg + k ≤ sh.ctr c
  | .rdA c k => Bnd sh c (reg + k) ∧ reg = sh.ctr c
  | .clr c => Bnd sh c 0
  | .fil c n => Bnd sh c n
  | .rdl c => IdsOk sh ∧ reg = sh.ctr c ∧ tmp = sh.ctr c
  | .rdAl c k => Bnd sh c (reg + k) ∧ reg = sh.ctr c ∧ tmp = sh.ctr c
  | .rdBp c k i => Bnd sh c (reg + i) ∧ reg + k ≤ sh.ctr c ∧ i ≤ k
  | .bad => False

theorem QInv.nodup {q : DQ} {reg tmp : Nat} {sh : Shared} (h : QInv q reg tmp sh) (hq : q ≠ .out) : (keys sh.nodes).Nodup := by
  cases q with
  | out => exact absurd rfl hq
  | bad => exact h.elim
  | idle => exact h.1
  | rd | rdl => exact h.1.1
  | clr | fil => exact Bnd.nodup h
  | rdB | rdA | rdAl | rdBp => exact h.1.nodup

/-- releasing is only accepted in states where the sequential invariant holds again -/
theorem QInv.release {q : DQ} {reg tmp : Nat} {sh : Shared} (h : QInv q reg tmp sh) (hq : q ≠ .out)
    (hr : discStep q .rel ≠ .bad) : discStep q .rel = .out ∧ IdsOk sh := by
  cases q with
  | out => exact absurd rfl hq
  | idle => exact ⟨rfl, h⟩
  | rd => exact ⟨rfl, h.1⟩
  | rdB => exact ⟨rfl, h.1.idsOk (Nat.le_of_add_right_le h.2)⟩
  | clr => exact ⟨rfl, Bnd.idsOk h (Nat.zero_le _)⟩
  | rdBp c k i => exact ⟨rfl, h.1.idsOk (Nat.le_trans (Nat.add_le_add_left h.2.2 reg) h.2.1)⟩
  | _ => exact absurd rfl hr

theorem effectT_old {m : Micro} (h1 : ∀ c, m ≠ .ld c) (h2 : ∀ c k, m ≠ .st c k) (reg tmp : Nat) (sh : Shared) :
    effectT m reg tmp sh = ((effect m reg sh).1, (effect m reg sh).2, tmp) := by
  cases m <;> first | rfl | (exact absurd rfl (h1 _)) | (exact absurd rfl (h2 _ _))

theorem QInv.step {q q' : DQ} {reg tmp : Nat} {sh : Shared} {m : Micro} (hs : Step q m q') (h : QInv q reg tmp sh)
    (hq : q ≠ .out) :
    QInv q' (effectT m reg tmp sh).2.1 (effectT m reg tmp sh).2.2 (effectT m reg tmp sh).1 := by
  cases hs with
  | loc | rdg => exact h
  | acq | ctor => exact absurd rfl hq
  | relIdle | relRd | relRdB | relClr | relRdBp => exact trivial
  | read c => exact ⟨h, rfl⟩
  | del g => exact h.sublist List.filter_sublist
  | delAll => exact h.sublist (List.nil_sublist _)
  | delSpace c =>
    exact ⟨h.1.sublist (List.filter_sublist.map _), fun n hn hc => absurd hc (bne_iff_ne.mp (List.mem_filter.mp hn).2),
      fun n hn _ => h.2 n (List.mem_filter.mp hn).1⟩
  | rmOne g => exact h.sublist List.eraseP_sublist
  | reread c => exact ⟨h.1, rfl⟩
  | bump c k | bumpReg c k =>
    obtain ⟨h1, rfl⟩ := h
    exact ⟨(h1.bnd c).setCtr _, Nat.le_of_eq upd_same.symm⟩
  | add c g k => obtain ⟨h1, rfl⟩ := h; exact ⟨(h1.bnd c).addIds g _ k (Nat.le_refl _), rfl⟩
  | ld c | ldA c k => exact ⟨h.1, h.2, rfl⟩
  -- the effect of `ins` is `addIds c g (reg + off) 1 _`, which unfolds to one `::`
  | ins0 c g => obtain ⟨h1, rfl⟩ := h; exact ⟨(h1.bnd c).cons g (Nat.le_refl _), rfl⟩
  | st c k =>
    obtain ⟨h1, rfl, rfl⟩ := h
    exact ⟨(h1.bnd c).setCtr _, Nat.le_of_eq upd_same.symm⟩
  | addB c g k => exact (h.1.addIds g reg k (Nat.le_refl _)).idsOk h.2
  | insB1 c g => exact (h.1.cons g (Nat.le_refl _)).idsOk h.2
  | insB c g k hk _ => exact ⟨h.1.cons g (Nat.le_refl _), h.2, hk⟩
  | insBpLast c g i => exact (h.1.cons g (Nat.le_refl _)).idsOk h.2.1
  | insBp c g k i hik _ => exact ⟨h.1.cons g (Nat.le_refl _), h.2.1, hik⟩
  | bumpA c k | bumpRegA c k => obtain ⟨h1, rfl⟩ := h; exact h1.idsOk_setCtr (Nat.le_refl _)
  | insA c g j => exact ⟨h.1.cons g (Nat.le_refl _), h.2⟩
  | stA c k => obtain ⟨h1, rfl, rfl⟩ := h; exact h1.idsOk_setCtr (Nat.le_refl _)
  | delSpaceC c => exact h.sublist List.filter_sublist
  | addFromC c g lo k => exact Bnd.addIds g lo k h (Nat.zero_le _)
  | setCtrC c v => exact Bnd.idsOk_setCtr h (Nat.zero_le _)
  | addFromF c n g lo k hle => exact Bnd.addIds g lo k h hle
  | setCtrF c n => exact Bnd.idsOk_setCtr h (Nat.le_refl _)

/-- the invariant of the interleaving semantics: a thread that does not hold the lock is outside (its remaining program is
accepted from `out`); `q` is the monitor state of the holder, who knows `QInv q` about the shared state -/
structure Inv (q : DQ) (s : Sys) : Prop where
  outside : ∀ t, s.lock ≠ some t → runQ discStep .out (s.thr t).prog = .out
  free : s.lock = none → IdsOk s.sh
  held : ∀ t, s.lock = some t → q ≠ .out ∧ runQ discStep q (s.thr t).prog = .out ∧ QInv q (s.thr t).reg (s.thr t).tmp s.sh
  noErr : s.relErr = false

/-- `effectT` is the identity on `acq` / `rel`, so one statement covers the three branches of `step` -/
theorem step_eq {t : Nat} {s s' : Sys} (hs : step t s = some s') : ∃ m rest, (s.thr t).prog = m :: rest ∧
    (m = .acq → s.lock = none) ∧
    s'.lock = (if m = .acq then some t else if m = .rel ∨ m = .reinit then none else s.lock) ∧
    s'.relErr = (s.relErr || (decide (m = .rel) && s.lock.isNone)) ∧
    s'.sh = (effectT m (s.thr t).reg (s.thr t).tmp s.sh).1 ∧
    s'.thr = upd s.thr t ⟨rest, (effectT m (s.thr t).reg (s.thr t).tmp s.sh).2.1,
                           (effectT m (s.thr t).reg (s.thr t).tmp s.sh).2.2⟩ := by
  unfold step at hs
  split at hs
  · cases hs
  · rename_i m rest hp
    refine ⟨m, rest, hp, ?_⟩
    split at hs
    · subst m
      split at hs
      · cases hs; exact ⟨fun _ => ‹_›, rfl, by simp, rfl, rfl⟩
      · cases hs
    · split at hs
      · subst m
        refine ⟨nofun, ?_⟩
        split at hs <;> cases hs <;> simp [effectT, effect, *]
      · cases hs; rename_i h1 h2; exact ⟨fun e => absurd e h1, by simp [h1, h2], by simp [h2], rfl, rfl⟩

theorem mem_prog_upd {thr : Nat → Thread} {t : Nat} {m : Micro} {rest : List Micro} (hp : (thr t).prog = m :: rest)
    {r r' u : Nat} {x : Micro} (hx : x ∈ (upd thr t ⟨rest, r, r'⟩ u).prog) : x ∈ (thr u).prog := by
  by_cases e : u = t
  · subst e; rw [upd_same] at hx; rw [hp]; exact List.mem_cons_of_mem _ hx
  · rwa [upd_other e] at hx

theorem step_isSome {t : Nat} {s : Sys} {m : Micro} {rest : List Micro} (hp : (s.thr t).prog = m :: rest)
    (h : m = .acq → s.lock = none) : (step t s).isSome = true := by
  unfold step
  rw [hp]
  by_cases h1 : m = .acq
  · simp [h1, h h1]
  · by_cases h2 : m = .rel <;> cases s.lock <;> simp [h1, h2]

theorem init_forall {progs : List (List Micro)} {P : List Micro → Prop} (h0 : P []) (h : ∀ p ∈ progs, P p) (t : Nat) :
    P ((init progs).thr t).prog := by
  show P (progs.getD t [])
  rw [List.getD_eq_getElem?_getD]
  cases ht : progs[t]? with
  | none => exact h0
  | some p => exact h p (List.mem_of_getElem? ht)

theorem Inv.step {q : DQ} {s s' : Sys} {t : Nat} (h : Inv q s) (hs : step t s = some s') : ∃ q', Inv q' s' := by
  obtain ⟨m, rest, hp, hfree, hlock, herr, hsh, hthr⟩ := step_eq hs
  have hoth : ∀ u, u ≠ t → s'.thr u = s.thr u := fun u hu => by rw [hthr, upd_other hu]
  have hthis : (s'.thr t).prog = rest := by rw [hthr, upd_same]
  have others : ∀ u, u ≠ t → s.lock ≠ some u → runQ discStep .out (s'.thr u).prog = .out := fun u hu hl' => by
    rw [hoth u hu]; exact h.outside u hl'
  by_cases hl : s.lock = some t
  · obtain ⟨hq, hacc, hinv⟩ := h.held t hl
    rw [hp, runQ_cons] at hacc
    have hnb := acc_ne_bad hacc
    have hnot : ∀ u, u ≠ t → s.lock ≠ some u := fun u hu e => hu (Option.some.inj (hl ▸ e)).symm
    have hm1 : m ≠ .acq := fun e => hnb (e ▸ acq_bad hq)
    have hm3 : m ≠ .reinit := fun e => hnb (e ▸ reinit_bad _)
    rw [if_neg hm1] at hlock
    by_cases hm2 : m = .rel
    · -- release: only accepted where the sequential invariant holds again
      subst hm2
      obtain ⟨hout, hok⟩ := hinv.release hq hnb
      rw [if_pos (.inl rfl)] at hlock
      refine ⟨.out, fun u _ => ?_, fun _ => hsh ▸ hok, fun u e => by simp [hlock] at e, by simpa [h.noErr, hl] using herr⟩
      by_cases hu : u = t
      · subst hu; rw [hthis]; exact hout ▸ hacc
      · exact others u hu (hnot u hu)
    · -- a step inside the locked region
      have hst := Step.of_ne_bad hnb
      rw [if_neg (by simp [hm2, hm3]), hl] at hlock
      refine ⟨discStep q m, fun u hu => ?_, fun e => by simp [hlock] at e, fun u e => ?_, by simpa [h.noErr, hm2] using herr⟩
      · have hu : u ≠ t := fun e => hu (e ▸ hlock)
        exact others u hu (hnot u hu)
      · obtain rfl : t = u := by simpa [hlock] using e
        refine ⟨fun e => hq ((hst.out_iff hm1 hm2).mp e), hthis ▸ hacc, ?_⟩
        rw [hthr, upd_same, hsh]; exact QInv.step hst hinv hq
  · have hacc := h.outside t hl
    rw [hp, runQ_cons] at hacc
    rcases out_step (acc_ne_bad hacc) with ⟨rfl, hd⟩ | ⟨hm1, hm2, hm3, hd, heff⟩
    · -- acquire: the lock was free, so the sequential invariant holds and becomes what the new holder knows
      have hn := hfree rfl
      rw [if_pos rfl] at hlock
      refine ⟨.idle, fun u hu => ?_, fun e => by simp [hlock] at e, fun u e => ?_, by simpa [h.noErr] using herr⟩
      · exact others u (fun e => hu (e ▸ hlock)) (by simp [hn])
      · obtain rfl : t = u := by simpa [hlock] using e
        exact ⟨nofun, hthis ▸ hd ▸ hacc, hsh ▸ h.free hn⟩
    · -- a step outside the lock: no effect on the shared state
      rw [if_neg hm1, if_neg (by simp [hm2, hm3])] at hlock
      rw [heff] at hsh hthr
      rw [hd] at hacc
      refine ⟨q, fun u hu => ?_, fun e => hsh ▸ h.free (hlock ▸ e), fun u e => ?_, by simpa [h.noErr, hm2] using herr⟩
      · by_cases e : u = t
        · subst e; rw [hthis]; exact hacc
        · exact others u e (hlock ▸ hu)
      · have hu : u ≠ t := fun e' => hl (e' ▸ hlock ▸ e)
        rw [hoth u hu, hsh]; exact h.held u (hlock ▸ e)

theorem Inv.init {progs : List (List Micro)} (h : ∀ p ∈ progs, accepts p = true) : Inv .out (init progs) :=
  ⟨fun t _ => init_forall (P := fun p => runQ discStep .out p = .out) rfl (fun p hp => by simpa [accepts] using h p hp) t,
   fun _ => ⟨List.nodup_nil, nofun⟩, nofun, rfl⟩

theorem Inv.run (sched : List Nat) {q : DQ} {s : Sys} (h : Inv q s) : ∃ q', Inv q' (run sched s) := by
  fun_induction Sched.run sched s generalizing q with
  | case1 => exact ⟨q, h⟩
  | case2 _ _ _ _ ih => exact ih h
  | case3 t _ s s' hs ih => obtain ⟨q', h'⟩ := h.step hs; exact ih h'

theorem reachable_inv {progs : List (List Micro)} (h : ∀ p ∈ progs, accepts p = true) (sched : List Nat) :
    ∃ q, Inv q (run sched (init progs)) := (Inv.init h).run sched

theorem Inv.nodup {q : DQ} {s : Sys} (h : Inv q s) : (keys s.sh.nodes).Nodup := by
  cases hl : s.lock with
  | none => exact (h.free hl).1
  | some t => exact (h.held t hl).2.2.nodup (h.held t hl).1

theorem Inv.holder {q : DQ} {s : Sys} {t : Nat} (h : Inv q s) (ht : inside (s.thr t).prog = true) : s.lock = some t :=
  Classical.byContradiction fun hl => (inside_iff _ _ (h.outside t hl)).mp ht rfl

theorem Inv.lock_free {q : DQ} {s : Sys} (h : Inv q s) (hf : finished s) : s.lock = none := by
  cases hl : s.lock with
  | none => rfl
  | some t =>
    obtain ⟨h1, h2, _⟩ := h.held t hl
    rw [hf t] at h2
    exact absurd h2 h1

theorem Inv.progress {q : DQ} {s : Sys} (h : Inv q s) (hnf : ¬ finished s) : ∃ t, (Sched.step t s).isSome = true := by
  cases hl : s.lock with
  | none =>
    obtain ⟨t, ht⟩ : ∃ t, (s.thr t).prog ≠ [] := Classical.not_forall.mp hnf
    obtain ⟨m, rest, hp⟩ := List.exists_cons_of_ne_nil ht
    exact ⟨t, step_isSome hp fun _ => hl⟩
  | some u =>
    -- the holder's remaining program is accepted from a state other than `out`: it is not empty and does not start with an acquire
    obtain ⟨hq, hacc, _⟩ := h.held u hl
    cases hp : (s.thr u).prog with
    | nil => rw [hp] at hacc; exact absurd hacc hq
    | cons m rest =>
      rw [hp, runQ_cons] at hacc
      exact ⟨u, step_isSome hp fun e => absurd (acq_bad hq) (e ▸ acc_ne_bad hacc)⟩

theorem dictView_eq_of_nodup (l : List Node) (h : (keys l).Nodup) : dictView l = l := by
  induction l with
  | nil => rfl
  | cons n l ih =>
    obtain ⟨h1, h2⟩ := List.nodup_cons.1 h
    rw [dictView, ih h2, List.filter_eq_self.2 fun m hm => bne_iff_ne.2 fun e => h1 (List.mem_map.2 ⟨m, hm, e⟩)]

end FimVerif.Sched
