import FimVerif.Proofs.Lemmas.C02Tree
/-! Model-graph path for C02: `addSliver` on free ids leaves `Built` and moves nothing else (`add_built`); `buildDeep` started at the
root of a built tree, below any parent, returns `gnorm` of it (`build_built`), hence so it does at every element (`at_elems`); the two
together on a fresh graph are `graph_roundtrip` and `graph_every_element`. -/
namespace FimVerif.C02
open FimVerif.Sliver FimVerif.Gen.SliverMap

section
variable {V P : Type}

def idOf (s : Sliver V) : String := s.nodeId.getD ""

mutual
def idsOf : Sliver V → List String
  | .mk _ nid _ ks => nid.getD "" :: idsOfKids ks
def idsOfKids : List (Sliver V) → List String
  | [] => []
  | c :: cs => idsOf c ++ idsOfKids cs
end

mutual
/-- what the writer (`addSliver`) needs of a tree, no codec involved -/
def Shaped : Sliver V → Prop
  | .mk k nid _ ks => nid.isSome = true ∧ ShapedKids k ks
def ShapedKids (parent : Kind) : List (Sliver V) → Prop
  | [] => True
  | c :: cs => (slotOf parent c.kind).isSome = true ∧ Shaped c ∧ ShapedKids parent cs
end

theorem shapedKids_mem (pk : Kind) (ks : List (Sliver V)) (h : ShapedKids pk ks) :
    ∀ c ∈ ks, (slotOf pk c.kind).isSome = true ∧ Shaped c := by
  induction ks with
  | nil => intro c hc; cases hc
  | cons c0 cs ih =>
    simp only [ShapedKids] at h
    intro c hc
    rcases List.mem_cons.mp hc with rfl | hc
    · exact ⟨h.1, h.2.1⟩
    · exact ih h.2.2 c hc

def entryOf (c : Sliver V) : String × String := (relOf c.kind, idOf c)

def parentEntry (k : Kind) (p : Option String) : List (String × String) :=
  match p with
  | some q => [(relOf k, q)]
  | none => []

mutual
/-- what `addSliver` leaves in the graph for a tree below parent `p` -/
def Built (C : Codecs V P) (G : AGraph P) (p : Option String) : Sliver V → Prop
  | .mk k nid f ks =>
    G.node (nid.getD "") = [(classOf k, toProps C (tableOf k) f)] ∧
    G.adj (nid.getD "") = parentEntry k p ++ ks.map entryOf ∧
    BuiltKids C G (nid.getD "") ks
def BuiltKids (C : Codecs V P) (G : AGraph P) (pid : String) : List (Sliver V) → Prop
  | [] => True
  | c :: cs => Built C G (some pid) c ∧ BuiltKids C G pid cs
end

def Agree (G G' : AGraph P) (ids : List String) : Prop := ∀ i ∈ ids, G'.node i = G.node i ∧ G'.adj i = G.adj i

mutual
theorem Built_congr (C : Codecs V P) (G G' : AGraph P) (p : Option String) :
    ∀ (s : Sliver V), Agree G G' (idsOf s) → Built C G p s → Built C G' p s
  | .mk k nid f ks, ha, hb => by
    simp only [Built] at hb ⊢
    simp only [idsOf] at ha
    have h0 := ha (nid.getD "") (List.mem_cons_self)
    refine ⟨by rw [h0.1]; exact hb.1, by rw [h0.2]; exact hb.2.1, ?_⟩
    exact BuiltKids_congr C G G' (nid.getD "") ks (fun i hi => ha i (List.mem_cons_of_mem _ hi)) hb.2.2
theorem BuiltKids_congr (C : Codecs V P) (G G' : AGraph P) (pid : String) :
    ∀ (ks : List (Sliver V)), Agree G G' (idsOfKids ks) → BuiltKids C G pid ks → BuiltKids C G' pid ks
  | [], _, _ => by simp [BuiltKids]
  | c :: cs, ha, hb => by
    simp only [BuiltKids] at hb ⊢
    simp only [idsOfKids] at ha
    exact ⟨Built_congr C G G' (some pid) c (fun i hi => ha i (List.mem_append_left _ hi)) hb.1,
      BuiltKids_congr C G G' pid cs (fun i hi => ha i (List.mem_append_right _ hi)) hb.2⟩
end

def Fresh (g : AGraph P) (ids : List String) : Prop := ∀ i ∈ ids, g.node i = [] ∧ g.adj i = []

theorem idOf_mem_idsOf (s : Sliver V) : idOf s ∈ idsOf s := by
  cases s; simp [idOf, idsOf, Sliver.nodeId]

def Frame (g g' : AGraph P) (ids : List String) (p : Option String) (e : String × String) : Prop :=
  (∀ i, i ∉ ids → p ≠ some i → g'.node i = g.node i ∧ g'.adj i = g.adj i) ∧
  (∀ q, p = some q → g'.node q = g.node q ∧ g'.adj q = g.adj q ++ [e])

theorem addNode_fresh (g : AGraph P) (p : Option String) (id : String) (k : Kind) (props : Props P)
    (hf : g.node id = [] ∧ g.adj id = []) (hp : ∀ q, p = some q → q ≠ id ∧ (g.node q).length = 1) :
    ∃ g1, addNode g p id (classOf k) (relOf k) props = .ok g1 ∧ g1.node id = [(classOf k, props)] ∧
      g1.adj id = parentEntry k p ∧ Frame g g1 [id] p (relOf k, id) := by
  cases p with
  | none =>
    refine ⟨addNodeTo g none id (classOf k) (relOf k) props, by simp [addNode, hf.1], by simp [addNodeTo, upd, hf.1],
      by simp [addNodeTo, hf.2, parentEntry], ?_, fun q hq => by cases hq⟩
    intro i hi _
    have : i ≠ id := by simpa using hi
    simp [addNodeTo, upd, this]
  | some q =>
    obtain ⟨hq, hl⟩ := hp q rfl
    refine ⟨addNodeTo g (some q) id (classOf k) (relOf k) props, by simp [addNode, hf.1, upd, hq, hl], by simp [addNodeTo, upd, hf.1],
      by simp [addNodeTo, upd, hf.2, parentEntry], ?_, ?_⟩
    · intro i hi hpi
      have h1 : i ≠ id := by simpa using hi
      have h2 : i ≠ q := fun e => hpi (by rw [e])
      simp [addNodeTo, upd, h1, h2]
    · intro q' hq'
      cases hq'
      simp [addNodeTo, upd, hq]

mutual
/-- That the parent is stored once is what `add_link` asks of it.  `Frame` says what else moved: nothing but `p`'s adjacency, which
is what keeps the ids of the later siblings free and what was built for the earlier ones standing (`Built_congr`) in `addKids_built`. -/
theorem add_built (C : Codecs V P) : ∀ (s : Sliver V) (g : AGraph P) (p : Option String),
    Shaped s → Fresh g (idsOf s) → (idsOf s).Nodup → (∀ q, p = some q → q ∉ idsOf s) →
    (∀ q, p = some q → (g.node q).length = 1) →
    ∃ g', addSliver C g p s = .ok g' ∧ Built C g' p s ∧ Frame g g' (idsOf s) p (entryOf s)
  | .mk k nid f ks, g, p, hs, hf, hnd, hp, hpar => by
    simp only [Shaped] at hs
    obtain ⟨id, rfl⟩ := Option.isSome_iff_exists.mp hs.1
    simp only [idsOf, Option.getD_some, List.nodup_cons] at hf hnd hp
    have hpid : ∀ q, p = some q → q ≠ id := fun q hq e => hp q hq (by rw [e]; exact List.mem_cons_self)
    obtain ⟨g1, hadd, hn1, ha1, hfr1⟩ := addNode_fresh g p id k (toProps C (tableOf k) f) (hf id List.mem_cons_self)
      (fun q hq => ⟨hpid q hq, hpar q hq⟩)
    -- adding the node touched `id` and the parent only, so the ids below it are still free
    have hfresh1 : Fresh g1 (idsOfKids ks) := by
      intro i hi
      have hne : i ≠ id := fun e => hnd.1 (e ▸ hi)
      have := hfr1.1 i (by simpa using hne) (fun e => hp i e (List.mem_cons_of_mem _ hi))
      rw [this.1, this.2]
      exact hf i (List.mem_cons_of_mem _ hi)
    obtain ⟨g', hk, hbk, hframe, hpn, hpa⟩ := addKids_built C ks g1 id k hs.2 hfresh1 hnd.2 hnd.1 (by rw [hn1]; rfl)
    refine ⟨g', ?_, ?_, ?_, ?_⟩
    · simp only [addSliver, hadd]; exact hk
    · simp only [Built, Option.getD_some]
      exact ⟨by rw [hpn, hn1], by rw [hpa, ha1], hbk⟩
    · intro i hi hpi
      simp only [idsOf, Option.getD_some, List.mem_cons, not_or] at hi
      have a := hframe i hi.2 hi.1
      have b := hfr1.1 i (by simpa using hi.1) hpi
      rw [a.1, a.2, b.1, b.2]
      exact ⟨rfl, rfl⟩
    · intro q hq
      have a := hframe q (fun h => hp q hq (List.mem_cons_of_mem _ h)) (hpid q hq)
      have b := hfr1.2 q hq
      rw [a.1, a.2, b.1, b.2]
      exact ⟨rfl, rfl⟩
theorem addKids_built (C : Codecs V P) : ∀ (ks : List (Sliver V)) (g : AGraph P) (pid : String) (pk : Kind),
    ShapedKids pk ks → Fresh g (idsOfKids ks) → (idsOfKids ks).Nodup → pid ∉ idsOfKids ks →
    (g.node pid).length = 1 →
    ∃ g', addKids C g pid pk ks = .ok g' ∧ BuiltKids C g' pid ks ∧
      (∀ i, i ∉ idsOfKids ks → i ≠ pid → g'.node i = g.node i ∧ g'.adj i = g.adj i) ∧
      g'.node pid = g.node pid ∧ g'.adj pid = g.adj pid ++ ks.map entryOf
  | [], g, pid, pk, _, _, _, _, _ => ⟨g, by simp [addKids], by simp [BuiltKids], fun _ _ _ => ⟨rfl, rfl⟩, rfl, by simp⟩
  | c :: cs, g, pid, pk, hs, hf, hnd, hpid, hlen => by
    simp only [ShapedKids] at hs
    simp only [idsOfKids, List.mem_append, not_or] at hf hnd hpid
    obtain ⟨slot, hslot⟩ := Option.isSome_iff_exists.mp hs.1
    have hnd' := List.nodup_append.mp hnd
    obtain ⟨g1, h1, hb1, hfr1, hfr1p⟩ := add_built C c g (some pid) hs.2.1
      (fun i hi => hf i (List.mem_append_left _ hi)) hnd'.1 (fun q hq => by cases hq; exact hpid.1)
      (fun q hq => by cases hq; exact hlen)
    have hdisj : ∀ i, i ∈ idsOfKids cs → i ∉ idsOf c := fun i hi hc => hnd'.2.2 i hc i hi rfl
    have hfresh1 : Fresh g1 (idsOfKids cs) := by
      intro i hi
      have hpi : (some pid : Option String) ≠ some i := fun e => hpid.2 (by cases e; exact hi)
      have := hfr1 i (hdisj i hi) hpi
      rw [this.1, this.2]
      exact hf i (List.mem_append_right _ hi)
    have hp1 := hfr1p pid rfl
    obtain ⟨g2, h2, hb2, hfr2, hn2, ha2⟩ := addKids_built C cs g1 pid pk hs.2.2 hfresh1 hnd'.2.1 hpid.2 (by rw [hp1.1]; exact hlen)
    refine ⟨g2, ?_, ?_, ?_, ?_, ?_⟩
    · simp only [addKids, hslot, h1]; exact h2
    · -- the later siblings leave the ids of `c`'s tree alone (they are neither among theirs nor `pid`): what was built for `c` stands
      simp only [BuiltKids]
      refine ⟨Built_congr C g1 g2 (some pid) c ?_ hb1, hb2⟩
      intro i hi
      have hne : i ≠ pid := fun e => hpid.1 (e ▸ hi)
      exact hfr2 i (fun h => hdisj i h hi) hne
    · intro i hi hne
      simp only [idsOfKids, List.mem_append, not_or] at hi
      have a := hfr2 i hi.2 hne
      have b := hfr1 i hi.1 (fun e => hne (by cases e; rfl))
      rw [a.1, a.2, b.1, b.2]; exact ⟨rfl, rfl⟩
    · rw [hn2, hp1.1]
    · rw [ha2, hp1.2]
      simp [entryOf, List.append_assoc]

end

def slotKinds (k : Kind) : List Kind := (slotsOf k).map (·.2)

/-- containment depth below a kind (bounds the recursion of `build_deep_*`) -/
def rank (k : Kind) : Nat :=
  if k = "node" then 4 else if k = "component" then 3 else if k = "service" then 2 else 1

/-- `5` is the fuel the readers are started with (`graphRoundtrip`, `graphAt`): one more than the deepest containment needs -/
theorem rank_bounds (k : Kind) : 1 ≤ rank k ∧ rank k ≤ 5 := by
  unfold rank
  repeat' split
  all_goals omega

/-- what the reader needs of a containment `p ⊃ c` -/
structure Containment (p c : Kind) : Prop where
  mem : c ∈ slotKinds p
  iface : p = "interface" → c = "interface"
  /-- among the kinds a parent can contain, relationship and node class together identify the kind: what lets
  `get_first_neighbor(rel, class)` select the children of one kind -/
  kind_match : ∀ b ∈ slotKinds p, ((relOf c == relOf b) && (classOf c == classOf b)) = (c == b)
  rank_lt : p ≠ "interface" → rank c < rank p
  /-- below a node, component or service the parent's class differs from the class of every child kind reached by the same
  relationship, so the class filter keeps the parent out -/
  parent_class : p ≠ "interface" → ∀ ck ∈ slotKinds c, relOf c = relOf ck → (classOf p == classOf ck) = false

theorem containment {p c : Kind} (h : (slotOf p c).isSome = true) : Containment p c := by
  refine slotOf_forall (Q := Containment) ⟨?_, ?_, ?_, ?_, ?_⟩ p c h <;> constructor <;> decide

/-- the parent of a rebuilt element is never mistaken for one of its children -/
def ParentOk (G : AGraph P) (p : Option String) (k : Kind) : Prop :=
  ∀ q, p = some q → ∀ ck ∈ slotKinds k, relOf k = relOf ck → (G.node q).any (fun n => n.1 == classOf ck) = false

theorem parentOk_child (G : AGraph P) (p c : Kind) (id : String) (x : Props P) (h : (slotOf p c).isSome = true)
    (hp : p ≠ "interface") (hn : G.node id = [(classOf p, x)]) : ParentOk G (some id) c := by
  intro q hq ck hck hrel
  cases hq
  rw [hn]
  simp only [List.any_cons, List.any_nil, Bool.or_false]
  exact (containment h).parent_class hp ck hck hrel

theorem mapE_map_ok {α β γ : Type} (f : β → Except Err γ) (h : α → β) (g : α → γ) (l : List α)
    (hl : ∀ a ∈ l, f (h a) = .ok (g a)) : mapE f (l.map h) = .ok (l.map g) := by
  induction l with
  | nil => rfl
  | cons a as ih =>
    simp only [List.map_cons, mapE, hl a (List.mem_cons_self), ih (fun b hb => hl b (List.mem_cons_of_mem _ hb))]

theorem mapE_ok {α β : Type} (f : α → Except Err β) (g : α → β) (l : List α) (h : ∀ a ∈ l, f a = .ok (g a)) :
    mapE f l = .ok (l.map g) := by
  simpa using mapE_map_ok f id g l h

theorem builtKids_node (C : Codecs V P) (G : AGraph P) (pid : String) (ks : List (Sliver V)) (h : BuiltKids C G pid ks) :
    ∀ c ∈ ks, G.node (idOf c) = [(classOf c.kind, toProps C (tableOf c.kind) c.fields)] := by
  induction ks with
  | nil => intro c hc; cases hc
  | cons c0 cs ih =>
    simp only [BuiltKids] at h
    intro c hc
    rcases List.mem_cons.mp hc with rfl | hc
    · cases c with
      | mk k nid f ks' => simp only [Built] at h; simpa [idOf, Sliver.nodeId, Sliver.kind, Sliver.fields] using h.1.1
    · exact ih h.2 c hc

theorem neighbors_built (C : Codecs V P) (G : AGraph P) (id : String) (k : Kind) (p : Option String) (ks : List (Sliver V))
    (ck : Kind) (hadj : G.adj id = parentEntry k p ++ ks.map entryOf) (hb : BuiltKids C G id ks) (hw : WFKids C k ks)
    (hck : ck ∈ slotKinds k) (hpar : ParentOk G p k) :
    neighbors G id (relOf ck) (classOf ck) = (ks.filter (fun c => c.kind == ck)).map idOf := by
  unfold neighbors
  -- the adjacency is the parent's entry, then the children's: `ParentOk` filters the first out
  rw [hadj, List.filter_append, List.map_append, List.filter_append]
  have hparent : (((parentEntry k p).filter (fun e => e.1 == relOf ck)).map (·.2)).filter
      (fun i => (G.node i).any (fun n => n.1 == classOf ck)) = [] := by
    cases p with
    | none => simp [parentEntry]
    | some q =>
      simp only [parentEntry, List.filter_cons, List.filter_nil]
      split
      · rename_i hr
        simp only [List.map_cons, List.map_nil, List.filter_cons, List.filter_nil]
        rw [hpar q rfl ck hck (by simpa using hr)]
        simp
      · simp
  rw [hparent, List.nil_append, List.filter_map, List.filter_filter, List.filter_map, List.map_map]
  show List.map idOf _ = _
  congr 1
  apply List.filter_congr
  intro c hc
  -- on a child's entry "relationship and class are those of `ck`" says "its kind is `ck`"
  rw [← (containment (wfKids_mem C k ks hw c hc).1).kind_match ck hck]
  simp [entryOf, builtKids_node C G id ks hb c hc, Bool.and_comm]

/-- a sub-interface as `build_deep_interface_sliver` rebuilds it: flat -/
def flat (c : Sliver V) : Sliver V := .mk "interface" (some (idOf c)) (restrict (tableOf "interface") c.fields) []

/-- children grouped by kind in the order the `build_deep_*` functions read them (components, then services) -/
def regroup (k : Kind) (l : List (Sliver V)) : List (Sliver V) :=
  (slotKinds k).flatMap fun ck => l.filter (fun c => c.kind == ck)

mutual
/-- the sliver the model graph gives back: node id kept, the rebuilt fields, children regrouped by kind and rebuilt
recursively; below an interface only a `DedicatedPort` has children, and those are flat -/
def gnorm (C : Codecs V P) : Sliver V → Sliver V
  | .mk k nid f ks => .mk k (some (nid.getD "")) (restrict (tableOf k) f)
      (if k == "interface" then (if ((restrict (tableOf k) f) "type").any C.isDedicated then ks.map flat else [])
       else regroup k (gnormKids C ks))
def gnormKids (C : Codecs V P) : List (Sliver V) → List (Sliver V)
  | [] => []
  | c :: cs => gnorm C c :: gnormKids C cs
end

theorem gnormKids_eq_map (C : Codecs V P) (ks : List (Sliver V)) : gnormKids C ks = ks.map (gnorm C) := by
  induction ks with
  | nil => rfl
  | cons c cs ih => simp [gnormKids, ih]

theorem gnorm_kind (C : Codecs V P) (s : Sliver V) : (gnorm C s).kind = s.kind := by
  cases s; simp [gnorm, Sliver.kind]

theorem gnorm_key_childOk (C : Codecs V P) (s : Sliver V) (h : WF C s) :
    keyOf (gnorm C s) = keyOf s ∧ childOk (gnorm C s) = childOk s := by
  cases s
  simp only [WF] at h
  exact rebuilt_key_childOk h.1

theorem flat_key (C : Codecs V P) (c : Sliver V) (hk : c.kind = "interface") (h : WF C c) : keyOf (flat c) = keyOf c := by
  cases c
  simp only [Sliver.kind] at hk
  subst hk
  simp only [WF] at h
  exact (rebuilt_key_childOk h.1).1

theorem slotKinds_nodup (k : Kind) : (slotKinds k).Nodup := by
  unfold slotKinds slotsOf
  split
  · decide
  · split
    · decide
    · split
      · decide
      · split <;> decide

theorem filter_split_perm {α : Type} (p q : α → Bool) (l : List α) (hd : ∀ a ∈ l, ¬ (p a = true ∧ q a = true)) :
    (l.filter p ++ l.filter q).Perm (l.filter (fun a => p a || q a)) := by
  induction l with
  | nil => simp
  | cons a as ih =>
    have iha := ih (fun b hb => hd b (List.mem_cons_of_mem _ hb))
    have ha := hd a (List.mem_cons_self)
    cases hp : p a <;> cases hq : q a
    · simpa [List.filter_cons, hp, hq] using iha
    · simp only [List.filter_cons, hp, hq, Bool.false_eq_true, if_false, if_true, Bool.or_true]
      exact (List.perm_middle).trans (iha.cons a)
    · simp only [List.filter_cons, hp, hq, Bool.false_eq_true, if_false, if_true, Bool.or_false, List.cons_append]
      exact iha.cons a
    · exact absurd ⟨hp, hq⟩ ha

theorem regroup_perm_filter (k : Kind) (l : List (Sliver V)) :
    (regroup k l).Perm (l.filter fun c => (slotKinds k).contains c.kind) := by
  unfold regroup
  have hk := slotKinds_nodup k
  -- over any duplicate-free list of kinds: the filter for the first kind and the filter for the rest are disjoint
  generalize slotKinds k = kinds at hk ⊢
  induction kinds with
  | nil => simp
  | cons ck rest ih =>
    simp only [List.nodup_cons] at hk
    simp only [List.flatMap_cons]
    refine ((ih hk.2).append_left _).trans ?_
    refine (filter_split_perm _ _ l ?_).trans ?_
    · intro a _ h
      have h1 : a.kind = ck := by simpa using h.1
      have h2 : a.kind ∈ rest := by simpa using h.2
      exact hk.1 (h1 ▸ h2)
    · apply List.Perm.of_eq
      apply List.filter_congr
      intro a _
      rw [List.contains_cons]

theorem regroup_perm (k : Kind) (l : List (Sliver V)) (h : ∀ c ∈ l, c.kind ∈ slotKinds k) : (regroup k l).Perm l :=
  (regroup_perm_filter k l).trans (.of_eq (List.filter_eq_self.mpr fun c hc => by simpa using h c hc))

theorem regroup_nodup (k : Kind) (l : List (Sliver V)) (hl : (l.map keyOf).Nodup) : ((regroup k l).map keyOf).Nodup :=
  ((regroup_perm_filter k l).map keyOf).nodup_iff.mpr (hl.sublist (List.filter_sublist.map keyOf))

/-- `rec` stands for the reader with less fuel, of which the mutual induction knows `hrec` -/
theorem buildSlots_ok (C : Codecs V P) (G : AGraph P) (rec : Kind → String → Except Err (Sliver V)) (id : String) (k : Kind)
    (p : Option String) (ks : List (Sliver V))
    (hadj : G.adj id = parentEntry k p ++ ks.map entryOf) (hb : BuiltKids C G id ks)
    (hwf : WFKids C k ks) (hpar : ParentOk G p k)
    (hrec : ∀ c ∈ ks, rec c.kind (idOf c) = .ok (gnorm C c)) :
    buildSlots rec G id (slotsOf k) = .ok (regroup k (gnormKids C ks)) := by
  have hm := wfKids_mem C k ks hwf
  suffices ∀ slots : List (String × Kind), (∀ sc ∈ slots, sc.2 ∈ slotKinds k) → buildSlots rec G id slots =
      .ok ((slots.map (·.2)).flatMap fun ck => (gnormKids C ks).filter (fun c => c.kind == ck)) from
    this (slotsOf k) fun sc hsc => List.mem_map.mpr ⟨sc, hsc, rfl⟩
  intro slots hsl
  induction slots with
  | nil => rfl
  | cons sc rest ih =>
    have hck := hsl sc (List.mem_cons_self)
    have hn := neighbors_built C G id k p ks sc.2 hadj hb hwf hck hpar
    have hmap : mapE (rec sc.2) ((ks.filter (fun c => c.kind == sc.2)).map idOf) =
        .ok ((ks.filter (fun c => c.kind == sc.2)).map (gnorm C)) := by
      apply mapE_map_ok
      intro c hc
      have hc' := List.mem_filter.mp hc
      have hk : c.kind = sc.2 := by simpa using hc'.2
      rw [← hk]
      exact hrec c hc'.1
    have hall : ((ks.filter (fun c => c.kind == sc.2)).map (gnorm C)).all childOk = true := by
      simp only [List.all_eq_true, List.mem_map]
      rintro x ⟨c, hc, rfl⟩
      have hc' := (List.mem_filter.mp hc).1
      rw [(gnorm_key_childOk C c (hm c hc').2.2).2]
      exact (hm c hc').2.1
    have hfm : (ks.filter (fun c => c.kind == sc.2)).map (gnorm C) = (gnormKids C ks).filter (fun c => c.kind == sc.2) := by
      rw [gnormKids_eq_map]
      exact (List.filter_map_pred (gnorm C) _ _ ks fun c _ => by rw [gnorm_kind]).symm
    rw [hfm] at hmap hall
    simp only [buildSlots, buildSlot, hn, hmap, hall, if_true, ih (fun s hs => hsl s (List.mem_cons_of_mem _ hs)),
      List.map_cons, List.flatMap_cons]

theorem gnormKids_keys (C : Codecs V P) (pk : Kind) (ks : List (Sliver V)) (h : WFKids C pk ks) :
    (gnormKids C ks).map keyOf = ks.map keyOf := by
  rw [gnormKids_eq_map, List.map_map]
  apply List.map_congr_left
  intro c hc
  exact (gnorm_key_childOk C c (wfKids_mem C pk ks h c hc).2.2).1

/-- not a `DedicatedPort` (as the rebuilt `type` field says) -/
def NotDed (C : Codecs V P) (s : Sliver V) : Prop :=
  ((restrict (tableOf "interface") s.fields) "type").any C.isDedicated = false

variable [DecidableEq V]

/-- `hkids` is the `let kids` of `buildDeep` as it stands there; each branch of `build_built` fills it in -/
theorem buildDeep_succ (C : Codecs V P) (G : AGraph P) (k : Kind) (id : String) (f : Fields V) (n : Nat) (cs : List (Sliver V))
    (hn : G.node id = [(classOf k, toProps C (tableOf k) f)])
    (hfp : fromProps C (tableOf k) (toProps C (tableOf k) f) = .ok (restrict (tableOf k) f))
    (hkids : (if k == "interface" then
        if ((restrict (tableOf k) f) "type").any C.isDedicated then mapE (flatIface C G) (neighbors G id "connects" "ConnectionPoint")
        else .ok []
      else buildSlots (buildDeep C G n) G id (slotsOf k)) = .ok cs)
    (hkeys : (cs.map keyOf).Nodup) :
    buildDeep C G (n + 1) k id = .ok (.mk k (some id) (restrict (tableOf k) f) cs) := by
  have hfind : findNode G id = .ok (classOf k, toProps C (tableOf k) f) := by simp [findNode, hn]
  simp only [buildDeep, hfind, hfp, hkids, dedupe_nodup _ hkeys, bne_self_eq_false, Bool.false_and, Bool.false_eq_true, if_false]

mutual
/-- The reader at a built element gives `gnorm` of it.  `get_first_neighbor` is undirected, so the element's parent is among its
neighbours and must not be taken for a child: either its class tells it apart from every child kind (`ParentOk`; so below a node,
component or service: `parentOk_child`), or the element is an interface that is not a `DedicatedPort`, which
`build_deep_interface_sliver` rebuilds without a look at its neighbours (the only protection below another interface). -/
theorem build_built (C : Codecs V P) (G : AGraph P) : ∀ (s : Sliver V) (p : Option String) (fuel : Nat),
    Built C G p s → Shaped s → WF C s → (s.kind = "interface" ∧ NotDed C s) ∨ ParentOk G p s.kind → rank s.kind ≤ fuel →
    buildDeep C G fuel s.kind (idOf s) = .ok (gnorm C s)
  | .mk k nid f ks, p, fuel, hb, hs, hw, hpar, hr => by
    simp only [Shaped] at hs
    obtain ⟨id, rfl⟩ := Option.isSome_iff_exists.mp hs.1
    simp only [Built, Option.getD_some] at hb
    have hfp := wf_roundtrip C _ hw
    simp only [WF] at hw
    obtain ⟨-, -, -, -, hwk, hnd⟩ := hw
    simp only [Sliver.kind] at hpar hr
    cases fuel with
    | zero => have := rank_bounds k; omega
    | succ n =>
      have hwm := wfKids_mem C k ks hwk
      simp only [Sliver.kind, idOf, Sliver.nodeId, Option.getD_some, gnorm]
      by_cases hi : k = "interface"
      · subst hi
        by_cases hd : ((restrict (tableOf "interface") f) "type").any C.isDedicated = true
        · have hall : ∀ c ∈ ks, c.kind = "interface" := fun c hc => (containment (hwm c hc).1).iface rfl
          have hfilt : ks.filter (fun c => c.kind == "interface") = ks :=
            List.filter_eq_self.mpr fun c hc => by simp [hall c hc]
          have hn : neighbors G id "connects" "ConnectionPoint" = ks.map idOf := by
            have := neighbors_built C G id "interface" p ks "interface" hb.2.1 hb.2.2 hwk (by decide)
              (hpar.resolve_left fun h => Bool.false_ne_true ((Eq.symm h.2).trans hd))
            rw [hfilt] at this
            exact this
          have hmap : mapE (flatIface C G) (ks.map idOf) = .ok (ks.map flat) := by
            apply mapE_map_ok
            intro c hc
            have hk := hall c hc
            have hp := wf_roundtrip C c (hwm c hc).2.2
            have := builtKids_node C G id ks hb.2.2 c hc
            rw [hk] at hp this
            simp only [flatIface, findNode, this, hp, flat]
          have hkeys : ((ks.map flat).map keyOf).Nodup := by
            rw [List.map_map]
            have : ks.map (keyOf ∘ flat) = ks.map keyOf :=
              List.map_congr_left (fun c hc => flat_key C c (hall c hc) (hwm c hc).2.2)
            rw [this]; exact hnd
          simp only [beq_self_eq_true, if_true, hd]
          exact buildDeep_succ C G _ id f n _ hb.1 hfp (by simp only [beq_self_eq_true, if_true, hd, hn, hmap]) hkeys
        · -- not a `DedicatedPort`: rebuilt without a look at its neighbours, so its parent port stays out
          have hd' := Bool.eq_false_iff.mpr hd
          simp only [beq_self_eq_true, if_true, hd', Bool.false_eq_true, if_false]
          exact buildDeep_succ C G _ id f n _ hb.1 hfp (by simp only [beq_self_eq_true, if_true, hd', Bool.false_eq_true, if_false])
            List.nodup_nil
      · have hkids := build_kids C G ks id k (toProps C (tableOf k) f) n hb.2.2 hs.2 hwk hi hb.1 hr
        have hslots := buildSlots_ok C G (buildDeep C G n) id k p ks hb.2.1 hb.2.2 hwk (hpar.resolve_left fun h => hi h.1) hkids
        have hi' : (k == "interface") = false := by simpa using hi
        have hkeys : ((regroup k (gnormKids C ks)).map keyOf).Nodup :=
          regroup_nodup k _ (by rw [gnormKids_keys C k ks hwk]; exact hnd)
        simp only [hi', Bool.false_eq_true, if_false]
        exact buildDeep_succ C G k id f n _ hb.1 hfp (by simp only [hi', Bool.false_eq_true, if_false]; exact hslots) hkeys
theorem build_kids (C : Codecs V P) (G : AGraph P) : ∀ (ks : List (Sliver V)) (pid : String) (pk : Kind) (x : Props P) (n : Nat),
    BuiltKids C G pid ks → ShapedKids pk ks → WFKids C pk ks → pk ≠ "interface" → G.node pid = [(classOf pk, x)] →
    rank pk ≤ n + 1 → ∀ c ∈ ks, buildDeep C G n c.kind (idOf c) = .ok (gnorm C c)
  | [], _, _, _, _, _, _, _, _, _, _ => by intro c hc; cases hc
  | c0 :: cs, pid, pk, x, n, hb, hs, hw, hpk, hnode, hr => by
    simp only [BuiltKids] at hb
    simp only [ShapedKids] at hs
    simp only [WFKids] at hw
    intro c hc
    rcases List.mem_cons.mp hc with h | hc
    · rw [h]
      have hrk := (containment hs.1).rank_lt hpk
      exact build_built C G c0 (some pid) n hb.1 hs.2.1 hw.2.2.1 (Or.inr (parentOk_child G pk c0.kind pid x hs.1 hpk hnode)) (by omega)
    · exact build_kids C G cs pid pk x n hb.2 hs.2.2 hw.2.2.2 hpk hnode hr c hc
end

/-- every element that sits directly below an interface is not itself a `DedicatedPort` (what
`Interface.add_child_interface` creates: `SubInterface`-typed children) -/
def SubsPlain (C : Codecs V P) (es : List (Option (String × Kind) × Sliver V)) : Prop :=
  ∀ e ∈ es, ∀ q, e.1 = some (q, "interface") → NotDed C e.2

omit [DecidableEq V] in
theorem elems_eq (t : Option (String × Kind)) (s : Sliver V) : elems t s = (t, s) :: elemsKids (idOf s, s.kind) s.kids := by
  cases s; rfl

mutual
/-- `t` is the tag the root carries in the list; the conclusion does not read it -/
theorem at_elems (C : Codecs V P) (G : AGraph P) : ∀ (s : Sliver V) (p : Option String) (t : Option (String × Kind)),
    Built C G p s → Shaped s → WF C s → (s.kind = "interface" ∧ NotDed C s) ∨ ParentOk G p s.kind →
    SubsPlain C (elemsKids (idOf s, s.kind) s.kids) →
    ∀ e ∈ elems t s, buildDeep C G 5 e.2.kind (idOf e.2) = .ok (gnorm C e.2)
  | .mk k nid f ks, p, t, hb, hs, hw, hpar, hpl => by
    intro e he
    simp only [elems, List.mem_cons] at he
    rcases he with rfl | he
    · exact build_built C G _ _ 5 hb hs hw hpar (rank_bounds _).2
    · simp only [Built] at hb
      simp only [Shaped] at hs
      simp only [WF] at hw
      exact at_kids C G ks (nid.getD "") k _ hb.2.2 hs.2 hw.2.2.2.2.1 hb.1 hpl e he
theorem at_kids (C : Codecs V P) (G : AGraph P) : ∀ (ks : List (Sliver V)) (pid : String) (pk : Kind) (x : Props P),
    BuiltKids C G pid ks → ShapedKids pk ks → WFKids C pk ks → G.node pid = [(classOf pk, x)] →
    SubsPlain C (elemsKids (pid, pk) ks) →
    ∀ e ∈ elemsKids (pid, pk) ks, buildDeep C G 5 e.2.kind (idOf e.2) = .ok (gnorm C e.2)
  | [], _, _, _, _, _, _, _, _ => by intro e he; simp [elemsKids] at he
  | c :: cs, pid, pk, x, hb, hs, hw, hnode, hpl => by
    simp only [BuiltKids] at hb
    simp only [ShapedKids] at hs
    simp only [WFKids] at hw
    simp only [elemsKids, elems_eq] at hpl
    intro e he
    simp only [elemsKids, List.mem_append] at he
    rcases he with he | he
    · refine at_elems C G c (some pid) _ hb.1 hs.2.1 hw.2.2.1 ?_
        (fun e he => hpl e (List.mem_append_left _ (List.mem_cons_of_mem _ he))) e he
      -- below an interface the guard keeps the parent out, elsewhere the parent's class does
      by_cases hpk : pk = "interface"
      · subst hpk
        exact Or.inl ⟨(containment hs.1).iface rfl, hpl _ (List.mem_append_left _ List.mem_cons_self) pid rfl⟩
      · exact Or.inr (parentOk_child G pk _ pid x hs.1 hpk hnode)
    · exact at_kids C G cs pid pk x hb.2 hs.2.2 hw.2.2.2 hnode (fun e he => hpl e (List.mem_append_right _ he)) e he
end

omit [DecidableEq V] in
/-- `ParentOk`: the bare node a component is hung below is a `NetworkNode`, the class of no kind a component contains -/
theorem graphWrite_built (C : Codecs V P) (s : Sliver V) (hs : Shaped s) (hnd : (idsOf s).Nodup)
    (hp : s.kind = "component" → "c02-parent" ∉ idsOf s) :
    ∃ g', graphWrite (P := P) C s = .ok g' ∧ Built C g' (if s.kind = "component" then some "c02-parent" else none) s ∧
      ParentOk g' (if s.kind = "component" then some "c02-parent" else none) s.kind := by
  by_cases hk : s.kind = "component"
  · have hpid := hp hk
    obtain ⟨g0, hg0, hn0, -, hfr0⟩ := addNode_fresh (AGraph.empty : AGraph P) none "c02-parent" "node" Props.empty
      ⟨rfl, rfl⟩ (fun q hq => by cases hq)
    have hfresh : Fresh g0 (idsOf s) := fun i hi =>
      hfr0.1 i (by simpa using fun e : i = "c02-parent" => hpid (e ▸ hi)) (fun e => by cases e)
    obtain ⟨g', hadd, hb, hframe⟩ := add_built C s g0 (some "c02-parent") hs hfresh hnd (fun q hq => by cases hq; exact hpid)
      (fun q hq => by cases hq; rw [hn0]; rfl)
    rw [if_pos hk]
    refine ⟨g', ?_, hb, ?_⟩
    · unfold graphWrite
      have hg0' : addNode (AGraph.empty : AGraph P) none "c02-parent" "NetworkNode" "has" Props.empty = .ok g0 := hg0
      simp only [hk, if_true, hg0', hadd]
    · rw [hk]
      exact parentOk_child g' "node" "component" "c02-parent" Props.empty (by decide) (by decide)
        (by rw [(hframe.2 "c02-parent" rfl).1, hn0])
  · obtain ⟨g', hadd, hb, _⟩ := add_built C s (AGraph.empty : AGraph P) none hs
      (fun i _ => ⟨rfl, rfl⟩) hnd (fun q hq => by cases hq) (fun q hq => by cases hq)
    rw [if_neg hk]
    refine ⟨g', ?_, hb, fun q hq => by cases hq⟩
    unfold graphWrite
    simp only [hk, if_false, hadd]

theorem graphRoundtrip_of_write (C : Codecs V P) (s : Sliver V) (g' : AGraph P) (h : graphWrite C s = .ok g') :
    graphRoundtrip C s = buildDeep C g' 5 s.kind (idOf s) := by
  unfold graphWrite at h
  unfold graphRoundtrip idOf
  -- both start from the same graph
  generalize (if s.kind = "component" then _ else _ : Except Err (AGraph P)) = g0 at h ⊢
  cases g0 with
  | error e => cases h
  | ok g => simp only at h ⊢; rw [h]

theorem graph_roundtrip (C : Codecs V P) (s : Sliver V) (hs : Shaped s) (hw : WF C s) (hnd : (idsOf s).Nodup)
    (hp : s.kind = "component" → "c02-parent" ∉ idsOf s) : graphRoundtrip (P := P) C s = .ok (gnorm C s) := by
  obtain ⟨g', hwr, hb, hpar⟩ := graphWrite_built C s hs hnd hp
  rw [graphRoundtrip_of_write C s g' hwr]
  exact build_built C g' s _ 5 hb hs hw (Or.inr hpar) (rank_bounds _).2

theorem graph_every_element (C : Codecs V P) (s : Sliver V) (hs : Shaped s) (hw : WF C s) (hnd : (idsOf s).Nodup)
    (hpid : s.kind = "component" → "c02-parent" ∉ idsOf s) (hp : SubsPlain C (elems none s)) :
    graphAt (P := P) C s = .ok ((elems none s).map fun e => (e.2, .ok (gnorm C e.2))) := by
  obtain ⟨g', hwr, hb, hpar⟩ := graphWrite_built C s hs hnd hpid
  have hall := at_elems C g' s _ none hb hs hw (Or.inr hpar) fun e he =>
    hp e (by rw [elems_eq]; exact List.mem_cons_of_mem _ he)
  unfold graphAt
  simp only [hwr]
  congr 1
  apply List.map_congr_left
  intro e he
  have := hall e he
  unfold idOf at this
  rw [this]

end
end FimVerif.C02
