import FimVerif.Proofs.Lemmas.C08Inv
/-! `WF` development.  The removal loops under the invariant: one rule for a loop over elements of one level (`siblings_res`), one for
"the element goes, then the loop over its children" (`parent_res`); services, components and nodes are instances. -/
namespace FimVerif.Remove

/-- the level of an element in the containment hierarchy (0: a link, or no element).  Only the order matters: a child is strictly below
its parent (`lvl_children`), a sub-interface below a port, and everything that owns or is owned above 0. -/
def lvl (g : G) (y : Nat) : Nat :=
  match g.cls? y with
  | some .node => 5
  | some .comp => 4
  | some .ns => 3
  | some .cp => if isSub g y then 1 else 2
  | _ => 0

/-- ownership descends strictly (this is why elements of one level own disjoint structures) and never reaches a link -/
theorem lvl_children {g : G} {x y : Nat} (h : y ∈ children g x) : 0 < lvl g y ∧ lvl g y < lvl g x := by
  unfold children at h
  split at h
  · rename_i hx
    rcases List.mem_append.mp h with h | h <;> simp [lvl, hx, mem_nbrs_cls h]
  · rename_i hx; simp [lvl, hx, mem_nbrs_cls h]
  · rename_i hx; simp only [lvl, hx, mem_nbrs_cls h]; split <;> decide
  · rename_i hx
    split at h
    · cases h
    · rename_i hs
      have := List.mem_filter.mp h
      simp [lvl, hx, mem_nbrs_cls this.1, this.2, hs]
  · cases h

theorem lvl_pos_nl {g : G} {y : Nat} (h : 0 < lvl g y) : NL g y := by
  intro hl; simp [lvl, hl] at h

theorem below_nl {g : G} {x y : Nat} (hx : NL g x) (h : Below g x y) : NL g y := by
  cases h with
  | refl => exact hx
  | step _ hb => exact lvl_pos_nl (lvl_children hb).1

theorem below_lvl {g : G} {x y : Nat} (h : Below g x y) : y = x ∨ lvl g y < lvl g x := by
  induction h with
  | refl => exact Or.inl rfl
  | step _ hb ih =>
    right
    rcases ih with rfl | ih
    · exact (lvl_children hb).2
    · exact Nat.lt_trans (lvl_children hb).2 ih

theorem below_same_lvl {g : G} {c c' m : Nat} (h : lvl g c = m) (h' : lvl g c' = m) (hb : Below g c' c) : c = c' :=
  (below_lvl hb).elim id fun hlt => absurd (h ▸ h' ▸ hlt) (Nat.lt_irrefl _)

/-- downward closure -/
def DownC (g : G) (A : List Nat) : Prop := ∀ x ∈ A, ∀ y ∈ children g x, y ∈ A

theorem downC_nil (g : G) : DownC g [] := fun _ h => by cases h

theorem downC_below {g : G} {A : List Nat} (h : DownC g A) {x y : Nat} (hx : x ∈ A) (hb : Below g x y) : y ∈ A := by
  induction hb with
  | refl => exact hx
  | step _ hc ih => exact h _ ih _ hc

/-- the invariant of the component and node levels: a component or service that is gone has taken all it owns with it -/
def InvD (g : G) (A : List Nat) : Prop := InvC g A ∧ DownC g A

theorem Res.downC {g : G} {A : List Nat} {P : Nat → Prop} {r : Except Err G} (h : Res (InvC g) (NL g) g A P r) (hD : DownC g A)
    (hP : ∀ x y, P x → y ∈ children g x → P y) : Res (InvD g) (NL g) g A P r :=
  h.and fun A' hmem x hx y hy => by
    have hyl := lvl_pos_nl (lvl_children hy).1
    by_cases hxl : g.cls? x = some .link
    · simp [children, hxl] at hy
    · exact (hmem y hyl).mpr (((hmem x hxl).mp hx).imp (hD x · y hy) (hP x y · hy))

theorem Removes.downC {g : G} {f : G → Nat → Except Err G} {c : Nat} (h : Removes (InvC g) (Below g) g f c) :
    Removes (InvD g) (Below g) g f c := fun A hA hcA => (h A hA.1 hcA).downC hA.2 fun _ _ => Below.step

theorem nodup_split {l pfx sfx : List Nat} {x : Nat} (h : l.Nodup) (e : l = pfx ++ x :: sfx) : x ∉ pfx := by
  subst e
  intro hx
  have := List.nodup_append.mp h
  exact this.2.2 x hx x (by simp) rfl

/-- **a loop over elements that own disjoint structures** (the list as the current graph shows it): each is still there when
its turn comes; one that was gone before the loop had taken all it owns with it -/
theorem siblings_res {I : List Nat → Prop} {P : Nat → Nat → Prop} {g : G} {A : List Nat} {f : G → Nat → Except Err G} (L : List Nat)
    (hnd : L.Nodup) (hnl : ∀ c ∈ L, NL g c) (hsib : ∀ c ∈ L, ∀ c' ∈ L, P c' c → c = c') (hf : ∀ c ∈ L, Removes I P g f c)
    (hA : I A) (hskip : ∀ c ∈ L, c ∈ A → ∀ y, P c y → y ∈ A) :
    Res I (NL g) g A (fun y => ∃ c ∈ L, P c y) ((L.filter (fun y => !A.contains y)).foldlM f (g.minus A)) := by
  refine (Res.fold f P _ hA fun pfx c sfx hs A' hA' hmem' => ?_).congr fun y _ => ?_
  · have hmemF : ∀ z, z ∈ pfx ∨ z = c → z ∈ L ∧ z ∉ A := fun z hz => by
      have : z ∈ L.filter (fun y => !A.contains y) := by rw [hs, List.mem_append, List.mem_cons]; exact hz.imp_right Or.inl
      simpa [List.contains_eq_mem] using List.mem_filter.mp this
    have hcL := hmemF c (Or.inr rfl)
    refine hf c hcL.1 A' hA' fun hcA' => ?_
    rcases (hmem' c (hnl c hcL.1)).mp hcA' with h | ⟨c', hc', hp⟩
    · exact hcL.2 h
    · rw [hsib c hcL.1 c' (hmemF c' (Or.inl hc')).1 hp] at hs
      exact nodup_split (hnd.filter _) hs hc'
  · constructor
    · rintro (h | ⟨c, hc, hp⟩)
      · exact Or.inl h
      · exact Or.inr ⟨c, (List.mem_filter.mp hc).1, hp⟩
    · rintro (h | ⟨c, hc, hp⟩)
      · exact Or.inl h
      · by_cases hcA : c ∈ A
        · exact Or.inl (hskip c hc hcA y hp)
        · exact Or.inr ⟨c, List.mem_filter.mpr ⟨hc, not_contains hcA⟩, hp⟩

/-- **a service, component or node goes, then the loop over its neighbours `g.nbrs x r c`**, all of one level `m` below that of `x`:
being of one level they own disjoint structures (`below_same_lvl`), which is what `siblings_res` asks; `1 < m` says they are neither
links nor sub-interfaces, so that `x`, above them, is no connection point and `InvC` does not notice that it goes -/
theorem parent_res {g : G} {A : List Nat} {f : G → Nat → Except Err G} {x m : Nat} (r : Rel) (c : Cls)
    (hm : 1 < m) (hx : m < lvl g x) (hlvl : ∀ y ∈ g.nbrs x r c, lvl g y = m) (hnd : (g.nbrs x r c).Nodup)
    (hf : ∀ y ∈ g.nbrs x r c, Removes (InvC g) (Below g) g f y) (hInv : InvC g A) (hxA : x ∉ A)
    (hskip : ∀ y ∈ g.nbrs x r c, y ∈ A → ∀ z, Below g y z → z ∈ A) :
    Res (InvC g) (NL g) g A (fun z => z = x ∨ ∃ y ∈ g.nbrs x r c, Below g y z)
      (((g.minus A).nbrs x r c).foldlM f ((g.minus A).minus [x])) := by
  have hxL : ∀ y ∈ g.nbrs x r c, y ≠ x := fun y hy h => by rw [← h, hlvl y hy] at hx; exact Nat.lt_irrefl _ hx
  have hflt : (g.nbrs x r c).filter (fun y => !A.contains y) = (g.nbrs x r c).filter (fun y => !(A ++ [x]).contains y) :=
    List.filter_congr fun y hy => by simp [List.contains_eq_mem, hxL y hy]
  -- `x` is a service, component or node: adding it to `A` does not touch connection points or links
  have hInv' : InvC g (A ++ [x]) := invC_congr (fun y hy => by
    have : y ≠ x := by
      rintro rfl
      rcases hy with hy | hy <;> simp only [lvl, hy] at hx
      · split at hx <;> omega
      · omega
    simp [this]) hInv
  rw [nbrs_minus (contains_false hxA), minus_minus, hflt]
  refine (siblings_res _ hnd (fun y hy => lvl_pos_nl (hlvl y hy ▸ Nat.lt_of_succ_lt hm))
    (fun y hy y' hy' => below_same_lvl (hlvl y hy) (hlvl y' hy')) hf hInv' fun y hy hyA z hb => ?_).weaken.congr fun z _ => by
      simp only [List.mem_singleton]
  rcases List.mem_append.mp hyA with h | h
  · exact List.mem_append_left _ (hskip y hy h z hb)
  · exact absurd (List.mem_singleton.mp h) (hxL y hy)

theorem removeNs_res (g : G) (hW : WF g = true) (s : Nat) (hc : g.cls? s = some .ns) :
    Removes (InvC g) (Below g) g removeNs s := by
  intro A hInv hsA
  have hI := wf_cp hW
  simp only [removeNs, cls_minus_keep (contains_false hsA), hc, beq_self_eq_true, ite_true]
  have hp : ∀ i ∈ g.nbrs s .connects .cp, g.cls? i = some .cp ∧ isSub g i = false := fun i hi =>
    ⟨mem_nbrs_cls hi, port_not_sub hc hi⟩
  refine (parent_res (f := fun g i => removeCp g i true) .connects .cp (m := 2) (by decide) (by simp [lvl, hc])
    (fun i hi => by simp [lvl, hp i hi]) (wf_nodup hW hc) (fun i hi => removeCpTop_res g hW i (hp i hi).1 (hp i hi).2) hInv hsA
    fun i hi hiA z hb => ?_).congr fun y _ => by rw [below_iff, children_ns hc]
  -- a port already gone took its sub-interfaces with it
  rcases (below_cp_top hI (hp i hi).1 (hp i hi).2 z).mp hb with rfl | h
  · exact hiA
  · exact (hInv.2 i (hp i hi).1 (hp i hi).2 z h).mpr hiA

theorem removeComp_res (g : G) (hW : WF g = true) (c : Nat) (hc : g.cls? c = some .comp) :
    Removes (InvD g) (Below g) g removeComp c := by
  intro A hA hcA
  simp only [removeComp, cls_minus_keep (contains_false hcA), hc, beq_self_eq_true, ite_true]
  exact ((parent_res .has .ns (m := 3) (by decide) (by simp [lvl, hc]) (fun s hs => by simp [lvl, mem_nbrs_cls hs])
    (wf_nodup hW hc) (fun s hs => removeNs_res g hW s (mem_nbrs_cls hs)) hA.1 hcA
    fun s _ hsA z hb => downC_below hA.2 hsA hb).congr fun y _ => by rw [below_iff, children_comp hc]).downC hA.2
    fun _ _ => Below.step

/-- what is below a node, in the order `remove_network_node_with_components_nss_cps_and_links` deletes it -/
theorem below_node {g : G} {n : Nat} (hc : g.cls? n = some .node) (y : Nat) :
    Below g n y ↔ (∃ c ∈ g.nbrs n .has .comp, Below g c y) ∨ y = n ∨ ∃ s ∈ g.nbrs n .has .ns, Below g s y := by
  rw [below_iff, children_node hc]
  simp only [List.mem_append, or_and_right, exists_or]
  exact or_left_comm

theorem removeNodeG_res (g : G) (hW : WF g = true) (n : Nat) (hc : g.cls? n = some .node) :
    Removes (InvD g) (Below g) g removeNodeG n := by
  intro A hA hnA
  simp only [removeNodeG, cls_minus_keep (contains_false hnA), hc, beq_self_eq_true, ite_true]
  rw [nbrs_minus (contains_false hnA)]
  have hlc : ∀ c ∈ g.nbrs n .has .comp, lvl g c = 4 := fun c hcn => by simp [lvl, mem_nbrs_cls hcn]
  have hln : lvl g n = 5 := by simp [lvl, hc]
  refine (((siblings_res (g.nbrs n .has .comp) (wf_nodup hW hc) (fun c hcn => cls_ne_link (mem_nbrs_cls hcn))
    (fun c hcn c' hcn' => below_same_lvl (hlc c hcn) (hlc c' hcn'))
    (fun c hcn => removeComp_res g hW c (mem_nbrs_cls hcn)) hA fun c _ hcA z hb => downC_below hA.2 hcA hb).bind
    fun A1 hA1 hmem1 => parent_res .has .ns (m := 3) (by decide) (by rw [hln]; decide)
      (fun s hs => by simp [lvl, mem_nbrs_cls hs]) (wf_nodup hW hc) (fun s hs => removeNs_res g hW s (mem_nbrs_cls hs))
      hA1.1 (fun hnA1 => ?_) fun s _ hsA z hb => downC_below hA1.2 hsA hb).congr fun y _ => by rw [below_node hc]).downC hA.2
    fun _ _ => Below.step
  rcases (hmem1 n (cls_ne_link hc)).mp hnA1 with h | ⟨c, hcn, hb⟩
  · exact hnA h
  · rcases below_lvl hb with h | h
    · rw [h, hlc c hcn] at hln; cases hln
    · rw [hlc c hcn, hln] at h; exact absurd h (by decide)

end FimVerif.Remove
