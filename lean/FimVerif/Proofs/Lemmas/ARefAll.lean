import FimVerif.Proofs.Lemmas.ARefNode
import FimVerif.Proofs.Lemmas.ARefLink
import FimVerif.Proofs.Lemmas.ARefAddDel
import FimVerif.Proofs.Lemmas.ARefMerge
import FimVerif.Proofs.Lemmas.ARefUnique
/-! C05: the shared store refines the store-level reference model: the `refS_*` lemmas of `ARefNode`, `ARefLink`, `ARefAddDel`,
    `ARefMerge` (one per method, one for the three link-property updates) put together over `Op` (`refines_store_step`) and over
    histories of key-keeping operations (`refines_store_run`). -/
namespace FimVerif.Store
open FimVerif FimVerif.Gen.StoreConsts

/-- `merge_nodes`: the one operation whose refinement needs pairwise distinct keys -/
def Op.isMerge : Op → Bool
  | .mergeNodes .. => true
  | _ => false

theorem refines_store_step (op : Op) (s : Store) (h : Inv s) (hu : op.isMerge = true → UniqueKeys s) :
    RefS (step op s) (ARef.step op (absS s)) := by
  cases op with
  | addNode g nid label props => exact refS_addNode s h g nid label props
  | deleteNode g nid => exact refS_deleteNode s h g nid
  | addLink g a rel b props => exact refS_addLink s h g a rel b props
  | updateNodeProperty g nid k v => exact refS_assertVal v s _ _ (refS_updateNodeProperty s h g nid k v)
  | unsetNodeProperty g nid k => exact refS_unsetNodeProperty s h g nid k
  | updateNodesProperty g k v => exact refS_assertVal v s _ _ (refS_updateNodesProperty s h g k v)
  | updateNodeProperties g nid props => exact refS_updateNodeProperties s h g nid props
  | updateLinkProperty g a b kind k v => exact refS_assertVal v s _ _ (refS_linkUpdate s h g a b kind _ _)
  | unsetLinkProperty g a b kind k => exact refS_linkUpdate s h g a b kind _ _
  | updateLinkProperties g a b kind props => exact refS_linkUpdate s h g a b kind _ _
  | deleteGraph g => exact refS_delGraph s h g
  | addGraph g ig => exact refS_addGraph s h g ig.close
  | addGraphDirect g ig => exact refS_addGraphDirect s h g ig.close
  | clone g g2 => exact refS_cloneGraph s h g g2
  | mergeNodes g nid g2 pol => exact refS_mergeNodes s h (hu rfl) g nid g2 pol
  | getNodeProperties g nid => exact refS_getNodeProperties s h g nid
  | getLinkProperties g a b => exact refS_getLinkProperties s h g a b
  | listAllNodeIds g => exact refS_listAllNodeIds s g
  | nodesByClass g label => exact refS_nodesByClass s g label
  | nodesByClassAndType g label ntype => exact refS_nodesByClassAndType s g label ntype
  | nodeExists g nid label => exact refS_nodeExists s g nid label
  | graphExists g => exact refS_graphExists s g
  | checkNodeUnique g label name => exact refS_checkNodeUnique s g label name
  | findMatchingNodes g other => exact refS_findMatchingNodes s g other
  | delAllGraphs => exact refS_delAllGraphs s

theorem absS_init : absS init = ARef.init := rfl

theorem refines_store_run (ops : List Op) (s : Store) (h : Inv s) (hu : UniqueKeys s) (hk : ∀ o ∈ ops, o.keepsKeys = true) :
    absS (run ops s) = ARef.run ops (absS s) :=
  List.foldl_simulation _ _ absS (fun t => Inv t ∧ UniqueKeys t) ops s ⟨h, hu⟩
    (fun o ho t ht => ⟨inv_step o t ht.1, uniqueKeys_step o t ht.1 (hk o ho) ht.2⟩)
    fun o _ t ht => (refines_store_step o t ht.1 fun _ => ht.2).2

end FimVerif.Store
