import FimVerif.Model.Sliver
import FimVerif.Proofs.Lemmas.ListAux
/-! Every route to a property of a model element: `set_property` / `set_properties` / attribute assignment, `unset_property` /
`set_property(p, None)` / attribute `= None`.  The route data (`elemClasses`) is probed from the element classes on every run;
the lemmas are generic in it, as are those on what `rowsOK` says of a from-row and its to-row `rowOf`; the checks (`classOK`, `rowsOK`)
are evaluated over the generated data in `Proofs/C02.lean`. -/
namespace FimVerif.C02
open FimVerif.Sliver FimVerif.Gen.SliverMap

/-- the two halves of the `ImageRef` text property: written only together (fate sharing), by a `pair` route -/
def pairKeys : List String := ["image_ref", "image_type"]

/-- names whose unset is *not* routed to their own graph property by `SLIVER_PROPERTY_TO_GRAPH` (known findings
`C02:unset_get:stitch_node:still-set`, `C02:unset_get:image_type:still-set:ctx=image-stored`; `image_type` shares
`ImageRef` with `image_ref` and is unset through it) -/
def unsetExempt : List String := ["image_type", "stitch_node"]

inductive SetRoute where
  | setProperty
  | setProperties
  | attr (r : AttrRoute)

inductive UnsetRoute where
  | unsetProperty
  | setPropertyNone
  | attrNone (r : AttrRoute)

section
variable {V P : Type}

def setVia (C : Codecs V P) (T : KindTable) (E : ElemClass) (wn : String → V) (fresh : Fields V) (p : Props P) (k : Key) (v : V) :
    SetRoute → Except Err (Props P)
  | .setProperty => setPropertyOpt C T E fresh p k (some v)
  | .setProperties => setProperties C T fresh p [(k, some v)]
  | .attr r => attrAssign C T E wn fresh p r (some v)

def unsetVia (C : Codecs V P) (T : KindTable) (E : ElemClass) (wn : String → V) (fresh : Fields V) (p : Props P) (k : Key) :
    UnsetRoute → Except Err (Props P)
  | .unsetProperty => unsetProperty p k
  | .setPropertyNone => setPropertyOpt C T E fresh p k none
  | .attrNone r => attrAssign C T E wn fresh p r none

theorem unsetProperty_unmapped (p : Props P) (k : Key) (h : mapUnset k = none) : unsetProperty p k = .ok p := by
  unfold unsetProperty
  rw [h]

theorem unsetProperty_present (p : Props P) (k g : String) (x : P) (hmap : mapUnset k = some g) (hid : g ∉ noUnset)
    (hx : p g = some x) : unsetProperty p k = .ok (p.erase g) := by
  unfold unsetProperty
  rw [hmap]
  simp only [hx]
  rw [if_neg (by simpa using hid)]

theorem unsetProperty_ok (p p' : Props P) (k g : String) (hmap : mapUnset k = some g) (h : unsetProperty p k = .ok p') :
    p' = p.erase g := by
  unfold unsetProperty at h
  rw [hmap] at h
  simp only at h
  split at h
  · cases h
  · split at h
    · exact (Except.ok.inj h).symm
    · cases h

theorem setProperties_single (C : Codecs V P) (T : KindTable) (fresh : Fields V) (p : Props P) (k : Key) (v : V) :
    setProperties C T fresh p [(k, some v)] = .ok (setProperty C T fresh p k v) := by
  unfold setProperties
  have : applyKw T fresh [(k, some v)] = .ok (fresh.set k (some v)) := by
    simp only [applyKw]
  rw [this]
  rfl

end

/-- the to-row that writes the graph property a from-row reads -/
def rowOf (T : KindTable) (f : FromRow) : ToRow :=
  (T.toRows.find? (fun r => r.gprop == f.gprop)).getD default

theorem rowOf_eq {T : KindTable} (hnd : (T.toRows.map (·.gprop)).Nodup) (r : ToRow) (hr : r ∈ T.toRows) (f : FromRow)
    (hg : f.gprop = r.gprop) : rowOf T f = r := by
  unfold rowOf
  rw [hg, List.find?_key_of_nodup (·.gprop) hnd hr]
  rfl

def rowsOK (T : KindTable) : Bool :=
  T.fromRows.all (fun f => pairKeys.contains f.key ||
    ((rowOf T f).keys == [f.key] && (rowOf T f).gprop == f.gprop && T.toRows.contains (rowOf T f))) &&
  T.fromRows.all (fun f => unsetExempt.contains f.key || noUnset.contains f.gprop ||
    (f.absent == Absent.none && f.noneOk && mapUnset f.key == some f.gprop))

/-- one attribute route of class `E` against the table of its kind.  The proofs read from the `match` which `onNone` goes with which
`onValue` and that a `pair` route sits on the image pair (`classOK_setter`), nothing else: the four lines before it, the class check of
`jsonWrap` and the partner checks of `pair` record what the probes found (attribute named after its property, `.data` getter exactly
on the JSON-blob properties, only `name` cached) and have no theorem -/
def routeOK (T : KindTable) (r : AttrRoute) : Bool :=
  r.attr == r.prop &&
  T.fromRows.any (fun f => f.key == r.prop) &&
  (r.get == GetForm.dataOf) == T.fromRows.any (fun f => f.key == r.prop && f.dec == Dec.jsonDataCtor) &&
  (r.get != GetForm.cached || (r.prop == "name" && r.cacheAfterWrite)) &&
  (match r.onValue with
   | .none => r.onNone == OnNone.none
   | .direct => (r.onNone == OnNone.passNone || r.onNone == OnNone.unsets) && !pairKeys.contains r.prop
   | .jsonWrap => (r.onNone == OnNone.passNone || r.onNone == OnNone.unsets) && !pairKeys.contains r.prop &&
       T.fromRows.any (fun f => f.key == r.prop && f.dec == Dec.jsonDataCtor && f.arg == r.cls)
   | .pair => pairKeys.contains r.prop && pairKeys.contains r.partner && r.partner != r.prop &&
       (r.onNone == OnNone.unsets || r.onNone == OnNone.passNone ||
         (unsetExempt.contains r.prop && r.onNone == OnNone.pairNone)))

/-- `setNoneUnsets`: `set_property(p, None)` is `unset_property(p)`.  The proofs read the first and the last conjunct
(`classOK_setNone`, `classOK_route`) -/
def classOK (E : ElemClass) : Bool :=
  E.setNoneUnsets && tables.any (fun T => T.kind == E.kind) && decide (E.routes.map (·.attr)).Nodup &&
  E.routes.all (routeOK (tableOf E.kind))

theorem classOK_setNone {E : ElemClass} (h : classOK E = true) : E.setNoneUnsets = true := by
  simp only [classOK, Bool.and_eq_true] at h
  exact h.1.1.1

theorem classOK_route {E : ElemClass} (h : classOK E = true) (r : AttrRoute) (hr : r ∈ E.routes) :
    routeOK (tableOf E.kind) r = true := by
  simp only [classOK, Bool.and_eq_true, List.all_eq_true] at h
  exact h.2 r hr

theorem classOK_setter {E : ElemClass} (h : classOK E = true) {r : AttrRoute} (hr : r ∈ E.routes) (hv : r.onValue ≠ OnValue.none) :
    (r.prop ∉ pairKeys → r.onValue = OnValue.direct ∨ r.onValue = OnValue.jsonWrap) ∧
    (r.prop ∉ unsetExempt → r.onNone = OnNone.unsets ∨ r.onNone = OnNone.passNone) := by
  have hok := classOK_route h r hr
  simp only [routeOK, Bool.and_eq_true] at hok
  have hm := hok.2
  cases hov : r.onValue with
  | none => exact absurd hov hv
  | direct =>
    rw [hov] at hm
    simp only [Bool.and_eq_true, Bool.or_eq_true, beq_iff_eq] at hm
    exact ⟨fun _ => Or.inl rfl, fun _ => hm.1.symm⟩
  | jsonWrap =>
    rw [hov] at hm
    simp only [Bool.and_eq_true, Bool.or_eq_true, beq_iff_eq] at hm
    exact ⟨fun _ => Or.inr rfl, fun _ => hm.1.1.symm⟩
  | pair =>
    rw [hov] at hm
    simp only [Bool.and_eq_true, Bool.or_eq_true, beq_iff_eq, List.contains_iff_mem] at hm
    exact ⟨fun hp => absurd hm.1.1.1 hp, fun hx => hm.2.resolve_right fun h1 => hx h1.1⟩

section
variable {V P : Type}

theorem setVia_eq (C : Codecs V P) (T : KindTable) {E : ElemClass} (hE : classOK E = true) (wn : String → V) (fresh : Fields V)
    (p : Props P) {k : Key} (hp : k ∉ pairKeys) (v : V) (route : SetRoute)
    (hroute : match route with
      | .attr r => r ∈ E.routes ∧ r.prop = k ∧ r.onValue ≠ OnValue.none
      | _ => True) :
    setVia C T E wn fresh p k v route = .ok (setProperty C T fresh p k v) := by
  cases route with
  | setProperty => rfl
  | setProperties => exact setProperties_single C T fresh p k v
  | attr r =>
    obtain ⟨hr, rfl, hv⟩ := hroute
    rcases (classOK_setter hE hr hv).1 hp with hv | hv <;> simp [setVia, attrAssign, hv, setPropertyOpt]

theorem unsetVia_eq (C : Codecs V P) (T : KindTable) {E : ElemClass} (hE : classOK E = true) (wn : String → V) (fresh : Fields V)
    (p : Props P) {k : Key} (hx : k ∉ unsetExempt) (route : UnsetRoute)
    (hroute : match route with
      | .attrNone r => r ∈ E.routes ∧ r.prop = k ∧ r.onValue ≠ OnValue.none
      | _ => True) :
    unsetVia C T E wn fresh p k route = unsetProperty p k := by
  have hs := classOK_setNone hE
  cases route with
  | unsetProperty => rfl
  | setPropertyNone => simp [unsetVia, setPropertyOpt, hs]
  | attrNone r =>
    obtain ⟨hr, rfl, hv⟩ := hroute
    rcases (classOK_setter hE hr hv).2 hx with hv | hv
    · simp [unsetVia, attrAssign, hv]
    · simp [unsetVia, attrAssign, hv, setPropertyOpt, hs]

end

theorem rowsOK_single {T : KindTable} (h : rowsOK T = true) (f : FromRow) (hf : f ∈ T.fromRows) (hp : f.key ∉ pairKeys) :
    rowOf T f ∈ T.toRows ∧ (rowOf T f).keys = [f.key] ∧ f.gprop = (rowOf T f).gprop := by
  simp only [rowsOK, Bool.and_eq_true, List.all_eq_true, Bool.or_eq_true, List.contains_iff_mem, beq_iff_eq] at h
  rcases h.1 f hf with h1 | h1
  · exact absurd h1 hp
  · exact ⟨h1.2, h1.1.1, h1.1.2.symm⟩

theorem gprop_ne_of_key_ne {T : KindTable} (hR : rowsOK T = true) (f fk : FromRow) (hf : f ∈ T.fromRows) (hfk : fk ∈ T.fromRows)
    (hp : f.key ∉ pairKeys) (hpk : fk.key ∉ pairKeys) (hne : fk.key ≠ f.key) : fk.gprop ≠ f.gprop := by
  intro e
  obtain ⟨_, hk1, _⟩ := rowsOK_single hR f hf hp
  obtain ⟨_, hk2, _⟩ := rowsOK_single hR fk hfk hpk
  have : rowOf T fk = rowOf T f := by unfold rowOf; rw [e]
  rw [this, hk1] at hk2
  exact hne (List.cons.inj hk2).1.symm

theorem rowsOK_unset {T : KindTable} (h : rowsOK T = true) (f : FromRow) (hf : f ∈ T.fromRows) (hx : f.key ∉ unsetExempt)
    (hid : f.gprop ∉ noUnset) : f.absent = Absent.none ∧ f.noneOk = true ∧ mapUnset f.key = some f.gprop := by
  simp only [rowsOK, Bool.and_eq_true, List.all_eq_true, Bool.or_eq_true, List.contains_iff_mem, beq_iff_eq] at h
  rcases h.2 f hf with (h1 | h1) | h1
  · exact absurd h1 hx
  · exact absurd h1 hid
  · exact ⟨h1.1.1, h1.1.2, h1.2⟩

end FimVerif.C02
