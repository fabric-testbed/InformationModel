import FimVerif.Proofs.Lemmas.TopoInvSvc
import FimVerif.Proofs.Lemmas.TopoInvComp
/-!
# C07 — the composites `add_facility` / `add_switch`

Either call raises and leaves the model as it was, or returns in `fac s fn sn cps`: a fresh node, its service, the service's
interfaces (C09 `addFacility_spec` / `addSwitch_spec`).  That state is a `push`, an `attach` and the interfaces hung one by one
(`ports_stable`).  `addFacility_shape` / `addSwitch_shape`: either call is `add_node`, then `composite` around the rest.
-/
namespace FimVerif.Topo
open FimVerif FimVerif.M FimVerif.Gen

theorem composite_stable {P : Topo → Prop} (hP : BuildStable P) {s : Topo} {ntype name ity : String} {nstype : Option String}
    {r : Except Err Nid × Topo} (h : P s) (hr : Outcome s (FacBuilt s ntype name nstype ity) r) (hnt : typeOk .networkNode ntype = true)
    (hty : TypeArgOk .networkService nstype) (hit : typeOk .connectionPoint ity = true ∧ ity ≠ "ServicePort") : P r.2 :=
  hr.state h fun _ _ ⟨fn, sn, cps, hf, hft, hfn, hnm, hst, hct, _, ht⟩ => by
    have h1 : P (pushNode fn s) :=
      hP.push h hf.ffn (nodeOk_of hf.fcls (hft ▸ hnt)) hf.fcls (.inl rfl) (hfn ▸ hnm)
    have e : fac s fn sn cps = grow (grow (pushNode fn s) [sn] [⟨fn.ref, sn.ref, .has⟩]) cps (ports sn cps) := by
      simp [fac_eq, pushNode_eq_grow, grow_grow]
    have hd := e ▸ hf.dist
    have h2 : P (grow (pushNode fn s) [sn] [⟨fn.ref, sn.ref, .has⟩]) :=
      hP.attach h1 (by simp [pushNode]) (fresh_of_ids_grow hd) (nodeOk_of hf.scls (hty _ hst)) (by simp [edgeOk, hf.fcls, hf.scls])
        (by simp [hf.fcls]) (by simp [hf.scls]) (nameFree_pushed_parent (hP.closed _ h) hf.ffn)
    rw [ht, e]
    exact ports_stable hP.toAttachStable hf.scls cps _ h2 (by simp [grow]) hd fun c hc => ⟨hf.ccls c hc, hct c hc ▸ hit⟩

theorem addFacility_stable {P : Topo → Prop} (hP : BuildStable P) (fl : Flavour) (c : Nat) (name : String) (nid : Option Nid)
    (site : Option String) (nstype : Option String) (nsprops : List PropArg) (ifs : Option (List (String × List PropArg)))
    (kw : List PropArg) (s : Topo) (hty : TypeArgOk .networkService nstype) (h : P s) :
    P (addFacility fl c name nid site nstype nsprops ifs kw s).2 :=
  composite_stable hP h (addFacility_spec fl c name nid site nstype nsprops ifs kw s (hP.closed _ h) (hP.ids _ h)) facility_ok hty
    ⟨facilityPort_ok, by decide⟩

theorem addSwitch_stable {P : Topo → Prop} (hP : BuildStable P) (fl : Flavour) (c : Nat) (name : String) (nid : Option Nid)
    (site : Option String) (nstype : Option String) (nsprops : List PropArg) (ports : List (String × String × List PropArg))
    (s : Topo) (hty : TypeArgOk .networkService nstype) (h : P s) :
    P (addSwitch fl c name nid site nstype nsprops ports s).2 :=
  composite_stable hP h (addSwitch_spec fl c name nid site nstype nsprops ports s (hP.closed _ h) (hP.ids _ h)) switch_ok hty
    ⟨dedicatedPort_ok, by decide⟩

def facBody (fl : Flavour) (name : String) (nid : Option Nid) (nstype : Option String) (nsprops : List PropArg)
    (ifs : Option (List (String × List PropArg))) (kw : List PropArg) (facn : Nid) (c1 : Nat) : M Topo Unit := do
  let (facs, _) ← nodeAddService fl c1 facn ⟨name ++ "-ns", suffixId nid "-ns", nstype, none, none, nsprops, []⟩
  let c2 := (pick (suffixId nid "-ns") c1).2
  match ifs with
  | none => do
      let _ ← nsAddInterface fl c2 facs [] (name ++ "-int") (suffixId nid "-int") (some "FacilityPort") kw
      Pure.pure ()
  | some l => addFacility.go fl nid facs l 0 c2

def swBody (fl : Flavour) (name : String) (nid : Option Nid) (nstype : Option String) (nsprops : List PropArg)
    (ports : List (String × String × List PropArg)) (sw : Nid) (c1 : Nat) : M Topo Unit := do
  let (sns, _) ← nodeAddService fl c1 sw ⟨name ++ "-ns", suffixId nid "-ns", nstype, none, none, nsprops, []⟩
  let c2 := (pick (suffixId nid "-ns") c1).2
  addSwitch.go fl nid sns ports c2

theorem addFacility_shape (fl : Flavour) (c : Nat) (name : String) (nid : Option Nid) (site : Option String)
    (nstype : Option String) (nsprops : List PropArg) (ifs : Option (List (String × List PropArg))) (kw : List PropArg) :
    addFacility fl c name nid site nstype nsprops ifs kw =
      (addNode fl c ⟨name, nid, site, some "Facility", []⟩ >>= fun x => match x with
        | (n, c1) => composite n (facBody fl name nid nstype nsprops ifs kw n c1) >>= fun _ => Pure.pure n) := rfl

theorem addSwitch_shape (fl : Flavour) (c : Nat) (name : String) (nid : Option Nid) (site : Option String)
    (nstype : Option String) (nsprops : List PropArg) (ports : List (String × String × List PropArg)) :
    addSwitch fl c name nid site nstype nsprops ports =
      (addNode fl c ⟨name, nid, site, some "Switch", []⟩ >>= fun x => match x with
        | (n, c1) => composite n (swBody fl name nid nstype nsprops ports n c1) >>= fun _ => Pure.pure n) := rfl

theorem addFacility_rou (fl : Flavour) (c : Nat) (name : String) (nid : Option Nid) (site : Option String)
    (nstype : Option String) (nsprops : List PropArg) (ifs : Option (List (String × List PropArg))) (kw : List PropArg)
    (s : Topo) (hi : IdsOk s) (hc : ClosedOk s) : ReturnsOrUnchanged (addFacility fl c name nid site nstype nsprops ifs kw) s :=
  rou_of_fs (addFacility_fs fl c name nid site nstype nsprops ifs kw s hc hi)

theorem addSwitch_rou (fl : Flavour) (c : Nat) (name : String) (nid : Option Nid) (site : Option String)
    (nstype : Option String) (nsprops : List PropArg) (ports : List (String × String × List PropArg))
    (s : Topo) (hi : IdsOk s) (hc : ClosedOk s) : ReturnsOrUnchanged (addSwitch fl c name nid site nstype nsprops ports) s :=
  rou_of_fs (addSwitch_fs fl c name nid site nstype nsprops ports s hc hi)

theorem invS_addFacility (fl : Flavour) (c : Nat) (name : String) (nid : Option Nid) (site : Option String)
    (nstype : Option String) (nsprops : List PropArg) (ifs : Option (List (String × List PropArg))) (kw : List PropArg) (s : Topo)
    (hty : TypeArgOk .networkService nstype) (hout : ReturnsOrUnchanged (addFacility fl c name nid site nstype nsprops ifs kw) s)
    (h : InvS s) : InvS (addFacility fl c name nid site nstype nsprops ifs kw s).2 :=
  addFacility_stable buildStable_invS fl c name nid site nstype nsprops ifs kw s hty h

theorem invS_addSwitch (fl : Flavour) (c : Nat) (name : String) (nid : Option Nid) (site : Option String)
    (nstype : Option String) (nsprops : List PropArg) (ports : List (String × String × List PropArg)) (s : Topo)
    (hty : TypeArgOk .networkService nstype) (hout : ReturnsOrUnchanged (addSwitch fl c name nid site nstype nsprops ports) s)
    (h : InvS s) : InvS (addSwitch fl c name nid site nstype nsprops ports s).2 :=
  addSwitch_stable buildStable_invS fl c name nid site nstype nsprops ports s hty h

theorem invD_addFacility (fl : Flavour) (c : Nat) (name : String) (nid : Option Nid) (site : Option String)
    (nstype : Option String) (nsprops : List PropArg) (ifs : Option (List (String × List PropArg))) (kw : List PropArg) (s : Topo)
    (hty : TypeArgOk .networkService nstype) (h : InvD s) : InvD (addFacility fl c name nid site nstype nsprops ifs kw s).2 :=
  addFacility_stable buildStable_invD fl c name nid site nstype nsprops ifs kw s hty h

theorem invD_addSwitch (fl : Flavour) (c : Nat) (name : String) (nid : Option Nid) (site : Option String)
    (nstype : Option String) (nsprops : List PropArg) (ports : List (String × String × List PropArg)) (s : Topo)
    (hty : TypeArgOk .networkService nstype) (h : InvD s) : InvD (addSwitch fl c name nid site nstype nsprops ports s).2 :=
  addSwitch_stable buildStable_invD fl c name nid site nstype nsprops ports s hty h

theorem invSN_addFacility (fl : Flavour) (c : Nat) (name : String) (nid : Option Nid) (site : Option String)
    (nstype : Option String) (nsprops : List PropArg) (ifs : Option (List (String × List PropArg))) (kw : List PropArg) (s : Topo)
    (hty : TypeArgOk .networkService nstype) (hout : ReturnsOrUnchanged (addFacility fl c name nid site nstype nsprops ifs kw) s)
    (h : InvSN s) : InvSN (addFacility fl c name nid site nstype nsprops ifs kw s).2 :=
  addFacility_stable buildStable_invSN fl c name nid site nstype nsprops ifs kw s hty h

end FimVerif.Topo
