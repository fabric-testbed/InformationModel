/-! Two unrelated tools of `Proofs/C18.lean`: maps over `zipIdx` that read one side of the pair only (for the fields of `genIfaces`),
and `codes`, a string as its UTF-8 bytes. -/
namespace FimVerif.C18

theorem zipIdx_map_fst' {α β} (l : List α) (h : α → β) : l.zipIdx.map (fun x => h x.1) = l.map h := by
  have := congrArg (List.map h) (List.zipIdx_map_fst 0 l)
  rwa [List.map_map] at this

theorem zipIdx_map_snd' {α β} (l : List α) (h : Nat → β) : l.zipIdx.map (fun x => h x.2) = (List.range l.length).map h := by
  have := congrArg (List.map h) (List.zipIdx_map_snd (l := l) 0)
  rwa [List.map_map, ← List.range_eq_range'] at this

theorem zipIdx_map_getElem? {α β γ} (l : List α) {m : List γ} (hl : m.length = l.length) (g : Option γ → β) :
    l.zipIdx.map (fun x => g m[x.2]?) = m.map (fun a => g (some a)) := by
  rw [zipIdx_map_snd' l (fun i => g m[i]?), ← hl]
  apply List.ext_getElem?
  intro i
  by_cases h : i < m.length <;> simp [h]

/-- names are compared on their UTF-8 bytes: string equality and `++` are slow to evaluate -/
def codes (s : String) : List Nat := s.toByteArray.data.toList.map UInt8.toNat

theorem codes_inj {s t : String} : codes s = codes t ↔ s = t := by
  refine ⟨fun h => ?_, fun h => h ▸ rfl⟩
  have := List.map_inj_right (fun _ _ => UInt8.toNat_inj.mp) |>.mp h
  exact String.toByteArray_inj.mp (ByteArray.ext (Array.ext' this))

theorem codes_append (s t : String) : codes (s ++ t) = codes s ++ codes t := by
  simp [codes, String.toByteArray_append]

theorem codes_ofList (l : List Char) : codes (String.ofList l) = (l.flatMap String.utf8EncodeChar).map UInt8.toNat := by
  simp [codes, List.utf8Encode]

/-- `Nat.toDigitsCore 10` with the ASCII code `48 + d` in place of `Nat.digitChar d` -/
def decCore : Nat → Nat → List Nat → List Nat
  | 0, _, ds => ds
  | fuel+1, n, ds => if n / 10 = 0 then (48 + n % 10) :: ds else decCore fuel (n / 10) ((48 + n % 10) :: ds)

theorem decCore_eq (fuel n : Nat) (ds : List Char) :
    ((Nat.toDigitsCore 10 fuel n ds).flatMap String.utf8EncodeChar).map UInt8.toNat
      = decCore fuel n ((ds.flatMap String.utf8EncodeChar).map UInt8.toNat) := by
  have digit : ∀ d < 10, (String.utf8EncodeChar (Nat.digitChar d)).map UInt8.toNat = [48 + d] := by decide
  induction fuel generalizing n ds with
  | zero => rfl
  | succ fuel ih =>
    have hd := digit (n % 10) (Nat.mod_lt n (by decide))
    simp only [Nat.toDigitsCore, decCore]
    split
    · simp [hd]
    · simp [ih, hd]

theorem codes_toString (n : Nat) : codes (toString n) = decCore (n + 1) n [] :=
  (codes_ofList _).trans (decCore_eq (n + 1) n [])

end FimVerif.C18
