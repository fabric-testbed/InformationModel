import FimVerif.Proofs.Lemmas.TopoAtomicCtor
/-! `connect_interface` on a well-formed state: either it raises in the state it started from, or it appends exactly
the ServicePort, the Link and their three edges. -/
namespace FimVerif.Topo
open FimVerif FimVerif.M

/-- the link created by `connect_interface` gets a valid name whenever the ServicePort did (a conjunct of `IfsOk`) -/
def NameHyp (t : Topo) (iname : String) : Prop :=
  ∀ o ∈ t.nodes, IsOwnerCls o.cls → validName .connectionPoint (o.name ++ "-" ++ iname) = true →
    validName .link (o.name ++ "-" ++ iname ++ "-link") = true

def connState (t : Topo) (sv fi cp ln : GNode) : Topo :=
  ⟨t.nodes ++ [cp, ln], t.edges ++ [⟨sv.ref, cp.ref, .connects⟩, ⟨ln.ref, fi.ref, .connects⟩, ⟨ln.ref, cp.ref, .connects⟩]⟩

/-- what `connect_interface` adds -/
def Connected (t : Topo) (svc iid : Nid) (c : Nat) (cache : Cache) (v : Cache) (t' : Topo) : Prop :=
  ∃ sv fi cp ln nm, sv ∈ t.nodes ∧ sv.nid = svc ∧ fi ∈ t.nodes ∧ fi.nid = iid ∧ peersOf iid t = (.ok [], t) ∧
    cp.cls = .connectionPoint ∧ cp.nid = .gen c ∧ cp.typ = "ServicePort" ∧ ln.cls = .link ∧
    ln.typ = (if fi.typ == "SharedPort" then "L2Path" else "Patch") ∧ ln.nid = .gen (c + 1) ∧
    v = cache ++ [(nm, .gen c)] ∧ t' = connState t sv fi cp ln

/-- both derived names are validated before the port is created (commit d747e04), and once the port exists the Link cannot be
refused (`linkNew_run`) -/
theorem connect_spec (fl : Flavour) (c : Nat) (svc iid : Nid) (iname : String) (cache : Cache) (t : Topo)
    (hd : IdsDistinct t) (hc : Closed t) (hcp : ∀ n ∈ t.nodes, n.nid = iid → n.cls = .connectionPoint)
    (hf : ∀ m ∈ t.nodes, m.nid ≠ .gen c ∧ m.nid ≠ .gen (c + 1)) :
    Outcome t (Connected t svc iid c cache) (connectInterface fl c svc cache (.iface iid iname) t) := by
  unfold connectInterface
  simp only []
  refine ro_step (by ro) Outcome.err (fun sv hsv => ?_)
  refine ro_step (by ro) Outcome.err (fun _ _ => ?_)
  refine ro_step (by ro) Outcome.err (fun owner hown => ?_)
  refine ro_step (by ro) Outcome.err (fun o ho => ?_)
  refine ro_step (by ro) Outcome.err (fun peers hpeers => ?_)
  refine ro_step (by ro) Outcome.err (fun _ hg => ?_)
  simp only [flag_connectNamePrecheck, if_true]
  refine ro_step (by ro) Outcome.err (fun _ hvcp => ?_)
  refine ro_step (by ro) Outcome.err (fun _ hvln => ?_)
  have hlinkname := guard_ok hvln
  have hpe : peers = [] := by have := guard_ok hg; simpa using this
  subst hpe
  have ho' : owner = some o := by cases owner <;> simp [need] at ho ⊢; exact ho
  subst ho'
  obtain ⟨⟨fi, hfi⟩, hom, hoc⟩ := ownerNode_ok hown
  obtain ⟨hfim, hfii, _⟩ := findNode_ok hfi
  obtain ⟨hsvm, hsvi, _⟩ := findNode_ok hsv
  cases fl with
  | substrate =>
    have : ifaceNew .substrate c (o.name ++ "-" ++ iname) none (some svc) (some "ServicePort") [] t = (.error .topology, t) := by
      unfold ifaceNew; rfl
    rw [bind_err this]; exact Outcome.err _
  | experiment =>      -- from here on `linkNew_run`, which is about the experiment flavour (a generated link id)
  refine (ifaceNew_spec .experiment c (o.name ++ "-" ++ iname) none (some svc) (some "ServicePort") [] t).step Outcome.err
    fun _ _ ⟨n, hnew, hncls, hnid, hname, htyp, hvn, hv, pn, hpn, ht⟩ => ?_
  · subst hv ht
    have hpnsv : pn = sv := by
      have := hpn.symm.trans hsv; simpa using this
    subst hpnsv
    have hnid' : n.nid = .gen c := by simpa [pick] using hnid
    have hntyp : n.typ = "ServicePort" := by simpa using htyp.symm
    rw [setEdge_pushNew hc hnew]
    simp only [pick]
    have hd1 : IdsDistinct (pushNode n t) := idsDistinct_push hd hnew
    generalize hU : grow t [n] [⟨pn.ref, n.ref, .connects⟩] = U1
    have hU1n : U1.nodes = t.nodes ++ [n] := by subst hU; rfl
    have hU1e : U1.edges = t.edges ++ [⟨pn.ref, n.ref, .connects⟩] := by subst hU; rfl
    have hdU : IdsDistinct U1 := by unfold IdsDistinct; rw [hU1n]; exact hd1
    have hfiU : fi ∈ U1.nodes := by rw [hU1n]; simp [hfim]
    have hnU : n ∈ U1.nodes := by rw [hU1n]; simp
    have hty := typeOf_run (findNode_of_mem hdU hfiU)
    rw [hfii] at hty
    rw [bind_ok hty]
    have hlayer : lookupD Gen.Rules.linkLayer (if (fi.typ == "SharedPort") = true then "L2Path" else "Patch") = some "L2" := by
      split <;> decide
    have hficls : fi.cls = .connectionPoint := hcp fi hfim hfii
    have hpres : IfacesPresent [IfArg.iface iid iname, IfArg.iface (Nid.gen c) (o.name ++ "-" ++ iname)] U1 := by
      intro i hi
      simp only [List.mem_cons, List.mem_nil_iff, or_false] at hi
      rcases hi with rfl | rfl
      · exact ⟨_, _, rfl, fi, hfiU, hfii, hficls⟩
      · exact ⟨_, _, rfl, n, hnU, hnid', hncls⟩
    have hfreshU : ∀ m ∈ U1.nodes, m.nid ≠ .gen (c + 1) := by
      intro m hm; rw [hU1n] at hm
      rcases List.mem_append.mp hm with hm | hm
      · exact (hf m hm).2
      · simp at hm; subst hm; rw [hnid']; simp
    obtain ⟨ln, hlc, hlt', hli, hlrun⟩ := linkNew_run (c := c + 1) (name := o.name ++ "-" ++ iname ++ "-link")
      (ty := if (fi.typ == "SharedPort") = true then "L2Path" else "Patch") (layer := "L2") hdU (by simp)
      hlinkname hlayer hpres hfreshU
    rw [bind_ok hlrun]
    refine .ok ⟨pn, fi, n, ln, o.name ++ "-" ++ iname, hsvm, hsvi, hfim, hfii, hpeers, hncls, hnid', hntyp, hlc, hlt', hli, rfl, ?_⟩
    have hfr : fi.ref = ⟨.connectionPoint, iid⟩ := by rw [ref_of_cls hficls, hfii]
    have hnr : n.ref = ⟨.connectionPoint, .gen c⟩ := by rw [ref_of_cls hncls, hnid']
    have hlr : ln.ref = ⟨.link, .gen (c + 1)⟩ := by rw [ref_of_cls hlc, hli]
    have hiidc : iid ≠ .gen c := by rw [← hfii]; exact (hf fi hfim).1
    have hlt : ¬ touches (pushNode ln U1).edges ln.ref := by
      have hnl : ∀ m ∈ t.nodes, m.nid ≠ ln.nid := fun m hm => by rw [hli]; exact (hf m hm).2
      rintro ⟨e, he, ht⟩
      have he' : e ∈ t.edges ++ [⟨pn.ref, n.ref, .connects⟩] := by rw [← hU1e]; exact he
      rcases List.mem_append.mp he' with h | h
      · exact not_touches_of_closed hc (absent_of_fresh hnl) ⟨e, h, ht⟩
      · rw [List.mem_singleton.mp h, hnr, hlr] at ht
        rcases ht with ht | ht
        · exact ref_ne_of_nid_ne (hnl pn hsvm) (ht.trans hlr.symm)
        · cases ht
    rw [linkEdges_pair hlt hiidc, ← hfr, ← hnr]
    simp only [connState, pushNode, hU1n, hU1e, List.append_assoc, List.cons_append, List.nil_append]

end FimVerif.Topo
