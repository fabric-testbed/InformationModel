import FimVerif.Proofs.Lemmas.StoreInv
/-! C05: `merge_nodes` — edges kept, edge dictionaries untouched, property policy. -/
namespace FimVerif.Store
open FimVerif FimVerif.Gen.StoreConsts

theorem addIfAbsent_mono (w x : Nat) (attrs : Props) (s : Store) : ∀ e ∈ s.edges, e ∈ (addIfAbsent w x attrs s).edges := by
  intro e he
  unfold addIfAbsent; split
  · exact he
  · exact List.mem_append_left _ he

theorem remapEdges_mono (u v : Nat) (l : List SEdge) (s : Store) : ∀ e ∈ s.edges, e ∈ (remapEdges u v l s).edges := by
  induction l generalizing s with
  | nil => intro e he; exact he
  | cons x r ih => exact fun e he => ih (addIfAbsent (rm u v x.a) (rm u v x.b) x.attrs s) e (addIfAbsent_mono _ _ _ s e he)

theorem remapEdges_has (u v : Nat) (l : List SEdge) (s : Store) :
    ∀ x ∈ l, (remapEdges u v l s).edges.any (edgeMatch (rm u v x.a) (rm u v x.b)) = true := by
  induction l generalizing s with
  | nil => intro x hx; cases hx
  | cons y r ih =>
    intro x hx
    rw [remapEdges_cons]
    rcases List.mem_cons.1 hx with rfl | hx
    · -- after its own round the image of `x` is there, and later rounds only add edges
      have : (addIfAbsent (rm u v x.a) (rm u v x.b) x.attrs s).edges.any (edgeMatch (rm u v x.a) (rm u v x.b)) = true := by
        unfold addIfAbsent; split
        · assumption
        · simp [edgeMatch]
      obtain ⟨e, he, hm⟩ := List.any_eq_true.1 this
      exact List.any_eq_true.2 ⟨e, remapEdges_mono u v r _ e he, hm⟩
    · exact ih _ x hx

theorem remapEdges_attrs (u v : Nat) (l : List SEdge) (s : Store) :
    ∀ e' ∈ (remapEdges u v l s).edges, (e' ∈ s.edges) ∨ ∃ x ∈ l, e'.attrs = x.attrs ∧ e'.a = rm u v x.a ∧ e'.b = rm u v x.b := by
  induction l generalizing s with
  | nil => intro e' he'; exact Or.inl he'
  | cons y r ih =>
    intro e' he'
    rcases ih (addIfAbsent (rm u v y.a) (rm u v y.b) y.attrs s) e' he' with h | ⟨x, hx, hh⟩
    · unfold addIfAbsent at h
      split at h
      · exact Or.inl h
      · rcases List.mem_append.1 h with h | h
        · exact Or.inl h
        · exact Or.inr ⟨y, by simp, by rw [List.mem_singleton.1 h]; exact ⟨rfl, rfl, rfl⟩⟩
    · exact Or.inr ⟨x, by simp [hx], hh⟩

theorem contract_keeps_edges (s : Store) (u v : Nat) (e : SEdge) (he : e ∈ s.edges) :
    (contract u v s).edges.any (edgeMatch (rm u v e.a) (rm u v e.b)) = true := by
  unfold contract
  simp only
  by_cases hv : e.a = v ∨ e.b = v
  · exact remapEdges_has u v _ _ e (by simp [List.mem_filter, he, hv])
  · simp only [not_or] at hv
    refine List.any_eq_true.2 ⟨e, remapEdges_mono u v _ _ e ?_, ?_⟩
    · simp [removeNode, List.mem_filter, he, hv.1, hv.2]
    · simp [edgeMatch, rm, hv.1, hv.2]

theorem contract_edge_attrs (s : Store) (u v : Nat) (e' : SEdge) (he' : e' ∈ (contract u v s).edges) :
    ∃ e ∈ s.edges, e'.attrs = e.attrs ∧ e'.a = rm u v e.a ∧ e'.b = rm u v e.b := by
  unfold contract at he'
  simp only at he'
  rcases remapEdges_attrs u v _ _ e' he' with h | ⟨x, hx, hh⟩
  · simp only [removeNode, List.mem_filter, Bool.and_eq_true, bne_iff_ne, ne_eq] at h
    exact ⟨e', h.1, rfl, by simp [rm, h.2.1], by simp [rm, h.2.2]⟩
  · exact ⟨x, (List.mem_filter.1 hx).1, hh⟩

theorem Effect.mergeNodes_ok {s : Store} {g nid g2 : String} {pol : Option (List (String × Policy))} {r : R}
    (ef : Effect s (.mergeNodes g nid g2 pol) r) (h : r.1 = .ok .unit) :
    ∃ u v mine theirs np, findNode s g nid = .ok u ∧ findNode s g2 nid = .ok v ∧ u ≠ v ∧
      nodeAttrs s u = some mine ∧ nodeAttrs s v = some theirs ∧ r.2 = updNode u (fun _ => np) (contract u v s) ∧
      AMap.keys np = AMap.keys mine ∧
      (∀ k v0, AMap.get k mine = some v0 → AMap.get k np = some (policyVal pol theirs k v0)) := by
  cases ef with
  | refused => cases h
  | answered _ o ho => exact absurd (Except.ok.inj h) ho
  | mergeNodes _ _ _ _ u v mine theirs np hu hv huv hm ht hnp =>
    refine ⟨u, v, mine, theirs, np, hu, hv, huv, hm, ht, rfl, ?_, fun k v0 hk => ?_⟩
    · cases pol with
      | none => rw [hnp]
      | some p => exact mergeProps_keys hnp
    · cases pol with
      | none => rw [hnp]; exact hk
      | some p => rw [mergeProps_policy hnp, hk]; rfl

end FimVerif.Store
