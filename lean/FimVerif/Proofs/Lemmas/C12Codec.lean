import FimVerif.Proofs.Lemmas.C12Add
/-! `Delegations.to_json` / `from_json` (C12): on a well-formed set (`WF`) `to_json` is a map (`encPure`), and `from_json` appends to
its container the delegation an entry of that shape was written for. -/
namespace FimVerif.C12
open FimVerif.Deleg FimVerif.Gen.DelegConsts

variable {D : Type}

theorem keys_distinct : fieldPoolId ≠ fieldPool ∧ fieldPoolId ≠ fieldCapacities ∧ fieldPoolId ≠ fieldLabels ∧
    fieldPool ≠ fieldCapacities ∧ fieldPool ≠ fieldLabels ∧ fieldCapacities ≠ fieldLabels := by
  simp [fieldPoolId, fieldPool, fieldCapacities, fieldLabels]

/-- details that belong to type `ty`, are not empty (`to_dict` is not `None`) and survive their own
codec (`Capacities(**x.to_dict()) == x`: the C03 round trip, an explicit hypothesis here) -/
def DetOk (ops : DetailOps D) (ty : DType) (o : Option D) : Prop :=
  match o with
  | none => False
  | some x => ops.kindOf x = ty ∧
    match ops.toDict x with
    | none => False
    | some j => ops.fromDict ty j = .ok x

/-- A pool name is never the reserved `singlePoolName`: `Delegation(...)` refuses it (`C12.reserved_name_rejected`), so the clause
excludes nothing that can be constructed. -/
def WFDeleg (ops : DetailOps D) (ty : DType) (d : Delegation D) : Prop :=
  d.ty = ty ∧
  match d.fmt with
  | .single => d.pool = none ∧ DetOk ops ty d.details
  | .definition => (match d.pool with | none => False | some p => p ≠ singlePoolName) ∧ DetOk ops ty d.details
  | .reference => (match d.pool with | none => False | some p => p ≠ singlePoolName) ∧ d.details = none

def WF (ops : DetailOps D) (ds : Delegations D) : Prop :=
  (∀ d ∈ ds.items, WFDeleg ops ds.ty d) ∧ ds.items.Pairwise (fun a b => a.id ≠ b.id)

theorem detOk_some {ops : DetailOps D} {ty : DType} {o : Option D} (h : DetOk ops ty o) :
    ∃ x j, o = some x ∧ ops.kindOf x = ty ∧ ops.toDict x = some j ∧ ops.fromDict ty j = .ok x := by
  cases o with
  | none => exact h.elim
  | some x =>
    obtain ⟨hk, hd⟩ := h
    cases hx : ops.toDict x with
    | none => simp [hx] at hd
    | some j => exact ⟨x, j, rfl, hk, hx, by simpa [hx] using hd⟩

/-- the inner dictionary `to_json` writes for a well-formed delegation (under `WFDeleg` the `getD` defaults are never taken) -/
def encPure (ops : DetailOps D) (cty : DType) (d : Delegation D) : String × JVal :=
  match d.fmt with
  | .single => (d.id, .obj [(fieldPoolId, .str singlePoolName), (detailsKey cty, (detailsDict ops d).getD .null)])
  | .definition => (d.id, .obj [(fieldPoolId, .str (d.pool.getD "")), (detailsKey cty, (detailsDict ops d).getD .null)])
  | .reference => (d.id, .obj [(fieldPool, .str (d.pool.getD ""))])

theorem encodeOne_wf (ops : DetailOps D) (ty : DType) (d : Delegation D) (h : WFDeleg ops ty d) :
    encodeOne ops ty d = .ok (encPure ops ty d) := by
  obtain ⟨ty', id, fmt, pool, details⟩ := d
  obtain ⟨hty, h⟩ := h
  cases fmt <;> simp only at h
  · obtain ⟨hp, hd⟩ := h
    cases pool with
    | none => simp at hp
    | some p =>
      obtain ⟨x, j, rfl, _, hx, _⟩ := detOk_some hd
      simp [encodeOne, encPure, detailsDict, hx]
  · obtain ⟨hp, hd⟩ := h
    cases pool with
    | none => simp at hp
    | some p => simp [encodeOne, encPure]
  · obtain ⟨hp, hd⟩ := h
    obtain ⟨x, j, rfl, _, hx, _⟩ := detOk_some hd
    simp [encodeOne, encPure, detailsDict, hx]

theorem encode_wf (ops : DetailOps D) (ds : Delegations D) (h : WF ops ds) :
    encode ops ds = .ok (.obj (ds.items.map (encPure ops ds.ty))) := by
  unfold encode
  rw [List.mapM_ok_of_forall (encPure ops ds.ty) fun d hd => encodeOne_wf ops ds.ty d (h.1 d hd)]
  rfl

/-- an entry as `to_json` writes it for a `cty` container, read as type `ty`: the details are looked up under `ty`'s key -/
theorem decodeEntry_details (ops : DetailOps D) (cty ty : DType) (ds : Delegations D) (k p : String) (j : Deleg.JVal) :
    decodeEntry ops ty ds k (.obj [(fieldPoolId, .str p), (detailsKey cty, j)]) =
      if cty = ty then do
        let x ← ops.fromDict ty j
        let d ← mkDelegation ty k (if p = singlePoolName then .single else .definition) (if p = singlePoolName then none else some p)
        let d ← setDetails ops d x
        addDelegation ds d
      else .error .key := by
  obtain ⟨-, c1, c2, -, -, c3⟩ := keys_distinct
  -- only `cty`'s details key is present: the mixing test is false, and the look-up under `ty`'s key hits iff `cty = ty`
  -- (`apply_ite`: the model destructures `let (fmt, pool) := if … then … else …`)
  cases cty <;> cases ty <;>
    simp [decodeEntry, lookup, detailsKey, poolOf, c1, c2, c3, c3.symm, bind, Except.bind, apply_ite Prod.fst,
      apply_ite Prod.snd]

theorem decodeEntry_reference (ops : DetailOps D) (ty : DType) (ds : Delegations D) (k p : String) :
    decodeEntry ops ty ds k (.obj [(fieldPool, .str p)]) = mkDelegation ty k .reference (some p) >>= addDelegation ds := by
  obtain ⟨k1, -, -, k2, k3, -⟩ := keys_distinct
  simp [decodeEntry, lookup, k1.symm, k2, k3, poolOf, bind, Except.bind]

theorem decodeEntry_encPure (ops : DetailOps D) (acc : Delegations D) (d : Delegation D)
    (h : WFDeleg ops acc.ty d) (hfresh : ∀ e ∈ acc.items, e.id ≠ d.id) :
    decodeEntry ops acc.ty acc (encPure ops acc.ty d).1 (encPure ops acc.ty d).2 = .ok { acc with items := acc.items ++ [d] } := by
  replace hfresh : hasId acc.items d.id = false := List.any_eq_false.mpr fun e he => by simpa using hfresh e he
  obtain ⟨ty', id, fmt, pool, details⟩ := d
  obtain ⟨hty, h⟩ := h
  simp only at hty hfresh
  subst hty
  cases fmt <;> simp only at h <;> obtain ⟨hp, hd⟩ := h
  · cases pool with
    | none => exact hp.elim
    | some p =>
      obtain ⟨x, j, rfl, hk, hx, hd⟩ := detOk_some hd
      simp only at hp
      simp [encPure, decodeEntry_details, detailsDict, hx, hd, hp, mkDelegation, setDetails, hk, addDelegation, hfresh,
        bind, Except.bind]
  · cases pool with
    | none => exact hp.elim
    | some p =>
      simp only at hp hd
      subst hd
      simp [encPure, decodeEntry_reference, mkDelegation, hp, addDelegation, hfresh, bind, Except.bind]
  · subst hp
    obtain ⟨x, j, rfl, hk, hx, hd⟩ := detOk_some hd
    simp [encPure, decodeEntry_details, detailsDict, hx, hd, mkDelegation, setDetails, hk, addDelegation, hfresh,
      bind, Except.bind]

theorem decode_fold (ops : DetailOps D) (ty : DType) (items : List (Delegation D)) (acc : Delegations D)
    (hacc : acc.ty = ty) (hwf : ∀ d ∈ items, WFDeleg ops ty d)
    (hids : (acc.items ++ items).Pairwise (fun a b => a.id ≠ b.id)) :
    (items.map (encPure ops ty)).foldlM (fun ds kv => decodeEntry ops ty ds kv.1 kv.2) acc
      = .ok { acc with items := acc.items ++ items } := by
  induction items generalizing acc with
  | nil => simp [pure, Except.pure]
  | cons d items ih =>
    subst hacc
    rw [List.map_cons, List.foldlM_cons, decodeEntry_encPure ops acc d (hwf d (by simp))
      fun e he => (List.pairwise_append.mp hids).2.2 e he d (by simp)]
    simp only [bind, Except.bind]
    have := ih { acc with items := acc.items ++ [d] } rfl (fun e he => hwf e (by simp [he]))
      (by simpa [List.append_assoc] using hids)
    rw [this]
    simp

theorem decode_encoded (ops : DetailOps D) (ds : Delegations D) (h : WF ops ds) :
    decode ops ds.ty (.obj (ds.items.map (encPure ops ds.ty))) = .ok ds := by
  simp only [decode]
  rw [decode_fold ops ds.ty ds.items { ty := ds.ty, items := [] } rfl h.1 (by simpa using h.2)]
  simp

/-- the end of `decodeEntry` for an entry with a `pool_id`: construct, set the details, store -/
theorem decodeEntry_tail_ok (ops : DetailOps D) (ty : DType) (k : String) (fmt : Fmt) (pool : Option String) (x : D)
    {ds ds' : Delegations D}
    (h : (mkDelegation ty k fmt pool >>= fun d => setDetails ops d x >>= fun d => addDelegation ds d) = .ok ds') :
    ds'.items = ds.items ++ [{ ty := ty, id := k, fmt := fmt, pool := pool, details := some x }] := by
  obtain ⟨d0, hm, h⟩ := Except.bind_eq_ok_iff.1 h
  obtain ⟨d1, hs, h⟩ := Except.bind_eq_ok_iff.1 h
  obtain ⟨rfl, _⟩ := mkDelegation_ok hm
  obtain ⟨_, _, rfl⟩ := setDetails_ok hs
  exact congrArg (·.items) (addDelegation_ok h).1

end FimVerif.C12
