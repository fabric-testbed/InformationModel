import FimVerif.Proofs.Lemmas.C16Validate
/-! Names: when `set_name` and an entry point that also composes names answer `.ok` (`setName_ok_iff`, `createNamed_ok_iff`); the character
classes of the four `NAME_REGEX` patterns and the inclusions between them, on which the language of a composed name turns. -/
namespace FimVerif.V16
open FimVerif.Regex FimVerif.Gen.Validators FimVerif.Gen.EntryPoints

theorem setName_ok_iff {cls : String} {v : Val} {s : List Char} :
    setName cls v = .ok s ↔ v = .str s ∧ ∃ r, nameRe.lookup cls = some r ∧ accepts nameAnchor r s = true := by
  cases v with
  | str s' =>
    simp only [setName]
    cases nameRe.lookup cls with
    | none => simp [throw_eq]
    | some r =>
      by_cases hm : accepts nameAnchor r s' = true
      · simp only [hm, if_true, pure_eq, Except.ok.injEq, Val.str.injEq, Option.some.injEq, exists_eq_left']
        exact ⟨fun h => ⟨h, h ▸ hm⟩, fun h => h.1⟩
      · simp only [hm, Bool.false_eq_true, if_false, throw_eq, reduceCtorEq, false_iff, Val.str.injEq, Option.some.injEq,
          exists_eq_left', not_and]
        rintro rfl; exact hm
  | _ => simp [setName, throw_eq]

theorem setName_L (hA : nameAnchor = .full) {cls : String} {r : Re} (hr : nameRe.lookup cls = some r) {v : Val} {s : List Char}
    (h : setName cls v = .ok s) : r.L s := by
  obtain ⟨_, r', hr', hm⟩ := setName_ok_iff.mp h
  cases hr.symm.trans hr'
  rw [hA] at hm; exact accepts_full.mp hm

theorem setName_str_iff (hA : nameAnchor = .full) {cls : String} {s : List Char} :
    setName cls (.str s) = .ok s ↔ ∃ r, nameRe.lookup cls = some r ∧ r.L s := by
  simp [setName_ok_iff, hA, accepts_full]

theorem setName_of_L (hA : nameAnchor = .full) {cls : String} {r : Re} (hr : nameRe.lookup cls = some r) {s : List Char} (h : r.L s) :
    setName cls (.str s) = .ok s :=
  (setName_str_iff hA).mpr ⟨r, hr, h⟩

theorem setName_str_cases (cls : String) (s : List Char) : setName cls (.str s) = .ok s ∨ ∃ e, setName cls (.str s) = .error e := by
  cases h : setName cls (.str s) with
  | error e => exact Or.inr ⟨e, rfl⟩
  | ok t => cases (setName_ok_iff.mp h).1; exact Or.inl rfl

theorem stepElem_inv (hA : nameAnchor = .full) {cls : String} {r : Re} (hr : nameRe.lookup cls = some r) (e : Elem)
    (op : NameEntry × Val) (h : e.cls = cls ∧ r.L e.name) : (stepElem e op).cls = cls ∧ r.L (stepElem e op).name := by
  obtain ⟨rfl, h⟩ := h
  unfold stepElem
  cases hs : setName e.cls op.2 with
  | error x => exact ⟨rfl, h⟩
  | ok s => cases op.1 <;> exact ⟨rfl, setName_L hA hr hs⟩

theorem checkDerived_ok_iff (parent name : List Char) (ds : List Derived) :
    checkDerived parent name ds = .ok () ↔
      ∀ d ∈ ds, setName d.cls (.str (derivedName parent name d)) = .ok (derivedName parent name d) := by
  induction ds with
  | nil => simp [checkDerived, pure_eq]
  | cons d t ih =>
    simp only [checkDerived, List.mem_cons, forall_eq_or_imp]
    rcases setName_str_cases d.cls (derivedName parent name d) with h | ⟨e, h⟩
    · rw [h]; simp only [true_and]; exact ih
    · rw [h]; simp

theorem createNamed_ok_iff (hA : nameAnchor = .full) (own kind variant : String) (parent s : List Char) :
    createNamed own kind variant parent (.str s) = .ok s ↔
      (∃ r, nameRe.lookup own = some r ∧ r.L s) ∧
      ∀ d ∈ derivedFor kind variant, ∃ rd, nameRe.lookup d.cls = some rd ∧ rd.L (derivedName parent s d) := by
  simp only [← setName_str_iff hA]
  unfold createNamed
  rcases setName_str_cases own s with h | ⟨e, h⟩
  · rw [h]
    simp only [true_and]
    rw [← checkDerived_ok_iff]
    cases checkDerived parent s (derivedFor kind variant) with
    | error e => simp
    | ok u => simp [pure_eq]
  · rw [h]; simp

/-- the character classes of the generated `nameRe_*` patterns, retyped: `service_name_domain`, `component_name_domain` (and the uses of `nodeCh`, `ifCh`) hold by definitional equality
and stop type-checking when a pattern changes in the source -/
def nodeCh (c : Char) : Bool := isWord c || c.toNat == 45 || c.toNat == 46
def nsCh (c : Char) : Bool := isWord c || c.toNat == 45 || c.toNat == 95 || c.toNat == 46
def compCh (c : Char) : Bool := isWord c || c.toNat == 45 || c.toNat == 95 || c.toNat == 46 || c.toNat == 32
def ifCh (c : Char) : Bool :=
  isWord c || c.toNat == 45 || c.toNat == 43 || c.toNat == 95 || c.toNat == 47 || c.toNat == 46 || c.toNat == 32 || c.toNat == 58

theorem lookup_NodeSliver : nameRe.lookup "NodeSliver" = some nameRe_NodeSliver := by simp [nameRe, List.lookup]
theorem lookup_NetworkServiceSliver : nameRe.lookup "NetworkServiceSliver" = some nameRe_NetworkServiceSliver := by simp [nameRe, List.lookup]
theorem lookup_ComponentSliver : nameRe.lookup "ComponentSliver" = some nameRe_ComponentSliver := by simp [nameRe]
theorem lookup_InterfaceSliver : nameRe.lookup "InterfaceSliver" = some nameRe_InterfaceSliver := by simp [nameRe, List.lookup]

theorem service_name_domain (s : List Char) : nameRe_NetworkServiceSliver.L s ↔ 2 ≤ s.length ∧ s.length ≤ 255 ∧ ∀ c ∈ s, nsCh c = true := L_rep_chr _ 2 255 s
theorem component_name_domain (s : List Char) : nameRe_ComponentSliver.L s ↔ 2 ≤ s.length ∧ s.length ≤ 255 ∧ ∀ c ∈ s, compCh c = true := L_rep_chr _ 2 255 s

theorem nsCh_of_nodeCh (c : Char) (h : nodeCh c = true) : nsCh c = true := by
  simp only [nodeCh, nsCh, Bool.or_eq_true] at h ⊢; rcases h with (h | h) | h <;> simp [h]

theorem ifCh_of_nodeCh (c : Char) (h : nodeCh c = true) : ifCh c = true := by
  simp only [nodeCh, ifCh, Bool.or_eq_true] at h ⊢; rcases h with (h | h) | h <;> simp [h]

theorem ifCh_of_compCh (c : Char) (h : compCh c = true) : ifCh c = true := by
  simp only [compCh, ifCh, Bool.or_eq_true] at h ⊢; rcases h with (((h | h) | h) | h) | h <;> simp [h]

theorem space_not_word : isWord ' ' = false := by decide

theorem nsCh_of_compCh {c : Char} (h : compCh c = true) (hc : c ≠ ' ') : nsCh c = true := by
  simp only [compCh, nsCh, Bool.or_eq_true] at h ⊢
  exact h.resolve_right fun h => hc (Char.toNat_inj.mp (beq_iff_eq.mp h))

end FimVerif.V16
