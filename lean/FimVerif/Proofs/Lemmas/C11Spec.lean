import FimVerif.Proofs.Lemmas.C11Attrs
/-! C11: the collector in closed form. Under every key but `RESOURCE_TYPE` the dictionary ends with what the nodes, then the services,
then the facilities add to that key (`get_collect_add`); `RESOURCE_TYPE` is assigned (`get_collect_type`). `spec` writes the same out
key by key, as lists over the slice. -/
namespace FimVerif.Authz
open FimVerif.Gen.Authz

/-- the attributes the collector writes itself, whatever the service-type table says: the ones its text names - `RESOURCE_TYPE`
(assigned), the six of `listKeys`, `RESOURCE_SITE`; every other key is reached through `NSTYPE_LUT` only -/
def directKeys : List Key :=
  [.RESOURCE_TYPE, .RESOURCE_CPU, .RESOURCE_RAM, .RESOURCE_DISK, .RESOURCE_BW, .RESOURCE_SITE, .RESOURCE_COMPONENT,
   .RESOURCE_FACILITY_PORT]

theorem lut_disjoint : ∀ k ∈ nstypeLut.map (·.2), k ∉ directKeys := by decide

theorem listKeys_direct : ∀ k ∈ listKeys, k ∈ directKeys := by decide

theorem not_listed (P : List (Option String)) (s : SvcS) (k : Key) (hk : k ∉ nstypeLut.map (·.2)) : ¬ listedUnder P s k :=
  fun h => hk (lutFind_mem _ _ _ h.1)

/-- the values a slice contributes to attribute `k`, read off the slice directly -/
def spec (sl : Slice) (k : Key) : List Val :=
  let P := inPorts sl.ifaces
  match k with
  | .RESOURCE_TYPE => if sl.nodes.any (fun n => decide (n.ntype = switchNodeType)) then [.s switchType] else [.s initType]
  | .RESOURCE_CPU => sl.nodes.flatMap fun n => optVal (n.caps.map fun c => .i c.core)
  | .RESOURCE_RAM => sl.nodes.flatMap fun n => optVal (n.caps.map fun c => .i c.ram)
  | .RESOURCE_DISK => sl.nodes.flatMap fun n => optVal (n.caps.map fun c => .i c.disk)
  | .RESOURCE_COMPONENT => sl.nodes.flatMap fun n => (n.comps.getD []).map Val.s
  | .RESOURCE_BW => sl.svcs.flatMap fun s => optVal (s.bw.map Val.i)
  | .RESOURCE_SITE => dedup ((sl.nodes.flatMap fun n => siteVal n.site) ++ (sl.svcs.flatMap fun s => siteVal s.site))
  | .RESOURCE_FACILITY_PORT => sl.facs.map Val.s
  | k => dedup ((sl.svcs.filter fun s => decide (listedUnder P s k)).map fun s => .s (effSite s))

theorem get_init (k : Key) : get init k = if k = .RESOURCE_TYPE then [.s initType] else [] := by
  simp [init, get, eq_comm]

def adds (sl : Slice) (k : Key) : List Val :=
  sl.nodes.flatMap (nodeAdds · k) ++ sl.svcs.flatMap (svcAdds (inPorts sl.ifaces) · k) ++ sl.facs.flatMap (facAdds · k)

theorem get_collect_add (sl : Slice) (k : Key) (hk : k ≠ .RESOURCE_TYPE) : get (collect sl) k = add k [] (adds sl k) := by
  unfold collect adds
  rw [get_foldl_add fun a f => get_facStep a f k, get_foldl_add fun a s => get_svcStep _ a s k,
    get_foldl_add fun a n => get_nodeStep a n k hk, get_init, if_neg hk, add_add, add_add, List.append_assoc]

theorem get_collect_type (sl : Slice) :
    get (collect sl) .RESOURCE_TYPE =
      if sl.nodes.any (fun n => decide (n.ntype = switchNodeType)) then [.s switchType] else [.s initType] := by
  have hn : ∀ (ns : List NodeS) (a : Attrs), get (ns.foldl nodeStep a) .RESOURCE_TYPE =
      if ns.any (fun n => decide (n.ntype = switchNodeType)) then [.s switchType] else get a .RESOURCE_TYPE := by
    intro ns
    induction ns with
    | nil => intro a; rfl
    | cons n ns ih =>
      intro a
      rw [List.foldl_cons, ih, get_nodeStep_type, List.any_cons]
      by_cases h : n.ntype = switchNodeType <;> simp [h]
  have hf : sl.facs.flatMap (facAdds · .RESOURCE_TYPE) = [] := List.flatMap_eq_nil_iff.mpr fun _ _ => rfl
  have hs : sl.svcs.flatMap (svcAdds (inPorts sl.ifaces) · .RESOURCE_TYPE) = [] :=
    List.flatMap_eq_nil_iff.mpr fun s _ => by
      simp [svcAdds, bwAdds, siteAdds, listAdds, not_listed _ s .RESOURCE_TYPE (by decide)]
  unfold collect
  rw [get_foldl_add fun a f => get_facStep a f _, get_foldl_add fun a s => get_svcStep _ a s _, hn, hf, hs, add_nil, add_nil]
  rfl

theorem nodup_collect (sl : Slice) (k : Key) (hk : k ∉ listKeys) : (get (collect sl) k).Nodup := by
  by_cases ht : k = .RESOURCE_TYPE
  · subst ht; rw [get_collect_type]; split <;> simp
  · rw [get_collect_add sl k ht, add_set hk]; exact nodup_dedup _

theorem flatMap_listed {α : Type} (p : α → Prop) [DecidablePred p] (v : α → Val) (xs : List α) :
    xs.flatMap (fun x => if p x then [v x] else []) = (xs.filter fun x => decide (p x)).map v := by
  induction xs with
  | nil => rfl
  | cons x xs ih =>
    simp only [List.flatMap_cons, ih, List.filter_cons]
    by_cases hx : p x <;> simp [hx]

theorem get_collect_other (sl : Slice) (k : Key) (hk : k ∉ directKeys) :
    get (collect sl) k =
      dedup ((sl.svcs.filter fun s => decide (listedUnder (inPorts sl.ifaces) s k)).map fun s => .s (effSite s)) := by
  rw [get_collect_add sl k fun e => hk (e ▸ by decide), add_set fun h => hk (listKeys_direct k h)]
  -- `k` is none of the keys written by name (`h2` .. `h8`), so of all the `..Adds` only `listAdds` is left
  simp only [directKeys, List.mem_cons, List.not_mem_nil, or_false, not_or] at hk
  obtain ⟨_, h2, h3, h4, h5, h6, h7, h8⟩ := hk
  simp [dedup, adds, nodeAdds, svcAdds, capsAdds, siteAdds, compsAdds, bwAdds, facAdds, listAdds, h2, h3, h4, h5, h6, h7, h8,
    flatMap_listed, flatMap_none]

end FimVerif.Authz
