import FimVerif.Model.TopoC09
/-! Soundness of the write-order scan (`OrderTok.scan`, Model/TopoC09.lean) with respect to the path semantics `OrderTok.Run`:
an accepted block has no path on which a step that can fail follows a write. -/
namespace FimVerif.Topo.OrderTok
open FimVerif.Gen.TopoOrder

theorem okSeq_true {σ : List Ev} (h : okSeq true σ = true) : σ = [] := by
  cases σ with
  | nil => rfl
  | cons x xs => simp [okSeq] at h

theorem okSeq_mono {b : Bool} {σ : List Ev} (h : okSeq true σ = true) : okSeq b σ = true := by
  rw [okSeq_true h]; cases b <;> rfl

theorem wrote_nil (d : Bool) : wrote d [] = d := by simp [wrote]

theorem wrote_append (d : Bool) (σ₁ σ₂ : List Ev) : wrote d (σ₁ ++ σ₂) = wrote (wrote d σ₁) σ₂ := by
  simp [wrote, Bool.or_assoc]

theorem okSeq_append {d x : Bool} {σ₁ σ₂ : List Ev} (h1 : okSeq d σ₁ = true) (hx : wrote d σ₁ = true → x = true)
    (h2 : okSeq x σ₂ = true) : okSeq d (σ₁ ++ σ₂) = true := by
  induction σ₁ generalizing d with
  | nil =>
    simp only [List.nil_append]
    cases d with
    | true => have := hx (by simp [wrote]); subst this; exact h2
    | false =>
      cases x with
      | true => exact okSeq_mono h2
      | false => exact h2
  | cons a rest ih =>
    cases d with
    | true => simp [okSeq] at h1
    | false =>
      cases a with
      | v =>
        simp only [List.cons_append, okSeq] at h1 ⊢
        exact ih h1 (fun hw => hx (by simpa [wrote] using hw))
      | w =>
        simp only [List.cons_append, okSeq] at h1 ⊢
        exact ih h1 (fun _ => hx (by simp [wrote]))

/-- the flag never goes back: a block scanned after a write hands on "written" (with `sound_loop`, why two scans of a loop body do) -/
theorem scan_flag_mono : ∀ (f : Nat) (toks : List Tok) (d1 : Bool), scan f true toks = some (some d1) → d1 = true := by
  intro f
  induction f with
  | zero => intro toks d1 h; simp [scan] at h
  | succ f ih =>
    intro toks d1 h
    cases toks with
    | nil => simp [scan] at h; exact h
    | cons t r =>
      cases t with
      | v => simp [scan] at h
      | w s => simp [scan] at h
      | c => exact ih r d1 (by simpa [scan] using h)
      | r => exact ih r d1 (by simpa [scan] using h)
      | ret => simp [scan] at h
      | ite a b =>
        simp only [scan] at h
        rcases ha : scan f true a with _ | (_ | x) <;> rcases hb : scan f true b with _ | (_ | y) <;> simp only [ha, hb] at h
        all_goals first
          | (simp at h; done)
          | skip
        · have := ih b y hb; subst this; exact ih r d1 h
        · have := ih a x ha; subst this; exact ih r d1 h
        · have := ih a x ha; subst this; exact ih r d1 (by simpa using h)
      | loop b =>
        simp only [scan] at h
        rcases hb : scan f true b with _ | (_ | x) <;> simp only [hb] at h
        · simp at h
        · exact ih r d1 h
        · have := ih b x hb; subst this
          rcases hb2 : scan f true b with _ | y <;> simp only [hb2] at h
          · simp at h
          · exact ih r d1 h
      | guarded a b => simp [scan] at h
      | tryelse a b => simp [scan] at h

/-- what an accepted block guarantees of every path through it: started with flag `d`, no step that can fail follows a
write; and when the path falls through, the flag the scan hands on covers whether a write happened -/
def Sound (d : Bool) (toks : List Tok) (res : Option Bool) : Prop :=
  ∀ σ e, Run toks σ e → okSeq d σ = true ∧ (e = false → ∃ d', res = some d' ∧ (wrote d σ = true → d' = true))

theorem Sound.flag {d x : Bool} {a : List Tok} (S : Sound d a (some x)) {σ : List Ev} (h : Run a σ false) :
    wrote d σ = true → x = true := by
  obtain ⟨d', hd', hx⟩ := (S σ false h).2 rfl
  cases hd'; exact hx

theorem Sound.returns {d : Bool} {a : List Tok} (S : Sound d a none) {σ : List Ev} (h : Run a σ false) : False := by
  obtain ⟨d', hd', _⟩ := (S σ false h).2 rfl
  cases hd'

theorem sound_seq {d x e : Bool} {σ₁ σ₂ : List Ev} {res : Option Bool} (o1 : okSeq d σ₁ = true) (hx : wrote d σ₁ = true → x = true)
    (hr : okSeq x σ₂ = true ∧ (e = false → ∃ d', res = some d' ∧ (wrote x σ₂ = true → d' = true))) :
    okSeq d (σ₁ ++ σ₂) = true ∧ (e = false → ∃ d', res = some d' ∧ (wrote d (σ₁ ++ σ₂) = true → d' = true)) := by
  refine ⟨okSeq_append o1 hx hr.1, fun he => ?_⟩
  obtain ⟨d', a1, a2⟩ := hr.2 he
  refine ⟨d', a1, fun hw => a2 ?_⟩
  rw [wrote_append] at hw
  simp only [wrote, Bool.or_eq_true] at hw ⊢
  rcases hw with hw | hw
  · exact .inl (hx (by simpa [wrote] using hw))
  · exact .inr hw

/-- `scan` reads a loop body twice: from the flag `d` in force before the loop (result `d1`) and from `d1`.  Invariant of the
induction over the passes: the flag `dd` at the start of a pass is `d` or `d1`, and `d → d1` (`hmono`, from `scan_flag_mono`).  A pass
from `d1` can only hand on `d1` again: if `d1` is false so is `d`, and the first scan has seen that this very pass writes nothing. -/
theorem sound_loop {d d1 : Bool} {b r : List Tok} {res rb2 : Option Bool} (hmono : d = true → d1 = true)
    (H1 : Sound d b (some d1)) (H2 : Sound d1 b rb2) (H3 : Sound d1 r res) :
    ∀ σ e, Run (.loop b :: r) σ e → ∀ dd, (dd = d ∨ dd = d1) →
      okSeq dd σ = true ∧ (e = false → ∃ d', res = some d' ∧ (wrote dd σ = true → d' = true)) := by
  intro σ e hrun
  generalize hL : (Tok.loop b :: r) = L at hrun
  induction hrun with
  | nil => cases hL
  | v _ _ => cases hL
  | w _ _ => cases hL
  | c _ _ => cases hL
  | r _ _ => cases hL
  | ret => cases hL
  | iteL _ _ _ _ => cases hL
  | iteLret _ _ => cases hL
  | iteR _ _ _ _ => cases hL
  | iteRret _ _ => cases hL
  | @loopDone b' r' σ' e' hr _ =>
    injection hL with h1 h2; injection h1 with h1; subst h1; subst h2
    intro dd hdd
    obtain ⟨ho, hf⟩ := H3 σ' e' hr
    have hle : dd = true → d1 = true := by
      rcases hdd with rfl | rfl
      · exact hmono
      · exact id
    refine ⟨?_, fun he => ?_⟩
    · cases hd1 : d1 with
      | true => rw [hd1] at ho; exact okSeq_mono ho
      | false =>
        have : dd = false := by
          cases hdd' : dd with
          | false => rfl
          | true => have := hle hdd'; rw [hd1] at this; cases this
        rw [this, ← hd1]; exact ho
    · obtain ⟨d', hr', hw⟩ := hf he
      refine ⟨d', hr', fun hwr => hw ?_⟩
      simp only [wrote, Bool.or_eq_true] at hwr ⊢
      rcases hwr with h | h
      · exact .inl (hle h)
      · exact .inr h
  | @loopStep b' r' σ₁ σ₂ e' hb hrest _ ih =>
    injection hL with h1 h2; injection h1 with h1; subst h1; subst h2
    intro dd hdd
    -- the pass: fine from `dd`, and it leaves a flag covered by `d1`
    have hpass : okSeq dd σ₁ = true ∧ (wrote dd σ₁ = true → d1 = true) := by
      rcases hdd with rfl | rfl
      · exact ⟨(H1 σ₁ false hb).1, H1.flag hb⟩
      · refine ⟨(H2 σ₁ false hb).1, fun hw => ?_⟩
        cases hd1 : dd with
        | true => rfl
        | false =>
          -- then `d` is clean too and the first scan saw this very pass
          have hd : d = false := by
            cases hd' : d with
            | false => rfl
            | true => have := hmono hd'; rw [hd1] at this; cases this
          have := H1.flag hb (by rw [hd]; rw [hd1] at hw; exact hw)
          rw [hd1] at this; cases this
    exact sound_seq hpass.1 hpass.2 (ih rfl d1 (.inr rfl))
  | @loopRet b' r' σ' hb =>
    injection hL with h1 h2; injection h1 with h1; subst h1; subst h2
    intro dd hdd
    refine ⟨?_, fun he => by cases he⟩
    rcases hdd with rfl | rfl
    · exact (H1 σ' true hb).1
    · exact (H2 σ' true hb).1

theorem scan_sound : ∀ (f : Nat) (d : Bool) (toks : List Tok) (res : Option Bool), scan f d toks = some res → Sound d toks res := by
  intro f
  induction f with
  | zero => intro d toks res h; simp [scan] at h
  | succ f ih =>
    intro d toks res h
    cases toks with
    | nil =>
      simp [scan] at h; subst h
      intro σ e hrun; cases hrun
      exact ⟨rfl, fun _ => ⟨d, rfl, fun hw => by simpa [wrote] using hw⟩⟩
    | cons t r =>
      cases t with
      | v =>
        cases d with
        | true => simp [scan] at h
        | false =>
          have h' : scan f false r = some res := by simpa [scan] using h
          intro σ e hrun; cases hrun with
          | v hr =>
            obtain ⟨ho, hf⟩ := ih false r res h' _ _ hr
            exact ⟨by simpa [okSeq] using ho, fun he => by
              obtain ⟨d', a, b⟩ := hf he
              exact ⟨d', a, fun hw => b (by simpa [wrote] using hw)⟩⟩
      | w s =>
        cases d with
        | true => simp [scan] at h
        | false =>
          have h' : scan f true r = some res := by simpa [scan] using h
          intro σ e hrun; cases hrun with
          | w hr =>
            obtain ⟨ho, hf⟩ := ih true r res h' _ _ hr
            exact ⟨by simpa [okSeq] using ho, fun he => by
              obtain ⟨d', a, b⟩ := hf he
              exact ⟨d', a, fun _ => b (by simp [wrote])⟩⟩
      | c =>
        have h' : scan f d r = some res := by simpa [scan] using h
        intro σ e hrun; cases hrun with
        | c hr => exact ih d r res h' _ _ hr
      | r =>
        have h' : scan f d r = some res := by simpa [scan] using h
        intro σ e hrun; cases hrun with
        | r hr => exact ih d r res h' _ _ hr
      | ret =>
        intro σ e hrun; cases hrun
        exact ⟨rfl, fun he => by cases he⟩
      | ite a b =>
        simp only [scan] at h
        rcases ha : scan f d a with _ | ra <;> rcases hb : scan f d b with _ | rb <;> simp only [ha, hb] at h
        · simp at h
        · cases rb <;> simp at h
        · cases ra <;> simp at h
        · have Sa := ih d a ra ha
          have Sb := ih d b rb hb
          -- the flag handed to the rest covers both branches
          have key : ∀ x, (∀ σ₁, Run a σ₁ false → wrote d σ₁ = true → x = true) → (∀ σ₁, Run b σ₁ false → wrote d σ₁ = true → x = true) →
              scan f x r = some res → Sound d (.ite a b :: r) res := by
            intro x hxa hxb hr
            have Sr := ih x r res hr
            intro σ e hrun
            cases hrun with
            | iteL h1 h2 => exact sound_seq (Sa _ _ h1).1 (hxa _ h1) (Sr _ _ h2)
            | iteLret h1 => exact ⟨(Sa _ _ h1).1, fun he => by cases he⟩
            | iteR h1 h2 => exact sound_seq (Sb _ _ h1).1 (hxb _ h1) (Sr _ _ h2)
            | iteRret h1 => exact ⟨(Sb _ _ h1).1, fun he => by cases he⟩
          cases ra with
          | none =>
            cases rb with
            | none =>
              -- both branches always return
              simp at h; subst h
              intro σ e hrun
              cases hrun with
              | iteL h1 _ => exact (Sa.returns h1).elim
              | iteLret h1 => exact ⟨(Sa _ _ h1).1, fun he => by cases he⟩
              | iteR h1 _ => exact (Sb.returns h1).elim
              | iteRret h1 => exact ⟨(Sb _ _ h1).1, fun he => by cases he⟩
            | some y =>
              exact key y (fun σ₁ h1 _ => (Sa.returns h1).elim) (fun σ₁ h1 => Sb.flag h1) h
          | some x =>
            cases rb with
            | none =>
              exact key x (fun σ₁ h1 => Sa.flag h1) (fun σ₁ h1 _ => (Sb.returns h1).elim) h
            | some y =>
              exact key (x || y) (fun σ₁ h1 hw => by simp [Sa.flag h1 hw]) (fun σ₁ h1 hw => by simp [Sb.flag h1 hw]) h
      | loop b =>
        simp only [scan] at h
        rcases hb : scan f d b with _ | rb <;> simp only [hb] at h
        · simp at h
        · have Sb := ih d b rb hb
          cases rb with
          | none =>
            -- the body always returns: at most one pass, and then the call is over
            have Sr := ih d r res h
            intro σ e hrun
            cases hrun with
            | loopDone hr => exact Sr _ _ hr
            | loopStep h1 _ => exact (Sb.returns h1).elim
            | loopRet h1 => exact ⟨(Sb _ _ h1).1, fun he => by cases he⟩
          | some d1 =>
            rcases hb2 : scan f d1 b with _ | rb2 <;> simp only [hb2] at h
            · simp at h
            · have Sb2 := ih d1 b rb2 hb2
              have Sr := ih d1 r res h
              have hmono : d = true → d1 = true := fun hd => by subst hd; exact scan_flag_mono f b d1 hb
              intro σ e hrun
              exact sound_loop hmono Sb Sb2 Sr σ e hrun d (.inl rfl)
      | guarded a b => simp [scan] at h
      | tryelse a b => simp [scan] at h

theorem singleWrite_sound (toks : List Tok) (h : singleWrite toks = true) : ∀ σ e, Run toks σ e → okSeq false σ = true := by
  unfold singleWrite at h
  rcases hs : scan 400 false toks with _ | res
  · rw [hs] at h; simp at h
  · exact fun σ e hrun => (scan_sound 400 false toks res hs σ e hrun).1

theorem okSeq_last_write {σ : List Ev} (h : okSeq false σ = true) : ∀ pre post, σ = pre ++ Ev.w :: post → post = [] := by
  induction σ with
  | nil => intro pre post he; cases pre <;> simp at he
  | cons a rest ih =>
    intro pre post he
    cases pre with
    | nil =>
      simp only [List.nil_append, List.cons.injEq] at he
      obtain ⟨rfl, rfl⟩ := he
      simp only [okSeq] at h
      exact okSeq_true h
    | cons p ps =>
      simp only [List.cons_append, List.cons.injEq] at he
      obtain ⟨rfl, he⟩ := he
      cases a with
      | v => simp only [okSeq] at h; exact ih h ps post he
      | w =>
        simp only [okSeq] at h
        have := okSeq_true h
        rw [this] at he
        cases ps <;> simp at he

end FimVerif.Topo.OrderTok
