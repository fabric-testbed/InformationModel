import FimVerif.Model.CodecFail
import FimVerif.Proofs.Lemmas.C03Small
/-! What the validating setters of `Model/CodecFail.lean` leave behind (`inPlace_*`): `parse_from_string` an allowed type,
`PathInfo.set` a value of the domain. -/
namespace FimVerif.C03
open FimVerif FimVerif.Codec JVal

theorem inPlace_failed {σ : Type} (f : σ → Except Err σ) (x : σ) (e : Err) (h : f x = .error e) :
    inPlace f x = (x, some e) := by simp [inPlace, h]

theorem inPlace_ok {σ : Type} (f : σ → Except Err σ) (x y : σ) (h : f x = .ok y) :
    inPlace f x = (y, none) := by simp [inPlace, h]

theorem inPlace_inv {σ : Type} (P : σ → Prop) (f : σ → Except Err σ) (x : σ) (hx : P x) (hf : ∀ y, f x = .ok y → P y) :
    P (inPlace f x).1 := by
  unfold inPlace
  split
  · exact hf _ ‹_›
  · exact hx

theorem ttStep_type (types : List (List Char)) (t : TTuple) (s : List Char) (ht : t.type ∈ types) :
    (ttStep types t s).1.type ∈ types :=
  inPlace_inv (·.type ∈ types) _ t ht fun y h => by
    unfold ttParse ttOf at h
    split at h
    · cases h
    · split at h
      · rename_i hcon; injection h with h; subst h; simpa using hcon
      · cases h

theorem piSet_ok_domain (p y : PathInfo) (pl : Payload) (h : PIDomain p) (hs : piSet p pl = .ok y) : PIDomain y := by
  obtain ⟨t, q, st⟩ := p
  cases t with
  | none => simp [PIDomain] at h
  | some t =>
    cases t with
    | path =>
      cases pl <;> simp [piSet] at hs
      subst hs; simp [PIDomain]
    | graph =>
      cases pl with
      | raw j => cases j <;> simp [piSet] at hs; subst hs; simp [PIDomain]
      | _ => simp [piSet] at hs

end FimVerif.C03
