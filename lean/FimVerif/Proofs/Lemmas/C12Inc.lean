import FimVerif.Proofs.Lemmas.C12Gen
/-! `Pools.incorporate_delegation` (C12): what a sequence of incorporated (node, delegation) entries leaves in the container, as an
invariant `QInv` between the pools and the entries read so far, independent of where the entries came from. -/
namespace FimVerif.C12
open FimVerif.Deleg

variable {D : Type}

/-- pool ids pairwise different (`pool_by_id` is a dict keyed by them) -/
def Distinct (Q : List (Pool D)) : Prop := Q.Pairwise (fun a b => a.pid ≠ b.pid)

theorem getPool_some {Q : List (Pool D)} {pid : String} {q : Pool D} (h : getPool Q pid = some q) :
    q ∈ Q ∧ q.pid = pid := by
  unfold getPool at h
  exact ⟨List.mem_of_find?_eq_some h, by simpa using List.find?_some h⟩

theorem getPool_none {Q : List (Pool D)} {pid : String} (h : getPool Q pid = none) :
    ∀ q ∈ Q, q.pid ≠ pid := by
  unfold getPool at h
  intro q hq
  simpa using (List.find?_eq_none.mp h) q hq

theorem putPool_pids (x : Pool D) (Q : List (Pool D)) : (putPool x Q).map (·.pid) = addNew (Q.map (·.pid)) x.pid := by
  unfold addNew
  fun_induction putPool x Q with
  | case1 => rfl
  | case2 a l hax => simp [hax]
  | case3 a l hax ih =>
    simp only [List.map_cons, ih, List.mem_cons, Ne.symm hax, false_or]
    split <;> rfl

theorem mem_putPool {x : Pool D} {Q : List (Pool D)} (h : Distinct Q) {q : Pool D} (hq : q ∈ putPool x Q) :
    q = x ∨ (q ∈ Q ∧ q.pid ≠ x.pid) := by
  fun_induction putPool x Q with
  | case1 => exact Or.inl (List.mem_singleton.mp hq)
  | case2 a l hax =>
    rcases List.mem_cons.mp hq with rfl | hq
    · exact Or.inl rfl
    · exact Or.inr ⟨List.mem_cons_of_mem _ hq, fun e => (List.pairwise_cons.mp h).1 q hq (hax.trans e.symm)⟩
  | case3 a l hax ih =>
    rcases List.mem_cons.mp hq with rfl | hq
    · exact Or.inr ⟨List.mem_cons_self, hax⟩
    · exact (ih (List.pairwise_cons.mp h).2 hq).imp_right fun ⟨h1, h2⟩ => ⟨List.mem_cons_of_mem _ h1, h2⟩

theorem distinct_putPool (x : Pool D) (Q : List (Pool D)) (h : Distinct Q) : Distinct (putPool x Q) := by
  refine List.pairwise_map.mp (?_ : ((putPool x Q).map (·.pid)).Nodup)
  rw [putPool_pids]
  exact nodup_addNew _ _ (List.pairwise_map.mpr h)

theorem putPool_fresh (p : Pool D) (Q : List (Pool D)) (h : ∀ q ∈ Q, q.pid ≠ p.pid) : putPool p Q = Q ++ [p] := by
  fun_induction putPool p Q with
  | case1 => rfl
  | case2 a l ha => exact absurd ha (h a (by simp))
  | case3 a l ha ih => rw [ih fun q hq => h q (by simp [hq])]; rfl

/-- what one pool records about the entries `S` seen so far (`noDef`: until its definition is read the pool has no defining node,
which is what the `get_defined_on() is not None` test on reading a definition needs) -/
structure PInv (S : List (Entry D)) (q : Pool D) : Prop where
  onDef : ∀ s ∈ S, s.2.fmt = .definition → s.2.pool = some q.pid → q.on_ = some s.1 ∧ q.details = s.2.details
  noDef : (∀ s ∈ S, s.2.fmt = .definition → s.2.pool ≠ some q.pid) → q.on_ = none ∧ q.details = none
  refs : ∀ n, n ∈ q.for_ ↔ ∃ s ∈ S, s.1 = n ∧ s.2.fmt = .reference ∧ s.2.pool = some q.pid

/-- the delegation id of a pool is the id of one of the entries that mention it (the code keeps the last one written; which one
does not matter where all entries of a pool carry the pool's id) -/
def DelegW (S : List (Entry D)) (q : Pool D) : Prop :=
  ∃ s ∈ S, s.2.fmt ≠ .single ∧ s.2.pool = some q.pid ∧ q.deleg = some s.2.id

/-- the container `Q` after the entries `S` were incorporated -/
structure QInv (ty : DType) (Q : List (Pool D)) (S : List (Entry D)) : Prop where
  distinct : Distinct Q
  pool : ∀ q ∈ Q, PInv S q ∧ DelegW S q ∧ q.ty = ty
  present : ∀ s ∈ S, s.2.fmt ≠ .single → ∀ pid, s.2.pool = some pid → ∃ q ∈ Q, q.pid = pid

theorem pinv_snoc {S : List (Entry D)} {q q' : Pool D} (e : Entry D) (h : PInv S q) (hpid : q'.pid = q.pid)
    (hdef : e.2.fmt = .definition → e.2.pool = some q.pid →
      (∀ s ∈ S, s.2.fmt = .definition → s.2.pool ≠ some q.pid) ∧ q'.on_ = some e.1 ∧ q'.details = e.2.details)
    (hoth : ¬ (e.2.fmt = .definition ∧ e.2.pool = some q.pid) → q'.on_ = q.on_ ∧ q'.details = q.details)
    (hfor : ∀ n, n ∈ q'.for_ ↔ n ∈ q.for_ ∨ (e.1 = n ∧ e.2.fmt = .reference ∧ e.2.pool = some q.pid)) :
    PInv (S ++ [e]) q' := by
  refine ⟨fun s hs hf hp => ?_, fun hno => ?_, fun n => ?_⟩
  · rw [hpid] at hp
    rcases List.mem_append.mp hs with hs | hs
    · by_cases hd : e.2.fmt = .definition ∧ e.2.pool = some q.pid
      · exact absurd hp ((hdef hd.1 hd.2).1 s hs hf)
      · rw [(hoth hd).1, (hoth hd).2]; exact h.onDef s hs hf hp
    · rw [List.mem_singleton.mp hs] at hf hp ⊢
      exact (hdef hf hp).2
  · rw [hpid] at hno
    have hd : ¬ (e.2.fmt = .definition ∧ e.2.pool = some q.pid) := fun hd => hno e (by simp) hd.1 hd.2
    rw [(hoth hd).1, (hoth hd).2]
    exact h.noDef fun s hs => hno s (List.mem_append_left _ hs)
  · simp only [hfor, h.refs, hpid, List.mem_append, List.mem_singleton, or_and_right, exists_or, exists_eq_left]

/-- the conjunction is `q`'s clause of `QInv.pool` -/
theorem pool_clause_other {ty : DType} {S : List (Entry D)} {q : Pool D} (e : Entry D) (h : PInv S q ∧ DelegW S q ∧ q.ty = ty)
    (he : e.2.fmt = .single ∨ e.2.pool ≠ some q.pid) : PInv (S ++ [e]) q ∧ DelegW (S ++ [e]) q ∧ q.ty = ty := by
  obtain ⟨h1, ⟨s, hs, h2⟩, h3⟩ := h
  refine ⟨pinv_snoc e h1 rfl (fun hf hp => ?_) (fun _ => ⟨rfl, rfl⟩) (fun n => ?_), ⟨s, List.mem_append_left _ hs, h2⟩, h3⟩ <;>
    rcases he with he | he
  · rw [he] at hf; cases hf
  · exact absurd hp he
  · simp [he]
  · simp [he]

theorem pinv_fresh (ty : DType) (S : List (Entry D)) (pid : String)
    (h : ∀ s ∈ S, s.2.fmt ≠ .single → s.2.pool ≠ some pid) : PInv S (mkPool ty pid none none [] : Pool D) := by
  constructor
  · intro s hs hf hp
    exact absurd hp (h s hs (by rw [hf]; decide))
  · intro _; exact ⟨rfl, rfl⟩
  · intro n
    simp only [mkPool, List.foldl_nil, List.filter_nil, List.not_mem_nil, false_iff]
    rintro ⟨s, hs, _, hf, hp⟩
    exact absurd hp (h s hs (by rw [hf]; decide))

/-- the pool an entry is applied to: the registered one or a fresh one (`get_pool_by_id`, not strict); a fresh one
cannot carry the reserved name -/
theorem poolFor_ok {ty : DType} {Q : List (Pool D)} {S : List (Entry D)} (hinv : QInv ty Q S) {d : Delegation D} {pid : String}
    (hp : d.pool = some pid) (hres : d.pool ≠ some Gen.DelegConsts.singlePoolName) :
    ∃ p, poolFor ty Q pid = .ok p ∧ d.pool = some p.pid ∧ p.ty = ty ∧ PInv S p := by
  rw [hp] at hres ⊢
  cases hg : getPool Q pid with
  | some q =>
    obtain ⟨hq, hpid⟩ := getPool_some hg
    exact ⟨q, by simp [poolFor, hg], by rw [hpid], (hinv.pool q hq).2.2, (hinv.pool q hq).1⟩
  | none =>
    refine ⟨mkPool ty pid none none [], by simp [poolFor, hg, newPool, mt (congrArg some) hres], rfl, rfl, pinv_fresh ty S pid ?_⟩
    intro s hs hf hp
    obtain ⟨q, hq, hqp⟩ := hinv.present s hs hf pid hp
    exact getPool_none hg q hq hqp

theorem qinv_put {ty : DType} {Q : List (Pool D)} {S : List (Entry D)} (e : Entry D) {p' : Pool D}
    (hinv : QInv ty Q S) (hns : e.2.fmt ≠ .single) (hp : e.2.pool = some p'.pid) (hty : p'.ty = ty)
    (hpinv : PInv (S ++ [e]) p') (hdel : p'.deleg = some e.2.id) : QInv ty (putPool p' Q) (S ++ [e]) := by
  refine ⟨distinct_putPool p' Q hinv.distinct, ?_, ?_⟩
  · intro q hq
    rcases mem_putPool hinv.distinct hq with rfl | ⟨hq, hne⟩
    · exact ⟨hpinv, ⟨e, by simp, hns, hp, hdel⟩, hty⟩
    · refine pool_clause_other e (hinv.pool q hq) (Or.inr ?_)
      rw [hp]; intro h; exact hne (Option.some.inj h).symm
  · intro s hs hf pid hpid
    rw [← List.mem_map, putPool_pids, mem_addNew, List.mem_map]
    rcases List.mem_append.mp hs with hs | hs
    · exact Or.inl (hinv.present s hs hf pid hpid)
    · rw [List.mem_singleton.mp hs, hp] at hpid
      exact Or.inr (Option.some.inj hpid).symm

/-- `huniq` (no second definition of the pool) lets a definition pass the `get_defined_on() is not None` test of `incorporate_delegation` -/
theorem inc_step (ty : DType) (Q : List (Pool D)) (S : List (Entry D)) (e : Entry D) (hinv : QInv ty Q S)
    (hpool : e.2.fmt ≠ .single → e.2.pool ≠ none) (hdet : e.2.fmt = .definition → e.2.details ≠ none)
    (hres : e.2.fmt ≠ .single → e.2.pool ≠ some Gen.DelegConsts.singlePoolName)
    (huniq : ∀ s ∈ S, s.2.fmt = .definition → e.2.fmt = .definition → s.2.pool ≠ e.2.pool) :
    ∃ Q', incOne ty e.1 Q e.2 = .ok Q' ∧ QInv ty Q' (S ++ [e]) := by
  obtain ⟨node, d⟩ := e
  simp only at hpool hdet hres huniq ⊢
  fun_cases incOne ty node Q d with
  | case1 hf =>
    refine ⟨Q, rfl, hinv.distinct, fun q hq => pool_clause_other (node, d) (hinv.pool q hq) (Or.inl hf), ?_⟩
    intro s hs hsf pid hpid
    rcases List.mem_append.mp hs with hs | hs
    · exact hinv.present s hs hsf pid hpid
    · rw [List.mem_singleton.mp hs] at hsf
      exact absurd hf hsf
  | case2 hf hp => exact absurd hp (hpool (by rw [hf]; decide))
  | case4 hf hp => exact absurd hp (hpool (by rw [hf]; decide))
  | case3 hf pid hp =>
    cases hx : d.details with
    | none => exact absurd hx (hdet hf)
    | some x =>
      obtain ⟨bp, hbok, hbpid, hbty, hbinv⟩ := poolFor_ok hinv hp (hres (by rw [hf]; decide))
      have hu : ∀ s ∈ S, s.2.fmt = .definition → s.2.pool ≠ some bp.pid := by
        intro s hs hsf; rw [← hbpid]; exact huniq s hs hsf hf
      refine ⟨putPool { bp with on_ := some node, details := some x, deleg := some d.id } Q,
        by simp [(hbinv.noDef hu).1, hbok, bind, Except.bind], ?_⟩
      refine qinv_put (node, d) hinv (by simp [hf]) hbpid hbty ?_ rfl
      exact pinv_snoc (node, d) hbinv rfl (fun _ _ => ⟨hu, rfl, hx.symm⟩)
        (fun hd => absurd ⟨hf, hbpid⟩ hd) (fun n => by simp [hf])
  | case5 hf pid hp =>
    obtain ⟨bp, hbok, hbpid, hbty, hbinv⟩ := poolFor_ok hinv hp (hres (by rw [hf]; decide))
    refine ⟨putPool { bp with for_ := addSet bp.for_ node, deleg := some d.id } Q, by simp [hbok, bind, Except.bind], ?_⟩
    refine qinv_put (node, d) hinv (by simp [hf]) hbpid hbty ?_ rfl
    -- `addSet` is `addNew` on strings
    exact pinv_snoc (node, d) hbinv rfl (fun hd => by rw [hf] at hd; cases hd) (fun _ => ⟨rfl, rfl⟩)
      (fun n => by rw [show n ∈ addSet bp.for_ node ↔ _ from mem_addNew bp.for_ node n]; simp [hf, hbpid, eq_comm])

/-- entries that can be incorporated without an exception -/
structure Incorporable (L : List (Entry D)) : Prop where
  hasPool : ∀ e ∈ L, e.2.fmt ≠ .single → e.2.pool ≠ none
  notReserved : ∀ e ∈ L, e.2.fmt ≠ .single → e.2.pool ≠ some Gen.DelegConsts.singlePoolName
  hasDetails : ∀ e ∈ L, e.2.fmt = .definition → e.2.details ≠ none
  oneDef : L.Pairwise (fun a b => a.2.fmt = .definition → b.2.fmt = .definition → a.2.pool ≠ b.2.pool)

theorem inc_fold (ty : DType) (L : List (Entry D)) (S : List (Entry D)) (Q : List (Pool D))
    (hinv : QInv ty Q S) (hL : Incorporable (S ++ L)) :
    ∃ Q', L.foldlM (fun l e => incOne ty e.1 l e.2) Q = .ok Q' ∧ QInv ty Q' (S ++ L) := by
  induction L generalizing S Q with
  | nil => exact ⟨Q, rfl, by simpa using hinv⟩
  | cons e L ih =>
    have hmem : e ∈ S ++ e :: L := by simp
    obtain ⟨Q1, h1, hinv1⟩ := inc_step ty Q S e hinv (hL.hasPool e hmem) (hL.hasDetails e hmem) (hL.notReserved e hmem)
      (fun s hs => (List.pairwise_append.mp hL.oneDef).2.2 s hs e (by simp))
    have hL' : Incorporable ((S ++ [e]) ++ L) := by simpa [List.append_assoc] using hL
    obtain ⟨Q2, h2, hinv2⟩ := ih (S ++ [e]) Q1 hinv1 hL'
    refine ⟨Q2, ?_, by simpa [List.append_assoc] using hinv2⟩
    rw [List.foldlM_cons, h1]
    exact h2

theorem qinv_nil (ty : DType) : QInv ty ([] : List (Pool D)) [] :=
  ⟨List.Pairwise.nil, by simp, by simp⟩

theorem incorporateAll_flat (ty : DType) (R : NodeDelegs D) (Q : List (Pool D)) (i : Option (List (String × List (Pool D))))
    (hR : ∀ e ∈ R, e.2.ty = ty) :
    incorporateAll ({ ty := ty, byId := Q, index := i } : Pools D) R
      = ((flat R).foldlM (fun l e => incOne ty e.1 l e.2) Q).map (fun l => { ty := ty, byId := l, index := i }) := by
  induction R generalizing Q with
  | nil => rfl
  | cons e R ih =>
    have hety := hR e (by simp)
    rw [flat_cons, List.foldlM_append, List.foldlM_map]
    simp only [incorporateAll, List.foldlM_cons, incorporate, hety, ne_eq, not_true_eq_false, if_false]
    cases hf : e.2.items.foldlM (incOne ty e.1) Q with
    | error err => simp [bind, Except.bind, Except.map]
    | ok Q1 =>
      simp only [bind, Except.bind, pure, Except.pure]
      exact ih Q1 (fun b hb => hR b (by simp [hb]))

theorem incorporateAll_spec (ty : DType) (R : NodeDelegs D) (hty : ∀ e ∈ R, e.2.ty = ty) (hL : Incorporable (flat R)) :
    ∃ Q, incorporateAll (emptyPools ty) R = .ok { ty := ty, byId := Q, index := none } ∧ QInv ty Q (flat R) := by
  obtain ⟨Q, hfold, hq⟩ := inc_fold ty (flat R) [] [] (qinv_nil ty) hL
  exact ⟨Q, by rw [emptyPools, incorporateAll_flat ty R [] none hty, hfold]; rfl, hq⟩

end FimVerif.C12
