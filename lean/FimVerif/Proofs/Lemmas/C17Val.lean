import FimVerif.Model.DiffVal
import FimVerif.Model.Diff
import FimVerif.Proofs.Lemmas.ListAux
/-!
# The value classes' own equality is equality of canonical forms (C17)

`propDiffRaw` below is `prop_diff` with `Labels.__eq__` / `Capacities.__eq__` / `JSONData.__eq__` as `Model/DiffVal.lean` mirrors them; it is
`propDiff` on canonical forms (`optNe_fields`, `optNe_ud` here, put together in `C17.prop_diff_on_values`).  `J.insert_comm` is the step by
which `J.canon` forgets the order of an object's members.
-/
namespace FimVerif.DiffVal
open FimVerif.Diff

theorem lookup_cons_self (f : String) (w : FV) (bs : Fields) : lookup ((f, w) :: bs) f = some w := by
  simp [lookup]

theorem lookup_cons_ne {f g : String} (h : f ≠ g) (w : FV) (bs : Fields) : lookup ((f, w) :: bs) g = lookup bs g := by
  have : (f == g) = false := by simpa using h
  simp [lookup, this]

/-- `hk`: two instances of the same class in the same library version; the default `m` for a missing field then plays no part -/
theorem fieldsEq_iff_eq {m : FV} {a b : Fields} (hk : a.map (·.1) = b.map (·.1)) (hn : (a.map (·.1)).Nodup) :
    fieldsEq m a b = true ↔ a = b := by
  induction a generalizing b with
  | nil =>
    cases b with
    | nil => simp [fieldsEq]
    | cons y ys => simp at hk
  | cons x xs ih =>
    cases b with
    | nil => simp at hk
    | cons y ys =>
      obtain ⟨f, v⟩ := x
      obtain ⟨g, w⟩ := y
      simp only [List.map_cons, List.cons.injEq] at hk
      obtain ⟨rfl, hk'⟩ := hk
      simp only [List.map_cons, List.nodup_cons, List.mem_map, not_exists, not_and] at hn
      -- the fields of `xs` are not `f` (`hn`), so their lookup skips the head of the other side: the rest of the loop is the loop on the tails
      have hrest : xs.all (fun e => e.2 == (lookup ((f, w) :: ys) e.1).getD m) = fieldsEq m xs ys := by
        unfold fieldsEq
        apply List.all_congr'
        intro e he
        rw [lookup_cons_ne (fun h => hn.1 e he h.symm)]
      unfold fieldsEq
      simp only [List.all_cons, lookup_cons_self, Option.getD_some, hrest, Bool.and_eq_true, beq_iff_eq, ih hk' hn.2,
        List.cons.injEq, Prod.mk.injEq, true_and]

/-- `setattr(instance, f, w)` on a field the instance has -/
def setField (a : Fields) (f : String) (w : FV) : Fields := a.map (fun e => if e.1 == f then (e.1, w) else e)

theorem setField_keys (a : Fields) (f : String) (w : FV) : (setField a f w).map (·.1) = a.map (·.1) := by
  simp only [setField, List.map_map]
  apply List.map_congr_left
  intro e _
  simp only [Function.comp]
  split <;> rfl

theorem lookup_setField (a : Fields) (f : String) (w : FV) : lookup (setField a f w) f = (lookup a f).map fun _ => w := by
  induction a with
  | nil => rfl
  | cons x xs ih =>
    obtain ⟨g, u⟩ := x
    by_cases e : g = f
    · subst e
      simp [setField, lookup]
    · have hb : (g == f) = false := by simpa using e
      rw [lookup_cons_ne e, ← ih]
      simp only [setField, List.map_cons, hb]
      exact lookup_cons_ne e ..

theorem fieldsEq_setField_ne {a : Fields} {f : String} {v w : FV} (hn : (a.map (·.1)).Nodup)
    (hv : lookup a f = some v) (hne : w ≠ v) (m : FV) :
    fieldsEq m a (setField a f w) = false ∧ fieldsEq m (setField a f w) a = false := by
  have hk := setField_keys a f w
  have hd : a ≠ setField a f w := by
    intro e
    have := lookup_setField a f w
    rw [← e, hv] at this
    exact hne (Option.some.inj this).symm
  exact ⟨Bool.eq_false_iff.2 fun h => hd ((fieldsEq_iff_eq hk.symm hn).1 h),
    Bool.eq_false_iff.2 fun h => hd ((fieldsEq_iff_eq hk (hk ▸ hn)).1 h).symm⟩

theorem udEq_iff (a b : J) : udEq a b = true ↔ a.canon = b.canon := by simp [udEq]

theorem String.lt_or_gt_of_ne {k1 k2 : String} (hne : k1 ≠ k2) : k1 < k2 ∨ k2 < k1 :=
  (String.le_total k1 k2).imp (Std.lt_of_le_of_ne · hne) (Std.lt_of_le_of_ne · hne.symm)

theorem J.insert_of_not_mem (k : String) (v s : J) (h : ∀ k' v' t, s ≠ .mem k' v' t) : J.insert k v s = .mem k v s := by
  cases s <;> first | rfl | exact absurd rfl (h _ _ _)

theorem J.insert_comm {k1 k2 : String} (hne : k1 ≠ k2) (a b s : J) :
    J.insert k1 a (J.insert k2 b s) = J.insert k2 b (J.insert k1 a s) := by
  -- along the recursion of `J.insert k1 a s`: `k1` goes in front of the first member, or behind it, or `s` is not a `mem` chain
  induction s using J.insert.induct k1 with
  | case1 k v t h1 =>
    by_cases h2 : k2 < k
    · rcases String.lt_or_gt_of_ne hne with h | h <;> simp [J.insert, h1, h2, h, String.lt_asymm h]
    · have h21 : ¬ k2 < k1 := fun h => h2 (String.lt_trans h h1)
      simp [J.insert, h1, h2, h21]
  | case2 k v t h1 ih =>
    by_cases h2 : k2 < k
    · have h12 : ¬ k1 < k2 := fun h => h1 (String.lt_trans h h2)
      simp [J.insert, h1, h2, h12]
    · simp [J.insert, h1, h2, ih]
  | case3 s hs =>
    rw [J.insert_of_not_mem k2 b s hs, J.insert_of_not_mem k1 a s hs]
    rcases String.lt_or_gt_of_ne hne with h | h <;> simp [J.insert, h, String.lt_asymm h, J.insert_of_not_mem _ _ s hs]

/-- the three tracked properties as the sliver holds them: `None` or an instance -/
structure RawProps where
  labels : Option Fields := none
  caps : Option Fields := none
  ud : Option J := none
deriving DecidableEq, Repr

/-- `prop_diff` with the classes' own `__eq__` -/
def propDiffRaw (a b : RawProps) : Flags :=
  { labels := optNe (fieldsEq .null) a.labels b.labels, caps := optNe (fieldsEq (.int 0)) a.caps b.caps,
    ud := optNe udEq a.ud b.ud }

def canonProps (a : RawProps) : Props Val :=
  { labels := a.labels.map .fields, caps := a.caps.map .fields, ud := a.ud.map (fun j => .json j.canon) }

/-- both sides (when present) are instances with the same fields, each field once -/
def SameFields (x y : Option Fields) : Prop :=
  ∀ a ∈ x, ∀ b ∈ y, a.map (·.1) = b.map (·.1) ∧ (a.map (·.1)).Nodup

instance (x y : Option Fields) : Decidable (SameFields x y) := by unfold SameFields; infer_instance

theorem optNe_canon {α β : Type} [DecidableEq β] {eq : α → α → Bool} {c : α → β} {x y : Option α}
    (h : ∀ a ∈ x, ∀ b ∈ y, (eq a b = true ↔ c a = c b)) : optNe eq x y = decide (x.map c ≠ y.map c) := by
  cases x with
  | none => cases y <;> simp [optNe, optEq]
  | some a =>
    cases y with
    | none => simp [optNe, optEq]
    | some b =>
      have hab : eq a b = decide (c a = c b) := by rw [Bool.eq_iff_iff, decide_eq_true_iff]; exact h a rfl b rfl
      simp [optNe, optEq, hab]

theorem optNe_fields {m : FV} {x y : Option Fields} (h : SameFields x y) :
    optNe (fieldsEq m) x y = decide (x.map Val.fields ≠ y.map Val.fields) :=
  optNe_canon fun a ha b hb => by
    rw [fieldsEq_iff_eq (h a ha b hb).1 (h a ha b hb).2, Val.fields.injEq]

theorem optNe_ud (x y : Option J) :
    optNe udEq x y = decide (x.map (fun j => Val.json j.canon) ≠ y.map (fun j => Val.json j.canon)) :=
  optNe_canon fun a _ b _ => by rw [udEq_iff, Val.json.injEq]

end FimVerif.DiffVal
