import FimVerif.Model.Cypher
/-!
C19: `isKw` compares a word with every keyword, which is slow when the kernel evaluates the lint.  `isKwL` and `kwTok` look only at the
keywords of the word's length; `classifyL` is `classify` with the look-up of `kwTok`, and equal to it.
-/
namespace FimVerif.Cypher

def kwOfLen : Nat → List Codes
  | 2 => [n!"as", n!"or", n!"in", n!"is", n!"by", n!"on", n!"if"]
  | 3 => [n!"set", n!"and", n!"not", n!"xor", n!"end", n!"all", n!"any", n!"asc", n!"for"]
  | 4 => [n!"with", n!"call", n!"null", n!"true", n!"skip", n!"ends", n!"case", n!"when", n!"then", n!"else", n!"none", n!"desc",
          n!"drop"]
  | 5 => [n!"match", n!"where", n!"yield", n!"union", n!"false", n!"merge", n!"order", n!"limit", n!"index"]
  | 6 => [n!"return", n!"remove", n!"detach", n!"delete", n!"unwind", n!"create", n!"starts", n!"exists", n!"single", n!"unique",
          n!"assert"]
  | 7 => [n!"foreach", n!"require"]
  | 8 => [n!"optional", n!"distinct", n!"contains"]
  | 10 => [n!"constraint"]
  | _ => []

theorem kwOfLen_eq (n : Nat) : kwOfLen n = keywords.filter (fun k => k.length == n) := by
  by_cases h : n < 11
  · exact (by decide +kernel : ∀ n < 11, kwOfLen n = keywords.filter (fun k => k.length == n)) n h
  · -- no keyword is that long: both sides compute to `[]`
    obtain ⟨m, rfl⟩ := Nat.exists_eq_add_of_le' (Nat.le_of_not_lt h)
    rfl

def isKwL (x : Codes) : Bool := (kwOfLen x.length).contains (lower x)

theorem isKw_eq_isKwL (x : Codes) : isKw x = isKwL x := by
  rw [isKw, isKwL, kwOfLen_eq, lower, Bool.eq_iff_iff]
  -- `beq_iff_eq`, not `beq_self_eq_true`: Lean finds `ReflBEq Nat` through the order classes, whose `Nat` instances rest on
  -- `Classical.choice`, and the statements of C19 are to hold without it
  simp only [List.contains_iff_mem, List.mem_filter, List.length_map, beq_iff_eq, and_true]

theorem isKw_single (c : Nat) : isKw [c] = false := by
  rw [isKw_eq_isKwL]; rfl

/-- A keyword token carries the table's own copy of the keyword, not `lower nm`: the kernel then meets the same term at every
occurrence of a keyword and evaluates `needsOperand.contains` … of it once. -/
def kwTok (nm : Codes) : Tok :=
  match (kwOfLen nm.length).find? (· == lower nm) with
  | some k => .kw k
  | none => .id nm

theorem kwTok_eq (nm : Codes) : kwTok nm = if isKw nm then Tok.kw (lower nm) else Tok.id nm := by
  rw [isKw_eq_isKwL, isKwL, kwTok]
  cases h : (kwOfLen nm.length).find? (· == lower nm) with
  | none => rw [if_neg fun hc => List.find?_eq_none.mp h _ (List.contains_iff_mem.mp hc) (beq_iff_eq.mpr rfl)]
  | some k =>
    cases beq_iff_eq.mp (List.find?_some (p := (· == lower nm)) h)
    rw [if_pos (List.contains_iff_mem.mpr (List.mem_of_find?_eq_some h))]

def classifyL : Option Tok → List Tok → List Tok
  | _, [] => []
  | p, .id nm :: rest => (if isSym p cp%'.' then Tok.id nm else kwTok nm) :: classifyL (some (.id nm)) rest
  | _, t :: rest => t :: classifyL (some t) rest

theorem classify_eq_classifyL (p : Option Tok) (l : List Tok) : classify p l = classifyL p l := by
  induction l generalizing p with
  | nil => rfl
  | cons t rest ih =>
    cases t with
    | id nm => cases hp : isSym p cp%'.' <;> simp [classify, classifyL, kwTok_eq, hp, ih]
    | _ => simp only [classify, classifyL, ih]

end FimVerif.Cypher
