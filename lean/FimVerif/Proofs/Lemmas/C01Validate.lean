import FimVerif.Proofs.Lemmas.C01Copy
/-! `validate_graph()` on the shared store reads attribute dicts only: it is `validateA` of the dict lists (`validate_attrs`), and
`validateA_ok_iff` says what its three nested checks ask of them (`NodesValid`). Hence a graph that validates still validates as the copy
stored under any id (`validate_stored`). -/
namespace FimVerif.C01
open FimVerif.GraphML

/-- `findNode` / `checkNode` / `validate` on the lists of node / edge attribute dicts -/
def findA (ns : List Attrs) (g nid : Val) : Except String Attrs :=
  match (ns.filter fun a => a.get? "GraphID" == some g).filter (fun a => a.get? "NodeID" == some nid) with
  | [] => .error "query"
  | [a] => .ok a
  | _ => .error "query"

def checkA (names : List String) (jsonOk : String → Bool) (ns : List Attrs) (g : Val) (a : Attrs) : Except String Unit :=
  match a.get? "NodeID" with
  | none => .error "key"
  | some nid =>
    match findA ns g nid with
    | .error e => .error e
    | .ok m =>
      if (m.get? "Class").isNone then .error "key"
      else forE (checkJsonProp jsonOk m) names

def validateA (names : List String) (jsonOk : String → Bool) (ns es : List Attrs) (g : Val) : Except String Unit :=
  if (ns.filter fun a => a.get? "GraphID" == some g).isEmpty then .error "query"
  else
    match forE (checkA names jsonOk ns g) (ns.filter fun a => a.get? "GraphID" == some g) with
    | .error e => .error e
    | .ok _ => if ns.all hasClass && es.all hasClass then .ok () else .error "import"

theorem graphNodes_attrs (s : Store) (g : Val) :
    (s.graphNodes g).map (·.attrs) = (s.nodes.map (·.attrs)).filter fun a => a.get? "GraphID" == some g := by
  simp only [Store.graphNodes, List.filter_map]
  rfl

theorem findNode_attrs (s : Store) (g nid : Val) :
    (findNode s g nid).map (·.attrs) = findA (s.nodes.map (·.attrs)) g nid := by
  unfold findNode findA
  rw [← graphNodes_attrs, List.filter_map]
  have : ((fun a : Attrs => a.get? "NodeID" == some nid) ∘ fun n : SNode => n.attrs) = fun n : SNode => n.attrs.get? "NodeID" == some nid := rfl
  rw [this]
  generalize (s.graphNodes g).filter (fun n => n.attrs.get? "NodeID" == some nid) = l
  rcases l with _ | ⟨a, _ | ⟨b, t⟩⟩ <;> rfl

theorem checkNode_attrs (names : List String) (jsonOk : String → Bool) (s : Store) (g : Val) (n : SNode) :
    checkNode names jsonOk s g n = checkA names jsonOk (s.nodes.map (·.attrs)) g n.attrs := by
  unfold checkNode checkA
  cases n.attrs.get? "NodeID" with
  | none => rfl
  | some nid =>
    simp only
    rw [← findNode_attrs]
    cases findNode s g nid <;> rfl

theorem validate_attrs (names : List String) (jsonOk : String → Bool) (s : Store) (g : Val) :
    validate names jsonOk s g = validateA names jsonOk (s.nodes.map (·.attrs)) (s.edges.map (·.attrs)) g := by
  unfold validate validateA
  rw [← graphNodes_attrs, forE_map]
  have hc : (checkA names jsonOk (s.nodes.map (·.attrs)) g ∘ fun n : SNode => n.attrs) = checkNode names jsonOk s g := by
    funext n; exact (checkNode_attrs names jsonOk s g n).symm
  rw [hc]
  simp only [List.isEmpty_map, List.all_map, Function.comp_def]
  by_cases he : (s.graphNodes g).isEmpty = true
  · simp only [he, if_true]
  · simp only [he]
    cases forE (checkNode names jsonOk s g) (s.graphNodes g) <;> rfl

def NodesValid (names : List String) (jsonOk : String → Bool) (A : List Attrs) : Prop :=
  A ≠ [] ∧ ∀ a ∈ A, ∃ nid, a.get? "NodeID" = some nid ∧ ∃ m, A.filter (fun b => b.get? "NodeID" == some nid) = [m] ∧
    (m.get? "Class").isNone = false ∧ ∀ name ∈ names, checkJsonProp jsonOk m name = .ok ()

theorem checkA_ok_iff (names : List String) (jsonOk : String → Bool) (ns : List Attrs) (g : Val) (a : Attrs) :
    checkA names jsonOk ns g a = .ok () ↔
      ∃ nid, a.get? "NodeID" = some nid ∧ ∃ m,
        (ns.filter fun a => a.get? "GraphID" == some g).filter (fun b => b.get? "NodeID" == some nid) = [m] ∧
        (m.get? "Class").isNone = false ∧ ∀ name ∈ names, checkJsonProp jsonOk m name = .ok () := by
  unfold checkA findA
  cases a.get? "NodeID" with
  | none => simp
  | some nid =>
    simp only [Option.some.injEq, exists_eq_left']
    generalize (ns.filter fun a => a.get? "GraphID" == some g).filter (fun b => b.get? "NodeID" == some nid) = l
    rcases l with _ | ⟨a, _ | ⟨b, t⟩⟩
    · simp
    · cases hc : a.get? "Class" <;> simp [hc, forE_ok_iff]
    · simp

theorem validateA_ok_iff (names : List String) (jsonOk : String → Bool) (ns es : List Attrs) (g : Val) :
    validateA names jsonOk ns es g = .ok () ↔ NodesValid names jsonOk (ns.filter fun a => a.get? "GraphID" == some g) ∧
      (∀ a ∈ ns, hasClass a = true) ∧ (∀ a ∈ es, hasClass a = true) := by
  unfold validateA NodesValid
  -- fold the right side back into the shape of the program (`isEmpty`, `checkA`, `forE`), then go through the program's two branches
  rw [← List.isEmpty_eq_false_iff]
  simp only [← checkA_ok_iff]
  rw [← forE_ok_iff]
  cases (ns.filter fun a => a.get? "GraphID" == some g).isEmpty with
  | true => simp
  | false =>
    cases forE (checkA names jsonOk ns g) (ns.filter fun a => a.get? "GraphID" == some g) with
    | error e => simp
    | ok u => simp [List.all_eq_true]

theorem validate_ok_iff (names : List String) (jsonOk : String → Bool) (s : Store) (g : Val) :
    validate names jsonOk s g = .ok () ↔ NodesValid names jsonOk ((s.graphNodes g).map (·.attrs)) ∧
      (∀ n ∈ s.nodes, hasClass n.attrs = true) ∧ (∀ e ∈ s.edges, hasClass e.attrs = true) := by
  rw [validate_attrs, validateA_ok_iff, ← graphNodes_attrs, List.forall_mem_map, List.forall_mem_map]

/-- no check reads `GraphID` -/
theorem NodesValid.map {names : List String} {jsonOk : String → Bool} {A : List Attrs} (h : NodesValid names jsonOk A)
    (hnames : "GraphID" ∉ names) (stamp : Attrs → Attrs)
    (hst : ∀ (a : Attrs) (k : String), k ≠ "GraphID" → (stamp a).get? k = a.get? k) : NodesValid names jsonOk (A.map stamp) := by
  refine ⟨fun e => h.1 (List.map_eq_nil_iff.1 e), ?_⟩
  rw [List.forall_mem_map]
  intro a ha
  obtain ⟨nid, h1, m, h2, h3, h4⟩ := h.2 a ha
  refine ⟨nid, (hst _ _ (by decide)).trans h1, stamp m, ?_, by rw [hst _ _ (by decide)]; exact h3, fun name hname => ?_⟩
  · have : ((fun b : Attrs => b.get? "NodeID" == some nid) ∘ stamp) = fun b : Attrs => b.get? "NodeID" == some nid := by
      funext x; simp only [Function.comp_apply, hst _ _ (by decide : "NodeID" ≠ "GraphID")]
    rw [List.filter_map, this, h2]; rfl
  · have := h4 name hname
    unfold checkJsonProp at this ⊢
    rw [hst _ _ fun e => hnames (e ▸ hname)]; exact this

theorem validate_stored (names : List String) (jsonOk : String → Bool) (hnames : "GraphID" ∉ names)
    (s : Store) (g g' : Val) (G0 : Graph Nat) (hG : s.extract g = some G0)
    (stamp : Attrs → Attrs) (hst : ∀ (a : Attrs) (k : String), k ≠ "GraphID" → (stamp a).get? k = a.get? k)
    (htag : ∀ p ∈ G0.nodes, (stamp p.2).get? "GraphID" = some g')
    (hv : validate names jsonOk s g = .ok ()) :
    validate names jsonOk (stored s g' G0 stamp) g' = .ok () := by
  obtain ⟨_, hnodes, hedges⟩ := extract_eq_some s g G0 hG
  -- the nodes found under `g'` are the copy's, so their dicts are the stamped dicts of `g`'s nodes
  have hA : ((stored s g' G0 stamp).graphNodes g').map (·.attrs) = ((s.graphNodes g).map (·.attrs)).map stamp := by
    rw [stored, graphNodes_merge _ g' (delGraph_graphNodes s g') _ (List.forall_mem_map.2 htag)]
    simp only [copyWith, hnodes, List.map_map, Function.comp_def]
  rw [validate_ok_iff] at hv ⊢
  refine ⟨hA ▸ hv.1.map hnames stamp hst, fun n hn => ?_, fun e he => ?_⟩
  · rcases List.mem_append.mp hn with h | h
    · exact hv.2.1 n (mem_delGraph_nodes.1 h).1
    · obtain ⟨q, hq, rfl⟩ := List.mem_map.mp h
      obtain ⟨p, hp, rfl⟩ := List.mem_map.mp hq
      obtain ⟨m, hm, rfl⟩ := List.mem_map.mp (hnodes ▸ hp)
      show hasClass (stamp m.attrs) = true
      unfold hasClass; rw [hst _ _ (by decide)]
      exact hv.2.1 m (mem_graphNodes.1 hm).1
  · rcases List.mem_append.mp he with h | h
    · exact hv.2.2 e (mem_delGraph_edges.1 h).1
    · -- an edge of the copy carries the attributes of a stored edge
      refine attrs_iterFrom (fun a => hasClass a = true) _ (fun e1 he1 => ?_) _ _ e h
      obtain ⟨e2, he2, rfl⟩ := List.mem_map.mp he1
      refine attrs_iterFrom (fun a => hasClass a = true) _ (fun e3 he3 => ?_) _ _ e2 he2
      rw [hedges] at he3
      exact attrs_iterFrom (fun a => hasClass a = true) _ (fun e4 he4 => hv.2.2 e4 (mem_ownEdges.1 he4).1) _ _ e3 he3

theorem validate_delGraph_other (names : List String) (jsonOk : String → Bool) (s : Store) (g g' : Val) (hne : g ≠ g')
    (hv : validate names jsonOk s g = .ok ()) : validate names jsonOk (s.delGraph g') g = .ok () := by
  rw [validate_ok_iff] at hv ⊢
  rw [graphNodes_delGraph_other s g g' hne]
  exact ⟨hv.1, fun n hn => hv.2.1 n (mem_delGraph_nodes.1 hn).1, fun e he => hv.2.2 e (mem_delGraph_edges.1 he).1⟩

end FimVerif.C01
