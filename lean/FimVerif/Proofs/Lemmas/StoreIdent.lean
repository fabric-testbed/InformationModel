import FimVerif.Proofs.Lemmas.StoreInv
/-! C05: identity properties survive every operation that does not hand the class to a merge policy (`Op.keepsClass`): `Evolves`
    and the effects that keep it; lookups after a dictionary update that leaves the keys alone. -/
namespace FimVerif.Store
open FimVerif FimVerif.Gen.StoreConsts

/-- what may happen to the property dictionary of a surviving node: the class stays, and no identity
    property (the generated `NO_UNSET_PROPERTIES`) disappears -/
def Rel (a a' : Props) : Prop :=
  AMap.get propClass a' = AMap.get propClass a ∧ ∀ k ∈ noUnset, AMap.has k a = true → AMap.has k a' = true

theorem Rel.refl (a : Props) : Rel a a := ⟨rfl, fun _ _ h => h⟩
theorem Rel.trans {a b c : Props} (h1 : Rel a b) (h2 : Rel b c) : Rel a c :=
  ⟨h2.1.trans h1.1, fun k hk h => h2.2 k hk (h1.2 k hk h)⟩

/-- every node of `s'` is either freshly allocated or a node of `s` whose dictionary evolved by `Rel` -/
def Evolves (s s' : Store) : Prop :=
  s.nextId ≤ s'.nextId ∧
  ∀ m ∈ s'.nodes, s.nextId ≤ m.iid ∨ ∃ n ∈ s.nodes, n.iid = m.iid ∧ Rel n.attrs m.attrs

theorem Evolves.refl (s : Store) : Evolves s s := ⟨Nat.le_refl _, fun m hm => Or.inr ⟨m, hm, rfl, Rel.refl _⟩⟩

theorem Evolves.trans {s s1 s2 : Store} (h1 : Evolves s s1) (h2 : Evolves s1 s2) : Evolves s s2 := by
  refine ⟨Nat.le_trans h1.1 h2.1, ?_⟩
  intro m hm
  rcases h2.2 m hm with h | ⟨n1, hn1, e1, r1⟩
  · exact Or.inl (Nat.le_trans h1.1 h)
  · rcases h1.2 n1 hn1 with h | ⟨n, hn, e, r⟩
    · exact Or.inl (by omega)
    · exact Or.inr ⟨n, hn, e.trans e1, r.trans r1⟩

theorem evolves_of_nodes_subset (s s' : Store) (hid : s'.nextId = s.nextId) (hsub : ∀ n ∈ s'.nodes, n ∈ s.nodes) : Evolves s s' :=
  ⟨by omega, fun m hm => Or.inr ⟨m, hsub m hm, rfl, Rel.refl _⟩⟩

theorem evolves_updNodes (s : Store) (c : SNode → Bool) (f : Props → Props)
    (hf : ∀ n ∈ s.nodes, c n = true → Rel n.attrs (f n.attrs)) :
    Evolves s (updNodes c f s) := by
  unfold updNodes
  refine ⟨Nat.le_refl _, ?_⟩
  intro m hm
  obtain ⟨n, hn, rfl⟩ := List.mem_map.1 hm
  refine Or.inr ⟨n, hn, ?_, ?_⟩
  · by_cases h : c n <;> simp [h]
  · by_cases h : c n
    · simp only [h, if_true]; exact hf n hn h
    · simp only [h]; exact Rel.refl _

theorem evolves_updNode (s : Store) (i : Nat) (f : Props → Props)
    (hf : ∀ n ∈ s.nodes, n.iid = i → Rel n.attrs (f n.attrs)) : Evolves s (updNode i f s) := by
  exact updNode_eq i f s ▸ evolves_updNodes s _ f fun n hn hc => hf n hn (of_decide_eq_true hc)

theorem rel_set (k : String) (v : Val) (a : Props) (hk : k ≠ propClass) : Rel a (AMap.set k v a) :=
  ⟨AMap.get_set_ne _ _ _ _ (Ne.symm hk), fun k' _ h => AMap.has_set k k' v a h⟩

theorem rel_erase (k : String) (a : Props) (hk : k ≠ propClass) (hnu : k ∉ noUnset) : Rel a (AMap.erase k a) := by
  refine ⟨AMap.get_erase_ne _ _ _ (Ne.symm hk), ?_⟩
  intro k' hk' h
  have : k' ≠ k := fun e => hnu (e ▸ hk')
  simpa [AMap.has, AMap.get_erase_ne _ _ _ this] using h

theorem rel_update (a p : Props) (hp : AMap.has propClass p = false) : Rel a (AMap.update a p) :=
  ⟨AMap.get_update_of_not_has _ _ _ hp, fun k _ h => AMap.has_update_of_has k a p h⟩

theorem evolves_appendGraph (s : Store) (ns : List Props) (es : List (Nat × Nat × Props)) : Evolves s (appendGraph ns es s) := by
  refine ⟨by simp [appendGraph], ?_⟩
  intro m hm
  simp only [appendGraph, List.mem_append] at hm
  rcases hm with hm | hm
  · exact Or.inr ⟨m, hm, rfl, Rel.refl _⟩
  · exact Or.inl (mem_relabel_iid _ _ _ hm).1

theorem evolves_contract (u v : Nat) (s : Store) : Evolves s (contract u v s) :=
  evolves_of_nodes_subset s _ (contract_nodes u v s).2 fun _ hn => (mem_contract_nodes.1 hn).1

theorem rel_mergeProps {theirs : Props} {pol : List (String × Policy)} {mine np : Props}
    (h : mergeProps theirs pol mine = .ok np) (hp : polKeepsClass pol = true) : Rel mine np :=
  ⟨mergeProps_get h (polKeepsClass_eq pol ▸ hp), fun k _ hk => by simpa [AMap.has, mergeProps_policy h] using hk⟩

/-- the merge policy of an operation does not name the class with `overwrite`/`combine`/an unknown word -/
def Op.keepsClass : Op → Bool
  | .mergeNodes _ _ _ (some pol) => polKeepsClass pol
  | _ => true

theorem Effect.evolves {s : Store} {op : Op} {r : R} (e : Effect s op r) (h : Inv s) (hc : op.keepsClass = true) :
    Evolves s r.2 := by
  have kept : ∀ (s' : Store), s'.nextId = s.nextId → s'.nodes = s.nodes → Evolves s s' :=
    fun s' hi hn => evolves_of_nodes_subset s s' hi fun n hn' => hn ▸ hn'
  have dropped : ∀ (p : SNode → Bool) (es : List SEdge), Evolves s ⟨s.nodes.filter p, es, s.nextId⟩ :=
    fun p es => evolves_of_nodes_subset s _ rfl fun n hn => (List.mem_filter.1 hn).1
  have imported : ∀ g ns es, Evolves s (appendGraph ns es (delGraphNl g s)) :=
    fun g ns es => (dropped _ _).trans (evolves_appendGraph _ ns es)
  cases e with
  | refused => exact .refl s
  | answered => exact .refl s
  | addNode g nid label props =>
    -- the fresh node may receive any initial properties: it is not a node of `s`
    rw [updNode_fresh s h]; exact evolves_appendGraph s _ _
  | deleteNode g nid i => exact dropped _ _
  | addLink g a rel b props ia ib attrs => exact kept _ (addEdge_nodes ia ib attrs s).2 (addEdge_nodes ia ib attrs s).1
  | updateNodeProperty g nid k v i hk => exact evolves_updNode s i _ fun n _ _ => rel_set k v n.attrs (nxLabel_eq ▸ hk)
  | unsetNodeProperty g nid k i hk hnu =>
    exact evolves_updNode s i _ fun n _ _ => rel_erase k n.attrs (nxLabel_eq ▸ hk) hnu
  | updateNodesProperty g k v hk =>
    exact evolves_updNodes s (inG g) (AMap.set k v) fun n _ _ => rel_set k v n.attrs (nxLabel_eq ▸ hk)
  | updateNodeProperties g nid p i hp => exact evolves_updNode s i _ fun n _ _ => rel_update n.attrs p (nxLabel_eq ▸ hp)
  | updateLinkProperty => exact kept _ rfl rfl
  | unsetLinkProperty => exact kept _ rfl rfl
  | updateLinkProperties => exact kept _ rfl rfl
  | deleteGraph g => exact dropped _ _
  | importRefused g ig => exact dropped _ _
  | addGraph g ig => exact imported g _ _
  | addGraphDirect g ig => exact imported g _ _
  | cloneRefused g g2 => exact dropped _ _
  | clone g g2 ig => exact imported g2 _ _
  | mergeNodes g nid g2 pol u v mine theirs np hu hv huv hm ht hnp =>
    refine (evolves_contract u v s).trans (evolves_updNode _ u _ fun n hn hi => ?_)
    rw [attrs_of_nodeAttrs h (mem_contract_nodes.1 hn).1 (hi ▸ hm)]
    cases pol with
    | none => exact hnp ▸ .refl mine
    | some pol => exact rel_mergeProps hnp hc
  | delAllGraphs => exact evolves_of_nodes_subset s _ rfl nofun

theorem findNode_updNode_keepsKeys (s : Store) (g nid : String) (i j : Nat) (f : Props → Props)
    (hg : ∀ a, AMap.get graphId (f a) = AMap.get graphId a) (hn : ∀ a, AMap.get nodeId (f a) = AMap.get nodeId a)
    (hf : findNode s g nid = .ok i) : findNode (updNode j f s) g nid = .ok i := by
  unfold findNode at hf ⊢
  have hfil : (updNode j f s).nodes.filter (fun n => hasNid nid n && inG g n) =
      (s.nodes.filter (fun n => hasNid nid n && inG g n)).map
        (fun n => if n.iid = j then { n with attrs := f n.attrs } else n) := by
    simp only [updNode, List.filter_map]
    congr 1
    apply List.filter_congr
    intro n _
    by_cases h : n.iid = j <;> simp [h, hasNid, inG, hg, hn]
  rw [hfil]
  split at hf
  · cases hf
  · rename_i n heq
    rw [heq]
    simp only [List.map_cons, List.map_nil]
    by_cases h : n.iid = j
    · simp only [h, if_true] at hf ⊢
      cases hf; rfl
    · simp only [h, if_false]; exact hf
  · cases hf

theorem nodeAttrs_updNode_self (s : Store) (i : Nat) (f : Props → Props) :
    nodeAttrs (updNode i f s) i = (nodeAttrs s i).map f := by
  unfold nodeAttrs updNode
  simp only
  induction s.nodes with
  | nil => rfl
  | cons n ns ih =>
    by_cases h : n.iid = i
    · simp [List.find?, h]
    · have h' : (n.iid == i) = false := by simpa using h
      simp only [List.map_cons, h, if_false, List.find?, h']
      exact ih

end FimVerif.Store
