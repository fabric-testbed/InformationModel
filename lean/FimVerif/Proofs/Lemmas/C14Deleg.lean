import FimVerif.Model.Cbm
/-! C14: the algebra of one delegation property (`Deleg`): `take` (merge), `rk` (re-key, the total part of `Deleg.rekey`), `un` (the total
part of `Deleg.unmerge`), `norm` (`'' = absent`), and `firstLive`, what a sequence of `take`s ends with and what `un` makes of that
(`un_firstLive`). -/
namespace FimVerif.Cbm

theorem Deleg.take_live {c t : Deleg} (h : c.live = true) : c.take t = c := by
  simp [Deleg.take, h]

theorem Deleg.take_dead {c t : Deleg} (h : t.live = false) : c.take t = c := by
  simp [Deleg.take, h]

theorem Deleg.live_take (c t : Deleg) : (c.take t).live = (c.live || t.live) := by
  cases hc : c.live <;> cases ht : t.live <;> simp [Deleg.take, hc, ht]

/-- total version of `Deleg.rekey` (what it returns when it does not raise) -/
def Deleg.rk (aid : String) : Deleg → Deleg
  | .dict [(_, d)] => .dict [(aid, d)]
  | _ => .absent

/-- the delegation property is something `rewrite_delegations` accepts -/
def Deleg.single : Deleg → Bool
  | .absent => true
  | .dict [_] => true
  | _ => false

theorem Deleg.rk_cases (d : Deleg) (aid : String) : d.rk aid = .absent ∨ ∃ v, d.rk aid = .dict [(aid, v)] := by
  cases d with
  | dict l =>
    match l with
    | [(k, v)] => exact .inr ⟨v, rfl⟩
    | [] => exact .inl rfl
    | _ :: _ :: _ => exact .inl rfl
  | _ => exact .inl rfl

theorem Deleg.rk_absent (aid : String) : Deleg.absent.rk aid = .absent := rfl

theorem Deleg.rk_form {d : Deleg} {aid : String} (h : (d.rk aid).live = true) : ∃ v, d.rk aid = .dict [(aid, v)] := by
  rcases Deleg.rk_cases d aid with h' | h'
  · rw [h'] at h; cases h
  · exact h'

theorem Deleg.rk_eq_dict {d : Deleg} {aid : String} {l : List (String × String)} (h : d.rk aid = .dict l) :
    ∃ k v, d = .dict [(k, v)] ∧ l = [(aid, v)] := by
  cases d with
  | absent => cases h
  | emptied => cases h
  | dict m =>
    match m with
    | [] => cases h
    | [(k, v)] => exact ⟨k, v, rfl, by injection h with h; exact h.symm⟩
    | _ :: _ :: _ => cases h

theorem Deleg.live_of_rk {d : Deleg} {aid : String} (h : (d.rk aid).live = true) : d.live = true := by
  cases d with
  | absent => cases h
  | emptied => cases h
  | dict l => rfl

theorem Deleg.rk_ne_emptied (d : Deleg) (aid : String) : d.rk aid ≠ .emptied := by
  rcases Deleg.rk_cases d aid with h | ⟨v, h⟩ <;> rw [h] <;> nofun

theorem Deleg.rk_single (d : Deleg) (aid : String) : (d.rk aid).single = true := by
  rcases Deleg.rk_cases d aid with h | ⟨v, h⟩ <;> rw [h] <;> rfl

theorem Deleg.rk_rk (d : Deleg) (aid : String) : (d.rk aid).rk aid = d.rk aid := by
  rcases Deleg.rk_cases d aid with h | ⟨v, h⟩ <;> rw [h] <;> rfl

theorem Deleg.take_absent_rk (d : Deleg) (aid : String) : Deleg.absent.take (d.rk aid) = d.rk aid := by
  rcases Deleg.rk_cases d aid with h | ⟨v, h⟩ <;> rw [h] <;> rfl

theorem Deleg.rekey_eq (aid : String) (d : Deleg) :
    d.rekey aid = if d.single then .ok (d.rk aid) else .error (if d = .emptied then .attribute else .query) := by
  cases d with
  | dict l =>
    match l with
    | [(k, v)] => rfl
    | [] => rfl
    | _ :: _ :: _ => rfl
  | _ => rfl

theorem Deleg.rekey_iff {aid : String} {d d' : Deleg} : d.rekey aid = .ok d' ↔ d.single = true ∧ d' = d.rk aid := by
  rw [Deleg.rekey_eq]
  cases d.single <;> simp [eq_comm]

/-- total version of `Deleg.unmerge` (what it returns when it does not raise) -/
def Deleg.un (gid : String) : Deleg → Deleg
  | .dict l => if l.any (fun p => p.1 == gid) then .emptied else .dict l
  | d => d

/-- `Deleg.unmerge` does not raise: the id is not among the entries, or is the only one -/
def Deleg.unOk (gid : String) : Deleg → Bool
  | .dict l => !l.any (fun p => p.1 == gid) || (l.filter (fun p => p.1 != gid)).isEmpty
  | _ => true

theorem Deleg.unmerge_eq (gid : String) (d : Deleg) : d.unmerge gid = if d.unOk gid then .ok (d.un gid) else .error () := by
  cases d with
  | dict l =>
    simp only [Deleg.unmerge, Deleg.unOk, Deleg.un]
    by_cases h1 : l.any (fun p => p.1 == gid) = true
    · by_cases h2 : (l.filter (fun p => p.1 != gid)).isEmpty = true <;> simp [h1, h2]
    · simp [h1]
  | _ => rfl

theorem Deleg.unOk_single {k v gid : String} : (Deleg.dict [(k, v)]).unOk gid = true := by
  by_cases hk : k = gid <;> simp [Deleg.unOk, hk]

def Deleg.mentions (gid : String) : Deleg → Bool
  | .dict l => l.any (fun p => p.1 == gid)
  | _ => false

theorem Deleg.un_unmentioned {d : Deleg} {gid : String} (h : d.mentions gid = false) : d.unOk gid = true ∧ d.un gid = d := by
  cases d with
  | dict l => simp only [Deleg.mentions] at h; simp [Deleg.unOk, Deleg.un, h]
  | _ => exact ⟨rfl, rfl⟩

/-- an emptied delegation (`''`) is identified with an absent one -/
def Deleg.norm : Deleg → Deleg
  | .emptied => .absent
  | d => d

theorem Deleg.live_norm (d : Deleg) : d.norm.live = d.live := by cases d <;> rfl

theorem Deleg.norm_eq_dict {d : Deleg} {l : List (String × String)} (h : d.norm = .dict l) : d = .dict l := by
  cases d with
  | dict _ => exact h
  | _ => cases h

theorem Deleg.norm_take {c t : Deleg} (ht : t ≠ .emptied) : (c.take t).norm = c.norm.take t := by
  cases c <;> cases t <;> simp_all [Deleg.take, Deleg.live, Deleg.norm]

theorem Deleg.un_norm (d : Deleg) (gid : String) : (d.un gid).norm = (d.norm.un gid).norm := by
  cases d <;> rfl

theorem Deleg.un_take_rk {c : Deleg} (d : Deleg) {aid : String} (hf : c.mentions aid = false) :
    (c.take (d.rk aid)).unOk aid = true ∧ ((c.take (d.rk aid)).un aid).norm = c.norm := by
  have hc : (c.unOk aid = true ∧ (c.un aid).norm = c.norm) := ⟨(Deleg.un_unmentioned hf).1, by rw [(Deleg.un_unmentioned hf).2]⟩
  cases hl : (d.rk aid).live with
  | false => rwa [Deleg.take_dead hl]
  | true =>
    obtain ⟨v, hv⟩ := Deleg.rk_form hl
    rw [hv]
    cases c with
    | dict m => rwa [Deleg.take_live rfl]
    | _ => simp [Deleg.take, Deleg.live, Deleg.unOk, Deleg.un, Deleg.norm]

theorem Deleg.unOk_rk (d : Deleg) (aid : String) : (d.rk aid).unOk aid = true := by
  rw [← Deleg.take_absent_rk]
  exact (Deleg.un_take_rk d rfl).1

/-- the first live delegation of a list: what taking them one after the other ends with (`foldl_take`) -/
def firstLive (l : List Deleg) : Deleg := (l.find? Deleg.live).getD .absent

theorem take_assoc_firstLive (d t : Deleg) (l : List Deleg) : (d.take t).take (firstLive l) = d.take (firstLive (t :: l)) := by
  cases hd : d.live <;> cases ht : t.live <;> simp [Deleg.take, firstLive, hd, ht]

theorem foldl_take (l : List Deleg) (d : Deleg) : l.foldl Deleg.take d = d.take (firstLive l) := by
  induction l generalizing d with
  | nil => cases d <;> rfl
  | cons t l ih => rw [List.foldl_cons, ih, take_assoc_firstLive]

theorem firstLive_append_singleton (l : List Deleg) (t : Deleg) : firstLive (l ++ [t]) = (firstLive l).take t := by
  unfold firstLive
  rw [List.find?_append]
  cases hf : l.find? Deleg.live with
  | some e => have := List.find?_some hf; simp [Deleg.take, this]
  | none =>
    have ha : Deleg.absent.live = false := rfl
    cases ht : t.live <;> simp [Deleg.take, ha, ht]

theorem firstLive_live_of_mem {l : List Deleg} {d : Deleg} (hd : d ∈ l) (hl : d.live = true) : (firstLive l).live = true := by
  unfold firstLive
  cases hf : l.find? Deleg.live with
  | none => exact absurd hl (by simpa using List.find?_eq_none.mp hf d hd)
  | some e => simpa using List.find?_some hf

theorem firstLive_mem {l : List Deleg} (h : (firstLive l).live = true) : firstLive l ∈ l := by
  unfold firstLive at h ⊢
  cases hf : l.find? Deleg.live with
  | none => rw [hf] at h; cases h
  | some d => exact List.mem_of_find?_eq_some hf

theorem firstLive_eq_head (l : List Deleg) : firstLive l = ((l.filter Deleg.live).head?).getD .absent := by
  rw [List.head?_filter]; rfl

theorem firstLive_none {l : List Deleg} (h : ∀ d ∈ l, ¬d.live = true) : firstLive l = .absent := by
  rw [firstLive, List.find?_eq_none.mpr h]; rfl

theorem firstLive_eq_of_mem {l : List Deleg} {d : Deleg} (h1 : (l.filter Deleg.live).length ≤ 1) (hd : d ∈ l) (hl : d.live = true) :
    firstLive l = d := by
  rw [firstLive_eq_head]
  match hf : l.filter Deleg.live, h1, List.mem_filter.mpr ⟨hd, hl⟩ with
  | [x], _, hm => rw [List.mem_singleton.mp hm]; rfl

theorem norm_absent_take_firstLive (l : List Deleg) : (Deleg.absent.take (firstLive l)).norm = firstLive l := by
  unfold firstLive
  cases h : l.find? Deleg.live with
  | none => rfl
  | some d =>
    have := List.find?_some h
    cases d with
    | dict m => rfl
    | _ => cases this

theorem perm_length_le_one {α : Type} {l l' : List α} (hp : l.Perm l') (h : l.length ≤ 1) : l = l' := by
  match l, h with
  | [], _ => exact (hp.symm.eq_nil).symm
  | [x], _ => exact (List.perm_singleton.mp hp.symm).symm

theorem firstLive_perm {l l' : List Deleg} (hp : l.Perm l') (h : (l.filter Deleg.live).length ≤ 1) :
    firstLive l = firstLive l' := by
  rw [firstLive_eq_head, firstLive_eq_head, perm_length_le_one (hp.filter _) h]

theorem un_firstLive (sp : Adm → Deleg) (gid : String) (live : List Adm)
    (h1 : ∀ a ∈ live, (sp a).live = true → ∃ v, sp a = .dict [(a.id, v)])
    (h2 : ((live.map sp).filter Deleg.live).length ≤ 1) :
    ((firstLive (live.map sp)).un gid).norm = firstLive ((live.filter (fun a => a.id != gid)).map sp) := by
  -- in terms of the speakers among `live` (at most one): unmerging filters them as it filters `live`
  have hc : (live.filter (fun a => a.id != gid)).filter (Deleg.live ∘ sp) = (live.filter (Deleg.live ∘ sp)).filter (fun a => a.id != gid) := by
    rw [List.filter_filter, List.filter_filter]
    exact List.filter_congr fun a _ => Bool.and_comm _ _
  rw [firstLive_eq_head, firstLive_eq_head, List.filter_map, List.filter_map, hc]
  rw [List.filter_map, List.length_map] at h2
  match hL : live.filter (Deleg.live ∘ sp), h2 with
  | [], _ => rfl
  | [a], _ =>
    have ha := List.mem_filter.mp (hL ▸ List.mem_singleton_self a)
    obtain ⟨v, hv⟩ := h1 a ha.1 ha.2
    by_cases hg : a.id = gid <;> simp [hv, hg, Deleg.un, Deleg.norm]

end FimVerif.Cbm
