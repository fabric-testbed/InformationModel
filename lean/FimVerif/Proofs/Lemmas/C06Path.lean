/-!
# Chains, paths, and "a shortest one, or none" (C06)

Nothing here mentions a view: `IsChain` and `Path` over any relation, the counted form `Walk` the breadth-first search
reasons with, and `Shortest`, the shape of every path answer.
The contract `IsPath g rel a z p` (`C06Sp`) is `Path (Adj g rel) a z p` written out, not defined through `Path`: the lemmas
`Path.*` apply to it as terms (the two unfold to the same thing), but `rw`/`simp` with them does not see it.
-/
namespace FimVerif.Query

def IsChain (R : String → String → Prop) : List String → Prop
  | [] => True
  | [_] => True
  | x :: y :: t => R x y ∧ IsChain R (y :: t)

/-- `Walk R z v n`: `v` reaches `z` in exactly `n` steps of `R` -/
inductive Walk (R : String → String → Prop) (z : String) : String → Nat → Prop
  | nil : Walk R z z 0
  | cons {v u : String} {n : Nat} : R v u → Walk R z u n → Walk R z v (n + 1)

section
variable {R S : String → String → Prop} {a z : String}

theorem isChain_cons {x : String} {l : List String} :
    IsChain R (x :: l) ↔ (∀ y, l.head? = some y → R x y) ∧ IsChain R l := by
  cases l <;> simp [IsChain]

theorem isChain_append {t : List String} : ∀ {s : List String},
    IsChain R (s ++ t) ↔ IsChain R s ∧ IsChain R t ∧ ∀ a, s.getLast? = some a → ∀ b, t.head? = some b → R a b
  | [] => by simp [IsChain]
  | [x] => by simp [isChain_cons, IsChain, and_comm]
  | x :: y :: s => by
    have ih := isChain_append (t := t) (s := y :: s)
    simp only [List.cons_append] at ih
    simp only [List.cons_append, IsChain, ih, List.getLast?_cons_cons, and_assoc]

theorem IsChain.imp (h : ∀ {u v}, R u v → S u v) : ∀ {l : List String}, IsChain R l → IsChain S l
  | [], _ => trivial
  | [_], _ => trivial
  | _ :: _ :: _, hc => ⟨h hc.1, IsChain.imp h hc.2⟩

def Path (R : String → String → Prop) (a z : String) (p : List String) : Prop :=
  p.head? = some a ∧ p.getLast? = some z ∧ IsChain R p

theorem Path.not_nil : ¬ Path R a z [] := fun h => nomatch h.1

theorem Path.single : Path R a a [a] := ⟨rfl, rfl, trivial⟩

theorem Path.cons {b : String} {q : List String} (h : R a b) (hq : Path R b z q) : Path R a z (a :: q) := by
  obtain ⟨t, rfl⟩ := List.head?_eq_some_iff.1 hq.1
  exact ⟨rfl, (List.getLast?_cons_cons ..).trans hq.2.1, h, hq.2.2⟩

theorem Path.cases {p : List String} (h : Path R a z p) :
    (p = [a] ∧ a = z) ∨ ∃ b q, p = a :: q ∧ R a b ∧ Path R b z q := by
  obtain ⟨hh, hl, hc⟩ := h
  obtain ⟨q, rfl⟩ := List.head?_eq_some_iff.1 hh
  cases q with
  | nil => exact .inl ⟨rfl, Option.some.inj hl⟩
  | cons b t => exact .inr ⟨b, _, rfl, hc.1, rfl, (List.getLast?_cons_cons ..).symm.trans hl, hc.2⟩

theorem Path.congr (h : ∀ {u v}, R u v ↔ S u v) {p : List String} : Path R a z p ↔ Path S a z p :=
  and_congr_right fun _ => and_congr_right fun _ => ⟨.imp h.1, .imp h.2⟩

theorem Path.walk : ∀ {rest : List String} {a : String}, Path R a z (a :: rest) → Walk R z a rest.length
  | [], _, h => Option.some.inj h.2.1 ▸ Walk.nil
  | _ :: _, _, h => Walk.cons h.2.2.1 (Path.walk ⟨rfl, (List.getLast?_cons_cons ..).symm.trans h.2.1, h.2.2.2⟩)

end

/-- what a path query promises of its answer: a shortest list with `P`, `[]` when there is none -/
def Shortest (P : List String → Prop) (p : List String) : Prop :=
  (p = [] ∧ ¬ ∃ q, P q) ∨ (P p ∧ ∀ q, P q → p.length ≤ q.length)

section
variable {P Q : List String → Prop} {p q : List String}

theorem Shortest.congr (h : ∀ {q}, P q ↔ Q q) (hs : Shortest P p) : Shortest Q p :=
  hs.imp (fun hs => ⟨hs.1, fun ⟨_, hq⟩ => hs.2 ⟨_, h.2 hq⟩⟩) fun hs => ⟨h.1 hs.1, fun _ hq => hs.2 _ (h.2 hq)⟩

theorem Shortest.sound (hs : Shortest P p) (hne : p ≠ []) : P p :=
  hs.elim (fun h => absurd h.1 hne) (·.1)

theorem Shortest.minimal (hP : ¬ P []) (hs : Shortest P p) (hq : P q) : p ≠ [] ∧ p.length ≤ q.length :=
  hs.elim (fun h => absurd ⟨q, hq⟩ h.2) fun h => ⟨fun e => hP (e ▸ h.1), h.2 q hq⟩

theorem Shortest.empty_iff (hP : ¬ P []) (hs : Shortest P p) : p = [] ↔ ¬ ∃ q, P q :=
  hs.elim (fun h => ⟨fun _ => h.2, fun _ => h.1⟩)
    fun h => ⟨fun e => absurd (e ▸ h.1) hP, fun hno => absurd ⟨p, h.1⟩ hno⟩

end
end FimVerif.Query
