import FimVerif.Proofs.Lemmas.C19Lex
import FimVerif.Proofs.Lemmas.C19Kw
/-!
C19, identifier holes: the lint's verdict does not depend on what fills the holes (`lint_expand`), provided each hole is a word of its own
and sits where the scoping pass ignores identifiers (`cleanFor`: `cleanTok` and `scanChk`), and no filling is a keyword (`GoodSubst`).
-/
namespace FimVerif.Cypher

variable (ρ : Nat → Text)

/-- `_eR`: invariance under `Tok.expandRaw`, for an observation that never looks inside the name of an identifier or parameter -/
theorem obs_eR {β : Type} (f : Option Tok → β) (hid : ∀ x y, f (some (.id x)) = f (some (.id y)))
    (hpar : ∀ x y, f (some (.par x)) = f (some (.par y))) {t : Option Tok} : f (t.map (Tok.expandRaw ρ)) = f t := by
  cases t with
  | none => rfl
  | some t =>
    cases t with
    | id x => exact hid _ _
    | par x => exact hpar _ _
    | _ => rfl

theorem isSym_eR (t : Option Tok) (c : Nat) : isSym (t.map (Tok.expandRaw ρ)) c = isSym t c :=
  obs_eR ρ (isSym · c) (fun _ _ => rfl) (fun _ _ => rfl)

theorem isKwT_eR (t : Option Tok) (w : Codes) : isKwT (t.map (Tok.expandRaw ρ)) w = isKwT t w :=
  obs_eR ρ (isKwT · w) (fun _ _ => rfl) (fun _ _ => rfl)

theorem kwIn_eR (t : Option Tok) (l : List Codes) : kwIn (t.map (Tok.expandRaw ρ)) l = kwIn t l :=
  obs_eR ρ (kwIn · l) (fun _ _ => rfl) (fun _ _ => rfl)

theorem isCallee_eR (t : Option Tok) : isCallee (t.map (Tok.expandRaw ρ)) = isCallee t :=
  obs_eR ρ isCallee (fun _ _ => rfl) (fun _ _ => rfl)

theorem badFollower_eR (t : Option Tok) : badFollower (t.map (Tok.expandRaw ρ)) = badFollower t :=
  obs_eR ρ badFollower (fun _ _ => rfl) (fun _ _ => rfl)

theorem operandEnd_eR (t : Option Tok) : operandEnd (t.map (Tok.expandRaw ρ)) = operandEnd t :=
  obs_eR ρ operandEnd (fun _ _ => rfl) (fun _ _ => rfl)

theorem commaBad_eR (t : Option Tok) : commaBad (t.map (Tok.expandRaw ρ)) = commaBad t :=
  obs_eR ρ commaBad (fun _ _ => rfl) (fun _ _ => rfl)

theorem isNone_eR (t : Option Tok) : isNone (t.map (Tok.expandRaw ρ)) = isNone t :=
  obs_eR ρ isNone (fun _ _ => rfl) (fun _ _ => rfl)

theorem isWordTok_eR (t : Tok) : isWordTok (Tok.expandRaw ρ t) = isWordTok t := by
  cases t <;> rfl

theorem dottedCall_cons2 (c : Nat) (w : Tok) (rest : List Tok) : dottedCall (.sym c :: w :: rest) =
    (c == cp%'.' && isWordTok w && (isSym rest.head? cp%'(' || dottedCall rest)) := by
  conv => lhs; unfold dottedCall
  cases c == cp%'.' && isWordTok w with
  | false => rfl
  | true =>
    match rest with
    | .sym d :: r =>
      show (if d == cp%'(' then true else dottedCall (.sym d :: r)) = (d == cp%'(' || dottedCall (.sym d :: r))
      cases d == cp%'(' <;> rfl
    | [] | .id _ :: _ | .kw _ :: _ | .num :: _ | .str :: _ | .par _ :: _ => rfl

theorem dottedCall_eR : ∀ l : List Tok, dottedCall (l.map (Tok.expandRaw ρ)) = dottedCall l
  | [] => rfl
  | [t] => by cases t <;> rfl
  | t :: w :: rest => by
    cases t with
    | sym c =>
      show dottedCall (Tok.sym c :: Tok.expandRaw ρ w :: rest.map (Tok.expandRaw ρ)) = _
      rw [dottedCall_cons2, dottedCall_cons2, isWordTok_eR, List.head?_map, isSym_eR, dottedCall_eR rest]
    | _ => rfl

theorem binds_eR (s : St) (p2 p1 nx : Option Tok) :
    binds s (p2.map (Tok.expandRaw ρ)) (p1.map (Tok.expandRaw ρ)) (nx.map (Tok.expandRaw ρ)) = binds s p2 p1 nx := by
  simp only [binds, isSym_eR, isCallee_eR, isKwT_eR, kwIn_eR]

theorem uses_eR (p1 nx : Option Tok) (rest : List Tok) :
    uses (p1.map (Tok.expandRaw ρ)) (nx.map (Tok.expandRaw ρ)) (rest.map (Tok.expandRaw ρ)) = uses p1 nx rest := by
  simp only [uses, isSym_eR, kwIn_eR, dottedCall_eR]

theorem carries_eR (s : St) (p1 nx : Option Tok) :
    carries s (p1.map (Tok.expandRaw ρ)) (nx.map (Tok.expandRaw ρ)) = carries s p1 nx := by
  simp only [carries, isClauseTok, isSym_eR, isKwT_eR, isNone_eR, kwIn_eR]

theorem stepId_inert {s : St} {p2 p1 : Option Tok} {rest : List Tok} {x y : Codes}
    (h : (!s.inYield && !binds s p2 p1 rest.head? && !uses p1 rest.head? rest && !carries s p1 rest.head?) = true) :
    stepId s p2 p1 x rest = stepId s p2 p1 y rest := by
  simp only [Bool.and_eq_true, Bool.not_eq_true'] at h
  simp only [stepId, h, Bool.false_eq_true, if_false]

theorem step_eR {s : St} {p2 p1 : Option Tok} {cur : Tok} {rest : List Tok}
    (h : (!isHole cur || (!s.inYield && !binds s p2 p1 rest.head? && !uses p1 rest.head? rest && !carries s p1 rest.head?)) = true) :
    step s (p2.map (Tok.expandRaw ρ)) (p1.map (Tok.expandRaw ρ)) (Tok.expandRaw ρ cur) (rest.map (Tok.expandRaw ρ)) =
      step s p2 p1 cur rest := by
  cases cur with
  | kw lw => simp only [Tok.expandRaw, step, stepKw, List.head?_map, isKwT_eR, badFollower_eR, operandEnd_eR]
  | sym c => simp only [Tok.expandRaw, step, stepSym, List.head?_map, isKwT_eR, isSym_eR, commaBad_eR, badFollower_eR]
  | id x =>
    simp only [Tok.expandRaw, step, stepId, List.head?_map, binds_eR, uses_eR, carries_eR]
    -- a plain name is not changed; any other sits where `stepId` ignores it
    cases hp : plain x with
    | true => rw [expand_plain ρ hp]
    | false => rw [isHole, hp] at h; exact stepId_inert h
  | _ => rfl

theorem scan_eR : ∀ (l : List Tok) (p2 p1 : Option Tok) (s : St), scanChk l p2 p1 s = true →
    scan (l.map (Tok.expandRaw ρ)) (p2.map (Tok.expandRaw ρ)) (p1.map (Tok.expandRaw ρ)) s = scan l p2 p1 s
  | [], _, _, _, _ => rfl
  | cur :: rest, p2, p1, s, hk => by
    rw [scanChk, Bool.and_eq_true] at hk
    show scan (rest.map (Tok.expandRaw ρ)) (p1.map (Tok.expandRaw ρ)) ((some cur).map (Tok.expandRaw ρ)) _ = scan rest p1 (some cur) _
    rw [step_eR ρ hk.1]
    exact scan_eR rest p1 (some cur) _ hk.2

theorem classify_clean {l : List Tok} (p : Option Tok) (hc : l.all cleanTok = true) : (classify p l).all cleanTok = true := by
  fun_induction classify p l with
  | case1 => rfl
  | case2 p nm rest ih =>
    rw [List.all_cons, Bool.and_eq_true] at hc ⊢
    refine ⟨?_, ih hc.2⟩
    split
    · rfl
    · exact hc.1
  | case3 p t rest _ ih =>
    rw [List.all_cons, Bool.and_eq_true] at hc ⊢
    exact ⟨hc.1, ih hc.2⟩

theorem balAux_eR : ∀ (l : List Tok) (stk : Codes), balAux (l.map (Tok.expandRaw ρ)) stk = balAux l stk := by
  intro l
  induction l with
  | nil => intro stk; rfl
  | cons t rest ih =>
    intro stk
    cases t with
    | sym c =>
      show balAux (Tok.sym c :: rest.map (Tok.expandRaw ρ)) stk = balAux (Tok.sym c :: rest) stk
      simp only [balAux, ih]
    | _ => exact ih stk

theorem parsOf_eR {l : List Tok} (hc : l.all cleanTok = true) : parsOf (l.map (Tok.expandRaw ρ)) = parsOf l := by
  rw [parsOf, List.foldl_map]
  refine List.foldl_rel (r := Eq) rfl fun t ht acc _ e => e ▸ ?_
  cases t with
  | par x => rw [Tok.expandRaw, expand_plain ρ (List.all_eq_true.mp hc _ ht : plain x = true)]
  | _ => rfl

variable {ρ}

theorem unexpanded_idChar_cons {c : Nat} (hc : isIdChar c = true) (r : Text) : unexpanded (c :: r) = unexpanded r := by
  rw [unexpanded]
  simp only [idChar_ne hc cp%'{' rfl, idChar_ne hc cp%'}' rfl, if_false, Bool.false_eq_true]

theorem unexpanded_expand (h : IdSubst ρ) (s : Text) : unexpanded (expand ρ s) = unexpanded s := by
  induction s with
  | nil => rfl
  | cons c rest ih =>
    cases hmc : isMarker c with
    | true =>
      rw [expand_marker ρ hmc, idChars_append unexpanded unexpanded_idChar_cons (h.chars _),
        unexpanded_idChar_cons (isIdChar_of_marker hmc), ih]
    | false =>
      have hIdChar := takeWhile_expand h isIdChar (.inl fun _ hc => hc) rest
      rw [expand_char ρ hmc, unexpanded, unexpanded, head_eq_expand h cp%'{' rfl,
        head_eq_expand h cp%'}' rfl, head_idStart_expand h, hIdChar.2, head_eq_expand h cp%'}' rfl, ih]

theorem identOK_iff {x : Codes} : identOK x = true ↔
    (∃ a t, x = a :: t ∧ isIdStart0 a = true) ∧ (∀ c ∈ x, isIdStart0 c = true ∨ isDigit c = true) ∧ isKw x = false := by
  cases x <;> simp [identOK, and_assoc]

theorem GoodSubst.idSubst (h : GoodSubst ρ) : IdSubst ρ where
  start k := by
    obtain ⟨a, t, e, ha⟩ := (identOK_iff.1 (h.1 k)).1
    exact ⟨a, t, e, by simp [isIdStart, ha]⟩
  chars k c hc := by
    rcases (identOK_iff.1 (h.1 k)).2.1 c hc with h | h <;> simp [isIdChar, isIdStart, h]

theorem GoodSubst.nokw (h : GoodSubst ρ) (k : Nat) : isKw (ρ k) = false :=
  (identOK_iff.1 (h.1 k)).2.2

theorem classify_eR (h : GoodSubst ρ) : ∀ {l : List Tok} (p p' : Option Tok), isSym p cp%'.' = isSym p' cp%'.' →
    l.all cleanTok = true → classify p (l.map (Tok.expandRaw ρ)) = (classify p' l).map (Tok.expandRaw ρ) := by
  intro l
  induction l with
  | nil => intro p p' _ _; rfl
  | cons t rest ih =>
    intro p p' hp hc
    simp only [List.all_cons, Bool.and_eq_true] at hc
    cases t with
    | id nm =>
      have hcl := hc.1
      simp only [cleanTok, Bool.or_eq_true] at hcl
      show classify p (Tok.id (expand ρ nm) :: rest.map (Tok.expandRaw ρ)) = _
      rw [classify, classify, List.map_cons, ih (some (.id (expand ρ nm))) (some (.id nm)) rfl hc.2, hp]
      rcases hcl with hpl | hmk
      · rw [expand_plain ρ hpl]
        split <;> simp [Tok.expandRaw, expand_plain ρ hpl]
      · -- why `cleanTok` wants a hole to be a word of its own: one character is no keyword, and its filling is none by `GoodSubst`;
        -- a hole glued to letters could complete a keyword when filled
        match nm, hmk with
        | [c], hmk =>
          have e := expand_hole ρ hmk
          rw [e, isKw_single, h.nokw]
          simp [Tok.expandRaw, e]
    | _ => exact congrArg (_ :: ·) (ih _ (some _) rfl hc.2)

theorem lint_expand (h : GoodSubst ρ) {t : Text} (hc : cleanFor t = true) {sup : List Text} :
    lint (expand ρ t) sup = lint t sup := by
  simp only [cleanFor, Bool.and_eq_true] at hc
  unfold lint lintCodes
  simp only [lexRaw_expand h.idSubst, Lexed.expand, classify_eR h none none rfl hc.1, unexpanded_expand h.idSubst,
    balAux_eR, parsOf_eR ρ (classify_clean none hc.1)]
  rw [show scan _ none none St.init = _ from scan_eR ρ _ none none St.init hc.2]

end FimVerif.Cypher
