import FimVerif.Proofs.Lemmas.ARefNode
import FimVerif.Proofs.Lemmas.ARefLink
import FimVerif.Proofs.Lemmas.ARefUnique
import FimVerif.Proofs.Lemmas.ARefAddDel
/-! C05: `merge_nodes` refines the reference merge (`ARef.mergeNodes`) when the keys of the stored nodes are pairwise
    distinct: `nx.contracted_nodes` in lock step with the re-attachment of links between keys. -/
namespace FimVerif.Store
open FimVerif FimVerif.Gen.StoreConsts

theorem edgeMatch_keyOf (s : Store) (h : Inv s) (hu : UniqueKeys s) (w x : Nat) (hw : idIn s.nodes w = true) (hx : idIn s.nodes x = true)
    (e : SEdge) (he : e ∈ s.edges) :
    ARef.edgeIsK (keyOf s.nodes w) (keyOf s.nodes x) (kE s e) = edgeMatch w x e := by
  obtain ⟨nw, hnw, rfl, kw⟩ := keyOf_of_idIn s h w hw
  obtain ⟨nx, hnx, rfl, kx⟩ := keyOf_of_idIn s h x hx
  rw [kw, kx]
  exact edgeMatch_keys h (isNode_of_uniqueKeys s hu nw hnw) (isNode_of_uniqueKeys s hu nx hnx) e he

theorem absS_appendEdge (s : Store) (w x : Nat) (attrs : Props) :
    absS { s with edges := s.edges ++ [⟨w, x, attrs⟩] } =
      { absS s with edges := (absS s).edges ++ [(keyOf s.nodes w, keyOf s.nodes x, attrs)] } := by
  simp [absS]

theorem absS_addIfAbsent (s : Store) (h : Inv s) (hu : UniqueKeys s) (w x : Nat) (attrs : Props)
    (hw : idIn s.nodes w = true) (hx : idIn s.nodes x = true) :
    absS (addIfAbsent w x attrs s) =
      if (absS s).edges.any (ARef.edgeIsK (keyOf s.nodes w) (keyOf s.nodes x)) then absS s
      else { absS s with edges := (absS s).edges ++ [(keyOf s.nodes w, keyOf s.nodes x, attrs)] } := by
  have hany : (absS s).edges.any (ARef.edgeIsK (keyOf s.nodes w) (keyOf s.nodes x)) = s.edges.any (edgeMatch w x) := by
    rw [absS_edges_kE, List.any_map]
    exact List.any_congr' fun e he => edgeMatch_keyOf s h hu _ _ hw hx e he
  rw [hany]
  unfold addIfAbsent
  split
  · rfl
  · exact absS_appendEdge s w x attrs

/-- the remapping loop of `contracted_nodes`, in lock step.  `kf` gives the keys the edges of `l` had in the
    store *before* the absorbed node was removed. -/
theorem absS_remapEdges (u v : Nat) (ku kv : Key) (kf : Nat → Key) (l : List SEdge) (s : Store) (h : Inv s) (hu : UniqueKeys s)
    (hl : ∀ e ∈ l, idIn s.nodes (rm u v e.a) = true ∧ idIn s.nodes (rm u v e.b) = true ∧
      keyOf s.nodes (rm u v e.a) = (if kf e.a = kv then ku else kf e.a) ∧
      keyOf s.nodes (rm u v e.b) = (if kf e.b = kv then ku else kf e.b)) :
    absS (remapEdges u v l s) = ARef.remapK ku kv (l.map (fun e => (kf e.a, kf e.b, e.attrs))) (absS s) := by
  induction l generalizing s with
  | nil => rfl
  | cons e r ih =>
    obtain ⟨hw, hx, kw, kx⟩ := hl e (by simp)
    have hn := (addIfAbsent_nodes (rm u v e.a) (rm u v e.b) e.attrs s).1
    rw [remapEdges_cons, ih _ (inv_addIfAbsent s _ _ e.attrs h hw hx) (by rw [UniqueKeys, hn]; exact hu)
      (fun e' he' => by rw [hn]; exact hl e' (by simp [he'])), absS_addIfAbsent s h hu _ _ _ hw hx, kw, kx]
    rfl

/-- `nx.contracted_nodes(u, v)` in lock step with `ARef.contractK`: the links at the absorbed node are the links at its key
    (`hinc`), removing the node is `absS_removeNode`, and the loop re-attaches those links with `kf = keyOf s.nodes`, their keys
    before the removal (`absS_remapEdges`, whose hypothesis for one end is `key`) -/
theorem absS_contract (s : Store) (h : Inv s) (hu : UniqueKeys s) {ku kv : Key} {nu nv : SNode} (hnu : IsNode s ku nu)
    (uv : IsNode s kv nv) (hne : nu.iid ≠ nv.iid) :
    absS (contract nu.iid nv.iid s) = ARef.contractK ku kv (absS s) := by
  obtain ⟨hnu, rfl, _⟩ := hnu
  obtain rfl := uv.key
  have hnv := uv.mem
  unfold contract ARef.contractK
  simp only
  have hinc : (absS s).edges.filter (fun e => e.1 == keyP nv.attrs || e.2.1 == keyP nv.attrs) =
      (s.edges.filter (fun e => e.a == nv.iid || e.b == nv.iid)).map (fun e => (keyOf s.nodes e.a, keyOf s.nodes e.b, e.attrs)) := by
    rw [absS_edges]
    apply List.filter_map_pred
    intro e he
    obtain ⟨ha, hb⟩ := h.2.2 e he
    simp only [keyOf_beq h uv e.a ha, keyOf_beq h uv e.b hb]
  rw [hinc, ← absS_removeNode s h uv]
  have h1 := inv_removeNode s nv.iid h
  have hu1 : UniqueKeys (removeNode nv.iid s) := (kshrinks_filter s _ (fun n => n.iid != nv.iid) rfl).unique hu
  have hnu1 : nu ∈ (removeNode nv.iid s).nodes := by simp [removeNode, hnu, hne]
  apply absS_remapEdges nu.iid nv.iid (keyP nu.attrs) (keyP nv.attrs) (keyOf s.nodes) _ _ h1 hu1
  intro e he
  have hes := (List.mem_filter.1 he).1
  obtain ⟨ha, hb⟩ := h.2.2 e hes
  have key : ∀ i, idIn s.nodes i = true →
      idIn (removeNode nv.iid s).nodes (if i = nv.iid then nu.iid else i) = true ∧
      keyOf (removeNode nv.iid s).nodes (if i = nv.iid then nu.iid else i) =
        (if keyOf s.nodes i = keyP nv.attrs then keyP nu.attrs else keyOf s.nodes i) := by
    intro i hi
    by_cases hiv : i = nv.iid
    · simp only [hiv, if_true, keyOf_mem s h nv hnv]
      exact ⟨idIn_iff.2 ⟨nu, hnu1, rfl⟩, keyOf_mem _ h1 nu hnu1⟩
    · obtain ⟨m, hm, em, hk⟩ := keyOf_of_idIn s h i hi
      have hm1 : m ∈ (removeNode nv.iid s).nodes := by simp [removeNode, hm, em, hiv]
      have hk1 : keyOf s.nodes i ≠ keyP nv.attrs := fun hh => hiv ((keyOf_eq_iff s h uv i hi).1 hh)
      simp only [hiv, if_false, hk1]
      refine ⟨idIn_iff.2 ⟨m, hm1, em⟩, ?_⟩
      rw [hk, ← em]; exact keyOf_mem _ h1 m hm1
  exact ⟨(key _ ha).1, (key _ hb).1, (key _ ha).2, (key _ hb).2⟩

theorem isNode_same_graph {s : Store} (h : Inv s) {g g2 nid : String} {nu nv : SNode} (su : IsNode s (K g nid) nu)
    (sv : IsNode s (K g2 nid) nv) : nu.iid = nv.iid ↔ g = g2 := by
  constructor
  · intro e
    have hk : K g nid = K g2 nid := by rw [← su.key, (mem_iid_eq_iff s h nv sv.mem nu su.mem).1 e, sv.key]
    simpa [K] using hk
  · rintro rfl
    rw [su.only nv sv.mem sv.key]

theorem refS_mergeNodes (s : Store) (h : Inv s) (hu : UniqueKeys s) (g nid g2 : String) (pol : Option (List (String × Policy))) :
    RefS (mergeNodes g nid g2 pol s) (ARef.mergeNodes g nid g2 pol (absS s)) := by
  unfold mergeNodes ARef.mergeNodes
  rw [nodesOf_absS, List.length_map]
  by_cases h0 : (nodesOf s g2).length = 0
  · simp only [h0, if_true]; exact refS_err s _
  · simp only [h0, if_false]
    apply refS_withNode
    intro nu su
    refine refS_withNode s g2 nid _ _ fun nv sv => ?_
    have hsame := isNode_same_graph h su sv
    by_cases hg : g = g2
    · simp only [hsame.2 hg, hg, if_true]; exact refS_err s _
    · have hne : nu.iid ≠ nv.iid := fun e => hg (hsame.1 e)
      simp only [hne, hg, if_false]
      rw [nodeAttrs_of_mem s h nu su.mem, nodeAttrs_of_mem s h nv sv.mem]
      simp only
      have hc := inv_contract s nu.iid nv.iid h (idIn_iff.2 ⟨nu, su.mem, rfl⟩) hne
      have huc : IsNode (contract nu.iid nv.iid s) (K g nid) nu :=
        ⟨mem_contract_nodes.2 ⟨su.mem, hne⟩, su.key, fun m hm e => su.only m (mem_contract_nodes.1 hm).1 e⟩
      have hupd : ∀ np : Props, absS (updNode nu.iid (fun _ => np) (contract nu.iid nv.iid s)) =
          ARef.updK (K g nid) (fun _ => np) (keyP np) (ARef.contractK (K g nid) (K g2 nid) (absS s)) :=
        fun np => absS_contract s h hu su sv hne ▸ absS_updNode _ hc huc _ (fun _ => keyP np) rfl
      cases pol with
      | none => exact ⟨rfl, hupd _⟩
      | some pol =>
        simp only
        cases hm : mergeProps nv.attrs pol nu.attrs with
        | error e => exact refS_err s _
        | ok np => exact ⟨rfl, hupd np⟩

end FimVerif.Store
