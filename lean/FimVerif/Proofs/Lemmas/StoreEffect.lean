import FimVerif.Model.Store
/-! C04/C05: `Effect s op r` lists the replies and stores `Store.step op s` can end in, in terms of the primitive transformers and of
    what the lookups found; `step_effect` walks every method once, and each property of the store after a call (`Effect.inv`,
    `.frames`, `.evolves`, `.keysKept`, `.allIn`) is a case analysis over the effects.  What a query answers and what is written onto a
    link are left open, so the lock step with the reference model (`refS_*` in `ARef*.lean`), which needs both, and
    `C04.foreign_node_refused`, which is about the lookup that fails, walk the methods themselves. -/
namespace FimVerif.Store
open FimVerif FimVerif.Gen.StoreConsts

theorem withNode_ind {P : R → Prop} {s : Store} {g nid : String} {k : Nat → R} (herr : ∀ e, P (.error e, s))
    (hk : ∀ i, findNode s g nid = .ok i → P (k i)) : P (withNode s g nid k) := by
  unfold withNode
  split
  · exact herr _
  · exact hk _ ‹_›

theorem withLink_ind {P : R → Prop} {s : Store} {g a b kind : String} {k : Nat → Nat → SEdge → R}
    (herr : ∀ e, P (.error e, s))
    (hk : ∀ ia ib e, findNode s g a = .ok ia → findNode s g b = .ok ib → P (k ia ib e)) :
    P (withLink s g a b kind k) := by
  unfold withLink
  refine withNode_ind herr fun ia ha => withNode_ind herr fun ib hb => ?_
  split
  · exact herr _
  · split
    · exact herr _
    · exact hk _ _ _ ha hb

theorem ite_ind {α : Type} {P : α → Prop} {c : Prop} [Decidable c] {a b : α} (ha : c → P a) (hb : ¬c → P b) :
    P (if c then a else b) := by
  split
  · exact ha ‹_›
  · exact hb ‹_›

theorem assertVal_ind {P : R → Prop} {s : Store} {v : Val} {k : R} (herr : P (.error .assertion, s)) (hk : P k) :
    P (assertVal v s k) :=
  ite_ind (fun _ => herr) fun _ => hk

theorem addBlankNode_eq_append (g label nid : String) (s : Store) :
    addBlankNode g label nid s = appendGraph [[(graphId, .str g), (propClass, .str label), (nodeId, .str nid)]] [] s := by
  simp [addBlankNode, appendGraph, relabel]

theorem updNode_update_nil (i : Nat) (s : Store) : updNode i (fun a => AMap.update a []) s = s := by
  simp [updNode, AMap.update]

theorem Op.keepsGraphId_addNode (g nid label : String) (props : Option Props) :
    (Op.addNode g nid label props).keepsGraphId = !AMap.has graphId (props.getD []) := by
  cases props <;> rfl

theorem Op.gidWrites_addNode (g nid label : String) (props : Option Props) :
    (Op.addNode g nid label props).gidWrites = (gidOf (props.getD [])).toList := by
  cases props <;> rfl

theorem delGraphNl_of_empty (s : Store) (g : String) (he : nodesOf s g = []) : delGraphNl g s = s := by
  unfold delGraphNl
  rw [he]
  have h1 : s.nodes.filter (fun n => !inG g n) = s.nodes := by
    rw [List.filter_eq_self]
    intro n hn
    simp only [nodesOf, List.filter_eq_nil_iff] at he
    simpa using he n hn
  have h2 : s.edges.filter (fun e => !idIn [] e.a && !idIn [] e.b) = s.edges := by
    rw [List.filter_eq_self]
    intro e _
    simp [idIn]
  rw [h1, h2]

/-- the presence test is redundant: deleting an empty graph changes nothing -/
theorem delIfPresent_eq (g : String) (s : Store) : delIfPresent g s = delGraphNl g s := by
  unfold delIfPresent
  split
  · rfl
  · exact (delGraphNl_of_empty s g (List.length_eq_zero_iff.1 (by omega))).symm

/-- how one call can end: refused or answered with the store as it was, or one constructor for each write with the store it leaves.
    The attributes written onto a link are left open (`attrs`, `f`): no property of the store proved from the effects depends on
    them.  Where the model says `delIfPresent` and `addBlankNode` the effects say `delGraphNl` and `appendGraph` of one node (the
    two equations above) -/
inductive Effect (s : Store) : Op → R → Prop
  | refused (op : Op) (e : Err) : Effect s op (.error e, s)
  /-- a query: every write that goes through replies `unit`, no query does -/
  | answered (op : Op) (o : Out) : o ≠ .unit → Effect s op (.ok o, s)
  /-- without initial properties the update is the identity (`updNode_update_nil`) -/
  | addNode (g nid label : String) (props : Option Props) : addNodeGuard g nid s = false →
      Effect s (.addNode g nid label props)
        (.ok .unit, updNode s.nextId (fun a => AMap.update a (props.getD []))
          (appendGraph [[(graphId, .str g), (propClass, .str label), (nodeId, .str nid)]] [] s))
  | deleteNode (g nid : String) (i : Nat) : findNode s g nid = .ok i → Effect s (.deleteNode g nid) (.ok .unit, removeNode i s)
  | addLink (g a rel b : String) (props : Option Props) (ia ib : Nat) (attrs : Props) :
      findNode s g a = .ok ia → findNode s g b = .ok ib → Effect s (.addLink g a rel b props) (.ok .unit, addEdge ia ib attrs s)
  | updateNodeProperty (g nid k : String) (v : Val) (i : Nat) :
      k ≠ nxLabel → findNode s g nid = .ok i → Effect s (.updateNodeProperty g nid k v) (.ok .unit, updNode i (AMap.set k v) s)
  | unsetNodeProperty (g nid k : String) (i : Nat) : k ≠ nxLabel → k ∉ noUnset → findNode s g nid = .ok i →
      Effect s (.unsetNodeProperty g nid k) (.ok .unit, updNode i (AMap.erase k) s)
  | updateNodesProperty (g k : String) (v : Val) : k ≠ nxLabel →
      Effect s (.updateNodesProperty g k v) (.ok .unit, updGraphNodes g (AMap.set k v) s)
  | updateNodeProperties (g nid : String) (p : Props) (i : Nat) :
      AMap.has nxLabel p = false → findNode s g nid = .ok i → Effect s (.updateNodeProperties g nid p) (.ok .unit, updNode i (fun a => AMap.update a p) s)
  | updateLinkProperty (g a b kind k : String) (v : Val) (ia ib : Nat) (f : Props → Props) :
      findNode s g a = .ok ia → findNode s g b = .ok ib → Effect s (.updateLinkProperty g a b kind k v) (.ok .unit, updEdge ia ib f s)
  | unsetLinkProperty (g a b kind k : String) (ia ib : Nat) (f : Props → Props) :
      findNode s g a = .ok ia → findNode s g b = .ok ib → Effect s (.unsetLinkProperty g a b kind k) (.ok .unit, updEdge ia ib f s)
  | updateLinkProperties (g a b kind : String) (p : Props) (ia ib : Nat) (f : Props → Props) :
      findNode s g a = .ok ia → findNode s g b = .ok ib → Effect s (.updateLinkProperties g a b kind p) (.ok .unit, updEdge ia ib f s)
  | deleteGraph (g : String) : Effect s (.deleteGraph g) (.ok .unit, delGraphNl g s)
  /-- an import refused for a node without `NodeID` has already dropped the old graph of its id -/
  | importRefused (g : String) (ig : IGraph) : Effect s (.addGraph g ig) (.error .import_, delGraphNl g s)
  | addGraph (g : String) (ig : IGraph) :
      Effect s (.addGraph g ig) (.ok .unit, appendGraph (ig.close.nodes.map (AMap.set graphId (.str g))) ig.close.edges (delGraphNl g s))
  | addGraphDirect (g : String) (ig : IGraph) :
      Effect s (.addGraphDirect g ig) (.ok .unit, appendGraph ig.close.nodes ig.close.edges (delGraphNl g s))
  | cloneRefused (g g2 : String) : Effect s (.clone g g2) (.error .import_, delGraphNl g2 s)
  | clone (g g2 : String) (ig : IGraph) : extractGraph s g = some ig →
      Effect s (.clone g g2) (.ok .unit, appendGraph (ig.nodes.map (AMap.set graphId (.str g2))) ig.edges (delGraphNl g2 s))
  /-- `np` is the surviving node's dictionary: its own (`pol = none`) or the policy's result -/
  | mergeNodes (g nid g2 : String) (pol : Option (List (String × Policy))) (u v : Nat) (mine theirs np : Props) :
      findNode s g nid = .ok u → findNode s g2 nid = .ok v → u ≠ v → nodeAttrs s u = some mine → nodeAttrs s v = some theirs →
      (match pol with | none => np = mine | some p => mergeProps theirs p mine = .ok np) →
      Effect s (.mergeNodes g nid g2 pol) (.ok .unit, updNode u (fun _ => np) (contract u v s))
  | delAllGraphs : Effect s .delAllGraphs (delAllGraphs s)

theorem nidList_effect (op : Op) (ns : List SNode) (s : Store) : Effect s op (nidList ns s) := by
  unfold nidList; split
  · exact .refused ..
  · exact .answered _ _ nofun

theorem addGraph_effect (g : String) (ig : IGraph) (s : Store) :
    addGraph g ig s = (.error .import_, delGraphNl g s) ∨
    addGraph g ig s = (.ok .unit, appendGraph (ig.nodes.map (AMap.set graphId (.str g))) ig.edges (delGraphNl g s)) := by
  unfold addGraph; simp only [delIfPresent_eq]; split
  · exact .inl rfl
  · exact .inr rfl

theorem step_effect (op : Op) (s : Store) : Effect s op (step op s) := by
  have err : ∀ {op : Op} (e : Err), Effect s op (.error e, s) := fun e => .refused _ e
  cases op with
  | addNode g nid label props =>
    refine ite_ind (fun _ => err _) fun hg => ?_
    cases props with
    | none =>
      have := Effect.addNode g nid label none (Bool.eq_false_iff.2 hg)
      rwa [Option.getD_none, updNode_update_nil, ← addBlankNode_eq_append] at this
    | some p => exact addBlankNode_eq_append g label nid s ▸ .addNode g nid label (some p) (Bool.eq_false_iff.2 hg)
  | deleteNode g nid => exact withNode_ind err fun i hi => .deleteNode g nid i hi
  | addLink g a rel b props =>
    refine withNode_ind err fun ia ha => withNode_ind err fun ib hb => ?_
    cases props with
    | none => exact .addLink g a rel b none ia ib _ ha hb
    | some p => exact ite_ind (fun _ => err _) fun _ => .addLink g a rel b _ ia ib _ ha hb
  | updateNodeProperty g nid k v =>
    refine assertVal_ind (err _) ?_
    exact ite_ind (fun _ => err _) fun hk => withNode_ind err fun i hi => .updateNodeProperty g nid k v i hk hi
  | unsetNodeProperty g nid k =>
    refine ite_ind (fun _ => err _) fun hk => ite_ind (fun _ => err _) fun hnu => withNode_ind err fun i hi => ?_
    split
    · exact err _
    · exact ite_ind (fun _ => .unsetNodeProperty g nid k i hk hnu hi) fun _ => err _
  | updateNodesProperty g k v =>
    refine assertVal_ind (err _) ?_
    exact ite_ind (fun _ => err _) fun _ => ite_ind (fun _ => err _) fun hk => .updateNodesProperty g k v hk
  | updateNodeProperties g nid p =>
    exact ite_ind (fun _ => err _) fun hp =>
      withNode_ind err fun i hi => .updateNodeProperties g nid p i (Bool.eq_false_iff.2 hp) hi
  | updateLinkProperty g a b kind k v =>
    refine assertVal_ind (err _) ?_
    exact ite_ind (fun _ => err _) fun _ =>
      withLink_ind err fun ia ib _ ha hb => .updateLinkProperty g a b kind k v ia ib _ ha hb
  | unsetLinkProperty g a b kind k =>
    exact ite_ind (fun _ => err _) fun _ =>
      withLink_ind err fun ia ib _ ha hb => .unsetLinkProperty g a b kind k ia ib _ ha hb
  | updateLinkProperties g a b kind p =>
    exact ite_ind (fun _ => err _) fun _ =>
      withLink_ind err fun ia ib _ ha hb => .updateLinkProperties g a b kind p ia ib _ ha hb
  | deleteGraph g => exact .deleteGraph g
  | addGraph g ig =>
    rcases addGraph_effect g ig.close s with e | e <;> simp only [step, e]
    · exact .importRefused ..
    · exact .addGraph ..
  | addGraphDirect g ig => simp only [step, addGraphDirect, delIfPresent_eq]; exact .addGraphDirect ..
  | clone g g2 =>
    simp only [step, cloneGraph]; split
    · exact err _
    · rename_i ig hig
      rcases addGraph_effect g2 ig s with e | e <;> rw [e]
      · exact .cloneRefused ..
      · exact .clone g g2 ig hig
  | mergeNodes g nid g2 pol =>
    -- the model spells the second lookup as a `match` on `findNode s g2 nid`: that is `withNode` unfolded
    refine ite_ind (fun _ => err _) fun _ => withNode_ind err fun u hu =>
      withNode_ind (g := g2) (nid := nid) err fun v hv => ite_ind (fun _ => err _) fun huv => ?_
    split
    · rename_i mine theirs hm ht
      cases pol with
      | none => exact .mergeNodes g nid g2 none u v mine theirs mine hu hv huv hm ht rfl
      | some p =>
        simp only; split
        · exact err _
        · exact .mergeNodes g nid g2 (some p) u v mine theirs _ hu hv huv hm ht ‹_›
    · exact err _
  | getNodeProperties g nid =>
    refine withNode_ind err fun i _ => ?_
    split
    · exact err _
    · split
      · exact err _
      · exact .answered _ _ nofun
  | getLinkProperties g a b =>
    refine withNode_ind err fun ia _ => withNode_ind err fun ib _ => ?_
    split
    · exact err _
    · split
      · exact err _
      · exact .answered _ _ nofun
  | listAllNodeIds g => simp only [step, listAllNodeIds]; split; exact err _; exact nidList_effect ..
  | nodesByClass g label => exact nidList_effect ..
  | nodesByClassAndType g label ntype => exact nidList_effect ..
  | nodeExists g nid label =>
    simp only [step, nodeExists]; split
    · exact .answered _ _ nofun
    · exact .answered _ _ nofun
    · exact err _
  | graphExists g => exact .answered _ _ nofun
  | checkNodeUnique g label name => exact .answered _ _ nofun
  | findMatchingNodes g other =>
    simp only [step, findMatchingNodes]; split
    · exact err _
    · split
      · exact err _
      · exact .answered _ _ nofun
    · exact err _
  | delAllGraphs => exact .delAllGraphs

end FimVerif.Store
