import FimVerif.Model.Authz
import FimVerif.Proofs.Lemmas.AddNew
/-! C11: the accounting summary (`LogCollector`) in closed form (`logCollect_eq`): each of the three loops rewrites every field as a
function of that field only. -/
namespace FimVerif.Authz

/-- the capacity object the summary uses for a VM: `capacity_allocations` if set, else `capacities` -/
def vmCap (n : NodeS) : Option Caps :=
  if n.ntype = vmType then (match n.alloc with | some c => some c | none => n.caps) else none

def facName (n : NodeS) : List String := if n.ntype = facType then [n.name] else []
def siteOf (site : String) : List String := if site ≠ "" then [site] else []

theorem mem_flatMap_siteOf {α : Type} (f : α → String) (l : List α) (x : String) :
    x ∈ l.flatMap (fun a => siteOf (f a)) ↔ x ≠ "" ∧ ∃ a ∈ l, f a = x := by
  simp only [List.mem_flatMap, siteOf]
  constructor
  · rintro ⟨a, ha, h⟩
    by_cases hs : f a = "" <;> simp [hs] at h
    exact ⟨h ▸ hs, a, ha, h.symm⟩
  · rintro ⟨hx, a, ha, rfl⟩
    exact ⟨a, ha, by simp [hx]⟩

theorem mem_facName (n : NodeS) (x : String) : x ∈ facName n ↔ n.ntype = facType ∧ n.name = x := by
  unfold facName; split
  · rename_i h; simp [h, eq_comm]
  · rename_i h; simp [h]

def addAll (l : List String) (xs : List String) : List String := xs.foldl addSet l

theorem mem_addAll (l xs : List String) (x : String) : x ∈ addAll l xs ↔ x ∈ l ∨ x ∈ xs := mem_foldl_addNew l xs x

theorem nodup_addAll (l xs : List String) (h : l.Nodup) : (addAll l xs).Nodup := nodup_foldl_addNew l xs h

theorem addAll_perm {l l' xs xs' : List String} (hl : l.Perm l') (hn : l.Nodup) (hx : xs.Perm xs') :
    (addAll l xs).Perm (addAll l' xs') := perm_foldl_addNew hl hn hx

theorem addAll_append (l xs ys : List String) : addAll l (xs ++ ys) = addAll (addAll l xs) ys := by
  simp [addAll, List.foldl_append]

theorem cnt_bump (cs : List (String × Nat)) (t t' : String) : cnt (bump cs t) t' = cnt cs t' + if t = t' then 1 else 0 := by
  induction cs with
  | nil => simp only [bump, cnt]; split <;> simp_all
  | cons p r ih =>
    obtain ⟨t0, n⟩ := p
    simp only [bump]
    by_cases h0 : t0 = t
    · subst h0; simp only [if_true, cnt]; split <;> simp_all
    · simp only [h0, if_false, cnt, ih]
      by_cases h1 : t0 = t'
      · subst h1; simp [Ne.symm h0]
      · simp [h1]

theorem cnt_bumpAll (cs : List (String × Nat)) (ts : List String) (t' : String) :
    cnt (ts.foldl bump cs) t' = cnt cs t' + ts.count t' := by
  induction ts generalizing cs with
  | nil => simp
  | cons t ts ih =>
    simp only [List.foldl_cons, ih, cnt_bump, List.count_cons]
    by_cases h : t = t' <;> simp [h, Nat.add_assoc, Nat.add_comm]

theorem logSite_eq (l : Log) (site : String) : logSite l site = { l with sites := addAll l.sites (siteOf site) } := by
  unfold logSite siteOf; by_cases h : site = "" <;> simp [h, addAll]

theorem logComps_eq (l : Log) (n : NodeS) : logComps l n = { l with comps := (n.comps.getD []).foldl bump l.comps } := by
  unfold logComps; cases n.comps <;> simp

theorem logKind_eq (l : Log) (n : NodeS) :
    logKind l n = { l with
      vm := l.vm + (if n.ntype = vmType then 1 else 0),
      p4 := l.p4 + (if n.ntype = swType then 1 else 0),
      nodes := l.nodes ++ (vmCap n).toList,
      cores := l.cores + ((vmCap n).map (·.core)).getD 0,
      facs := addAll l.facs (facName n) } := by
  unfold logKind vmCap facName
  by_cases h1 : n.ntype = vmType
  · have h2 : ¬ n.ntype = swType := by simp [h1, vmType, swType]
    have h3 : ¬ n.ntype = facType := by simp [h1, vmType, facType]
    rw [if_pos h1, if_pos h1, if_pos h1, if_neg h2, if_neg h3]
    cases n.alloc <;> cases n.caps <;> simp [addAll]
  · rw [if_neg h1, if_neg h1, if_neg h1]
    by_cases h2 : n.ntype = swType
    · have h3 : ¬ n.ntype = facType := by simp [h2, swType, facType]
      rw [if_pos h2, if_pos h2, if_neg h3]; simp [addAll]
    · rw [if_neg h2, if_neg h2]
      by_cases h3 : n.ntype = facType
      · rw [if_pos h3, if_pos h3]; simp [addAll]
      · rw [if_neg h3, if_neg h3]; simp [addAll]

theorem logNode_eq (l : Log) (n : NodeS) :
    logNode l n = { l with
      vm := l.vm + (if n.ntype = vmType then 1 else 0),
      p4 := l.p4 + (if n.ntype = swType then 1 else 0),
      nodes := l.nodes ++ (vmCap n).toList,
      cores := l.cores + ((vmCap n).map (·.core)).getD 0,
      facs := addAll l.facs (facName n),
      sites := addAll l.sites (siteOf n.site),
      comps := (n.comps.getD []).foldl bump l.comps } := by
  unfold logNode; rw [logComps_eq, logSite_eq, logKind_eq]

def isum : List Int → Int
  | [] => 0
  | x :: xs => x + isum xs

theorem foldNode (ns : List NodeS) (l : Log) :
    ns.foldl logNode l = { l with
      vm := l.vm + ns.countP (fun n => decide (n.ntype = vmType)),
      p4 := l.p4 + ns.countP (fun n => decide (n.ntype = swType)),
      nodes := l.nodes ++ ns.filterMap vmCap,
      cores := l.cores + isum ((ns.filterMap vmCap).map (·.core)),
      comps := (ns.flatMap fun n => n.comps.getD []).foldl bump l.comps,
      sites := addAll l.sites (ns.flatMap fun n => siteOf n.site),
      facs := addAll l.facs (ns.flatMap facName) } := by
  induction ns generalizing l with
  | nil => simp [addAll, isum]
  | cons n ns ih =>
    rw [List.foldl_cons, ih, logNode_eq]
    simp only [List.countP_cons, List.filterMap_cons, List.flatMap_cons, List.foldl_append, addAll_append, Log.mk.injEq,
      Nat.add_assoc, Nat.add_comm (List.countP _ ns), and_true]
    cases vmCap n <;> simp [isum, Int.add_assoc]

theorem foldSvc (ss : List SvcS) (l : Log) :
    ss.foldl logSvc l = { l with
      svcs := l.svcs ++ ss.map (fun s => (s.stype, s.bw.getD 0)),
      sites := addAll l.sites (ss.flatMap fun s => siteOf s.site) } := by
  induction ss generalizing l with
  | nil => simp [addAll]
  | cons s ss ih => simp [List.foldl_cons, ih, logSvc, logSite_eq, addAll_append]

theorem foldFac (fs : List String) (l : Log) : fs.foldl logFac l = { l with facs := addAll l.facs fs } := by
  induction fs generalizing l with
  | nil => rfl
  | cons f fs ih => rw [List.foldl_cons, ih]; rfl

theorem logCollect_eq (sl : Slice) :
    logCollect sl =
      { vm := sl.nodes.countP (fun n => decide (n.ntype = vmType)),
        p4 := sl.nodes.countP (fun n => decide (n.ntype = swType)),
        nodes := sl.nodes.filterMap vmCap,
        cores := isum ((sl.nodes.filterMap vmCap).map (·.core)),
        comps := (sl.nodes.flatMap fun n => n.comps.getD []).foldl bump [],
        svcs := sl.svcs.map (fun s => (s.stype, s.bw.getD 0)),
        sites := addAll (addAll [] (sl.nodes.flatMap fun n => siteOf n.site)) (sl.svcs.flatMap fun s => siteOf s.site),
        facs := addAll (addAll [] (sl.nodes.flatMap facName)) sl.facs } := by
  unfold logCollect
  rw [foldFac, foldSvc, foldNode]
  simp

theorem isum_perm {l1 l2 : List Int} (h : l1.Perm l2) : isum l1 = isum l2 := by
  induction h with
  | nil => rfl
  | cons x _ ih => simp [isum, ih]
  | swap x y l => simp only [isum]; omega
  | trans _ _ ih1 ih2 => exact ih1.trans ih2

end FimVerif.Authz
