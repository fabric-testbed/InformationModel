import FimVerif.Proofs.Lemmas.StoreHomed
import FimVerif.Model.ImportEntry
/-!
# C04 — graphs sharing the in-memory store are isolated; clones are independent

Model: `Model/Store.lean` (shared store), `Model/DStore.lean` (one graph per id), `Model/AGraph.lean` (`abs`, the observable
content of one graph), `Model/ImportEntry.lean` (the store operation an entry-point call comes down to).  The alphabet
`Store.Op` is total: imports of any `IGraph` (dangling wire edges are dropped by `IGraph.close`, the identity on every real
`nx.Graph`), re-imports, clones onto existing ids, `GraphID` / `NodeID` rewrites, merges with any policy, `delete_all_graphs`.
The invariant and the general frame theorem have no hypothesis on the operation; `op.keepsGraphId` (no `GraphID` write, no
merge, no `delete_all_graphs`) only appears in the corollaries that speak of the target alone.
-/
namespace FimVerif.C04
open FimVerif FimVerif.Store

theorem inv_init : Store.Inv Store.init := Store.inv_init

theorem inv_step (op : Op) (s : Store) (h : Store.Inv s) : Store.Inv (Store.step op s).2 :=
  Store.inv_step op s h

theorem inv_reachable (ops : List Op) : Store.Inv (Store.run ops Store.init) :=
  Store.inv_run ops _ inv_init

/-- **no two stored nodes ever share an internal identity** (shared store), after every history; with it, the allocator
    is above every stored id and every edge of the `nx.Graph` joins stored nodes -/
theorem ids_distinct_reachable (ops : List Op) :
    (∀ n ∈ (Store.run ops Store.init).nodes, ∀ m ∈ (Store.run ops Store.init).nodes, n.iid = m.iid → n = m) ∧
    (∀ n ∈ (Store.run ops Store.init).nodes, n.iid < (Store.run ops Store.init).nextId) ∧
    (∀ e ∈ (Store.run ops Store.init).edges,
      idIn (Store.run ops Store.init).nodes e.a = true ∧ idIn (Store.run ops Store.init).nodes e.b = true) := by
  have h := inv_reachable ops
  exact ⟨fun n hn m hm e => List.eq_of_nodup_map (·.iid) h.1 hn hm e, h.2.1, h.2.2⟩

/-- the wire form of an import is interpreted as the `nx.Graph` it denotes: on a well-formed graph `step`
    is the storage method itself -/
theorem step_import_wf (g : String) (ig : IGraph) (s : Store) (hwf : ig.WF = true) :
    Store.step (.addGraph g ig) s = Store.addGraph g ig s ∧ Store.step (.addGraphDirect g ig) s = Store.addGraphDirect g ig s := by
  simp [Store.step, IGraph.close_of_WF ig hwf]

example : (Op.addGraph "g" ⟨[[("NodeID", .str "a")], [("NodeID", .str "b")]], [(0, 1, [])]⟩).WF = true := by decide

/-- `delete_all_graphs` empties the store and keeps the allocator: internal ids are never handed out twice -/
theorem delall_keeps_allocator (s : Store) :
    (Store.step .delAllGraphs s).2.nodes = [] ∧ (Store.step .delAllGraphs s).2.edges = [] ∧
    (Store.step .delAllGraphs s).2.nextId = s.nextId := ⟨rfl, rfl, rfl⟩

/-- the control-flow facts `gen/storeflow.py` observes on the code (where imports take their internal ids from, how the
    allocators move, when the disjoint store regards an id as present, which lookups filter on `GraphID`) are the ones
    `Model/Store.lean` / `Model/DStore.lean` mirror -/
theorem flow_is_modelled :
    Gen.StoreFlow.flow = Store.modelFlow ∧ Gen.StoreFlow.gidFiltered = Store.modelFiltered ∧
    Gen.StoreFlow.dgidFiltered = DStore.modelFiltered := Store.flow_is_modelled

/-- **importers share one store.**  Making an importer (the first of the process or a later one, with or without a logger)
    never replaces a store that exists; only the first importer of the process starts from the empty store -/
theorem new_importer_changes_nothing (s : Store) (d : DStore.DStore) :
    Store.enter (some s) = s ∧ DStore.enter (some d) = d ∧ Store.enter none = Store.init ∧ DStore.enter none = DStore.init := by
  have hs : Gen.StoreFlow.flow.sharedStoreSurvivesNewImporter = true := rfl
  have hd : Gen.StoreFlow.flow.disjointStoreSurvivesNewImporter = true := rfl
  simp [Store.enter, DStore.enter, DStore.init, hs, hd]

/-- … at any moments of a history (`mk k` importers are made before request number `k`); shared store only -/
theorem importers_made_mid_history (mk : Nat → Nat) (ops : List Op) (s : Store) (k : Nat) :
    (ops.foldl (fun (acc : Store × Nat) op =>
        ((Store.step op (Nat.repeat (fun t => Store.enter (some t)) (mk acc.2) acc.1)).2, acc.2 + 1)) (s, k)).1
      = ops.foldl (fun t op => (Store.step op t).2) s := by
  have hs : ∀ t : Store, Store.enter (some t) = t := fun t => (new_importer_changes_nothing t DStore.init).1
  have hf : (fun t : Store => Store.enter (some t)) = id := funext hs
  have hr : ∀ n (t : Store), Nat.repeat id n t = t := by
    intro n; induction n with
    | zero => intro t; rfl
    | succ n ih => intro t; simp [Nat.repeat, ih]
  simp only [hf, hr]
  induction ops generalizing s k with
  | nil => rfl
  | cons op ops ih => simp only [List.foldl]; exact ih _ _

/-- **frame (general)**, for every operation, failing calls included: every graph id that `Op.affects` does not list
    (the target, the ids the operation writes into `GraphID`, the second graph of a merge; every id for
    `delete_all_graphs`) keeps exactly its stored nodes and edges -/
theorem frame_general (op : Op) (s : Store) (g' : String) (h : Store.Inv s) (ha : op.affects g' = false) :
    nodesOf (Store.step op s).2 g' = nodesOf s g' ∧ edgesOf (Store.step op s).2 g' = edgesOf s g' :=
  Store.frame_affects op s g' h ha

/-- … over a history; no condition on the states passed through -/
theorem frame_general_history (pre ops : List Op) (g' : String) (hops : ∀ o ∈ ops, o.affects g' = false) :
    Store.abs (Store.run ops (Store.run pre Store.init)) g' = Store.abs (Store.run pre Store.init) g' := by
  refine (Store.run_induction (P := fun t => Store.abs t g' = Store.abs (Store.run pre Store.init) g') ops _
    (inv_reachable pre) rfl fun o ho t ht e => ?_).2
  have f := frame_general o t g' ht (hops o ho)
  simp only [Store.abs, f.1, f.2]
  exact e

-- a re-homing update, a merge with a policy on `GraphID`, a direct import
example : (Op.updateNodesProperty "g1" "GraphID" (.str "g2")).affects "g3" = false := by decide
example : (Op.mergeNodes "g1" "n" "g2" (some [("GraphID", .overwrite)])).affects "g3" = false := by decide
example : (Op.addGraphDirect "g1" ⟨[[("GraphID", .str "g2"), ("NodeID", .str "a")]], []⟩).affects "g3" = false := by decide
-- … and it is true of exactly the graphs that are touched
example : (Op.updateNodesProperty "g1" "GraphID" (.str "g2")).affects "g2" = true := by decide

theorem affects_of_keepsGraphId (op : Op) (g' : String) (hk : op.keepsGraphId = true) (hne : g' ≠ op.target) :
    op.affects g' = false := Store.affects_of_keepsGraphId op g' hk hne

/-- **frame**, C04's first clause: an operation that writes no `GraphID` leaves every graph but its target exactly as it
    was, whether it succeeds or raises (also when an import raises after deleting the old graph of its id) -/
theorem frame_view (op : Op) (s : Store) (g' : String) (h : Store.Inv s) (hk : op.keepsGraphId = true)
    (hne : g' ≠ op.target) :
    nodesOf (Store.step op s).2 g' = nodesOf s g' ∧ edgesOf (Store.step op s).2 g' = edgesOf s g' :=
  frame_general op s g' h (affects_of_keepsGraphId op g' hk hne)

theorem frame (op : Op) (s : Store) (g' : String) (h : Store.Inv s) (hk : op.keepsGraphId = true)
    (hne : g' ≠ op.target) : Store.abs (Store.step op s).2 g' = Store.abs s g' := by
  have := frame_view op s g' h hk hne
  simp only [Store.abs, this.1, this.2]

theorem frame_history (ops : List Op) (s : Store) (g' : String) (h : Store.Inv s)
    (hops : ∀ o ∈ ops, o.keepsGraphId = true ∧ g' ≠ o.target) :
    Store.abs (Store.run ops s) g' = Store.abs s g' := by
  exact (Store.run_induction (P := fun t => Store.abs t g' = Store.abs s g') ops s h rfl fun o ho t ht e =>
    (frame o t g' ht (hops o ho).1 (hops o ho).2).trans e).2

-- a bulk update, a failing-import candidate, a direct import
example : (Op.updateNodeProperties "g" "n" [("Name", .str "x")]).keepsGraphId = true := by decide
example : (Op.addGraph "g" ⟨[[("Class", .str "Link")]], []⟩).keepsGraphId = true := by decide
example : (Op.addGraphDirect "g" ⟨[[("GraphID", .str "g"), ("NodeID", .str "a")]], []⟩).keepsGraphId = true := by decide

/-- a successful `add_graph` (first import, or re-import under an existing id) leaves under that id exactly the imported
    content, whatever the incoming graph's own node keys were -/
theorem import_content (s : Store) (h : Store.Inv s) (g : String) (ig : IGraph) (hwf : ig.WF = true)
    (hok : (Store.addGraph g ig s).1 = .ok .unit) : Store.abs (Store.addGraph g ig s).2 g = Store.igContent ig :=
  Store.abs_addGraph_ok s h g ig hwf hok

theorem clone_eq (s : Store) (h : Store.Inv s) (g g2 : String) (hok : (Store.cloneGraph g g2 s).1 = .ok .unit) :
    Store.abs (Store.cloneGraph g g2 s).2 g2 = Store.abs s g := Store.clone_eq s h g g2 hok

/-- **clone_independent**: after a successful clone of `g` into `g2`, a history not addressed to the clone leaves it equal
    to the original content of the source whatever it does to the source, and one not addressed to the source leaves the
    source as it was whatever it does to the clone -/
theorem clone_independent (s : Store) (h : Store.Inv s) (g g2 : String) (hne : g ≠ g2)
    (hok : (Store.cloneGraph g g2 s).1 = .ok .unit) (ops : List Op) :
    ((∀ o ∈ ops, o.keepsGraphId = true ∧ g2 ≠ o.target) →
      Store.abs (Store.run ops (Store.cloneGraph g g2 s).2) g2 = Store.abs s g) ∧
    ((∀ o ∈ ops, o.keepsGraphId = true ∧ g ≠ o.target) →
      Store.abs (Store.run ops (Store.cloneGraph g g2 s).2) g = Store.abs s g) := by
  have hinv : Store.Inv (Store.cloneGraph g g2 s).2 := inv_step (.clone g g2) s h
  constructor
  · intro hops
    rw [frame_history ops _ g2 hinv hops, clone_eq s h g g2 hok]
  · intro hops
    rw [frame_history ops _ g hinv hops]
    exact frame (.clone g g2) s g h rfl hne

example : (Store.cloneGraph "g" "h" ⟨[⟨1, [("GraphID", .str "g"), ("NodeID", .str "a")]⟩], [], 2⟩).1 = .ok .unit := by rfl

/-- **re-import of a (grown) graph under its own id**, in one statement: content, frame, invariant -/
theorem reimport_isolated (s : Store) (h : Store.Inv s) (g : String) (ig : IGraph)
    (hok : (Store.step (.addGraph g ig) s).1 = .ok .unit) :
    Store.abs (Store.step (.addGraph g ig) s).2 g = Store.igContent ig.close ∧
    (∀ g', g' ≠ g → Store.abs (Store.step (.addGraph g ig) s).2 g' = Store.abs s g') ∧
    Store.Inv (Store.step (.addGraph g ig) s).2 :=
  ⟨Store.abs_addGraph_ok s h g ig.close ig.close_WF hok, fun g' hne => frame (.addGraph g ig) s g' h rfl hne,
   inv_step _ s h⟩

/-- the node ids an operation looks up in its target graph before it does anything else -/
def nodeArgs : Op → List String
  | .deleteNode _ nid | .updateNodeProperty _ nid .. | .unsetNodeProperty _ nid .. | .updateNodeProperties _ nid ..
  | .getNodeProperties _ nid => [nid]
  | .addLink _ a _ b _ | .updateLinkProperty _ a b .. | .unsetLinkProperty _ a b .. | .updateLinkProperties _ a b ..
  | .getLinkProperties _ a b => [a, b]
  | .mergeNodes _ nid .. => [nid]
  | _ => []

theorem findNode_foreign (s : Store) (g nid : String) (hno : ∀ n ∈ nodesOf s g, hasNid nid n = false) :
    findNode s g nid = .error .query := by
  unfold findNode
  have : s.nodes.filter (fun n => hasNid nid n && inG g n) = [] := by
    rw [List.filter_eq_nil_iff]
    intro n hn
    by_cases hg : inG g n = true
    · simp [hno n (Store.mem_nodesOf.2 ⟨hn, hg⟩)]
    · simp [hg]
  rw [this]

/-- **an operation addressed with a node id that its target graph does not have is refused** — also when
    some other graph has a node of that id — and leaves the whole store as it was -/
theorem foreign_node_refused (op : Op) (s : Store) (nid : String) (hin : nid ∈ nodeArgs op)
    (hno : ∀ n ∈ nodesOf s op.target, hasNid nid n = false) :
    (∃ e, (Store.step op s).1 = .error e) ∧ (Store.step op s).2 = s := by
  have hf := findNode_foreign s op.target nid hno
  let P : R → Prop := fun r => (∃ e, r.1 = .error e) ∧ r.2 = s
  have err : ∀ e, P (.error e, s) := fun e => ⟨⟨e, rfl⟩, rfl⟩
  have one : ∀ {g : String} (k : Nat → R), findNode s g nid = .error .query → P (withNode s g nid k) :=
    fun k h => by unfold withNode; rw [h]; exact err _
  have two : ∀ {g a b : String} (k : Nat → Nat → R), nid ∈ [a, b] → findNode s g nid = .error .query →
      P (withNode s g a fun ia => withNode s g b fun ib => k ia ib) := by
    intro g a b k hin h
    simp only [List.mem_cons, List.not_mem_nil, or_false] at hin
    rcases hin with rfl | rfl
    · exact one _ h
    · exact withNode_ind err fun ia _ => one _ h
  cases op with
  | deleteNode g x => obtain rfl := List.mem_singleton.1 hin; exact one _ hf
  | updateNodeProperty g x k v =>
    obtain rfl := List.mem_singleton.1 hin
    exact assertVal_ind (P := P) (err _) (ite_ind (fun _ => err _) fun _ => one _ hf)
  | unsetNodeProperty g x k =>
    obtain rfl := List.mem_singleton.1 hin
    exact ite_ind (P := P) (fun _ => err _) fun _ => ite_ind (fun _ => err _) fun _ => one _ hf
  | updateNodeProperties g x p =>
    obtain rfl := List.mem_singleton.1 hin
    exact ite_ind (P := P) (fun _ => err _) fun _ => one _ hf
  | getNodeProperties g x => obtain rfl := List.mem_singleton.1 hin; exact one _ hf
  | mergeNodes g x g2 pol =>
    obtain rfl := List.mem_singleton.1 hin
    exact ite_ind (P := P) (fun _ => err _) fun _ => one _ hf
  | addLink g a rel b props => exact two _ hin hf
  | getLinkProperties g a b => exact two _ hin hf
  | updateLinkProperty g a b kind k v =>
    exact assertVal_ind (P := P) (err _) (ite_ind (fun _ => err _) fun _ => two _ hin hf)
  | unsetLinkProperty g a b kind k =>
    exact ite_ind (P := P) (fun _ => err _) fun _ => two _ hin hf
  | updateLinkProperties g a b kind p =>
    exact ite_ind (P := P) (fun _ => err _) fun _ => two _ hin hf
  | _ => cases hin

-- graph g2 has the node, g1 is addressed
example : "n" ∈ nodeArgs (.deleteNode "g1" "n") ∧
    ∀ m ∈ nodesOf ⟨[⟨1, [("GraphID", .str "g2"), ("NodeID", .str "n")]⟩], [], 2⟩ "g1", hasNid "n" m = false := by
  refine ⟨by simp [nodeArgs], ?_⟩
  intro m hm
  have : nodesOf ⟨[⟨1, [("GraphID", .str "g2"), ("NodeID", .str "n")]⟩], [], 2⟩ "g1" = [] := by decide
  rw [this] at hm; cases hm

/-! ## shared store: refused calls; a graph handle is its graph id

In the model a graph *handle* is the graph id that travels inside the `Op`: `Store.step` has no other input than the operation
and the store, so nothing a handle object could remember between calls (a cache, a memo left behind by a call that failed)
exists here.  The harness drives the implementation through handle *objects* kept for the whole history, so that a stateful
handle (for instance a lookup memo written by a merge that is then refused) shows as a difference to this model. -/

/-- **a refused call changes nothing**: not the graph it is addressed to, not the other graph of a refused `merge_nodes`,
    not the allocator.  The one exception is the code's own: an import (`add_graph`, and `clone_graph` through it) that is
    refused for a node without `NodeID` has already deleted the graph stored under its own id. -/
theorem failed_call_changes_nothing (op : Op) (s : Store) (e : Err) (h : (Store.step op s).1 = .error e) :
    (Store.step op s).2 = s ∨
    (((∃ g ig, op = .addGraph g ig) ∨ (∃ g g2, op = .clone g g2)) ∧
      (Store.step op s).2 = Store.delIfPresent op.target s) := by
  -- a refused call and a query leave the store alone; every other effect but a refused import replies `ok`
  have key : ∀ {r : R}, Effect s op r → r.1 = .error e →
      r.2 = s ∨ (((∃ g ig, op = .addGraph g ig) ∨ (∃ g g2, op = .clone g g2)) ∧ r.2 = Store.delIfPresent op.target s) := by
    intro r ef h
    cases ef with
    | refused => exact .inl rfl
    | answered => exact .inl rfl
    | importRefused g ig => exact .inr ⟨.inl ⟨g, ig, rfl⟩, (Store.delIfPresent_eq g s).symm⟩
    | cloneRefused g g2 => exact .inr ⟨.inr ⟨g, g2, rfl⟩, (Store.delIfPresent_eq g2 s).symm⟩
    | _ => cases h
  exact key (Store.step_effect op s) h

/-- **refused calls are invisible to the rest of the history**: striking a refused call (other than a refused import) out of
    a history leaves the store after every continuation as it is without the call, hence the later replies too.  In
    particular a refused `merge_nodes` between a graph and its clone cannot send later updates of either to the other. -/
theorem refused_calls_are_invisible (op : Op) (rest : List Op) (s : Store) (e : Err)
    (h : (Store.step op s).1 = .error e) (h1 : ∀ g ig, op ≠ .addGraph g ig) (h2 : ∀ g g2, op ≠ .clone g g2) :
    Store.run (op :: rest) s = Store.run rest s := by
  have := failed_call_changes_nothing op s e h
  rcases this with h0 | ⟨⟨g, ig, hop⟩ | ⟨g, g2, hop⟩, _⟩
  · simp only [Store.run, List.foldl_cons, h0]
  · exact absurd hop (h1 g ig)
  · exact absurd hop (h2 g g2)

/-- a graph and a twin that lacks the property the policy names - the merge is refused with `KeyError` after both
    lookups, and it is neither an import nor a clone -/
example :
    (Store.step (.mergeNodes "g1" "n1" "g2" (some [("p", .overwrite)]))
      (Store.run [.addNode "g1" "n1" "Link" (some [("p", .str "x")]), .addNode "g2" "n1" "Link" none] Store.init)).1
      = .error .key := by rfl

theorem dinv_init : DStore.Inv DStore.init := DStore.inv_init

theorem dinv_step (op : Op) (d : DStore.DStore) (h : DStore.Inv d) :
    DStore.Inv (DStore.step op d).2 := DStore.inv_step op d h

theorem dinv_reachable (ops : List Op) : DStore.Inv (DStore.run ops DStore.init) :=
  DStore.inv_run ops _ dinv_init

/-- **no two stored nodes ever share an internal identity**, one graph per id: there the identity of a node is its graph's
    key plus its integer id, and each graph's counter is above every id in it -/
theorem dids_distinct_reachable (ops : List Op) (g : String) :
    (∀ n ∈ (DStore.sub (DStore.run ops DStore.init) g).nodes, ∀ m ∈ (DStore.sub (DStore.run ops DStore.init) g).nodes,
      n.iid = m.iid → n = m) ∧
    (∀ n ∈ (DStore.sub (DStore.run ops DStore.init) g).nodes, n.iid < (DStore.sub (DStore.run ops DStore.init) g).nextId) := by
  have h := dinv_reachable ops g
  exact ⟨fun n hn m hm e => List.eq_of_nodup_map (·.iid) h.1 hn hm e, h.2.1⟩

/-- **frame** on the one-graph-per-id store, for the container `sub d g'` (every node stored under `g'`, whatever `GraphID`
    it carries, and the id counter), which is more than the content `DStore.abs d g'`; it holds under `GraphID` writes too,
    so the `d`-theorems need no `keepsGraphId` -/
theorem dframe (op : Op) (d : DStore.DStore) (g' : String) (hne : g' ≠ op.target) (hall : op.isDelAll = false) :
    DStore.sub (DStore.step op d).2 g' = DStore.sub d g' := DStore.frame_step op d g' hne hall

theorem ddelall_keeps_counters (d : DStore.DStore) (g : String) :
    (DStore.sub (DStore.step .delAllGraphs d).2 g).nodes = [] ∧
    (DStore.sub (DStore.step .delAllGraphs d).2 g).nextId = (DStore.sub d g).nextId := by
  have hf : Gen.StoreFlow.flow.disjointDelAllKeepsCounters = true := rfl
  simp only [DStore.step, DStore.delAllGraphs, hf, if_true, DStore.sub_delAll, true_and]
  unfold DStore.sub
  split <;> rfl

/-- a clone (or import) onto an id that holds nodes is the documented "warn and skip" on this store -/
theorem dclone_onto_existing_skips (d : DStore.DStore) (g g2 : String) (h : (DStore.sub d g2).nodes ≠ []) :
    DStore.step (.clone g g2) d = (.ok .unit, d) := by
  have : (DStore.sub d g2).nodes.length > 0 := List.length_pos_iff.2 h
  simp [DStore.step, DStore.cloneGraph, DStore.addGraph, this]

/-- **clone_eq** on the one-graph-per-id store.  `hempty`: onto a non-empty id this store documents "warn and skip";
    `Homed d g`: every node stored under `g` carries `GraphID = g`; `hok`: every node of the source has a truthy
    `NodeID`, else the import inside `clone_graph` is refused. -/
theorem dclone_eq (d : DStore.DStore) (h : DStore.Inv d) (g g2 : String) (hh : DStore.Homed d g)
    (hempty : (DStore.sub d g2).nodes = [])
    (hok : (DStore.extractGraph d g).nodes.any (fun a => !truthy (AMap.get Gen.StoreConsts.nodeId a)) = false) :
    DStore.abs (DStore.cloneGraph g g2 d).2 g2 = DStore.abs d g := DStore.clone_eq d h g g2 hh hempty hok

theorem dhomed_reachable (ops : List Op) (hops : ∀ o ∈ ops, o.keepsGraphId = true) :
    DStore.Inv (DStore.run ops DStore.init) ∧ ∀ g, DStore.Homed (DStore.run ops DStore.init) g := by
  exact ⟨dinv_reachable ops,
    DStore.run_induction ops _ DStore.homed_init fun o ho t ht => DStore.homed_step o t (hops o ho) ht⟩

theorem dclone_eq_reachable (ops : List Op) (hops : ∀ o ∈ ops, o.keepsGraphId = true) (g g2 : String)
    (hempty : (DStore.sub (DStore.run ops DStore.init) g2).nodes = [])
    (hok : (DStore.extractGraph (DStore.run ops DStore.init) g).nodes.any
      (fun a => !truthy (AMap.get Gen.StoreConsts.nodeId a)) = false) :
    DStore.abs (DStore.cloneGraph g g2 (DStore.run ops DStore.init)).2 g2 = DStore.abs (DStore.run ops DStore.init) g :=
  dclone_eq _ (dhomed_reachable ops hops).1 g g2 ((dhomed_reachable ops hops).2 g) hempty hok

/-- clone independence on the one-graph-per-id store, for ONE operation after the clone call: `dframe` both ways -/
theorem dclone_independent (d : DStore.DStore) (g g2 : String) (hne : g ≠ g2) (op : Op) (hall : op.isDelAll = false) :
    (g2 ≠ op.target → DStore.abs (DStore.step op (DStore.cloneGraph g g2 d).2).2 g2 = DStore.abs (DStore.cloneGraph g g2 d).2 g2) ∧
    (g ≠ op.target → DStore.abs (DStore.step op (DStore.cloneGraph g g2 d).2).2 g = DStore.abs d g) := by
  constructor
  · intro h; simp only [DStore.abs, dframe op _ g2 h hall]
  · intro h
    simp only [DStore.abs, dframe op _ g h hall]
    have := dframe (.clone g g2) d g hne rfl
    simp only [DStore.step] at this
    rw [this]

/-- what `gen/importids.py` observes of the entry points of both in-memory importers (a document handed over with a graph id
    is filed under that id; a direct import under the id the DOCUMENT names, also when the same path is overwritten with a
    document of another graph and loaded again; a call without a graph id under an id of its own) is what the lowering of
    entry-point calls to store operations (`ImportEntry.target`) assumes -/
theorem import_targets_are_modelled :
    Gen.ImportIds.namedTarget = ImportEntry.modelNamed ∧ Gen.ImportIds.documentTarget = ImportEntry.modelDocument ∧
    Gen.ImportIds.idlessFresh = ImportEntry.modelIdless := by decide +kernel

/-- **frame for imports through the entry points**: a document handed over with a graph id, without one (library-minted id
    `fresh`) or through a direct entry point (the id `docId` the document names) changes no graph but the one
    `ImportEntry.target` names -/
theorem import_entry_frame (a : ImportEntry.Addressing) (docId fresh : String) (ig : IGraph) (s : Store) (g' : String)
    (h : Store.Inv s) (hne : g' ≠ ImportEntry.target a docId fresh) :
    nodesOf (Store.step (.addGraph (ImportEntry.target a docId fresh) ig) s).2 g' = nodesOf s g' ∧
    edgesOf (Store.step (.addGraph (ImportEntry.target a docId fresh) ig) s).2 g' = edgesOf s g' :=
  frame_general _ s g' h (by simpa [Op.affects, Op.gidWrites, Op.target] using hne)

/-- … and the direct entry points, whose documents carry the graph id on every node (`hdoc`: all nodes name `docId`,
    which is what `get_graph_id` insists on) -/
theorem direct_import_entry_frame (docId fresh : String) (ig : IGraph) (s : Store) (g' : String) (h : Store.Inv s)
    (hdoc : (Op.addGraphDirect (ImportEntry.target .document docId fresh) ig).keepsGraphId = true)
    (hne : g' ≠ ImportEntry.target .document docId fresh) :
    nodesOf (Store.step (.addGraphDirect (ImportEntry.target .document docId fresh) ig) s).2 g' = nodesOf s g' ∧
    edgesOf (Store.step (.addGraphDirect (ImportEntry.target .document docId fresh) ig) s).2 g' = edgesOf s g' :=
  frame_general _ s g' h (affects_of_keepsGraphId _ g' hdoc hne)

-- a document of two nodes naming graph "b", loaded while graph "a" is in the store
example : (Op.addGraphDirect (ImportEntry.target .document "b" "u") ⟨[[("NodeID", .str "n1"), ("GraphID", .str "b")],
    [("NodeID", .str "n2"), ("GraphID", .str "b")]], []⟩).keepsGraphId = true ∧ "a" ≠ ImportEntry.target .document "b" "u" := by decide

/-- **an import that names no graph id touches no graph in use, whatever the document says.**  Id-less imports are filed
    under the ids `generated` the library mints (`ImportEntry.Fresh`: pairwise distinct, none in use); the id `docId` the
    document's nodes carry, possibly that of a graph IN USE (a saved model loaded again as a working copy), plays no part
    in the target. -/
theorem idless_import_creates_new_graph {generated inUse : List String} (hf : ImportEntry.Fresh generated inUse) {i : Nat}
    (hi : i < generated.length) (docId : String) (ig : IGraph) (s : Store) (h : Store.Inv s) (g' : String) (hg : g' ∈ inUse) :
    nodesOf (Store.step (.addGraph (ImportEntry.target .idless docId generated[i]) ig) s).2 g' = nodesOf s g' ∧
    edgesOf (Store.step (.addGraph (ImportEntry.target .idless docId generated[i]) ig) s).2 g' = edgesOf s g' :=
  import_entry_frame .idless docId generated[i] ig s g' h
    (fun e => hf.2 _ (List.getElem_mem hi) (by simp only [ImportEntry.target] at e; exact e ▸ hg))

/-- … and two id-less imports never meet: the j-th leaves the graph the i-th created alone (the same file loaded twice
    gives two independent working copies) -/
theorem idless_imports_do_not_meet {generated inUse : List String} (hf : ImportEntry.Fresh generated inUse) {i j : Nat}
    (hi : i < generated.length) (hj : j < generated.length) (hij : i ≠ j) (di dj : String) (ig : IGraph) (s : Store)
    (h : Store.Inv s) :
    nodesOf (Store.step (.addGraph (ImportEntry.target .idless dj generated[j]) ig) s).2
        (ImportEntry.target .idless di generated[i]) = nodesOf s (ImportEntry.target .idless di generated[i]) ∧
    edgesOf (Store.step (.addGraph (ImportEntry.target .idless dj generated[j]) ig) s).2
        (ImportEntry.target .idless di generated[i]) = edgesOf s (ImportEntry.target .idless di generated[i]) :=
  import_entry_frame .idless dj generated[j] ig s _ h (ImportEntry.idless_targets_distinct hf hi hj hij di dj)

/-- the same on the one-graph-per-id store, for the containers -/
theorem didless_import_creates_new_graph {generated inUse : List String} (hf : ImportEntry.Fresh generated inUse) {i : Nat}
    (hi : i < generated.length) (docId : String) (ig : IGraph) (d : DStore.DStore) (g' : String) (hg : g' ∈ inUse) :
    DStore.sub (DStore.step (.addGraph (ImportEntry.target .idless docId generated[i]) ig) d).2 g' = DStore.sub d g' :=
  dframe _ d g' (fun e => hf.2 _ (List.getElem_mem hi) (by simp only [ImportEntry.target, Op.target] at e; exact e ▸ hg)) rfl

-- two minted ids, the saved model's id "model" in use
example : ImportEntry.Fresh ["u1", "u2"] ["model", "other"] ∧ "model" ∈ ["model", "other"] := by decide

theorem ne_affix (g x : String) (hx : x ≠ "") : g ≠ g ++ x ∧ g ≠ x ++ g := by
  have key : ∀ t : String, t.length = g.length + x.length → g ≠ t := fun t ht e => by
    rw [← e] at ht
    exact hx (String.length_eq_zero_iff.mp (by omega))
  exact ⟨key _ (String.length_append g x), key _ (by rw [String.length_append, Nat.add_comm])⟩

/-- **graph ids that look alike are different graphs.**  A graph id and the id with something appended or prepended
    (`exp` / `exp-v2`, `g1` / `g10`, `v2` / `exp-v2`) name unrelated graphs: whatever is addressed to one of them and writes
    no other `GraphID` (in particular the REPLACING re-import: delete, then add) leaves the other untouched, in both
    directions. -/
theorem lookalike_ids_are_other_graphs (op : Op) (s : Store) (h : Store.Inv s) (hk : op.keepsGraphId = true) (x : String)
    (hx : x ≠ "") :
    (∀ g, op.target = g ++ x ∨ op.target = x ++ g → nodesOf (Store.step op s).2 g = nodesOf s g ∧ edgesOf (Store.step op s).2 g = edgesOf s g) ∧
    (∀ g, op.target = g → nodesOf (Store.step op s).2 (g ++ x) = nodesOf s (g ++ x) ∧ edgesOf (Store.step op s).2 (g ++ x) = edgesOf s (g ++ x) ∧
      nodesOf (Store.step op s).2 (x ++ g) = nodesOf s (x ++ g) ∧ edgesOf (Store.step op s).2 (x ++ g) = edgesOf s (x ++ g)) := by
  refine ⟨fun g ht => ?_, fun g ht => ?_⟩
  · refine frame_general op s g h (affects_of_keepsGraphId op g hk ?_)
    rcases ht with ht | ht <;> rw [ht]
    · exact (ne_affix g x hx).1
    · exact (ne_affix g x hx).2
  · have a := frame_general op s (g ++ x) h (affects_of_keepsGraphId op _ hk (by rw [ht]; exact ((ne_affix g x hx).1).symm))
    have b := frame_general op s (x ++ g) h (affects_of_keepsGraphId op _ hk (by rw [ht]; exact ((ne_affix g x hx).2).symm))
    exact ⟨a.1, a.2, b.1, b.2⟩

/-- the same on the one-graph-per-id store, for the containers -/
theorem dlookalike_ids_are_other_graphs (op : Op) (d : DStore.DStore) (hall : op.isDelAll = false) (g x : String) (hx : x ≠ "") :
    (op.target = g ++ x ∨ op.target = x ++ g → DStore.sub (DStore.step op d).2 g = DStore.sub d g) ∧
    (op.target = g → DStore.sub (DStore.step op d).2 (g ++ x) = DStore.sub d (g ++ x) ∧
      DStore.sub (DStore.step op d).2 (x ++ g) = DStore.sub d (x ++ g)) := by
  refine ⟨fun ht => dframe op d g ?_ hall, fun ht => ⟨dframe op d _ ?_ hall, dframe op d _ ?_ hall⟩⟩
  · rcases ht with ht | ht <;> rw [ht]
    · exact (ne_affix g x hx).1
    · exact (ne_affix g x hx).2
  · rw [ht]; exact ((ne_affix g x hx).1).symm
  · rw [ht]; exact ((ne_affix g x hx).2).symm

-- the replacing re-import of "exp-v2" while "exp" is in the store
example : (Op.addGraph ("exp" ++ "-v2") ⟨[[("NodeID", .str "a")]], []⟩).keepsGraphId = true ∧ "-v2" ≠ "" ∧
    (Op.addGraph ("exp" ++ "-v2") ⟨[[("NodeID", .str "a")]], []⟩).target = "exp" ++ "-v2" := by decide

end FimVerif.C04
