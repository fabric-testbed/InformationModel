import FimVerif.Proofs.Lemmas.C11Spec
import FimVerif.Proofs.Lemmas.C11Pdp
import FimVerif.Proofs.Lemmas.C11Log
import FimVerif.Proofs.Lemmas.C11Validate
import FimVerif.Proofs.C01
/-!
# C11 — authorization and accounting attributes cover every resource, in any order

Model: `FimVerif.Authz` (`Model/Authz.lean`), the fold of `ResourceAuthZAttributes._collect_attributes_from_topo`
over an insertion-ordered dictionary, `transform_to_pdp_request`, and `LogCollector`; tables from `Generated/Authz.lean`.

The statement of the property is the record `AuthzClaims`, which holds of every slice (`authz_claims`).
`authz_complete_sound_order_independent` adds, under the hypotheses `Layers.Hyp` on the rest of the library, that the topology path
and the two ASM paths of the collectors are presented with the same slice.  The theorems from `value_objects_private` on say that
the collectors are presented with what is stored, whatever value objects and views callers kept over a history (`VObj`, `View`).
-/
namespace FimVerif.C11
open FimVerif.Authz FimVerif.Gen.Authz

/-- **Exact content of the request**: `spec` (Lemmas/C11Spec) reads it off the slice - the list attributes in stored order, the
sites and the per-service-type sites as first occurrences, every other attribute absent. -/
theorem collect_spec (sl : Slice) (k : Key) : get (collect sl) k = spec sl k := by
  cases k
  case RESOURCE_TYPE => exact get_collect_type sl
  -- the keys written by name: both sides unfold, at that key, to the same lists over the slice
  case RESOURCE_CPU | RESOURCE_RAM | RESOURCE_DISK | RESOURCE_COMPONENT | RESOURCE_BW | RESOURCE_SITE | RESOURCE_FACILITY_PORT =>
    rw [get_collect_add _ _ (by decide)]
    simp [spec, dedup, add, listKeys, adds, nodeAdds, svcAdds, capsAdds, siteAdds, compsAdds, bwAdds, facAdds, listAdds,
      not_listed, nstypeLut, flatMap_none, List.map_eq_flatMap]
  all_goals exact get_collect_other sl _ (by decide)

theorem mem_sites (sl : Slice) (v : Val) :
    v ∈ get (collect sl) .RESOURCE_SITE ↔
      ∃ x, v = .s x ∧ x ≠ "" ∧ ((∃ n ∈ sl.nodes, n.site = x) ∨ (∃ s ∈ sl.svcs, s.site = x)) := by
  rw [collect_spec]
  simp only [spec, mem_dedup, List.mem_append, mem_flatMap_siteVal, and_or_left, exists_or]

theorem mem_listed (sl : Slice) (k : Key) (hk : k ∉ directKeys) (v : Val) :
    v ∈ get (collect sl) k ↔
      ∃ s ∈ sl.svcs, lutFind s.stype nstypeLut = some k ∧ ¬ exempt (inPorts sl.ifaces) s ∧ v = .s (effSite s) := by
  rw [get_collect_other sl k hk, mem_dedup, List.mem_map]
  simp only [List.mem_filter, decide_eq_true_eq]
  exact ⟨fun ⟨s, ⟨hs, h1, h2⟩, e⟩ => ⟨s, hs, h1, h2, e.symm⟩, fun ⟨s, hs, h1, h2, e⟩ => ⟨s, ⟨hs, h1, h2⟩, e.symm⟩⟩

/-- **Completeness**: every site, capacity, component type, bandwidth and facility of the slice is named, and - under the attribute
`NSTYPE_LUT` assigns - the (effective) site of every service of a listed type (PortMirror, FABNetv4Ext, FABNetv6Ext) that is not an
in-slice mirror. -/
theorem complete (sl : Slice) :
    (∀ n ∈ sl.nodes,
      (n.site ≠ "" → Val.s n.site ∈ get (collect sl) .RESOURCE_SITE) ∧
      (∀ c, n.caps = some c → Val.i c.core ∈ get (collect sl) .RESOURCE_CPU ∧ Val.i c.ram ∈ get (collect sl) .RESOURCE_RAM ∧
        Val.i c.disk ∈ get (collect sl) .RESOURCE_DISK) ∧
      (∀ cs, n.comps = some cs → ∀ c ∈ cs, Val.s c ∈ get (collect sl) .RESOURCE_COMPONENT)) ∧
    (∀ s ∈ sl.svcs,
      (s.site ≠ "" → Val.s s.site ∈ get (collect sl) .RESOURCE_SITE) ∧
      (∀ b, s.bw = some b → Val.i b ∈ get (collect sl) .RESOURCE_BW) ∧
      (∀ k, lutFind s.stype nstypeLut = some k → ¬ exempt (inPorts sl.ifaces) s →
        Val.s (effSite s) ∈ get (collect sl) k)) ∧
    (∀ f ∈ sl.facs, Val.s f ∈ get (collect sl) .RESOURCE_FACILITY_PORT) := by
  refine ⟨fun n hn => ⟨?_, ?_, ?_⟩, fun s hs => ⟨?_, ?_, ?_⟩, fun f hf => ?_⟩
  · exact fun h => (mem_sites sl _).mpr ⟨n.site, rfl, h, Or.inl ⟨n, hn, rfl⟩⟩
  · intro c hc
    simp only [collect_spec, spec, List.mem_flatMap]
    exact ⟨⟨n, hn, by simp [hc, optVal]⟩, ⟨n, hn, by simp [hc, optVal]⟩, ⟨n, hn, by simp [hc, optVal]⟩⟩
  · intro cs hcs c hc
    simp only [collect_spec, spec, List.mem_flatMap]
    exact ⟨n, hn, by simp [hcs, hc]⟩
  · exact fun h => (mem_sites sl _).mpr ⟨s.site, rfl, h, Or.inr ⟨s, hs, rfl⟩⟩
  · intro b hb
    simp only [collect_spec, spec, List.mem_flatMap]
    exact ⟨s, hs, by simp [hb, optVal]⟩
  · exact fun k hk he => (mem_listed sl k (lut_disjoint k (lutFind_mem _ _ _ hk)) _).mpr ⟨s, hs, hk, he, rfl⟩
  · simp only [collect_spec, spec, List.mem_map]
    exact ⟨f, hf, rfl⟩

/-- The last clause of `complete` for the three listed service types by name, on the regenerated table. -/
theorem complete_named (sl : Slice) (s : SvcS) (hs : s ∈ sl.svcs) :
    (s.stype = "FABNetv4Ext" → Val.s (effSite s) ∈ get (collect sl) .RESOURCE_FABNETV4_EXT) ∧
    (s.stype = "FABNetv6Ext" → Val.s (effSite s) ∈ get (collect sl) .RESOURCE_FABNETV6_EXT) ∧
    (s.stype = "PortMirror" → s.mport ∉ inPorts sl.ifaces → Val.s (effSite s) ∈ get (collect sl) .RESOURCE_MIRROR_SITE) := by
  have hc := ((complete sl).2.1 s hs).2.2
  refine ⟨fun h => ?_, fun h => ?_, fun h hp => ?_⟩
  · exact hc _ (by simp [h, lutFind, nstypeLut]) (by intro he; rw [exempt, h] at he; exact absurd he.1 (by simp [mirrorType]))
  · exact hc _ (by simp [h, lutFind, nstypeLut]) (by intro he; rw [exempt, h] at he; exact absurd he.1 (by simp [mirrorType]))
  · exact hc _ (by simp [h, lutFind, nstypeLut]) (fun he => hp he.2)

/-- **Soundness of the per-type site lists / meaning of the exemption.** A site is listed under a service-type attribute
only on behalf of a non-exempt service of that type at that site: an in-slice mirror contributes nothing and removes
nothing. -/
theorem sound (sl : Slice) (k : Key) (hk : k ∈ nstypeLut.map (·.2)) (v : Val) (hv : v ∈ get (collect sl) k) :
    ∃ s ∈ sl.svcs, lutFind s.stype nstypeLut = some k ∧ ¬ exempt (inPorts sl.ifaces) s ∧ v = .s (effSite s) :=
  (mem_listed sl k (lut_disjoint k hk) v).mp hv

/-- `hk` of `sound` can be met -/
example : Key.RESOURCE_MIRROR_SITE ∈ nstypeLut.map (·.2) := by decide

structure SlicePerm (a b : Slice) : Prop where
  nodes : a.nodes.Perm b.nodes
  svcs : a.svcs.Perm b.svcs
  facs : a.facs.Perm b.facs
  ifaces : a.ifaces.Perm b.ifaces

example : SlicePerm
    ⟨[], [⟨"pmout", "PortMirror", "S", none, some "outport"⟩, ⟨"pmin", "PortMirror", "S", none, some "inport"⟩], [], [some (some "inport")]⟩
    ⟨[], [⟨"pmin", "PortMirror", "S", none, some "inport"⟩, ⟨"pmout", "PortMirror", "S", none, some "outport"⟩], [], [some (some "inport")]⟩ :=
  ⟨List.Perm.refl _, List.Perm.swap _ _ _, List.Perm.refl _, List.Perm.refl _⟩

theorem adds_perm {a b : Slice} (h : SlicePerm a b) (k : Key) : (adds a k).Perm (adds b k) := by
  -- the in-slice ports are asked for membership only
  have hl : ∀ s, listedUnder (inPorts a.ifaces) s k ↔ listedUnder (inPorts b.ifaces) s k := fun s => by
    simp only [listedUnder, exempt, inPorts, (h.ifaces.filterMap id).mem_iff]
  have hs : (svcAdds (inPorts a.ifaces) · k) = (svcAdds (inPorts b.ifaces) · k) :=
    funext fun s => by simp only [svcAdds, listAdds, hl s]
  unfold adds
  rw [hs]
  exact ((h.nodes.flatMap_right _).append (h.svcs.flatMap_right _)).append (h.facs.flatMap_right _)

/-- **Order independence.** For two stored orders of the same slice every attribute holds the same values with the same
multiplicities (`List.Perm`: the code appends in iteration order, so positions differ, contents do not). -/
theorem perm_invariant {a b : Slice} (h : SlicePerm a b) (k : Key) : (get (collect a) k).Perm (get (collect b) k) := by
  by_cases hk : k = .RESOURCE_TYPE
  · subst hk; rw [get_collect_type, get_collect_type, h.nodes.any_eq]
  · rw [get_collect_add a k hk, get_collect_add b k hk]; exact add_perm k (adds_perm h k)

/-- the dictionary has unique keys and no empty attribute, so the attribute ids present are exactly those with values -/
theorem keys_exact (sl : Slice) (k : Key) : k ∈ keys (collect sl) ↔ spec sl k ≠ [] := by
  rw [← collect_spec]; exact mem_keys_iff _ (good_collect sl).2 k

theorem keys_perm_invariant {a b : Slice} (h : SlicePerm a b) : (keys (collect a)).Perm (keys (collect b)) := by
  rw [List.perm_ext_iff_of_nodup (good_collect a).1 (good_collect b).1]
  intro k
  rw [mem_keys_iff _ (good_collect a).2, mem_keys_iff _ (good_collect b).2]
  have hp := perm_invariant h k
  constructor
  · intro hne he; rw [he] at hp; exact hne hp.eq_nil
  · intro hne he; rw [he] at hp; exact hne hp.symm.eq_nil

/-- every attribute constant has a data type and a category, and the category is one of the request's three (checked on
the regenerated table; a constant without a row would make `transform_to_pdp_request` raise `KeyError`) -/
theorem table_total : ∀ k : Key, k.dataType.isSome ∧ k.category.isSome ∧ (∀ c, k.category = some c → c ∈ categories) := by
  intro k
  obtain ⟨dt, c, hdt, hc, hin⟩ := key_rows k
  rw [hdt, hc]
  exact ⟨rfl, rfl, fun c' h => Option.some.inj h ▸ hin⟩

/-- `transform_to_pdp_request` never fails and returns the three categories in order, for any attribute dictionary -/
theorem pdp_total (a : Attrs) : ∃ req, toPdp a = some req ∧ req.map (·.1) = categories :=
  ⟨_, toPdp_eq a, by simp [Function.comp_def]⟩

/-- **Well-formed PDP request**: every collected attribute occurs exactly once, in the category the table assigns to it and in no
other, with its data type and all its values. -/
theorem pdp_request_wellformed (sl : Slice) :
    ∃ req, toPdp (collect sl) = some req ∧ req.map (·.1) = categories ∧ categories.Nodup ∧
      ∀ k v, (k, v) ∈ collect sl → v = spec sl k ∧
        ∃ dt cat, k.dataType = some dt ∧ k.category = some cat ∧ cat ∈ categories ∧
          ∀ c as, (c, as) ∈ req →
            as.filter (fun x => decide (x.id = k.id)) = if cat = c then [⟨k.id, dt, v⟩] else [] := by
  obtain ⟨req, hreq, hcats⟩ := pdp_total (collect sl)
  refine ⟨req, hreq, hcats, categories_nodup, ?_⟩
  intro k v hm
  have hg := good_collect sl
  refine ⟨by rw [← collect_spec]; exact (get_of_mem _ hg.1 k v hm).symm, ?_⟩
  obtain ⟨dt, cat, hdt, hcat, hin⟩ := key_rows k
  refine ⟨dt, cat, hdt, hcat, hin, ?_⟩
  intro c as hc
  obtain ⟨_, rfl⟩ := (mem_toPdp hreq).mp hc
  exact filter_row_present _ hg.1 k v hm dt cat hdt hcat c

/-- and every attribute of the request was collected: nothing else is in it -/
theorem pdp_no_extra (sl : Slice) (req : Pdp) (h : toPdp (collect sl) = some req) (c : String) (as : List PAttr)
    (hc : (c, as) ∈ req) (x : PAttr) (hx : x ∈ as) :
    ∃ k v, (k, v) ∈ collect sl ∧ x.id = k.id ∧ x.value = v ∧ k.category = some c := by
  obtain ⟨_, rfl⟩ := (mem_toPdp h).mp hc
  rw [List.mem_filterMap] at hx
  obtain ⟨kv, hkv, hrow⟩ := hx
  obtain ⟨_, _, hcat, rfl⟩ := pdpRow_eq_some.mp hrow
  exact ⟨kv.1, kv.2, hkv, rfl, rfl, hcat⟩

/-- the attribute ids a slice can contribute: the eight written directly and the targets of the service-type table -/
def sliceKeys : List Key :=
  [.RESOURCE_TYPE, .RESOURCE_CPU, .RESOURCE_RAM, .RESOURCE_DISK, .RESOURCE_BW, .RESOURCE_SITE, .RESOURCE_COMPONENT,
   .RESOURCE_FACILITY_PORT] ++ nstypeLut.map (·.2)

theorem collected_keys (sl : Slice) (k : Key) (h : k ∈ keys (collect sl)) : k ∈ sliceKeys := by
  by_cases hd : k ∈ directKeys
  · exact List.mem_append_left _ hd
  · obtain ⟨v, hv⟩ := List.exists_mem_of_ne_nil _ ((mem_keys_iff _ (good_collect sl).2 k).mp h)
    obtain ⟨s, _, hl, _⟩ := (mem_listed sl k hd v).mp hv
    exact List.mem_append_right _ (lutFind_mem _ _ _ hl)

/-- **Everything collected from a slice describes the resource**: it is emitted in the category of `resource-type`
(the resource category), on the regenerated tables. -/
theorem collected_in_resource_category (sl : Slice) (k : Key) (h : k ∈ keys (collect sl)) :
    k.category = Key.RESOURCE_TYPE.category ∧ Key.RESOURCE_TYPE.category = categories.head? := by
  have hk := collected_keys sl k h
  simp only [sliceKeys, nstypeLut, List.map_cons, List.map_nil, List.cons_append, List.nil_append, List.mem_cons,
    List.not_mem_nil, or_false] at hk
  rcases hk with rfl | rfl | rfl | rfl | rfl | rfl | rfl | rfl | rfl | rfl | rfl <;> exact ⟨rfl, rfl⟩

/-- **Accounting tallies equal a direct count of the slice** (capacity of a VM: `capacity_allocations` preferred; bw 0 for a
service without capacities; facilities: the facility list and the Facility-typed nodes). -/
theorem log_counts (sl : Slice) :
    (logCollect sl).vm = sl.nodes.countP (fun n => decide (n.ntype = "VM")) ∧
    (logCollect sl).p4 = sl.nodes.countP (fun n => decide (n.ntype = "Switch")) ∧
    (logCollect sl).nodes = sl.nodes.filterMap vmCap ∧
    (logCollect sl).cores = isum ((sl.nodes.filterMap vmCap).map (·.core)) ∧
    (∀ t, cnt (logCollect sl).comps t = (sl.nodes.flatMap fun n => n.comps.getD []).count t) ∧
    (logCollect sl).svcs = sl.svcs.map (fun s => (s.stype, s.bw.getD 0)) ∧
    (∀ x, x ∈ (logCollect sl).sites ↔ x ≠ "" ∧ ((∃ n ∈ sl.nodes, n.site = x) ∨ (∃ s ∈ sl.svcs, s.site = x))) ∧
    (∀ x, x ∈ (logCollect sl).facs ↔ x ∈ sl.facs ∨ ∃ n ∈ sl.nodes, n.ntype = "Facility" ∧ n.name = x) ∧
    (logCollect sl).sites.Nodup ∧ (logCollect sl).facs.Nodup := by
  rw [logCollect_eq]
  refine ⟨rfl, rfl, rfl, rfl, fun t => by rw [cnt_bumpAll]; exact Nat.zero_add _, rfl, ?_, ?_, ?_, ?_⟩
  · intro x
    simp only [mem_addAll, mem_flatMap_siteOf, List.not_mem_nil, false_or]
    exact and_or_left.symm
  · intro x
    simp only [mem_addAll, List.mem_flatMap, mem_facName, List.not_mem_nil, false_or]
    exact or_comm
  · exact nodup_addAll _ _ (nodup_addAll _ _ List.nodup_nil)
  · exact nodup_addAll _ _ (nodup_addAll _ _ List.nodup_nil)

/-- **The accounting summary does not depend on the stored order** (lists as multisets, sets as sets). -/
theorem log_perm_invariant {a b : Slice} (h : SlicePerm a b) :
    (logCollect a).vm = (logCollect b).vm ∧ (logCollect a).p4 = (logCollect b).p4 ∧
    (logCollect a).cores = (logCollect b).cores ∧ ((logCollect a).nodes).Perm (logCollect b).nodes ∧
    (∀ t, cnt (logCollect a).comps t = cnt (logCollect b).comps t) ∧
    ((logCollect a).svcs).Perm (logCollect b).svcs ∧
    ((logCollect a).sites).Perm (logCollect b).sites ∧ ((logCollect a).facs).Perm (logCollect b).facs := by
  rw [logCollect_eq, logCollect_eq]
  have hn {f : NodeS → List String} := addAll_perm (.refl []) .nil (h.nodes.flatMap_right f)
  exact ⟨h.nodes.countP_eq _, h.nodes.countP_eq _, isum_perm ((h.nodes.filterMap _).map _), h.nodes.filterMap _,
    fun t => by rw [cnt_bumpAll, cnt_bumpAll, (h.nodes.flatMap_right _).count_eq],
    h.svcs.map _, addAll_perm hn (nodup_addAll _ _ .nil) (h.svcs.flatMap_right _), addAll_perm hn (nodup_addAll _ _ .nil) h.facs⟩

theorem inferSite_idem (r : RawSvc) : inferSite { r with svc := inferSite r } = inferSite r := by
  rcases inferSite_cases r with h | ⟨hl, x, hx, h⟩ <;> rw [h]
  · exact h
  · simp [inferSite, hl, hx]

theorem recordSites_stamp (rs : RawSlice) : recordSites (stamp rs) = recordSites rs := by
  unfold recordSites stamp
  simp only [List.map_map]
  congr 1
  apply List.map_congr_left
  intro r _
  exact inferSite_idem r

/-- **Topology object vs serialised model.** The ASM path validates before it collects, so the model serialised
*before* `validate()` ever ran (`rs`), the model serialised *after* it (`stamp rs`: inferred sites stored) and the
validated topology object (`recordSites rs`) all yield the same attributes and the same accounting summary. (That the
rebuilt topology presents the same slivers is the GraphML round trip, C01, and is checked on the implementation.) -/
theorem asm_eq_topo (rs : RawSlice) :
    collectAsm rs = collect (recordSites rs) ∧ collectAsm (stamp rs) = collect (recordSites rs) ∧
    logCollectAsm rs = logCollect (recordSites rs) ∧ logCollectAsm (stamp rs) = logCollect (recordSites rs) := by
  unfold collectAsm logCollectAsm
  rw [recordSites_stamp]
  exact ⟨rfl, rfl, rfl, rfl⟩

/-- the inference is not vacuous: an undeclared single-site service gets its owner's site, and without the inference
(`validate()` skipped) the external site would be listed as unknown -/
theorem asm_inference_matters :
    let r : RawSvc := ⟨⟨"v4a", "FABNetv4Ext", "", none, none⟩, ["RENC"], true⟩
    get (collectAsm ⟨[], [r], [], []⟩) .RESOURCE_FABNETV4_EXT = [.s "RENC"] ∧
    get (collect ⟨[], [r.svc], [], []⟩) .RESOURCE_FABNETV4_EXT = [.s unknownSite] :=
  ⟨rfl, rfl⟩

def legacyA : Slice :=
  ⟨[], [⟨"pmout", "PortMirror", "S", none, some "outport"⟩, ⟨"pmin", "PortMirror", "S", none, some "inport"⟩], [], [some (some "inport")]⟩
def legacyB : Slice :=
  ⟨[], [⟨"pmin", "PortMirror", "S", none, some "inport"⟩, ⟨"pmout", "PortMirror", "S", none, some "outport"⟩], [], [some (some "inport")]⟩
def legacyC : Slice :=
  ⟨[], [⟨"ma", "PortMirror", "A", none, some "out1"⟩, ⟨"mb", "PortMirror", "B", none, some "out2"⟩,
        ⟨"mc", "PortMirror", "A", none, some "inport"⟩], [], [some (some "inport")]⟩

/-- With the exemption written as append-if-absent followed by `pop()` (`collectLegacy`, Model/Authz.lean), `complete` and
`perm_invariant` are false: the outside-port mirror at S is not named in one stored order (corpus/C11/01) and is in the
other; with three mirrors the popped element is the site of an unrelated service (corpus/C11/02). `collect` names them. -/
theorem legacy_mirror_counterexample :
    get (collectLegacy legacyA) .RESOURCE_MIRROR_SITE = [] ∧
    get (collectLegacy legacyB) .RESOURCE_MIRROR_SITE = [.s "S"] ∧
    get (collectLegacy legacyC) .RESOURCE_MIRROR_SITE = [.s "A"] ∧
    get (collect legacyA) .RESOURCE_MIRROR_SITE = [.s "S"] ∧
    get (collect legacyB) .RESOURCE_MIRROR_SITE = [.s "S"] ∧
    get (collect legacyC) .RESOURCE_MIRROR_SITE = [.s "A", .s "B"] :=
  ⟨rfl, rfl, rfl, rfl, rfl, rfl⟩

theorem dispatchAuthz_obj (ns : List NodeS) (ss : List SvcS) :
    dispatchAuthz (svcStepObj []) ns ss = (collect ⟨ns, ss, [], []⟩, ss) := by
  have h : ∀ (ss : List SvcS) (a : Attrs) (acc : List SvcS),
      ss.foldl (fun (p : Attrs × List SvcS) s => (((svcStepObj []) p.1 s).1, p.2 ++ [((svcStepObj []) p.1 s).2])) (a, acc)
        = (ss.foldl (svcStep []) a, acc ++ ss) := by
    intro ss
    induction ss with
    | nil => intro a acc; simp
    | cons s ss ih =>
      intro a acc
      rw [List.foldl_cons]
      show ss.foldl _ ((svcStepObj [] a s).1, acc ++ [(svcStepObj [] a s).2]) = _
      rw [ih]
      simp [svcStepObj]
  unfold dispatchAuthz
  rw [h]
  simp [collect, inPorts]

/-- **Collecting does not change what is collected**: the collectors leave the caller's slivers as they were, so authorizing,
logging and authorizing again the *same* sliver objects gives, each time, what freshly built slivers give. -/
theorem shared_slivers_unchanged (ns : List NodeS) (ss : List SvcS) :
    sharedSession (svcStepObj []) ns ss
      = (collect ⟨ns, ss, [], []⟩, logCollect ⟨ns, ss, [], []⟩, collect ⟨ns, ss, [], []⟩) := by
  unfold sharedSession
  simp only [dispatchAuthz_obj]

/-- Were the placeholder written into the caller's sliver (`svcStepObjLegacy`) and not into a copy, an external service without
a site (corpus/C11/09) would then be logged, and authorized again, with the site `UNKNOWN-SITE`, which the slice does not have. -/
theorem shared_slivers_legacy_counterexample :
    let ss : List SvcS := [⟨"v4", "FABNetv4Ext", "", none, none⟩]
    (sharedSession (svcStepObjLegacy []) [] ss).2.1.sites = ["UNKNOWN-SITE"] ∧
    get (sharedSession (svcStepObjLegacy []) [] ss).2.2 .RESOURCE_SITE = [.s "UNKNOWN-SITE"] ∧
    (sharedSession (svcStepObj []) [] ss).2.1.sites = [] ∧
    get (sharedSession (svcStepObj []) [] ss).2.2 .RESOURCE_SITE = [] :=
  ⟨rfl, rfl, rfl, rfl⟩

/-- a mirrored port whose name merely *extends*, *shortens* or re-cases the name of a port of the slice is a foreign port:
the exemption is exact equality of the names (`s.mport ∈ inPorts`), so its site is named (corpus/C11/05) -/
theorem mirror_of_related_port_name_listed :
    let own := "HundredGigE0/0/0/1"
    ∀ foreign ∈ ["HundredGigE0/0/0/10", "HundredGigE0/0/0/1.100", "HundredGigE0/0/0/", "hundredgige0/0/0/1", ""],
      get (collect ⟨[], [⟨"pm", "PortMirror", "RENC", none, some foreign⟩], [], [some (some own)]⟩) .RESOURCE_MIRROR_SITE = [.s "RENC"] ∧
      get (collect ⟨[], [⟨"pm", "PortMirror", "RENC", none, some own⟩], [], [some (some own)]⟩) .RESOURCE_MIRROR_SITE = [] := by
  decide +kernel

/-- a VM without capacities and without allocation (sized by an instance-type hint, or not at all) is a VM: it is
counted, adds no cores and no capacity record -/
theorem vm_without_capacities_counted (l : Log) (n : NodeS) (ht : n.ntype = "VM") (hc : n.caps = none) (ha : n.alloc = none) :
    (logNode l n).vm = l.vm + 1 ∧ (logNode l n).cores = l.cores ∧ (logNode l n).nodes = l.nodes := by
  have hv : n.ntype = vmType := ht
  refine ⟨?_, ?_, ?_⟩
  · rw [logNode_eq]; exact congrArg _ (if_pos hv)
  · rw [logNode_eq]; simp [vmCap, hv, hc, ha]
  · rw [logNode_eq]; simp [vmCap, hv, hc, ha]

/-- Every clause of the property, for one slice as the collectors see it. -/
structure AuthzClaims (sl : Slice) : Prop where
  /-- every site used - by a node or by a service - is named -/
  every_site : ∀ x, x ≠ "" → ((∃ n ∈ sl.nodes, n.site = x) ∨ (∃ s ∈ sl.svcs, s.site = x)) →
    Val.s x ∈ get (collect sl) .RESOURCE_SITE
  /-- and only the sites used are named, each once (duplicated sites collapse; names are compared exactly) -/
  only_sites : (get (collect sl) .RESOURCE_SITE).Nodup ∧ ∀ v ∈ get (collect sl) .RESOURCE_SITE,
    ∃ x, v = .s x ∧ x ≠ "" ∧ ((∃ n ∈ sl.nodes, n.site = x) ∨ (∃ s ∈ sl.svcs, s.site = x))
  /-- every attached component type, once per component -/
  every_component_type : get (collect sl) .RESOURCE_COMPONENT = sl.nodes.flatMap fun n => (n.comps.getD []).map Val.s
  /-- CPU, RAM and disk of every node that has capacities, one entry per node, in stored order -/
  cpu_ram_disk_of_every_node :
    get (collect sl) .RESOURCE_CPU = (sl.nodes.filterMap (·.caps)).map (fun c => .i c.core) ∧
    get (collect sl) .RESOURCE_RAM = (sl.nodes.filterMap (·.caps)).map (fun c => .i c.ram) ∧
    get (collect sl) .RESOURCE_DISK = (sl.nodes.filterMap (·.caps)).map (fun c => .i c.disk)
  /-- the bandwidth of every service that has capacities -/
  bandwidth_of_every_service : get (collect sl) .RESOURCE_BW = (sl.svcs.filterMap (·.bw)).map Val.i
  every_facility : get (collect sl) .RESOURCE_FACILITY_PORT = sl.facs.map Val.s
  /-- the site of every externally routed service, under the attribute of its kind -/
  ext_service_sites : ∀ s ∈ sl.svcs,
    (s.stype = "FABNetv4Ext" → Val.s (effSite s) ∈ get (collect sl) .RESOURCE_FABNETV4_EXT) ∧
    (s.stype = "FABNetv6Ext" → Val.s (effSite s) ∈ get (collect sl) .RESOURCE_FABNETV6_EXT)
  /-- the site of every port-mirror service whose mirrored port is not (exactly) one of the slice's ports -/
  foreign_mirror_sites : ∀ s ∈ sl.svcs, s.stype = "PortMirror" → s.mport ∉ inPorts sl.ifaces →
    Val.s (effSite s) ∈ get (collect sl) .RESOURCE_MIRROR_SITE
  /-- a site is listed under one of the three per-kind attributes only on behalf of such a service of that kind; each once -/
  listed_only_for_such : ∀ k ∈ nstypeLut.map (·.2), (get (collect sl) k).Nodup ∧ ∀ v ∈ get (collect sl) k,
    ∃ s ∈ sl.svcs, lutFind s.stype nstypeLut = some k ∧ ¬ exempt (inPorts sl.ifaces) s ∧ v = .s (effSite s)
  /-- the resource type is the switch type iff some node is a switch, whatever the order -/
  resource_type : get (collect sl) .RESOURCE_TYPE =
    if sl.nodes.any (fun n => decide (n.ntype = switchNodeType)) then [.s switchType] else [.s initType]
  nothing_else : ∀ k ∈ keys (collect sl), k ∈ sliceKeys
  order_independent : ∀ sl', SlicePerm sl sl' →
    (∀ k, (get (collect sl) k).Perm (get (collect sl') k)) ∧ (keys (collect sl)).Perm (keys (collect sl'))
  /-- the PDP request exists and carries every collected attribute, with its data type and all its values, in the
  resource category (the first of the request) -/
  request : ∃ req, toPdp (collect sl) = some req ∧ req.map (·.1) = categories ∧
    ∀ k v, (k, v) ∈ collect sl → ∃ dt cat as, k.dataType = some dt ∧ k.category = some cat ∧
      categories.head? = some cat ∧ (cat, as) ∈ req ∧ (⟨k.id, dt, v⟩ : PAttr) ∈ as
  /-- accounting: VMs (every node of type VM, with or without capacities), switches, cores and capacity records
  (allocation preferred), components by type, services, sites, facilities equal a direct tally -/
  accounting :
    (logCollect sl).vm = (sl.nodes.filter fun n => decide (n.ntype = "VM")).length ∧
    (logCollect sl).p4 = (sl.nodes.filter fun n => decide (n.ntype = "Switch")).length ∧
    (logCollect sl).nodes = sl.nodes.filterMap vmCap ∧
    (logCollect sl).cores = isum ((sl.nodes.filterMap vmCap).map (·.core)) ∧
    (∀ t, cnt (logCollect sl).comps t = (sl.nodes.flatMap fun n => n.comps.getD []).count t) ∧
    (logCollect sl).svcs = sl.svcs.map (fun s => (s.stype, s.bw.getD 0)) ∧
    (∀ x, x ∈ (logCollect sl).sites ↔ x ≠ "" ∧ ((∃ n ∈ sl.nodes, n.site = x) ∨ (∃ s ∈ sl.svcs, s.site = x))) ∧
    (∀ x, x ∈ (logCollect sl).facs ↔ x ∈ sl.facs ∨ ∃ n ∈ sl.nodes, n.ntype = "Facility" ∧ n.name = x) ∧
    (logCollect sl).sites.Nodup ∧ (logCollect sl).facs.Nodup
  accounting_order_independent : ∀ sl', SlicePerm sl sl' →
    (logCollect sl).vm = (logCollect sl').vm ∧ (logCollect sl).p4 = (logCollect sl').p4 ∧
    (logCollect sl).cores = (logCollect sl').cores ∧ ((logCollect sl).nodes).Perm (logCollect sl').nodes ∧
    (∀ t, cnt (logCollect sl).comps t = cnt (logCollect sl').comps t) ∧
    ((logCollect sl).svcs).Perm (logCollect sl').svcs ∧
    ((logCollect sl).sites).Perm (logCollect sl').sites ∧ ((logCollect sl).facs).Perm (logCollect sl').facs

theorem authz_claims (sl : Slice) : AuthzClaims sl where
  every_site := fun x hx h => (mem_sites sl _).mpr ⟨x, rfl, hx, h⟩
  only_sites := ⟨nodup_collect sl _ (by decide), fun v hv => (mem_sites sl v).mp hv⟩
  every_component_type := by rw [collect_spec]; rfl
  cpu_ram_disk_of_every_node := by
    refine ⟨?_, ?_, ?_⟩ <;> rw [collect_spec] <;> exact flatMap_optVal_map _ _ _
  bandwidth_of_every_service := by rw [collect_spec]; exact flatMap_optVal_map _ _ _
  every_facility := by rw [collect_spec]; rfl
  ext_service_sites := fun s hs => ⟨(complete_named sl s hs).1, (complete_named sl s hs).2.1⟩
  foreign_mirror_sites := fun s hs => (complete_named sl s hs).2.2
  listed_only_for_such := fun k hk => ⟨nodup_collect sl k (lut_set k hk), sound sl k hk⟩
  resource_type := by rw [collect_spec]; rfl
  nothing_else := collected_keys sl
  order_independent := fun _ h => ⟨perm_invariant h, keys_perm_invariant h⟩
  request := by
    obtain ⟨req, hreq, hcats⟩ := pdp_total (collect sl)
    refine ⟨req, hreq, hcats, fun k v hm => ?_⟩
    obtain ⟨dt, cat, hdt, hcat, hin⟩ := key_rows k
    obtain ⟨hrc, hhead⟩ := collected_in_resource_category sl k (List.mem_map.mpr ⟨(k, v), hm, rfl⟩)
    exact ⟨dt, cat, _, hdt, hcat, by rw [← hhead, ← hrc, hcat], (mem_toPdp hreq).mpr ⟨hin, rfl⟩,
      List.mem_filterMap.mpr ⟨(k, v), hm, pdpRow_eq_some.mpr ⟨dt, hdt, hcat, rfl⟩⟩⟩
  accounting := by simp only [← List.countP_eq_length_filter]; exact log_counts sl
  accounting_order_independent := fun _ h => log_perm_invariant h

/-- The parts of the library the collectors stand on, as far as the property depends on them. `G` is whatever a stored
slice graph is. -/
structure Layers (G : Type) where
  /-- what `topo.nodes`, `network_services`, `facilities`, `interface_list` and `get_sliver()` present of a graph: node slivers,
  services with their *declared* site plus what `validate()` reads of them (owner sites of their interfaces, whether the type
  limits sites), facility names, the labels of the peers of the node interfaces. Nothing is assumed of this function: every
  statement below is about the slice *as presented*; that the library presents what is stored (C02/C07 territory, H_present in
  MANIFEST.json) is not a hypothesis of any theorem here. -/
  present : G → RawSlice
  /-- `ExperimentTopology(graph_string = asm.serialize_graph())` inside `_collect_attributes_from_asm` -/
  reimport : G → G
  /-- `Topology.validate()`; `none` = it raises -/
  validate : G → Option G

structure Layers.Hyp {G : Type} (L : Layers G) : Prop where
  /-- **H_roundtrip** (C01: `roundtrip_import_direct` shows the re-imported graph is the stored one up to internal node
  ids; `roundtrip_hypothesis_from_c01` reduces this field to a presentation that ignores them): serialising and importing
  again presents the same slivers. -/
  H_roundtrip : ∀ g, L.present (L.reimport g) = L.present g
  /-- **H_validate_records_sites** (C10: discharged for C10's model of `validate()` by
  `validate_records_inferred_sites`): a successful `validate()` changes nothing the collectors read except the sites of
  the services, which become the inferred ones. -/
  H_validate_records_sites : ∀ g g', L.validate g = some g' → L.present g' = stamp (L.present g)

/-- the slivers the collectors read of what is presented (no inference of their own) -/
def seen (rs : RawSlice) : Slice := { nodes := rs.nodes, svcs := rs.svcs.map (·.svc), facs := rs.facs, ifaces := rs.ifaces }

theorem seen_stamp (rs : RawSlice) : seen (stamp rs) = recordSites rs := by
  unfold seen stamp recordSites
  simp [List.map_map, Function.comp_def]

/-- **C11, every clause.** Let `g` be a slice graph on which `validate()` succeeds (**H_valid**; C10 says when) giving
the validated topology `gv`, and let the layers satisfy the named hypotheses `H`. Then, for the slice the validated
topology presents to the collectors:

* `AuthzClaims` (which holds of every slice; the hypotheses bear on the next two points);
* that slice is the raw slice with the inferred sites recorded (`recordSites`);
* collecting from the serialised model - serialised before `validate()` ever ran (`g`) or after it (`gv`) - gives the
  same attributes and the same accounting summary as collecting from the validated topology object, whenever the
  `validate()` call inside the ASM path succeeds. -/
theorem authz_complete_sound_order_independent {G : Type} (L : Layers G) (H : L.Hyp) (g gv : G)
    (H_valid : L.validate g = some gv) :
    AuthzClaims (seen (L.present gv)) ∧
    seen (L.present gv) = recordSites (L.present g) ∧
    (∀ g2, L.validate (L.reimport g) = some g2 →
      collect (seen (L.present g2)) = collect (seen (L.present gv)) ∧
      logCollect (seen (L.present g2)) = logCollect (seen (L.present gv))) ∧
    (∀ g3, L.validate (L.reimport gv) = some g3 →
      collect (seen (L.present g3)) = collect (seen (L.present gv)) ∧
      logCollect (seen (L.present g3)) = logCollect (seen (L.present gv))) := by
  have hv := H.H_validate_records_sites g gv H_valid
  refine ⟨authz_claims _, by rw [hv, seen_stamp], ?_, ?_⟩
  · intro g2 h2
    have : L.present g2 = L.present gv := by
      rw [H.H_validate_records_sites _ g2 h2, H.H_roundtrip, hv]
    rw [this]; exact ⟨rfl, rfl⟩
  · intro g3 h3
    have : seen (L.present g3) = seen (L.present gv) := by
      rw [H.H_validate_records_sites _ g3 h3, H.H_roundtrip, hv, seen_stamp, seen_stamp, recordSites_stamp]
    rw [this]; exact ⟨rfl, rfl⟩

/-- non-vacuity: layers that satisfy the hypotheses (graphs = raw slices, validate = record the inferred sites), and a
slice with an undeclared external service on which `H_valid` holds -/
def exLayers : Layers RawSlice := { present := id, reimport := id, validate := fun rs => some (stamp rs) }

example : exLayers.Hyp := ⟨fun _ => rfl, fun g g' h => by simp only [exLayers, Option.some.injEq] at h; subst h; rfl⟩

example : exLayers.validate ⟨[], [⟨⟨"v4a", "FABNetv4Ext", "", none, none⟩, ["RENC"], true⟩], [], []⟩
    = some ⟨[], [⟨⟨"v4a", "FABNetv4Ext", "RENC", none, none⟩, ["RENC"], true⟩], [], []⟩ := by
  simp [exLayers, stamp, inferSite, addSet]

/-- **C10 tie, per slice**: `H_validate_records_sites` holds of C10's model of `Topology.validate()`, for every constraint table. -/
theorem validate_records_inferred_sites (c : Validate.Cfg) (g g' : G10) (h : validate10 c g = some g') :
    present10 c g' = stamp (present10 c g) := by
  unfold validate10 at h
  split at h
  · rename_i hok
    simp only [Option.some.injEq] at h
    subst h
    unfold present10 stamp
    simp only [Validate.validate_state c g.topo hok, List.zipWith_map_left, List.map_zipWith, rawOf_recordSite]
  · cases h

/-- **C01 tie**: on C01's model of the graph store, serialising a stored slice graph to GraphML and importing it again
under its own id (what `ExperimentTopology(graph_string=asm.serialize_graph())` does inside the ASM path) succeeds and
presents the same slivers, for every presentation function that does not read the store's internal node numbers
(**H_present_ignores_node_ids**, the one thing C01's `roundtrip_import_direct` leaves open: all attributes and edges are
unchanged, node `k` is renumbered). This is `H_roundtrip`. -/
theorem roundtrip_hypothesis_from_c01 (present : GraphML.Graph Nat → RawSlice)
    (H_present_ignores_node_ids : ∀ (G : GraphML.Graph Nat) (start : Nat), present (FimVerif.C01.directCopy G start) = present G)
    (s : GraphML.Store) (hs : FimVerif.C01.StoreInv s) (g : GraphML.Val) (G0 : GraphML.Graph Nat) (hG : s.extract g = some G0)
    (hk : FimVerif.C01.KeysNodup G0) (doc : GraphML.Doc Nat) (hser : GraphML.serialize s g .graphml = .ok (some doc)) :
    (GraphML.importDirect s doc).1 = .ok g ∧
    ∃ G1, (GraphML.importDirect s doc).2.extract g = some G1 ∧ present G1 = present G0 := by
  obtain ⟨h1, h2⟩ := FimVerif.C01.roundtrip_import_direct s hs g G0 hG .graphml (fun _ => hk) (fun h => by cases h) doc hser
  exact ⟨h1, _, h2, H_present_ignores_node_ids G0 s.nextId⟩

/-- non-vacuity of `H_present_ignores_node_ids`: a presentation that reads node attributes (here: how many each node
has), not node numbers -/
example : ∀ (G : GraphML.Graph Nat) (start : Nat),
    (fun (H : GraphML.Graph Nat) => (⟨[], [], H.nodes.map (fun p => toString p.2.length), []⟩ : RawSlice)) (FimVerif.C01.directCopy G start)
      = (fun (H : GraphML.Graph Nat) => (⟨[], [], H.nodes.map (fun p => toString p.2.length), []⟩ : RawSlice)) G := by
  intro G start
  simp [FimVerif.C01.directCopy, List.map_map, Function.comp_def]

/-- **The same with `validate()` as C10 models it** (`Validate.validate`, for every constraint table `c`, wrapped as `validate10`):
what remains assumed is the round trip (`H_roundtrip`; see `roundtrip_hypothesis_from_c01`) and that validation succeeds
(`H_valid`; C10's `validate_iff_spec` says exactly when). -/
theorem authz_paths_agree_with_c10_validate (c : Validate.Cfg) (reimport : G10 → G10)
    (H_roundtrip : ∀ g, present10 c (reimport g) = present10 c g)
    (g gv : G10) (H_valid : validate10 c g = some gv) :
    let sl := seen (present10 c gv)
    AuthzClaims sl ∧ sl = recordSites (present10 c g) ∧
    (∀ g2, validate10 c (reimport g) = some g2 →
      collect (seen (present10 c g2)) = collect sl ∧ logCollect (seen (present10 c g2)) = logCollect sl) ∧
    (∀ g3, validate10 c (reimport gv) = some g3 →
      collect (seen (present10 c g3)) = collect sl ∧ logCollect (seen (present10 c g3)) = logCollect sl) :=
  authz_complete_sound_order_independent
    { present := present10 c, reimport := reimport, validate := validate10 c }
    ⟨H_roundtrip, validate_records_inferred_sites c⟩ g gv H_valid

/-- non-vacuity of `H_valid` for C10's `validate` on the regenerated constraint tables: a FABNetv4Ext service with one
port owned at RENC and no declared site validates, and the collectors are then presented with site RENC -/
def exG10 : G10 :=
  { topo := { exp := true, nodes := [],
              svcs := [⟨"FABNetv4Ext", none, [], none, [.port "n0-p0" (some [⟨"SharedPort", some "RENC"⟩])], [], []⟩] },
    nodes := [], extras := [⟨"v4", none, none⟩], facs := [], ifaces := [] }

example : (validate10 Validate.genCfg exG10).map (fun g => (present10 Validate.genCfg g).svcs.map (·.svc.site)) = some ["RENC"] := by
  decide +kernel

/-- **The site of every listed service can be inferred**: on the regenerated constraint table (`Gen.Constraints`, C10's
translator) the three service types whose site the request must name - PortMirror, FABNetv4Ext, FABNetv6Ext - all limit
the number of sites, which is the condition under which `validate()` gathers the owner sites and records the single one
(`inferSite`; an unlimited type would fall back to UNKNOWN-SITE). -/
theorem listed_types_are_site_limited : ∀ tk ∈ nstypeLut, limitedIn Validate.genCfg tk.1 = true := by decide +kernel

/-- **Reads are private** (regenerated flag, probed on a real topology every run): the object a read hands out is parsed for
that read. Everything below is stated for the code's own flag, so a parse memo shared between reads breaks these proofs. -/
theorem value_objects_private : readsFresh = true := by decide

/-- **A collector is presented with what the elements store**, whatever objects callers hold. -/
theorem live_slice_is_stored (sl : Slice) (sizes : VObj.St Caps) (bws : VObj.St Int) :
    liveSlice readsFresh sl sizes bws
      = { sl with nodes := sl.nodes.mapIdx fun i n => { n with caps := VObj.storedAt sizes i },
                  svcs := sl.svcs.mapIdx fun i s => { s with bw := VObj.storedAt bws i } } := by
  simp only [liveSlice, withCaps, withBw, value_objects_private, VObj.presented_fresh]

/-- **Frame, over every history.** Whatever a caller reads, builds, changes in place or writes to OTHER elements, an element
nobody wrote is presented exactly as before (so the request names the CPU/RAM/disk it stores: `complete` / `collect_spec` on
`liveSlice`). -/
theorem unwritten_element_keeps_its_value {α : Type} [DecidableEq α] (ops : List (VObj.Op α)) (st : VObj.St α) (j : Nat)
    (h : ∀ op ∈ ops, op.writes ≠ some j) :
    VObj.presented readsFresh (VObj.run readsFresh st ops) j = VObj.presented readsFresh st j := by
  simp only [value_objects_private, VObj.presented_fresh, VObj.storedAt, VObj.run_frame true ops st j h]

example : ∀ op ∈ ([.read 1, .poke 0 ⟨1, 2, 10⟩, .write 1 0] : List (VObj.Op Caps)), op.writes ≠ some 0 := by decide

/-- **Objects changed in place and never written back change nothing**, in the request or in the summary. -/
theorem collect_unchanged_by_reads_and_pokes (sl : Slice) (sizes : VObj.St Caps) (bws : VObj.St Int)
    (opsN : List (VObj.Op Caps)) (opsB : List (VObj.Op Int))
    (hN : ∀ op ∈ opsN, op.writes = none) (hB : ∀ op ∈ opsB, op.writes = none) :
    collect (liveSlice readsFresh sl (VObj.run readsFresh sizes opsN) (VObj.run readsFresh bws opsB))
      = collect (liveSlice readsFresh sl sizes bws) ∧
    logCollect (liveSlice readsFresh sl (VObj.run readsFresh sizes opsN) (VObj.run readsFresh bws opsB))
      = logCollect (liveSlice readsFresh sl sizes bws) := by
  have e : liveSlice readsFresh sl (VObj.run readsFresh sizes opsN) (VObj.run readsFresh bws opsB)
      = liveSlice readsFresh sl sizes bws := by
    simp only [live_slice_is_stored, VObj.storedAt, VObj.run_no_write _ opsN sizes hN, VObj.run_no_write _ opsB bws hB]
  rw [e]; exact ⟨rfl, rfl⟩

example : ∀ op ∈ ([.read 0, .poke 0 ⟨1, 2, 10⟩, .new ⟨9, 9, 9⟩, .poke 1 ⟨7, 7, 7⟩] : List (VObj.Op Caps)), op.writes = none := by decide

/-- **Read, change in place, write back** sets the element to the changed value (and, by the frame theorem, nothing else) -/
theorem read_modify_write {α : Type} [DecidableEq α] (st : VObj.St α) (i : Nat) (v0 v : α) (hi : st.stored[i]? = some (some v0)) :
    VObj.presented readsFresh (VObj.run readsFresh st [.read i, .poke st.heap.length v, .write i st.heap.length]) i = some v := by
  simp only [value_objects_private, VObj.presented_fresh]; exact VObj.rmw st i v0 v hi

example : (⟨[some ⟨32, 128, 500⟩], [], []⟩ : VObj.St Caps).stored[0]? = some (some ⟨32, 128, 500⟩) := by decide

/-- With a parse memo keyed by the property text (`readsFresh = false`) two VMs of equal size share one object: shrinking `small`
by read / change / write back makes the request name 1 core for `big`, which still stores 32, and the tally 2 cores
instead of 33 (corpus/C11/11). -/
theorem memo_reads_counterexample :
    let big : Caps := ⟨32, 128, 500⟩
    let sl : Slice := ⟨[⟨"big", "VM", "RENC", none, none, none⟩, ⟨"small", "VM", "UKY", none, none, none⟩], [], [], []⟩
    let ops : List (VObj.Op Caps) := [.read 1, .poke 0 ⟨1, 2, 10⟩, .write 1 0]
    let st : VObj.St Caps := ⟨[some big, some big], [], []⟩
    get (collect (liveSlice false sl (VObj.run false st ops) ⟨[], [], []⟩)) .RESOURCE_CPU = [.i 1, .i 1] ∧
    (logCollect (liveSlice false sl (VObj.run false st ops) ⟨[], [], []⟩)).cores = 2 ∧
    get (collect (liveSlice true sl (VObj.run true st ops) ⟨[], [], []⟩)) .RESOURCE_CPU = [.i 32, .i 1] ∧
    (logCollect (liveSlice true sl (VObj.run true st ops) ⟨[], [], []⟩)).cores = 33 :=
  ⟨rfl, rfl, rfl, rfl⟩

/-- **Views are live** (regenerated flag, probed on a real topology every run: the slice grows and shrinks on the nodes it has
and every view - and the collector - shows it as it is at that moment). -/
theorem views_live : viewsLive = true := by decide

/-- **Independence of the history of the object.** However often the topology object was collected and edited before, the
collectors are presented with the slice stored at the time of the collection (`authz_claims` applies to it as it stands).  Each
element of a history given to `View.runHist` is "collect, then edit to this slice": the last one, `sl`, is stored and not yet
collected. -/
theorem presented_after_history (hist : List Slice) (sl : Slice) : ∀ st : View.St,
    View.presented viewsLive (View.runHist viewsLive st (hist ++ [sl])) = sl := by
  rw [views_live]
  induction hist with
  | nil => intro st; rfl
  | cons x xs ih =>
    intro st
    simp only [List.cons_append, View.runHist]
    exact ih _

theorem collect_after_history (hist : List Slice) (sl : Slice) (st : View.St) :
    collect (View.presented viewsLive (View.runHist viewsLive st (hist ++ [sl]))) = collect sl ∧
    logCollect (View.presented viewsLive (View.runHist viewsLive st (hist ++ [sl]))) = logCollect sl := by
  rw [presented_after_history]; exact ⟨rfl, rfl⟩

/-- With the interface view kept for as long as the set of nodes stays the same (`viewsLive = false`): a slice of two VMs is
collected, then a NIC, a bridge with service port `p1` and a mirror of `p1` are added to the nodes it has - the kept view has
no port `p1`, and the request lists UKY as a mirror site although the mirrored port is a port of the slice. -/
theorem kept_view_counterexample :
    let n1 : NodeS := ⟨"n1", "VM", "RENC", none, none, none⟩
    let n2 : NodeS := ⟨"n2", "VM", "UKY", none, none, none⟩
    let st : View.St := ⟨⟨[n1, n2], [], [], [none, none]⟩, none⟩
    let grown : Slice := ⟨[n1, n2], [⟨"br", "L2Bridge", "RENC", none, none⟩, ⟨"pm", "PortMirror", "UKY", none, some "p1"⟩], [],
                          [none, none, some (some "p1"), none]⟩
    get (collect (View.presented false (View.runHist false st [grown, grown]))) .RESOURCE_MIRROR_SITE = [.s "UKY"] ∧
    get (collect (View.presented true (View.runHist true st [grown, grown]))) .RESOURCE_MIRROR_SITE = [] := by
  refine ⟨?_, ?_⟩ <;> decide +kernel

end FimVerif.C11
