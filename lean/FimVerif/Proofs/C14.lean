import FimVerif.Proofs.Lemmas.C14Update
import FimVerif.Proofs.Lemmas.C14Any
import FimVerif.Proofs.Lemmas.C14Frame
import FimVerif.Generated.CbmCfg
/-!
# C14 - combined broker model: merge is order-independent, unmerge is its inverse, rollback restores a snapshot

About `FimVerif.Cbm.mergeN / merge / unmerge / snapshot / rollback` (Model/Cbm.lean), for all graphs; the clause that merging leaves the
source models alone is about the interpreters of the generated plans on the model of the shared store (Model/CbmStore.lean).
`Graph.WF` / `Adm.WF` are what the NetworkX store guarantees for every graph it holds.  `mergeN` is `merge_adm`; `merge` is `merge_adm`
as it runs on the shared NetworkX store (`merge_on_networkx_store`).  What holds of the code is order independence up to first-wins data
and the inverse under three guards (counterexamples beside them); the tie to the generated plans and tables and the source updates come last.
-/
namespace FimVerif.C14
open FimVerif.Cbm

/-! `exSite`, `exNet`: a site model and a network model sharing the stitch node `port`. -/
def exSite : Adm := ⟨"adm-site", ⟨[⟨"sw", [("Class", "NetworkNode")], [], .absent, .dict [("primary", "cap")]⟩,
                                    ⟨"port", [("StitchNode", "true"), ("Model", "site")], [], .absent, .absent⟩],
                                   [⟨"sw", "port", [("Class", "connects")]⟩]⟩⟩
def exNet : Adm := ⟨"adm-net", ⟨[⟨"port", [("StitchNode", "false"), ("Model", "net")], [], .dict [("d1", "lab")], .absent⟩,
                                  ⟨"link", [("Class", "Link")], [], .absent, .absent⟩],
                                 [⟨"port", "link", [("Class", "connects")]⟩]⟩⟩

theorem exSite_WF : exSite.WF := ⟨by decide +kernel, by decide +kernel, by decide +kernel⟩
theorem exNet_WF : exNet.WF := ⟨by decide +kernel, by decide +kernel, by decide +kernel⟩

/-- Node ids and connections of the merged model are the union of the two; a shared id appears once and a
connection present in both appears once. -/
theorem merge_union {c : Graph} {a : Adm} {g : Graph} (hc : c.WF) (ha : a.WF) (h : mergeN c a = (none, g)) :
    (∀ i, i ∈ g.ids ↔ i ∈ c.ids ∨ i ∈ a.g.ids) ∧ g.ids.Nodup ∧
    (∀ x y, g.hasEdge x y = (c.hasEdge x y || a.g.hasEdge x y)) ∧ g.EdgesUnique ∧ g.Closed := by
  have hs := merge_step hc.closed h
  have hw := merge_WF hc ha h
  refine ⟨fun i => ?_, hw.nodup, hs.hasEdge, hw.edges, hw.closed⟩
  rw [hs.eq, mem_ids_mergeCore, ids_stamped]

example : (mergeN (mergeN Graph.empty exSite).2 exNet).1 = none ∧ (mergeN Graph.empty exSite).1 = none := by decide +kernel

/-- **All sequences of merges**: the combined model has exactly the elements and connections of the initial model and of
the merged models, a shared element once and a connection present in several models once. -/
theorem merge_sequence_union {c : Graph} {as : List Adm} {g : Graph} (hc : c.WF) (hw : ∀ a ∈ as, a.WF)
    (h : mergeAll c as = some g) :
    (∀ i, i ∈ g.ids ↔ i ∈ c.ids ∨ ∃ a ∈ as, i ∈ a.g.ids) ∧ g.ids.Nodup ∧
    (∀ x y, g.hasEdge x y = (c.hasEdge x y || as.any (fun a => a.g.hasEdge x y))) ∧ g.EdgesUnique ∧ g.Closed := by
  have m := MergedAll.of_mergeAll hc hw h
  refine ⟨?_, m.wf.nodup, m.hasEdge, m.wf.edges, m.wf.closed⟩
  intro i
  rw [← has_iff, ← has_iff, m.has]
  simp only [Bool.or_eq_true, List.any_eq_true, has_iff]

example : mergeAll Graph.empty [exSite, exNet] ≠ none := by decide +kernel

/-- **First wins, exactly**: in a model built by a sequence of merges the data of an element (connection) is that of the
initial model if it has the element (connection), otherwise that of the *first* merged model that has it. -/
theorem merge_first_wins_exact {c : Graph} {as : List Adm} {g : Graph} (hc : c.WF) (hw : ∀ a ∈ as, a.WF)
    (h : mergeAll c as = some g) :
    (∀ i, g.propsOf i = (c.propsOf i).or (firstSome (fun a => a.g.propsOf i) as)) ∧
    (∀ x y, g.edgeData x y = (c.edgeData x y).or (firstSome (fun a => a.g.edgeData x y) as)) :=
  ⟨(MergedAll.of_mergeAll hc hw h).props, (MergedAll.of_mergeAll hc hw h).edgeData⟩

/-- **When merging succeeds** is a pairwise condition on the models (hence independent of the order): every model is
acceptable to `rewrite_delegations`, none speaks for an element the initial model has a delegation for, no two speak for the
same element. -/
theorem merge_succeeds_iff_compatible {c : Graph} {as : List Adm} (hc : c.WF) (hw : ∀ a ∈ as, a.WF) :
    ((mergeAll c as).isSome = true ↔ Compat c as = true) ∧
    (Compat c as = true ↔ ((∀ a ∈ as, a.Mergeable = true ∧ clashG c a = false) ∧ as.Pairwise (fun a b => clash a b = false))) ∧
    (∀ as', as.Perm as' → Compat c as' = Compat c as) :=
  ⟨Option.isSome_iff_exists.trans (mergeAll_succeeds_iff hc hw), Compat_iff, fun _ hp => (Compat_perm hp).symm⟩

example : Compat Graph.empty [exSite, exNet] = true ∧ Compat Graph.empty [exNet, exSite] = true ∧
    Compat Graph.empty [exSite, exSite] = false := by decide +kernel

/-- After any sequence of successful merges from the empty model every element records exactly the models that
contributed it (in merge order), and the elements are exactly those with a contributor. -/
theorem provenance_exact {as : List Adm} {g : Graph} (hw : ∀ a ∈ as, a.WF) (h : mergeAll Graph.empty as = some g) (i : String) :
    g.provOf i = contributors as i ∧ (g.has i = true ↔ contributors as i ≠ []) := by
  have m := (MergedAll.of_mergeAll Graph.empty_WF hw h).madeOf
  exact ⟨m.prov i, m.has_iff_contributors i⟩

example : mergeAll Graph.empty [exSite, exNet] ≠ none ∧ contributors [exSite, exNet] "port" = ["adm-site", "adm-net"] := by decide +kernel

/-- The name a delegation has INSIDE its model plays no role: re-keying to `aid` gives the same entry whatever the old id was -
in particular when the old id already IS `aid` (a model that was re-keyed before, or whose aggregate named its delegations
after the delegation graph) the entry is kept, not dropped. -/
theorem rekey_ignores_inner_id (aid k k' d : String) :
    (Deleg.dict [(k, d)]).rekey aid = .ok (.dict [(aid, d)]) ∧ (Deleg.dict [(k, d)]).rekey aid = (Deleg.dict [(k', d)]).rekey aid ∧
    (Deleg.dict [(aid, d)]).rekey aid = .ok (.dict [(aid, d)]) := ⟨rfl, rfl, rfl⟩

/-- `rewrite_delegations` is idempotent on a delegation property: what it returns is a fixed point. -/
theorem rekey_idempotent (aid : String) (x y : Deleg) (h : x.rekey aid = .ok y) : y.rekey aid = .ok y := by
  obtain ⟨_, rfl⟩ := Deleg.rekey_iff.mp h
  exact Deleg.rekey_iff.mpr ⟨Deleg.rk_single x aid, (Deleg.rk_rk x aid).symm⟩

/-- `rewrite_delegations` + provenance stamp on one node (`stampNode`): stamping a stamped node again with the same id changes nothing. -/
theorem stampNode_idempotent (aid : String) (n m : Node) (h : stampNode aid n = .ok m) : stampNode aid m = .ok m := by
  obtain ⟨_, rfl⟩ := stampNode_iff.mp h
  exact stampNode_iff.mpr ⟨⟨Deleg.rk_single _ aid, Deleg.rk_single _ aid⟩, (stampT_stampT aid n).symm⟩

/-- `rewrite_delegations(real_adm_id)` + provenance stamp on a whole model (the temporary clone of `merge_adm`): a model that was
stamped with its id before is left exactly as it is - nothing is lost when old and new delegation ids coincide. -/
theorem stampAll_idempotent (aid : String) : ∀ (l m : List Node), stampAll aid l = .ok m → stampAll aid m = .ok m := by
  intro l m h
  obtain ⟨_, rfl⟩ := stampAll_iff.mp h
  refine stampAll_iff.mpr ⟨fun n hn => ?_, ?_⟩
  · obtain ⟨x, _, rfl⟩ := List.mem_map.mp hn
    exact ⟨Deleg.rk_single _ aid, Deleg.rk_single _ aid⟩
  · rw [List.map_map]
    exact List.map_congr_left fun n _ => (stampT_stampT aid n).symm

example : (Deleg.dict [("adm-1", "cap")]).rekey "adm-1" = .ok (.dict [("adm-1", "cap")]) := rfl

/-- Every delegation in a model built by merges is a single entry keyed by the graph id of a merged model that
carried that delegation (with the same details) on that element.  (The converse is part of
`reachable_provenance_and_delegations`.) -/
theorem delegations_keyed_by_adm {as : List Adm} {g : Graph} (hw : ∀ a ∈ as, a.WF) (h : mergeAll Graph.empty as = some g)
    (i : String) (l : List (String × String)) :
    (g.ldelOf i = .dict l → ∃ a ∈ as, ∃ k d, a.g.ldelOf i = .dict [(k, d)] ∧ l = [(a.id, d)]) ∧
    (g.cdelOf i = .dict l → ∃ a ∈ as, ∃ k d, a.g.cdelOf i = .dict [(k, d)] ∧ l = [(a.id, d)]) := by
  have m := (MergedAll.of_mergeAll Graph.empty_WF hw h).madeOf
  exact ⟨m.keyed (cap := false), m.keyed (cap := true)⟩

/-- one step: what the merged model holds on an element is the combined model's delegation if it has one, otherwise
the merged model's re-keyed by its graph id; never both (the merge raises). -/
theorem delegations_step {c : Graph} {a : Adm} {g : Graph} (hc : c.WF) (h : mergeN c a = (none, g)) (i : String) :
    g.ldelOf i = (c.ldelOf i).take ((a.g.ldelOf i).rk a.id) ∧ g.cdelOf i = (c.cdelOf i).take ((a.g.cdelOf i).rk a.id) ∧
    ((c.ldelOf i).live && ((a.g.ldelOf i).rk a.id).live) = false ∧
    ((c.cdelOf i).live && ((a.g.cdelOf i).rk a.id).live) = false :=
  let hs := merge_step hc.closed h
  ⟨hs.ldel i, hs.cdel i, hs.lnoconf i, hs.cnoconf i⟩

/-- non-vacuity: the site and the network model merge in both orders -/
example : (mergeN Graph.empty exSite).1 = none ∧ (mergeN (mergeN Graph.empty exSite).2 exNet).1 = none ∧
    (mergeN Graph.empty exNet).1 = none ∧ (mergeN (mergeN Graph.empty exNet).2 exSite).1 = none := by decide +kernel

/-- Full equality fails: the stitch node `port` keeps the properties of whichever model was merged first
(the code's documented "use CBM" policy). -/
theorem merge_comm_counterexample :
    (mergeN (mergeN Graph.empty exSite).2 exNet).1 = none ∧ (mergeN (mergeN Graph.empty exNet).2 exSite).1 = none ∧
    (mergeN (mergeN Graph.empty exSite).2 exNet).2.propsOf "port" = some [("StitchNode", "true"), ("Model", "site")] ∧
    (mergeN (mergeN Graph.empty exNet).2 exSite).2.propsOf "port" = some [("StitchNode", "false"), ("Model", "net")] := by
  decide +kernel

/-- **Order independence for all permutations, up to first-wins data of shared elements** (the known findings
`merge_order:first-wins:*`): if a sequence of models merges, every permutation of it merges, with the same elements, the
same connections, the same provenance sets, the same delegations; element (connection) data is the same wherever the
element (connection) is in the initial model or is contributed by at most one of the models.  What differs otherwise is
given exactly by `merge_first_wins_exact`. -/
theorem merge_order_independent_up_to_first_wins {c : Graph} {as as' : List Adm} {g : Graph} (hc : c.WF) (hw : ∀ a ∈ as, a.WF)
    (hp : as.Perm as') (h : mergeAll c as = some g) :
    ∃ g', mergeAll c as' = some g' ∧ SameUpToFirstWins c as g g' := by
  have hw' : ∀ a ∈ as', a.WF := fun a ha => hw a (hp.mem_iff.mpr ha)
  have hcomp : Compat c as = true := (mergeAll_succeeds_iff hc hw).mp ⟨g, h⟩
  obtain ⟨g', hg'⟩ := (mergeAll_succeeds_iff hc hw').mpr (by rw [← Compat_perm hp]; exact hcomp)
  exact ⟨g', hg', (MergedAll.of_mergeAll hc hw h).perm (MergedAll.of_mergeAll hc hw' hg') hp (Compat_iff.mp hcomp).2⟩

example : [exSite, exNet].Perm [exNet, exSite] ∧ mergeAll Graph.empty [exSite, exNet] ≠ none :=
  ⟨List.Perm.swap _ _ _, by decide +kernel⟩

/-- `merge (merge c a) b ≈ merge (merge c b) a`, the two-model case of `merge_order_independent_up_to_first_wins`.  What is missing
for full equality: the properties of elements / connections shared by `a` and `b` only - see `merge_comm_counterexample`. -/
theorem merge_comm_partial {c : Graph} {a b : Adm} {g1 g1' g2 g2' : Graph} (hc : c.WF) (ha : a.WF) (hb : b.WF)
    (h1 : mergeN c a = (none, g1)) (h1' : mergeN g1 b = (none, g1'))
    (h2 : mergeN c b = (none, g2)) (h2' : mergeN g2 a = (none, g2')) :
    (∀ i, g1'.has i = g2'.has i) ∧
    (∀ x y, g1'.hasEdge x y = g2'.hasEdge x y) ∧
    (∀ i, (g1'.provOf i).Perm (g2'.provOf i)) ∧
    (∀ i, g1'.ldelOf i = g2'.ldelOf i ∧ g1'.cdelOf i = g2'.cdelOf i) ∧
    (∀ i, (c.has i = true ∨ ¬(a.g.has i = true ∧ b.g.has i = true)) → g1'.propsOf i = g2'.propsOf i) ∧
    (∀ x y, (c.hasEdge x y = true ∨ ¬(a.g.hasEdge x y = true ∧ b.g.hasEdge x y = true)) →
        g1'.edgeData x y = g2'.edgeData x y) := by
  have hw : ∀ x ∈ [a, b], x.WF := List.forall_mem_cons.mpr ⟨ha, List.forall_mem_cons.mpr ⟨hb, fun _ h => nomatch h⟩⟩
  obtain ⟨g', hg', S⟩ := merge_order_independent_up_to_first_wins hc hw (List.Perm.swap b a [])
    (show mergeAll c [a, b] = some g1' by simp only [mergeAll, h1, h1'])
  obtain rfl : g2' = g' := by simpa only [mergeAll, h2, h2', Option.some.injEq] using hg'
  have two : ∀ p : Adm → Bool, ¬(p a = true ∧ p b = true) → ([a, b].filter p).length ≤ 1 := by
    intro p h
    cases hpa : p a <;> cases hpb : p b <;> simp_all [List.filter]
  exact ⟨fun i => (S.has i).symm, fun x y => (S.hasEdge x y).symm, fun i => (S.prov i).symm, fun i => ⟨(S.ldel i).symm, (S.cdel i).symm⟩,
    fun i hi => (S.props i (hi.imp_right (two _))).symm, fun x y hi => (S.edgeData x y (hi.imp_right (two _))).symm⟩

/-! What the property says of unmerge: `unmerge (merge c a) a.id ≈ c` for every combined model `c` and model `a` whose merge succeeds,
`≈` identifying an emptied delegation with an absent one.  The code needs two guards (`unmerge_inverse_counterexample_edge`,
`unmerge_inverse_counterexample_id`). -/

/-- Guarded inverse (`Fresh`, `Proved`, `EdgeGuard`): unmerge succeeds and restores `c` exactly (node order, properties, provenance,
connections and their data), delegations up to `'' = absent`. -/
theorem unmerge_inverse {c : Graph} {a : Adm} {g : Graph} (hc : c.WF) (hm : mergeN c a = (none, g))
    (hfresh : c.Fresh a.id) (hprov : c.Proved) (hguard : EdgeGuard c a) :
    (unmerge g a.id).1 = none ∧ (unmerge g a.id).2.norm = c.norm :=
  unmerge_merge hc hm hfresh hprov hguard

/-- The same for every combined model reachable by merges from the empty one: the invariants are discharged, what
remains is that the unmerged model's graph id differs from those merged before, and the connection guard. -/
theorem unmerge_inverse_reachable {as : List Adm} {c : Graph} {a : Adm} {g : Graph}
    (hw : ∀ b ∈ as, b.WF) (hc : mergeAll Graph.empty as = some c) (hid : ∀ b ∈ as, b.id ≠ a.id)
    (hm : mergeN c a = (none, g)) (hguard : EdgeGuard c a) :
    (unmerge g a.id).1 = none ∧ (unmerge g a.id).2.norm = c.norm :=
  let m := MergedAll.of_mergeAll Graph.empty_WF hw hc
  m.madeOf.unmerge_inverse m.wf hid hm hguard

example : mergeAll Graph.empty [exSite] = some (mergeN Graph.empty exSite).2 ∧ (∀ b ∈ [exSite], b.id ≠ exNet.id) := by decide +kernel

/-- `unmerge_adm` never raises ("more than one delegation") on a non-empty combined model built by merges, whatever
graph id it is given: every delegation there has exactly one entry. -/
theorem unmerge_total_on_reachable {as : List Adm} {g : Graph} (hw : ∀ a ∈ as, a.WF)
    (h : mergeAll Graph.empty as = some g) (hne : g.nodes ≠ []) (gid : String) : (unmerge g gid).1 = none :=
  congrArg (·.1) ((MergedAll.of_mergeAll Graph.empty_WF hw h).madeOf.unmerge_total hne gid)

/-- non-vacuity: the guards hold for the network model against the combined model holding the site model, and the
combined model gets a delegation and an element from it -/
example : let c := (mergeN Graph.empty exSite).2
    c.WF ∧ (mergeN c exNet).1 = none ∧ c.Fresh exNet.id ∧ c.Proved ∧ EdgeGuard c exNet ∧
    (mergeN c exNet).2.ldelOf "port" = .dict [("adm-net", "lab")] ∧ (mergeN c exNet).2.has "link" = true := by
  refine ⟨⟨by decide +kernel, by decide +kernel, by decide +kernel⟩, by decide +kernel, by decide +kernel, by decide +kernel, by decide +kernel, by decide +kernel, by decide +kernel⟩

/-- the merged combined model of the example is not `c` (the theorem is not about a no-op) -/
example : (mergeN (mergeN Graph.empty exSite).2 exNet).2.norm ≠ (mergeN Graph.empty exSite).2.norm := by decide +kernel

def exXY : Adm := ⟨"adm-xy", ⟨[⟨"x", [], [], .absent, .dict [("p", "cap")]⟩, ⟨"y", [], [], .absent, .absent⟩], []⟩⟩
def exXYedge : Adm := ⟨"adm-e", ⟨[⟨"x", [], [], .absent, .absent⟩, ⟨"y", [], [], .absent, .absent⟩, ⟨"z", [], [], .absent, .absent⟩],
                                  [⟨"x", "y", [("Class", "connects")]⟩]⟩⟩
def exXYsameId : Adm := ⟨"adm-xy", ⟨[⟨"x", [], [], .absent, .absent⟩, ⟨"z", [], [], .absent, .absent⟩], []⟩⟩

/-- without the connection guard: a connection between two shared elements contributed only by the unmerged model
stays (connections carry no provenance) -/
theorem unmerge_inverse_counterexample_edge :
    let c := (mergeN Graph.empty exXY).2
    (mergeN c exXYedge).1 = none ∧ c.Fresh exXYedge.id ∧ c.Proved ∧ ¬ EdgeGuard c exXYedge ∧
    (unmerge (mergeN c exXYedge).2 exXYedge.id).1 = none ∧
    c.hasEdge "x" "y" = false ∧ (unmerge (mergeN c exXYedge).2 exXYedge.id).2.hasEdge "x" "y" = true := by
  decide +kernel

/-- without freshness of the graph id: unmerging also removes the delegation the earlier model with that id gave -/
theorem unmerge_inverse_counterexample_id :
    let c := (mergeN Graph.empty exXY).2
    (mergeN c exXYsameId).1 = none ∧ ¬ c.Fresh exXYsameId.id ∧ c.Proved ∧ EdgeGuard c exXYsameId ∧
    (unmerge (mergeN c exXYsameId).2 exXYsameId.id).1 = none ∧
    c.norm.cdelOf "x" = .dict [("adm-xy", "cap")] ∧
    (unmerge (mergeN c exXYsameId).2 exXYsameId.id).2.norm.cdelOf "x" = .absent := by
  decide +kernel

/-- **Unmerge of any graph id on any combined model satisfying the invariant** (every model reachable by a history,
`history_invariant`): it does not raise; an element goes exactly when the unmerged model was its only contributor, otherwise the
model's id leaves its provenance; a delegation keyed by that id is erased; element data and the connections between surviving
elements stay as they were (they carry no provenance: the known findings `unmerge:edge-between-shared-nodes-stays` and
`unmerge:shared-node-keeps-unmerged-model-properties`); and the result satisfies the invariant for the remaining models. -/
theorem unmerge_removes_exactly {pool : List Adm} {c : Graph} {live : List Adm} (t : Tracks pool c live) (hne : c.nodes ≠ [])
    (gid : String) :
    ∃ g', unmerge c gid = (none, g') ∧ UnmergeStep c gid g' ∧ Tracks pool g' (live.filter (fun a => a.id != gid)) := by
  have hu := t.madeOf.unmerge_total hne gid
  exact ⟨_, hu, unmerge_step t.wf hu, t.unmerge hu⟩

/-- **Unmerge of any previously merged model, not only the last**: for a combined model built from `pre ++ a :: post`
(distinct graph ids), unmerging `a` succeeds and gives the combined model built from `pre ++ post` as far as elements,
provenance and delegations (`'' = absent`) go; the connections are those of that model plus `a`'s connections between
elements that stay; surviving elements and connections keep the data they had, which is the data `pre ++ post` gives them
unless `a` was their first contributor (`UnmergedVs`). -/
theorem unmerge_any_merged {pre post : List Adm} {a : Adm} {g : Graph} (hw : ∀ b ∈ pre ++ a :: post, b.WF)
    (hn : ((pre ++ a :: post).map (·.id)).Nodup) (h : mergeAll Graph.empty (pre ++ a :: post) = some g) :
    ∃ g' g0, unmerge g a.id = (none, g') ∧ mergeAll Graph.empty (pre ++ post) = some g0 ∧ UnmergedVs pre post a g g' g0 := by
  have hsl : (pre ++ post).Sublist (pre ++ a :: post) := (List.sublist_cons_self a post).append_left pre
  have hw0 : ∀ b ∈ pre ++ post, b.WF := fun b hb => hw b (hsl.subset hb)
  have hcomp : Compat Graph.empty (pre ++ a :: post) = true := (mergeAll_succeeds_iff Graph.empty_WF hw).mp ⟨g, h⟩
  obtain ⟨g0, hg0⟩ := (mergeAll_succeeds_iff Graph.empty_WF hw0).mpr (Compat_sublist hsl hcomp)
  have d := MergedAll.of_mergeAll Graph.empty_WF hw h
  have t := d.tracks hw hn hcomp
  have hne : g.nodes ≠ [] := nodes_ne_nil_mono (t.nonempty a (by simp)) fun _ => t.madeOf.has_of_mem (by simp)
  obtain ⟨g', hu, us, t'⟩ := unmerge_removes_exactly t hne a.id
  rw [filter_id_ne hn] at t'
  exact ⟨g', g0, hu, hg0, .of d (MergedAll.of_mergeAll Graph.empty_WF hw0 hg0) us t'.madeOf fun b hb => (hw0 b hb).closed⟩

def exThird : Adm := ⟨"adm-3", ⟨[⟨"port", [("StitchNode", "true"), ("Model", "third")], [], .absent, .absent⟩,
                                  ⟨"sw3", [("Class", "NetworkNode")], [], .absent, .dict [("primary", "cap3")]⟩],
                                 [⟨"sw3", "port", [("Class", "connects")]⟩]⟩⟩
theorem exThird_WF : exThird.WF := ⟨by decide +kernel, by decide +kernel, by decide +kernel⟩

/-- non-vacuity: three models sharing the element `port`, the middle one unmerged -/
example : (∀ b ∈ [exSite] ++ exNet :: [exThird], b.WF) ∧ (([exSite] ++ exNet :: [exThird]).map (·.id)).Nodup ∧
    mergeAll Graph.empty ([exSite] ++ exNet :: [exThird]) ≠ none := by
  refine ⟨?_, by decide +kernel, by decide +kernel⟩
  intro b hb
  simp only [List.cons_append, List.nil_append, List.mem_cons, List.not_mem_nil, or_false] at hb
  rcases hb with rfl | rfl | rfl
  · exact exSite_WF
  · exact exNet_WF
  · exact exThird_WF

/-- **Unmerge of a model that was never merged** (its graph id occurs nowhere in the combined model) changes nothing. -/
theorem unmerge_never_merged_noop {c : Graph} {gid : String} (hc : c.WF) (hne : c.nodes ≠ []) (hf : c.Fresh gid) :
    unmerge c gid = (none, c) :=
  unmerge_fresh_noop hc.closed hne hf

example : let c := (mergeN Graph.empty exSite).2; c.nodes ≠ [] ∧ c.Fresh "nobody" := by decide +kernel

def exPlain : Adm := ⟨"adm-p", ⟨[⟨"x", [], [], .absent, .absent⟩, ⟨"y", [], [], .absent, .absent⟩], [⟨"x", "y", []⟩]⟩⟩

/-- Why histories must not merge a model that is already part of the combined model (`OpOk` asks for `Fresh`): the
provenance lists the model twice and one unmerge does not take its elements out again. -/
theorem remerge_counterexample :
    let c := (mergeN Graph.empty exPlain).2
    (mergeN c exPlain).1 = none ∧ (mergeN c exPlain).2.provOf "x" = ["adm-p", "adm-p"] ∧
    (unmerge (mergeN c exPlain).2 "adm-p").1 = none ∧ (unmerge (mergeN c exPlain).2 "adm-p").2.has "x" = true ∧
    (unmerge c "adm-p").2.has "x" = false := by
  decide +kernel

/-- **The invariant over all histories**: starting from an empty combined model next to the source models `srcs`, after
every history of merge / unmerge / snapshot / rollback in which a merge names a well-formed model that is not currently
part of the combined model and does not raise half-way (`HistOk`; unmerge of any id, snapshots and rollbacks to any index -
existing or not - are unrestricted), the combined model *and every snapshot* is tracked by a list of source models with
distinct ids: `Tracks`. -/
theorem history_invariant (srcs : List Adm) (ops : List Op) (hok : HistOk (World.init srcs) ops) :
    WInv (run (World.init srcs) ops) :=
  WInv.run ops (WInv.init srcs) hok

/-- The abstract world of these theorems keeps the sources by construction; the content of the clause is in
`sources_untouched_by_every_history` (model of the store) and in the correspondence, which compares the real sources'
snapshots with the store model's after every step. -/
theorem merge_sources_untouched (w : World) (ops : List Op) : (run w ops).srcs = w.srcs := by
  induction ops generalizing w with
  | nil => rfl
  | cons op ops ih => simp only [run]; rw [ih, step_srcs]

/-- **Provenance and delegations, for every reachable combined model**: what `provenance_exact` and `delegations_keyed_by_adm`
say after a sequence of merges holds after every history, of the source models `live` currently merged (distinct graph ids); and
conversely every delegation a live model carries is there under that model's id. -/
theorem reachable_provenance_and_delegations (srcs : List Adm) (ops : List Op) (hok : HistOk (World.init srcs) ops) :
    ∃ live : List Adm, (∀ a ∈ live, a ∈ srcs) ∧ (live.map (·.id)).Nodup ∧
      (∀ i, (run (World.init srcs) ops).cbm.provOf i = contributors live i ∧
            ((run (World.init srcs) ops).cbm.has i = true ↔ contributors live i ≠ [])) ∧
      (∀ i l, (run (World.init srcs) ops).cbm.ldelOf i = .dict l →
            ∃ a ∈ live, ∃ k d, a.g.ldelOf i = .dict [(k, d)] ∧ l = [(a.id, d)]) ∧
      (∀ i l, (run (World.init srcs) ops).cbm.cdelOf i = .dict l →
            ∃ a ∈ live, ∃ k d, a.g.cdelOf i = .dict [(k, d)] ∧ l = [(a.id, d)]) ∧
      (∀ a ∈ live, ∀ i k d, a.g.ldelOf i = .dict [(k, d)] → (run (World.init srcs) ops).cbm.ldelOf i = .dict [(a.id, d)]) ∧
      (∀ a ∈ live, ∀ i k d, a.g.cdelOf i = .dict [(k, d)] → (run (World.init srcs) ops).cbm.cdelOf i = .dict [(a.id, d)]) := by
  obtain ⟨⟨live, t⟩, _⟩ := history_invariant srcs ops hok
  rw [merge_sources_untouched] at t
  have m := t.madeOf
  exact ⟨live, t.sub, t.ids, fun i => ⟨m.prov i, m.has_iff_contributors i⟩, fun _ _ => m.keyed (cap := false), fun _ _ => m.keyed (cap := true),
    fun _ ha _ _ _ => m.carries t.compat (cap := false) ha, fun _ ha _ _ _ => m.carries t.compat (cap := true) ha⟩

/-- non-vacuity: a history with three models sharing `port`, unmerge of the middle one, unmerge of an id never merged, a
snapshot, a re-merge of the unmerged model, a rollback to the snapshot and a merge of an id no source has -/
def exHistory : List Op :=
  [.merge "adm-site", .merge "adm-net", .merge "adm-3", .unmerge "adm-net", .unmerge "nobody", .snapshot,
   .merge "adm-net", .rollback 0, .merge "no-such-model"]

example : HistOk (World.init [exSite, exNet, exThird]) exHistory ∧
    (run (World.init [exSite, exNet, exThird]) exHistory).cbm.provOf "port" = ["adm-site", "adm-3"] ∧
    (run (World.init [exSite, exNet, exThird]) (exHistory.take 7)).cbm.provOf "port" = ["adm-site", "adm-3", "adm-net"] := by
  decide +kernel

/-- Take a snapshot of a non-empty combined model, run any history of merge / unmerge / snapshot / rollback that does
not roll back to that snapshot, then roll back to it: the combined model is exactly what it was. -/
theorem rollback_restores (w : World) (hne : w.cbm.nodes ≠ []) (ops : List Op) (hops : ∀ op ∈ ops, op ≠ .rollback w.next) :
    (snapshot w).1 = none ∧
    (rollback (run (snapshot w).2 ops) w.next).1 = none ∧
    (rollback (run (snapshot w).2 ops) w.next).2.cbm = w.cbm := by
  have hs : snapshot w = (none, { w with snaps := (w.next, w.cbm) :: w.snaps, next := w.next + 1 }) := by
    unfold snapshot
    cases h : w.cbm.nodes with
    | nil => exact absurd h hne
    | cons n l => rfl
  rw [hs]
  have hl := snap_survives w.next w.cbm ops { w with snaps := (w.next, w.cbm) :: w.snaps, next := w.next + 1 }
    (by simp [lookupSnap]) (Nat.lt_succ_self _) hops
  simp [rollback, hl]

/-- non-vacuity: a history with a merge, an unmerge, another snapshot and a rollback to that other snapshot in between -/
example : let w : World := { World.init [exSite, exNet] with cbm := (mergeN Graph.empty exSite).2 }
    w.cbm.nodes ≠ [] ∧ (∀ op ∈ [Op.merge "adm-net", .snapshot, .unmerge "adm-site", .rollback 1], op ≠ .rollback w.next) ∧
    (run (snapshot w).2 [Op.merge "adm-net", .snapshot, .unmerge "adm-site", .rollback 1]).cbm ≠ w.cbm := by
  decide +kernel

/-- `merge_adm` iterates a Python set of common node ids; the driver is given that order by the harness.  A merge
that succeeds gives the same result for every order, so the theorems above (stated for `mergeN`, which uses the
combined model's node order) cover whatever order CPython picks. -/
theorem merge_iteration_order_irrelevant (c : Graph) (a : Adm) (o : List String)
    (h : ∀ x, x ∈ o ↔ x ∈ common c a.g) :
    ((mergeOrdN c a o).1 = none → mergeOrdN c a o = mergeN c a) ∧ ((mergeOrd c a o).1 = none → mergeOrd c a o = mergeN c a) :=
  ⟨mergeOrdN_order_irrelevant h, mergeOrd_order_irrelevant h⟩

example : (mergeOrd (mergeN Graph.empty exSite).2 exNet ["port"]).1 = none := by decide +kernel

/-- What running on the shared NetworkX store (`merge`, what the correspondence executes) adds to `mergeN` (what the
theorems are about): nothing - or, when every element of the model was already in the combined model, an exception from the
final GraphID rewrite *after* the merged state is complete.  The states are always the same. -/
theorem merge_on_networkx_store (c : Graph) (a : Adm) :
    (merge c a).2 = (mergeN c a).2 ∧
    (merge c a = mergeN c a ∨ ((mergeN c a).1 = none ∧ vanishes c a = true ∧ merge c a = (some .query, (mergeN c a).2))) :=
  ⟨merge_state c a, mergeOrd_nx c a _⟩

example : vanishes (mergeN Graph.empty exPlain).2 exPlain = true ∧ (merge (mergeN Graph.empty exPlain).2 exPlain).1 = some .query ∧
    (mergeN (mergeN Graph.empty exPlain).2 exPlain).1 = none := by decide +kernel

/-! The tie to the source: plans and tables generated from the code (`gen/cbmcfg.py` → `Generated/CbmCfg.lean`). -/

/-- The calls `merge_adm` / `unmerge_adm` / `snapshot` / `rollback` make - which, on which graph object, in which order, as
observed on the code of the current tree - are the ones the abstract model mirrors.  (The driver executes the *generated*
plans; a re-ordered, dropped or re-addressed call changes them and breaks this equation.) -/
theorem plans_are_the_modelled_ones : FimVerif.Gen.CbmCfg.plans = modelPlans := by decide +kernel

/-- The model's decision functions agree with the code on every row of the generated tables:
`rewrite_delegations` = `Deleg.rekey`, `_update_node_delegations` = `conflict` + `Deleg.take` (for either kind of delegation),
the delegation part of `unmerge_adm` = `Deleg.unmerge`, its provenance part = `provUnmerge`; `merge_nodes` keeps the caller's
node and edge data (first wins), drops the other node and leaves no extra attribute.  `"G"` and `"g"` are the graph ids the generator's
probes pass to `rewrite_delegations` and `unmerge_adm`; `caller-node-count = 3`: the probe's caller graph has three nodes and still has
three after two calls of `merge_nodes` (no node of the other graph comes over). -/
theorem tables_agree_with_model :
    (FimVerif.Gen.CbmCfg.rekeyTable.all fun r =>
      match r.input.rekey "G", r.out, r.err with
      | .ok d, some d', none => d == d'
      | .error e, none, some e' => e == e'
      | _, _, _ => false) = true ∧
    (FimVerif.Gen.CbmCfg.takeTable.all fun r =>
      let cl : Node := ⟨"n", [], [], r.cbm, .absent⟩
      let tl : Node := ⟨"n", [], [], r.adm, .absent⟩
      let cc : Node := ⟨"n", [], [], .absent, r.cbm⟩
      let tc : Node := ⟨"n", [], [], .absent, r.adm⟩
      (if conflict cl tl then none else some ((mergeNode "G" cl tl).ldel)) == r.out &&
      (if conflict cc tc then none else some ((mergeNode "G" cc tc).cdel)) == r.out) = true ∧
    (FimVerif.Gen.CbmCfg.unmergeDelegTable.all fun r =>
      match r.input.unmerge "g" with
      | .ok d => r.out == some d
      | .error _ => r.out == none) = true ∧
    (FimVerif.Gen.CbmCfg.provTable.all fun r => provUnmerge "g" r.input == r.out) = true ∧
    FimVerif.Gen.CbmCfg.mergeNodesPolicy =
      [("shared-property", "caller"), ("caller-only-property", "kept"), ("other-only-property", "dropped"),
       ("shared-edge-data", "caller"), ("shared-edge-extra-keys", ""), ("other-node", "gone"), ("caller-node-count", "3")] ∧
    (FimVerif.Gen.CbmCfg.labelDelegationsProp, FimVerif.Gen.CbmCfg.capacityDelegationsProp, FimVerif.Gen.CbmCfg.provenanceProp,
      FimVerif.Gen.CbmCfg.provenanceField, FimVerif.Gen.CbmCfg.graphIdProp) =
      ("LabelDelegations", "CapacityDelegations", "StructuralInfo", "adm_graph_ids", "GraphID") := by
  decide +kernel

/-- The plans the driver runs, generated from the code, address the combined model and the temporary graph only: what the frame theorems
(`mergeAdm_frame`, `srun_frame`) ask of a plan. -/
theorem generated_plans_safe : FimVerif.Gen.CbmCfg.plans.Safe := plans_are_the_modelled_ones ▸ modelPlans_safe

/-- **One call**: `merge_adm` (also when it raises half-way) leaves the view of every graph of the shared store other than
the combined model and its temporary graph as it was - the merged delegation model and the other source models in
particular.  `KeysOK`: internal node ids are unique and below the store's allocator. -/
theorem merge_does_not_alter_other_graphs (e : Env) (order : List String) {s : Store} (hk : s.KeysOK) {g : String}
    (hc : g ≠ e.cbm) (ht : g ≠ e.tmp) :
    (s.mergeAdm FimVerif.Gen.CbmCfg.plans e order).2.view g = s.view g :=
  (mergeAdm_frame generated_plans_safe e order hk hc ht).1

/-- **All histories**: whatever merge / unmerge / snapshot / rollback calls a broker makes on the shared store, the view of
every graph other than the combined model, the temporary graphs and the snapshots never changes. -/
theorem sources_untouched_by_every_history (N : Names) {g : String} (hc : g ≠ N.cbm) (ht : ∀ n, g ≠ N.tmp n)
    (hs : ∀ k, g ≠ N.snap k) (ops : List SOp) {w : SWorld} (hk : w.s.KeysOK) :
    (srun FimVerif.Gen.CbmCfg.plans N w ops).s.view g = w.s.view g :=
  (srun_frame generated_plans_safe N hc ht hs ops hk).1

def exNames : Names := ⟨"CBM", fun n => "tmp-" ++ toString n, fun k => "snap-" ++ toString k⟩
def exStore : Store := (Store.empty.load exSite).load exNet

/-- non-vacuity: a store holding the site and the network model; the history changes the store, the sources' views stay -/
example : exStore.KeysOK ∧
    (let w := srun FimVerif.Gen.CbmCfg.plans exNames ⟨exStore, 0, 0⟩
        [.merge "adm-site" [], .merge "adm-net" ["port"], .snapshot, .unmerge "adm-site", .rollback 0]
     (w.s.view "CBM").nodes.length = 3 ∧ w.s.view "adm-net" = exNet.g ∧ w.s.view "adm-site" = exSite.g) := by
  refine ⟨load_keysOK (load_keysOK Store.empty_keysOK exSite exSite_WF.nodup) exNet exNet_WF.nodup, by decide +kernel⟩

/-! The source models move on between the calls (`unmerge_adm` takes a graph id, not a model). -/

/-- **The invariant over all histories in which the source models are updated, reloaded under their id or deleted between
the broker's calls** (`UOp.update`: the graph stored under the id is from now on the version given; `merge` takes the newest
version, the other calls do not look at the sources): the combined model and every snapshot are tracked by a list of
versions with distinct ids - the versions that were merged, whatever the store holds under their ids now. -/
theorem history_invariant_with_source_updates (srcs : List Adm) (ops : List UOp) (hok : UHistOk (World.init srcs) ops) :
    WInv (urun (World.init srcs) ops) :=
  WInv.urun ops (WInv.init srcs) hok

/-- **Unmerge after the source has moved on**: in any state satisfying the invariant the source `a.id` is replaced by any other
version `a` (or deleted: no elements); unmerging any id then does exactly what it does without the update
(`unmerge_removes_exactly`): it takes out what only the MERGED version of that id contributed, and leaves a combined model tracked
by the remaining live versions. -/
theorem unmerge_after_source_update {w : World} (h : WInv w) (hne : w.cbm.nodes ≠ []) (a : Adm) (gid : String) :
    ∃ live g', Tracks w.srcs w.cbm live ∧ step (w.update a) (.unmerge gid) = (none, { w.update a with cbm := g' }) ∧
      (step w (.unmerge gid)).2.cbm = g' ∧ UnmergeStep w.cbm gid g' ∧
      Tracks (w.update a).srcs g' (live.filter (fun b => b.id != gid)) := by
  obtain ⟨⟨live, t⟩, _⟩ := h
  obtain ⟨g', hu, hs, t'⟩ := unmerge_removes_exactly t hne gid
  refine ⟨live, g', t, ?_, ?_, hs, t'.mono (fun b hb => List.mem_cons_of_mem _ hb)⟩
  · show ((unmerge w.cbm gid).1, { w.update a with cbm := (unmerge w.cbm gid).2 }) = _
    rw [hu]
  · show (unmerge w.cbm gid).2 = g'
    rw [hu]

/-- Tie to the source: the result of `unmerge_adm(graph_id)` on the code does not depend on what the store holds under that
id when it is called (behavioural probe of gen/cbmcfg.py, regenerated every run) - as in the model, where `unmerge` has no
access to the sources (`unmerge_ignores_sources`). -/
theorem unmerge_reads_only_the_combined_model : FimVerif.Gen.CbmCfg.unmergeIgnoresSourceModel = true ∧
    ∀ (w : World) (srcs' : List Adm) (gid : String),
      (step { w with srcs := srcs' } (.unmerge gid)).1 = (step w (.unmerge gid)).1 ∧
      (step { w with srcs := srcs' } (.unmerge gid)).2.cbm = (step w (.unmerge gid)).2.cbm :=
  ⟨by decide +kernel, unmerge_ignores_sources⟩

/-- the updated advertisement of the site: the switch was swapped, the port stays -/
def exSite2 : Adm := ⟨"adm-site", ⟨[⟨"sw-2", [("Class", "NetworkNode")], [], .absent, .dict [("primary", "cap2")]⟩,
                                     ⟨"port", [("StitchNode", "true"), ("Model", "site")], [], .absent, .absent⟩],
                                    [⟨"sw-2", "port", [("Class", "connects")]⟩]⟩⟩

/-- non-vacuity: merge site and network, the site's advertisement is replaced under its id, the old one is unmerged (its
switch goes although the stored model no longer has it), the new one merged; then the site model is deleted and unmerged -/
def exUpdateHistory : List UOp :=
  [.op (.merge "adm-site"), .op (.merge "adm-net"), .op .snapshot, .update exSite2, .op (.unmerge "adm-site"), .op (.merge "adm-site"),
   .update ⟨"adm-site", ⟨[], []⟩⟩, .op (.unmerge "adm-site"), .op (.merge "adm-site")]

example : UHistOk (World.init [exSite, exNet]) exUpdateHistory ∧
    (urun (World.init [exSite, exNet]) (exUpdateHistory.take 3)).cbm.has "sw" = true ∧
    (urun (World.init [exSite, exNet]) (exUpdateHistory.take 5)).cbm.has "sw" = false ∧
    (urun (World.init [exSite, exNet]) (exUpdateHistory.take 5)).cbm.provOf "port" = ["adm-net"] ∧
    (urun (World.init [exSite, exNet]) (exUpdateHistory.take 6)).cbm.has "sw-2" = true ∧
    (urun (World.init [exSite, exNet]) (exUpdateHistory.take 6)).cbm.cdelOf "sw-2" = .dict [("adm-site", "cap2")] ∧
    (urun (World.init [exSite, exNet]) exUpdateHistory).cbm.has "sw-2" = false ∧
    (urun (World.init [exSite, exNet]) exUpdateHistory).cbm.provOf "port" = ["adm-net"] := by
  decide +kernel

end FimVerif.C14
