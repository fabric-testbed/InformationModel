import FimVerif.Proofs.Lemmas.C03Gateway
import FimVerif.Proofs.Lemmas.C03Hist
import FimVerif.Proofs.Lemmas.C03Iso
import FimVerif.Proofs.Lemmas.C03Text
import FimVerif.Proofs.Lemmas.C03Fail
import FimVerif.Proofs.Lemmas.C03Phase
import FimVerif.Generated.MiPhase
import FimVerif.Generated.TTShared
import FimVerif.Model.CodecShared
/-! C03: the attribute value codecs are lossless, canonical and never mutate their input.  The `JSONField` theorems hold of every
`ClassSpec`; the per-class corollaries put in the specs the translator regenerates from `fim/slivers/capacities_labels.py` on every
run (`Generated/Fields.lean`), with the side conditions decided on that table (`specs_sane`), so a changed field list, default, guard
or drop rule is checked again.  `valid` is the (abstract) VALIDATORS predicate of `Labels`. -/
namespace FimVerif.C03
open FimVerif FimVerif.Codec JVal

/-- the constants the hand-written models use are the ones in the code -/
theorem tables_agree :
    Gen.Fields.maintenanceStates = stateNames ∧
    Gen.Fields.maintenanceEntryFields = entryFields ∧
    Gen.Fields.pathTypes = [PType.path.str, PType.graph.str] ∧
    Gen.Fields.neo4jNone = "None" := by decide +kernel

/-- **Exact loss characterisation**: `from_json(to_json(x))` is `x` exactly when no field holds a value the drop rule removes
although it differs from the field's default. -/
theorem roundtrip_iff (c : ClassSpec) (valid : String → JVal → Bool) (hn : (names c).Nodup) (x : Fields)
    (hx : WellTyped c valid x) : RoundTrips c valid x ↔ NoLoss c x := by
  -- either side says that what reads back from the encoding (`readBack`) is `x`
  rw [← readBack_eq_iff c valid hn x hx]
  unfold RoundTrips
  cases he : encode c x with
  | none =>
    rw [readBack_kept_nil c x ((encode_none_iff c x).1 he).1]
    simp [eq_comm]
  | some j => simp [decode_encode c valid hn x hx j he]

/-- **Losslessness**: `from_json(to_json(x)) == x` in every class whose defaults are sane. -/
theorem lossless (c : ClassSpec) (valid : String → JVal → Bool) (hn : (names c).Nodup) (hs : SpecSane c = true)
    (x : Fields) (hx : WellTyped c valid x) : RoundTrips c valid x := by
  rw [roundtrip_iff c valid hn x hx]
  intro f hf hd
  rcases hx.1 f hf with ⟨he, _⟩ | ⟨hdom, _⟩
  · exact he
  · exact noLoss_field c.guard c.drop f.dflt _ (List.all_eq_true.1 hs f hf) hdom hd

/-- a JSONField subclass or a field added to the source shows up in `Gen.Fields.all` on the next run and is covered by this statement
(and by `specs_sane`) without a corollary of its own -/
theorem all_classes_lossless : ∀ c ∈ Gen.Fields.all, ∀ (valid : String → JVal → Bool) (x : Fields),
    WellTyped c valid x → RoundTrips c valid x := by
  intro c hc valid x hx
  obtain ⟨hn, hs, _⟩ := specs_sane c hc
  exact lossless c valid hn hs x hx

open Gen.Fields in
theorem capacities_lossless (valid) (x) (hx : WellTyped capacities valid x) : RoundTrips capacities valid x :=
  all_classes_lossless capacities (by simp [Gen.Fields.all]) valid x hx
open Gen.Fields in
theorem capacityHints_lossless (valid) (x) (hx : WellTyped capacityHints valid x) : RoundTrips capacityHints valid x :=
  all_classes_lossless capacityHints (by simp [Gen.Fields.all]) valid x hx
open Gen.Fields in
theorem labels_lossless (valid) (x) (hx : WellTyped labels valid x) : RoundTrips labels valid x :=
  all_classes_lossless labels (by simp [Gen.Fields.all]) valid x hx
open Gen.Fields in
theorem reservationInfo_lossless (valid) (x) (hx : WellTyped reservationInfo valid x) : RoundTrips reservationInfo valid x :=
  all_classes_lossless reservationInfo (by simp [Gen.Fields.all]) valid x hx
open Gen.Fields in
theorem structuralInfo_lossless (valid) (x) (hx : WellTyped structuralInfo valid x) : RoundTrips structuralInfo valid x :=
  all_classes_lossless structuralInfo (by simp [Gen.Fields.all]) valid x hx
open Gen.Fields in
theorem location_lossless (valid) (x) (hx : WellTyped location valid x) : RoundTrips location valid x :=
  all_classes_lossless location (by simp [Gen.Fields.all]) valid x hx
open Gen.Fields in
theorem flags_lossless (valid) (x) (hx : WellTyped flags valid x) : RoundTrips flags valid x :=
  all_classes_lossless flags (by simp [Gen.Fields.all]) valid x hx

/-- **Re-encode stability**: what `from_json` reads back from `to_json(x)`, even when that lost a field, encodes to the identical text. -/
theorem reencode_stable (c : ClassSpec) (valid) (hn : (names c).Nodup) (hdd : DefaultsDropped c = true)
    (x : Fields) (hx : WellTyped c valid x) (y : Fields)
    (h : decode c valid (encode c x) = .ok (some y)) : encode c y = encode c x ∧ toJson c y = toJson c x := by
  have hy : y = readBack c x := by
    cases he : encode c x with
    | none => rw [he] at h; simp [decode] at h
    | some j =>
      rw [he, decode_encode c valid hn x hx j he] at h
      injection h with h; injection h with h; exact h.symm
  have : encode c y = encode c x := by
    subst hy
    simp only [encode, keptBy_readBack c hn hdd x]
  exact ⟨this, by simp only [toJson, this]⟩

theorem all_classes_reencode_stable : ∀ c ∈ Gen.Fields.all, ∀ (valid : String → JVal → Bool) (x y : Fields),
    WellTyped c valid x → decode c valid (encode c x) = .ok (some y) → toJson c y = toJson c x := by
  intro c hc valid x y hx h
  obtain ⟨hn, _, hdd⟩ := specs_sane c hc
  exact (reencode_stable c valid hn hdd x hx y h).2

/-- **Canonical text** (`json.dumps(d, sort_keys=True)` in `to_json`) -/
theorem encode_sorted (c : ClassSpec) (x : Fields) (kvs : List (String × JVal)) (h : encode c x = some (.obj kvs)) :
    kvs.Pairwise (fun a b => a.1 ≤ b.1) ∧ kvs.Perm (keptBy c.drop c x) := by
  have := encode_some c x _ h
  injection this with this
  subst this
  refine ⟨?_, List.mergeSort_perm _ _⟩
  have := List.pairwise_mergeSort keyLe_trans keyLe_total (keptBy c.drop c x)
  exact this.imp (by intro a b hab; simpa [keyLe] using hab)

/-- **Unknown keys are ignored**: decoding depends only on the pairs whose key is a field -/
theorem unknown_keys_ignored (c : ClassSpec) (valid) (kvs kvs' : List (String × JVal))
    (h : knownOnly c kvs = knownOnly c kvs') :
    decode c valid (some (.obj kvs)) = decode c valid (some (.obj kvs')) := by
  simp only [decode, h]

theorem unknown_key_anywhere (c : ClassSpec) (valid) (a b : List (String × JVal)) (k : String) (v : JVal)
    (hk : k ∉ names c) :
    decode c valid (some (.obj (a ++ (k, v) :: b))) = decode c valid (some (.obj (a ++ b))) := by
  apply unknown_keys_ignored
  simp [knownOnly, hk]

theorem known_fields_survive (c : ClassSpec) (valid) (kvs : List (String × JVal)) (y : Fields)
    (hn : (kvs.map (·.1)).Nodup) (h : decode c valid (some (.obj kvs)) = .ok (some y))
    (k : String) (v : JVal) (hkv : (k, v) ∈ kvs) (hk : k ∈ names c) : y k = v := by
  simp only [decode] at h
  split at h
  · rename_i x hx
    cases h
    exact (setFields_ok_get c valid true _ _ _ hx).2 (hn.sublist (List.filter_sublist.map _)) k v
      (List.mem_filter.2 ⟨hkv, by simpa using hk⟩) hk
  · cases h

/-- **Copy-with-changes** (`JSONField.update`).  That `x` itself stays as it was cannot be said here, where it is an argument: the
harness checks the implementation for mutation. -/
theorem update_pure (c : ClassSpec) (valid) (x y : Fields) (kw : List (String × JVal))
    (hn : (kw.map (·.1)).Nodup) (h : update c valid x kw = .ok y) :
    (∀ k, k ∉ kw.map (·.1) → y k = x k) ∧ (∀ k v, (k, v) ∈ kw → k ∈ names c → y k = v) := by
  have hy := setFields_ok_get c valid false kw x y h
  exact ⟨hy.1, hy.2 hn⟩

/-! `locationOldRule` is the `Location` spec under a `to_json` that drops every value `== 0` (rule `noneOrZero`: the behaviour of known
finding `C03:Location.lat:lost:zero-float`).  On it `roundtrip_iff` yields a concrete loss (`lat = 0.0`); by `location_lossless`
the rule of the generated spec has none. -/

def locationOldRule : ClassSpec := { Gen.Fields.location with drop := .noneOrZero }
def equator : Fields := setF (defaults Gen.Fields.location) "lat" (.float "0.0")

theorem equator_wellTyped (c : ClassSpec) (hc : c.fields = Gen.Fields.location.fields) (hg : c.guard = .strOrFloat)
    (hd : c.drop = .noneOrZero ∨ c.drop = .noneOrDefault) : WellTyped c (fun _ _ => true) equator := by
  have e : defaults Gen.Fields.location = defaults c := by funext k; simp only [defaults, dfltOf, hc]
  unfold equator
  rw [e]
  refine wellTyped_setF c _ _ (wellTyped_defaults c _ (by simp only [names, hc]; decide) fun f hf => ?_) "lat" _
    (by simp only [names, hc]; decide) ⟨by rw [hg]; rfl, rfl⟩
  have : f.dflt = .null := (by decide : ∀ f ∈ Gen.Fields.location.fields, f.dflt = JVal.null) f (hc ▸ hf)
  rcases hd with h | h <;> rw [h, this] <;> rfl

theorem location_old_rule_counterexample :
    WellTyped locationOldRule (fun _ _ => true) equator ∧ ¬ RoundTrips locationOldRule (fun _ _ => true) equator := by
  have hw := equator_wellTyped locationOldRule rfl rfl (Or.inl rfl)
  refine ⟨hw, ?_⟩
  rw [roundtrip_iff locationOldRule _ (by decide) equator hw]
  intro h
  have := h ⟨"lat", .null⟩ (by simp [locationOldRule, Gen.Fields.location]) (by simp [locationOldRule, dropped, equator, setF, pyEqZero])
  simp [equator, setF] at this

/-- on the generated spec the same value survives -/
example : RoundTrips Gen.Fields.location (fun _ _ => true) equator :=
  location_lossless _ _ (equator_wellTyped Gen.Fields.location rfl rfl (Or.inr rfl))

theorem tags_roundtrip (okTag : String → Bool) (ts : List String) (h : ∀ t ∈ ts, okTag t = true) :
    tagsDecode okTag (some (tagsEncode ts)) = .ok (some ts) := by
  simp [tagsDecode, tagsNew, tagsEncode, tagsArg_arr okTag ts h]

theorem tags_constructed_roundtrip (okTag : String → Bool) (args : List JVal) (ts : List String)
    (h : tagsNew okTag args = .ok ts) : tagsDecode okTag (some (tagsEncode ts)) = .ok (some ts) :=
  tags_roundtrip okTag ts (tagsNew_ok okTag args ts h)

theorem jsondata_text_idempotent (validJson : String → Bool) (max : Nat) (s t : String)
    (h : jdFromText validJson max s = .ok t) : t = s ∧ jdFromText validJson max t = .ok t := by
  unfold jdFromText at h
  split at h
  · cases h
  · split at h
    · cases h
    · injection h with h; subst h; exact ⟨rfl, by simp [jdFromText, *]⟩

/-- `hv` is trusted of the `json` library (`json.loads` accepts what `json.dumps` writes); `jsondata_obj_value` has the model of
`json.loads` in its place -/
theorem jsondata_obj_roundtrip (validJson : String → Bool) (max : Nat) (j : JVal) (t : String)
    (h : jdFromObj max j = .ok t) (hv : validJson t = true) : t.length ≤ max ∧ jdFromText validJson max t = .ok t := by
  have hl : t.length ≤ max := by
    simp only [jdFromObj] at h
    split at h
    · cases h
    · injection h with h; subst h; omega
  exact ⟨hl, by simp [jdFromText, hv, Nat.not_lt.2 hl]⟩

/-- `JSONData(None)` stores `{}`; `hm`: the size limit admits those two characters -/
theorem jsondata_none_roundtrip (validJson : String → Bool) (hv : validJson "{}" = true) (max : Nat) (hm : 2 ≤ max) :
    jdNew max .null = .ok jdEmpty ∧ jdFromText validJson max jdEmpty = .ok jdEmpty := by
  refine ⟨rfl, ?_⟩
  have : ("{}" : String).length = 2 := by decide
  simp [jdFromText, jdEmpty, hv]
  omega

/-- **A finalized record cannot be altered**: every modifier raises and there is no new state -/
theorem finalized_immutable (m : MInfo) (h : m.lock = true) (n : String) (e : MEntry) :
    m.add n e = .error "maintenance" ∧ m.rem n = .error "maintenance" ∧ m.pop n = .error "maintenance" := by
  simp [MInfo.add, MInfo.rem, MInfo.pop, h]

theorem finalize_locks (m : MInfo) : m.finalize.lock = true ∧ m.finalize.nodes = m.nodes := ⟨rfl, rfl⟩

theorem encode_requires_finalize (m : MInfo) : (∃ j, minfoEncode m = .ok j) ↔ m.lock = true := by
  cases h : m.lock <;> simp [minfoEncode, h]

/-- **MaintenanceInfo round trip**, for a finalized record; `iso` stands for `fromisoformat(s).isoformat()` -/
theorem maintenance_roundtrip (iso : String → Option String) (m : MInfo) (hl : m.lock = true)
    (h : ∀ p ∈ m.nodes, EntryOK iso p.2) (j : JVal) (he : minfoEncode m = .ok j) :
    minfoDecode iso (some j) = .ok (some m) := by
  simp only [minfoEncode, hl] at he
  injection he with he
  subst he
  simp only [minfoDecode, entries_roundtrip iso m.nodes h]
  cases m; simp_all

theorem entry_unknown_key (iso : String → Option String) (a b : List (String × JVal)) (k : String) (v : JVal)
    (hk : k ∉ entryFields) : entryOf iso (.obj (a ++ (k, v) :: b)) = entryOf iso (.obj (a ++ b)) := by
  simp [entryOf, hk]

/-- **`datetime.fromisoformat(t.isoformat()) == t`**.  `Iso.TZ.Valid` leaves out the fixed offsets below one second
(`iso_subsecond_offset_counterexample`). -/
theorem iso_roundtrip (t : Iso.DT) (h : t.Valid) : Iso.parseIso t.iso = some t ∧ Iso.isoCanon t.isoStr = some t.isoStr :=
  ⟨Iso.parseIso_iso t h, Iso.isoCanon_isoStr t h⟩

/-- in CPython itself an offset of less than one second is written by `isoformat()` (`+00:00:00.000001`) and read back by
`fromisoformat()` as UTC (known finding `C03:MaintenanceInfo:lost:subsecond-utc-offset`) -/
theorem iso_subsecond_offset_counterexample :
    Iso.parseIso (Iso.DT.iso ⟨2024, 1, 2, 3, 4, 5, 0, some ⟨false, 0, 0, 0, 1⟩⟩) = some ⟨2024, 1, 2, 3, 4, 5, 0, some ⟨false, 0, 0, 0, 0⟩⟩ := by
  decide

/-- an entry as the library builds it: state a member of the enum (or None), dates the `isoformat()` texts of datetimes -/
def EntryDates (e : MEntry) : Prop :=
  (∀ s, e.state = some s → s ∈ stateNames) ∧
  (∀ d, e.deadline = some d → ∃ t : Iso.DT, t.Valid ∧ d = t.isoStr) ∧
  (∀ d, e.expectedEnd = some d → ∃ t : Iso.DT, t.Valid ∧ d = t.isoStr)

theorem entryOK_of_dates (e : MEntry) (h : EntryDates e) : EntryOK Iso.isoCanon e := by
  have key : ∀ d, (∃ t : Iso.DT, t.Valid ∧ d = t.isoStr) → d ≠ "" ∧ Iso.isoCanon d = some d := by
    rintro _ ⟨t, ht, rfl⟩
    exact ⟨Iso.isoStr_ne_empty t, Iso.isoCanon_isoStr t ht⟩
  exact ⟨h.1, fun d hd => key d (h.2.1 d hd), fun d hd => key d (h.2.2 d hd)⟩

/-- `maintenance_roundtrip` with the model `Iso.isoCanon` for `iso` -/
theorem maintenance_roundtrip_concrete (m : MInfo) (hl : m.lock = true) (h : ∀ p ∈ m.nodes, EntryDates p.2)
    (j : JVal) (he : minfoEncode m = .ok j) : minfoDecode Iso.isoCanon (some j) = .ok (some m) :=
  maintenance_roundtrip Iso.isoCanon m hl (fun p hp => entryOK_of_dates p.2 (h p hp)) j he

example : EntryDates ⟨some "Maint", some (Iso.DT.isoStr ⟨2030, 12, 31, 23, 59, 59, 999999, some ⟨true, 5, 0, 0, 0⟩⟩), none⟩ := by
  refine ⟨by simp [stateNames], ?_, by simp⟩
  intro d hd
  exact ⟨_, by simp [Iso.DT.Valid, Iso.TZ.Valid, Iso.daysIn], (Option.some.inj hd).symm⟩

example : EntryOK (fun s => some s) ⟨some "Maint", some "2024-01-02T03:04:05", none⟩ := by
  refine ⟨?_, ?_, ?_⟩ <;> simp [stateNames]

/-- **`to_json` is total on the constructible values** (in particular on `PathInfo()` / `ERO()` with nothing set) -/
theorem pathinfo_encode_total (p : PathInfo) (h : PIDomain p) :
    (∃ j, pathInfoEncode p = .ok j) ∧ (∃ j, eroEncode p = .ok j) := by
  obtain ⟨pl, hpl, _⟩ := payloadJson_domain p h
  exact ⟨⟨_, by rw [pathInfoEncode, hpl]⟩, ⟨_, by rw [eroEncode, hpl]⟩⟩

theorem pathinfo_roundtrip (p : PathInfo) (h : PIDomain p) (hs : p.strict = .bool false) (j : JVal)
    (he : pathInfoEncode p = .ok j) : pathInfoDecode (some j) = .ok (some p) := by
  obtain ⟨pl, hpl, hc⟩ := payloadJson_domain p h
  simp only [pathInfoEncode, hpl] at he
  cases he
  obtain ⟨t, pay, st⟩ := p
  subst hs
  exact hc

theorem ero_roundtrip (p : PathInfo) (h : PIDomain p) (b : Bool) (hs : p.strict = .bool b) (j : JVal)
    (he : eroEncode p = .ok j) : eroDecode (some j) = .ok (some p) := by
  obtain ⟨pl, hpl, hc⟩ := payloadJson_domain p h
  simp only [eroEncode, hpl] at he
  cases he
  obtain ⟨t, pay, st⟩ := p
  subst hs
  simp only [eroDecode, lookup, List.find?, String.reduceBEq, hc]
  cases b <;> rfl

theorem pathinfo_unknown_key (a b : List (String × JVal)) (k : String) (v : JVal)
    (hk : k ∉ ["type", "payload", "strict"]) :
    pathInfoDecode (some (.obj (a ++ (k, v) :: b))) = pathInfoDecode (some (.obj (a ++ b))) ∧
    eroDecode (some (.obj (a ++ (k, v) :: b))) = eroDecode (some (.obj (a ++ b))) := by
  simp only [List.mem_cons, List.mem_nil_iff, or_false, not_or] at hk
  obtain ⟨h1, h2, h3⟩ := hk
  simp only [pathInfoDecode, pathInfoDecodeCore, eroDecode, lookup_insert a b k _ v h1, lookup_insert a b k _ v h2,
    lookup_insert a b k _ v h3, and_self]

theorem path_unknown_key (a b : List (String × JVal)) (k : String) (v : JVal) (hk : k ∉ ["a2z", "z2a"]) :
    pathFromDict (.obj (a ++ (k, v) :: b)) = pathFromDict (.obj (a ++ b)) := by
  simp only [List.mem_cons, List.mem_nil_iff, or_false, not_or] at hk
  simp [pathFromDict, lookup_insert a b k _ v hk.1, lookup_insert a b k _ v hk.2]

example : PIDomain { type := some .path, payload := .unset } := by simp [PIDomain]
example : PIDomain { type := some .path, payload := .path (.arr [.str "a"]) .null, strict := .bool true } := by simp [PIDomain]

/-- **The constructor path**, for a str or int value: the tuple read back from `get_as_string()` has the same type and the value's
text with its trailing blanks stripped. -/
theorem ttuple_fromstring_exact (types : List (List Char)) (ws : Char → Bool) (hsep : ws ':' = false)
    (ty : List Char) (v : JVal) (hty : ty ∈ types) (hc : ':' ∉ ty) (hl : ∀ c, ty.head? = some c → ws c = false) :
    ttFromString types ws (ttEncode ⟨ty, v⟩) = .ok ⟨ty, .str (String.ofList (rstrip ws v.pyStr.toList))⟩ := by
  simp only [ttFromString, ttEncode, strip_encode ws hsep ty _ hl, ttOf, splitFirst_append ty _ hc]
  simp [hty]

/-- the constructor path is lossless **exactly** for string values that do not end in a blank -/
theorem ttuple_fromstring_iff (types : List (List Char)) (ws : Char → Bool) (hsep : ws ':' = false)
    (ty : List Char) (s : String) (hty : ty ∈ types) (hc : ':' ∉ ty) (hl : ∀ c, ty.head? = some c → ws c = false) :
    ttFromString types ws (ttEncode ⟨ty, .str s⟩) = .ok ⟨ty, .str s⟩ ↔ ∀ c, s.toList.getLast? = some c → ws c = false := by
  rw [ttuple_fromstring_exact types ws hsep ty _ hty hc hl, ← rstrip_eq_self]
  simp only [pyStr]
  constructor
  · intro h
    injection h with h; injection h with _ h; injection h with h
    have := congrArg String.toList h
    simpa using this
  · intro h; rw [h]; simp

theorem ttuple_int_exact (types : List (List Char)) (ws : Char → Bool) (hsep : ws ':' = false)
    (ty : List Char) (i : Int) (hty : ty ∈ types) (hc : ':' ∉ ty) (hl : ∀ c, ty.head? = some c → ws c = false) :
    ∃ t : String, ttFromString types ws (ttEncode ⟨ty, .int i⟩) = .ok ⟨ty, .str t⟩ ∧ (⟨ty, .str t⟩ : TTuple) ≠ ⟨ty, .int i⟩ :=
  ⟨_, ttuple_fromstring_exact types ws hsep ty _ hty hc hl, by simp⟩

theorem ttuple_fromstring_roundtrip (types : List (List Char)) (ws : Char → Bool) (hsep : ws ':' = false)
    (ty : List Char) (s : String) (hty : ty ∈ types) (hc : ':' ∉ ty)
    (hl : ∀ c, ty.head? = some c → ws c = false) (hr : ∀ c, s.toList.getLast? = some c → ws c = false) :
    ttFromString types ws (ttEncode ⟨ty, .str s⟩) = .ok ⟨ty, .str s⟩ :=
  (ttuple_fromstring_iff types ws hsep ty s hty hc hl).2 hr

example : ∀ c, "x y".toList.getLast? = some c → wsGen c = false := by decide

/-- **`parse_from_string` is lossless** for every string value (no blank condition) -/
theorem ttuple_parse_roundtrip (types : List (List Char)) (ty : List Char) (s : String) (hty : ty ∈ types) (hc : ':' ∉ ty) :
    ttParse types (ttEncode ⟨ty, .str s⟩) = .ok ⟨ty, .str s⟩ :=
  ttParse_encode types ⟨ty, .str s⟩ hty hc

/-- the `only if` direction on a concrete value: a trailing blank of the value is stripped (known finding
`C03:typed_tuple:fromstring:trailing-blank-stripped`) -/
theorem ttuple_fromstring_counterexample :
    ttFromString labelTypes wsGen (ttEncode ⟨"mac".toList, .str "x "⟩) = .ok ⟨"mac".toList, .str "x"⟩ := by rfl

/-- an integer value (documented for capacities) reads back as a string, through both decoders (known findings
`C03:typed_tuple:fromstring:int-value-decodes-as-str`, `C03:typed_tuple:parse:int-value-decodes-as-str`) -/
theorem ttuple_int_counterexample :
    ttFromString capTypes wsGen (ttEncode ⟨"ram".toList, .int 1000⟩) = .ok ⟨"ram".toList, .str "1000"⟩ ∧
    ttParse capTypes (ttEncode ⟨"ram".toList, .int 1000⟩) = .ok ⟨"ram".toList, .str "1000"⟩ := ⟨by rfl, by rfl⟩

/-- `hc`, `hl` and `hsep` of the theorems above, on the generated type names and blanks -/
theorem tuple_types_clean :
    (Gen.Fields.tupleTypes.all fun p => p.2.all fun t =>
      !t.toList.contains ':' && (t.toList.head?.all fun c => !wsGen c)) = true ∧ wsGen ':' = false := by decide +kernel

open Gen.Fields in
theorem gatewayNew_spec (valid) (l g : Fields) (hl : WellTyped labels valid l)
    (hg : gatewayNew labels valid (some l) = .ok (some g)) :
    WellTyped labels valid g ∧ gatewayNew labels valid (some g) = .ok (some g) ∧ ∃ j, encode labels g = some j := by
  obtain ⟨a, b, hp, hsa, hsb, rfl⟩ := gatewayNew_some valid l g hl hg
  obtain ⟨ha, hb, hab, ham, hbm⟩ := hp.names
  obtain ⟨v1, v2, v5⟩ := gwPick_values a b l hab ham hbm
  have hw := gwPick_wellTyped valid a b l hl ha hb hsa hsb
  refine ⟨hw, ?_, ?_⟩
  · -- the gateway's labels hold the same pair, and in the IPv6 case still no IPv4 subnet
    have hp' : GwPair (gwPick a b l) a b := by
      cases hp with
      | v4 => exact .v4
      | v6 => exact .v6 (by rw [v5 "ipv4_subnet" (by decide) (by decide) (by decide)]; rfl)
    rw [gatewayNew_pair valid _ hw a b hp' (by rw [v1]; exact hsa) (by rw [v2]; exact hsb), gwPick_idem a b l hab ham hbm]
  · -- an empty encoding would make the gateway all-default, but its field `a` is set
    cases he : encode labels (gwPick a b l) with
    | none =>
      rw [(labels_lossless valid _ hw).1 he, labels_defaults] at v1
      rw [← v1] at hsa; cases hsa
    | some j => exact ⟨j, rfl⟩

open Gen.Fields in
/-- the constructor is idempotent on a gateway's own labels (what `from_json` relies on) -/
theorem gateway_ctor_idempotent (valid) (l g : Fields) (hl : WellTyped labels valid l)
    (hg : gatewayNew labels valid (some l) = .ok (some g)) : gatewayNew labels valid (some g) = .ok (some g) :=
  (gatewayNew_spec valid l g hl hg).2.1

open Gen.Fields in
/-- **Gateway round trip**: whatever `Gateway(lab)` builds reads back from its own `to_json` as the same gateway (`from_json` is
`Labels.from_json` followed by the constructor's selection). -/
theorem gateway_roundtrip (valid) (l g : Fields) (hl : WellTyped labels valid l)
    (hg : gatewayNew labels valid (some l) = .ok (some g)) :
    gatewayDecode labels valid (gatewayEncode labels (some g)) = .ok (some g) := by
  obtain ⟨hw, hi, j, he⟩ := gatewayNew_spec valid l g hl hg
  simp only [gatewayDecode, gatewayEncode, he, (labels_lossless valid g hw).2 j he, hi]

open Gen.Fields in
theorem gateway_unset : gatewayEncode labels none = none ∧ ∀ valid, gatewayDecode labels valid none = .ok none := by
  refine ⟨rfl, fun valid => ?_⟩
  simp [gatewayDecode, decode, gatewayNew]

open Gen.Fields in
theorem gateway_reencode_stable (valid) (l g g' : Fields) (hl : WellTyped labels valid l)
    (hg : gatewayNew labels valid (some l) = .ok (some g))
    (hd : gatewayDecode labels valid (gatewayEncode labels (some g)) = .ok (some g')) :
    gatewayEncode labels (some g') = gatewayEncode labels (some g) ∧ toJson labels g' = toJson labels g := by
  rw [gateway_roundtrip valid l g hl hg] at hd
  cases hd
  exact ⟨rfl, rfl⟩

open Gen.Fields in
theorem gateway_unknown_key (valid) (a b : List (String × JVal)) (k : String) (v : JVal) (hk : k ∉ names labels) :
    gatewayDecode labels valid (some (.obj (a ++ (k, v) :: b))) = gatewayDecode labels valid (some (.obj (a ++ b))) := by
  simp only [gatewayDecode, unknown_key_anywhere labels valid a b k v hk]

example : ∃ g, gatewayNew Gen.Fields.labels (fun _ _ => true)
    (some (setF (setF (defaults Gen.Fields.labels) "ipv4_subnet" (.str "10.0.0.0/8")) "ipv4" (.str "10.0.0.1"))) = .ok (some g) :=
  ⟨_, rfl⟩

/-! Aliasing.  `Hist.World` separates the value object's own state from the objects the caller owns (arguments it passed, results it
received).  In such a world nothing the caller does to its objects can be seen through the value object; the correspondence (`hist`
lines with `edit` = mutate-arg / mutate-result steps on the real Python objects) checks that JSONData, Tags and a finalized
MaintenanceInfo *are* such worlds, and that the JSONField family is a `RefWorld`. -/
open Hist

/-- **Reads are functions of the value object's state only**: after any history of getter calls and in-place changes of caller-owned
objects (arguments, earlier results) a read returns what the getter computes from the initial state. -/
theorem history_reads_depend_on_state_only {σ : Type} (get : σ → String → JVal → Option JVal) (w : World σ) (steps : List Step) :
    (finalWorld get w steps).obj = w.obj ∧
    ∀ (k : Nat) (g : String) (a : JVal), steps[k]? = some (.read g a) → (run get w steps)[k]? = some (get w.obj g a) :=
  ⟨finalWorld_obj get steps w, run_read get steps w⟩

theorem history_reads_ignore_owned {σ : Type} (get : σ → String → JVal → Option JVal) (obj : σ) (owned owned' : List JVal)
    (steps : List Step) (k : Nat) (g : String) (a : JVal) (h : steps[k]? = some (.read g a)) :
    (run get ⟨obj, owned⟩ steps)[k]? = (run get ⟨obj, owned'⟩ steps)[k]? := by
  rw [run_read get steps _ k g a h, run_read get steps _ k g a h]

/-- **JSONData**: `.data` is `parse (text)` after any number of changes to the constructor argument or to objects `.data` returned
earlier, and `.json` is the text. -/
theorem jsondata_value_is_function_of_text (text : String) (owned : List JVal) (steps : List Step) (k : Nat) (a : JVal) :
    (steps[k]? = some (.read "data" a) → (run jdGet ⟨text, owned⟩ steps)[k]? = some (JParse.parse text)) ∧
    (steps[k]? = some (.read "json" a) → (run jdGet ⟨text, owned⟩ steps)[k]? = some (some (.str text))) := by
  constructor <;> intro h <;> rw [run_read jdGet steps _ k _ a h] <;> simp [jdGet]

/-- `==` / `hash` are computed from the text -/
theorem jsondata_eq_own_text (text : String) : jdGet text "eq" (.str text) = some (.bool true) := by
  simp [jdGet]

theorem tags_reads_stable (ts : List String) (owned : List JVal) (steps : List Step) (k : Nat) (g : String) (a : JVal)
    (h : steps[k]? = some (.read g a)) : (run tagsGet ⟨ts, owned⟩ steps)[k]? = some (tagsGet ts g a) :=
  run_read tagsGet steps _ k g a h

theorem maintenance_reads_stable (m : MInfo) (owned : List JVal) (steps : List Step) (k : Nat) (g : String) (a : JVal)
    (h : steps[k]? = some (.read g a)) :
    (run miGet ⟨m, owned⟩ steps)[k]? = some (miGet m g a) ∧ (finalWorld miGet ⟨m, owned⟩ steps).obj = m :=
  ⟨run_read miGet steps _ k g a h, finalWorld_obj miGet steps _⟩

/-- the source of `JSONField.update` copies list values (regenerated from /repo on every run) -/
theorem update_copies : Gen.Fields.updateCopiesLists = true := by decide

/-- **The original is out of reach of its copy-with-changes**: with a copying `update` no list is ever shared, and growing the lists
of the copy (`growY`) never reaches the original, in any history. -/
theorem update_copy_independent (c : ClassSpec) (x : Fields) (steps : List RefStep) :
    (refRun c Gen.Fields.updateCopiesLists { x := x } steps).shared = [] ∧
    (refRun c Gen.Fields.updateCopiesLists { x := x } steps).x = growXOnly x steps := by
  rw [update_copies]; exact refRun_x c steps { x := x } rfl

/-- an `update` that shares list values (known finding `C03:Labels:alias:update-copy-list:value-changed`), beside the copying one -/
theorem update_shared_counterexample :
    let x := setF (defaults Gen.Fields.labels) "vlan_range" (.arr [.str "100-200"])
    (refRun Gen.Fields.labels false { x := x } [.takeUpdate, .growY "vlan_range" (.str "5-5")]).x "vlan_range"
      = .arr [.str "100-200", .str "5-5"] ∧
    (refRun Gen.Fields.labels true { x := x } [.takeUpdate, .growY "vlan_range" (.str "5-5")]).x "vlan_range"
      = .arr [.str "100-200"] := by
  constructor <;> decide +kernel

/-- **By-reference list fields keep the value lossless**: in a str-or-list class, after any history of in-place growth of the
caller's lists (which *are* the fields) and of `update` copies, the original still reads back from its own encoding as itself. -/
theorem history_keeps_roundtrip (c : ClassSpec) (valid : String → JVal → Bool) (hn : (names c).Nodup) (hs : SpecSane c = true)
    (hg : c.guard = .strOrList ∨ c.guard = .strOrStrList) (hd : ∀ f ∈ c.fields, isContainer f.dflt = false)
    (x : Fields) (hx : WellTyped c valid x) (steps : List RefStep) (hok : GrowOK valid steps) :
    RoundTrips c valid (refRun c Gen.Fields.updateCopiesLists { x := x } steps).x := by
  rw [(update_copy_independent c x steps).2]
  exact lossless c valid hn hs _ (growXOnly_wellTyped c valid hg hd steps x hx hok)

theorem list_classes_sane : ∀ c ∈ Gen.Fields.all, (c.guard = .strOrList ∨ c.guard = .strOrStrList) →
    (names c).Nodup ∧ SpecSane c = true ∧ ∀ f ∈ c.fields, isContainer f.dflt = false := fun c hc hg =>
  ⟨(specs_sane c hc).1, (specs_sane c hc).2.1,
    (by decide +kernel : ∀ c ∈ Gen.Fields.all, (c.guard = .strOrList ∨ c.guard = .strOrStrList) →
      ∀ f ∈ c.fields, isContainer f.dflt = false) c hc hg⟩

example : GrowOK (fun _ _ => true) [.growX "vlan_range" (.str "5-5"), .takeUpdate, .growY "vlan" (.str "7")] := by
  intro k item _
  exact ⟨by simp_all [isStr] <;> (rename_i h; rcases h with ⟨_, rfl⟩ <;> rfl), fun _ _ => rfl⟩

/-! Text level.  `JParse.parse` is the model of `json.loads` (checked against CPython on every run), `JVal.render` of `json.dumps`.
With `JParse.parse_render` the round trips above hold for the *texts* the codecs store, not only for the JSON values in between,
wherever those values are `plain` (distinct object keys, floats as number lexemes). -/
open JParse

theorem json_roundtrip (j : JVal) (hp : plain j = true) : parse j.render = some j := parse_render j hp

/-- **JSONField round trip on text**: `from_json(to_json(x)) == x` with `json.dumps` / `json.loads` inside the statement
(`plain` field values) -/
theorem jsonfield_text_roundtrip (c : ClassSpec) (valid : String → JVal → Bool) (hn : (names c).Nodup) (hs : SpecSane c = true)
    (x : Fields) (hx : WellTyped c valid x) (hp : ∀ f ∈ c.fields, plain (x f.name) = true) :
    (encode c x = none → x = defaults c ∧ decodeText c valid "None" (toJson c x) = .ok none) ∧
    (∀ j, encode c x = some j → decodeText c valid "None" (toJson c x) = .ok (some x)) := by
  obtain ⟨h0, h1⟩ := lossless c valid hn hs x hx
  constructor
  · intro he
    exact ⟨h0 he, by simp [toJson, he, decodeText]⟩
  · intro j he
    have hj := encode_some c x j he
    have hplain : plain j = true := by
      subst hj
      refine plain_obj _ (fun p hpm => ?_) (sortKvs_keys_nodup _ (hn.sublist (kept_keys_sublist c.drop c x)))
      rw [sortKvs_mem] at hpm
      obtain ⟨f, hf, _, _, hv⟩ := (kept_mem c.drop c x p.1 p.2).1 hpm
      rw [hv]; exact hp f hf
    obtain ⟨t1, t2, t3⟩ := container_text j hplain (by rw [hj]; rfl)
    simp only [toJson, he, decodeText, t1, t2, t3, or_self, if_false]
    exact h1 j he

theorem all_classes_text_roundtrip_of_plain : ∀ c ∈ Gen.Fields.all, ∀ (valid : String → JVal → Bool) (x : Fields), WellTyped c valid x →
    (∀ f ∈ c.fields, inDomain c.guard (x f.name) = true → plain (x f.name) = true) →
    ∀ j, encode c x = some j → decodeText c valid Gen.Fields.neo4jNone (toJson c x) = .ok (some x) := by
  intro c hc valid x hx hp j he
  obtain ⟨hn, hs, _⟩ := specs_sane c hc
  refine (jsonfield_text_roundtrip c valid hn hs x hx fun f hf => ?_).2 j he
  rcases hx.1 f hf with ⟨e, _⟩ | ⟨hdom, _⟩
  · rw [e]; exact (by decide : ∀ c ∈ Gen.Fields.all, ∀ f ∈ c.fields, plain f.dflt = true) c hc f hf
  · exact hp f hf hdom

/-- every generated class but the `str or float` one, `Location` (`location_text_roundtrip`) -/
theorem all_classes_text_roundtrip : ∀ c ∈ Gen.Fields.all, c.guard ≠ .strOrFloat → ∀ (valid : String → JVal → Bool) (x : Fields),
    WellTyped c valid x → ∀ j, encode c x = some j → decodeText c valid Gen.Fields.neo4jNone (toJson c x) = .ok (some x) :=
  fun c hc hg valid x hx => all_classes_text_roundtrip_of_plain c hc valid x hx fun _ _ hdom => inDomain_plain c.guard _ hg hdom

/-- `Location` on text: a coordinate is a float carried as the text `json.dumps` writes (a number lexeme with a fraction or an
exponent, `isFloatLex`) -/
theorem location_text_roundtrip (valid : String → JVal → Bool) (x : Fields) (hx : WellTyped Gen.Fields.location valid x)
    (hf : ∀ f ∈ Gen.Fields.location.fields, ∀ r, x f.name = .float r → isFloatLex r.toList = true) :
    ∀ j, encode Gen.Fields.location x = some j →
      decodeText Gen.Fields.location valid Gen.Fields.neo4jNone (toJson Gen.Fields.location x) = .ok (some x) :=
  all_classes_text_roundtrip_of_plain _ (by simp [Gen.Fields.all]) valid x hx fun f hfm hdom => inDomain_plain_of_floatLex _ _ hdom (hf f hfm)

example : decodeText Gen.Fields.location (fun _ _ => true) "None" (toJson Gen.Fields.location equator) = .ok (some equator) :=
  location_text_roundtrip _ equator (equator_wellTyped Gen.Fields.location rfl rfl (Or.inr rfl))
    (by
      intro f hf r hr
      simp only [Gen.Fields.location, List.mem_cons, List.mem_nil_iff, or_false] at hf
      rcases hf with rfl | rfl | rfl <;> simp [equator, setF, defaults, dfltOf, Gen.Fields.location] at hr
      subst hr; decide)
    _ rfl

theorem tags_text_roundtrip (okTag : String → Bool) (ts : List String) (h : ∀ t ∈ ts, okTag t = true) :
    tagsDecodeText okTag (tagsEncode ts).render = .ok (some ts) := by
  have hp : plain (tagsEncode ts) = true := by
    simp only [tagsEncode, plain]
    apply plainL_strs
    simp [isStr]
  obtain ⟨h1, h2, h3⟩ := container_text _ hp rfl
  simp only [tagsDecodeText, h1, h2, h3, or_self, if_false]
  exact tags_roundtrip okTag ts h

/-- **JSONData built from an object**: `.data` is the object, and the stored text is valid JSON by the model of `json.loads` itself
(`parse` in the place of `validJson` of `jsondata_obj_roundtrip`) -/
theorem jsondata_obj_value (max : Nat) (j : JVal) (t : String) (hp : plain j = true) (hj : j ≠ .null)
    (h : jdNew max j = .ok t) :
    jdGet t "data" .null = some j ∧ jdFromText (fun s => (parse s).isSome) max t = .ok t := by
  have hobj : jdFromObj max j = .ok t := by
    cases j with
    | null => exact absurd rfl hj
    | _ => exact h
  obtain rfl : t = j.render := by
    simp only [jdFromObj] at hobj
    split at hobj
    · cases hobj
    · exact (Except.ok.inj hobj).symm
  have hv : (parse j.render).isSome = true := by rw [parse_render j hp]; rfl
  exact ⟨by simp [jdGet, parse_render j hp], (jsondata_obj_roundtrip _ max j _ hobj hv).2⟩

/-- **MaintenanceInfo on text**, dates and JSON both concrete: `from_json(m.to_json())` is `m` (`hn`: the nodes are the items of a dict) -/
theorem maintenance_text_roundtrip (m : MInfo) (hl : m.lock = true) (hn : (m.nodes.map (·.1)).Nodup)
    (h : ∀ p ∈ m.nodes, EntryDates p.2) (j : JVal) (he : minfoEncode m = .ok j) :
    minfoDecodeText Iso.isoCanon j.render = .ok (some m) := by
  have hj : j = .obj (m.nodes.map fun p => (p.1, entryJson p.2)) := by
    simp only [minfoEncode, hl] at he
    injection he with he; exact he.symm
  have hp : plain j = true := by
    subst hj
    refine plain_obj _ (fun p hpm => ?_) (by simpa [Function.comp_def] using hn)
    obtain ⟨q, _, rfl⟩ := List.mem_map.1 hpm
    simp [entryJson, plain, plainK, plain_optStr]
  obtain ⟨h1, _, h3⟩ := container_text j hp (by rw [hj]; rfl)
  simp only [minfoDecodeText, h1, h3, if_false]
  exact maintenance_roundtrip_concrete m hl h j he

open Gen.Fields in
/-- **Gateway on text**: `Gateway.from_json(g.to_json())` is `g`, for every gateway the constructor builds -/
theorem gateway_text_roundtrip (valid) (l g : Fields) (hl : WellTyped labels valid l)
    (hg : gatewayNew labels valid (some l) = .ok (some g)) :
    gatewayDecodeText labels valid neo4jNone (toJson labels g) = .ok (some g) := by
  obtain ⟨hw, hi, j, he⟩ := gatewayNew_spec valid l g hl hg
  simp only [gatewayDecodeText, all_classes_text_roundtrip labels (by simp [Gen.Fields.all]) (by decide) valid g hw j he, hi]

/-- the payload is `plain` (hop lists are lists of names, a graph reference is a string) -/
def PayloadPlain : Payload → Prop
  | .unset => True
  | .raw j => plain j = true
  | .path a z => plain a = true ∧ plain z = true

theorem payloadJson_plain (p : PathInfo) (hp : PayloadPlain p.payload) (pl : JVal) (hpl : payloadJson p = .ok pl) :
    plain pl = true := by
  obtain ⟨t, pay, st⟩ := p
  unfold payloadJson at hpl
  cases pay with
  | unset => simp at hpl; subst hpl; rfl
  | raw j => split at hpl <;> cases hpl; exact hp
  | path a z =>
    split at hpl <;> cases hpl
    simp [pathDict, plain, plainK, hp.1, hp.2]

theorem pathinfo_text_roundtrip (p : PathInfo) (h : PIDomain p) (hp : PayloadPlain p.payload) :
    (p.strict = .bool false → ∀ j, pathInfoEncode p = .ok j → pathInfoDecodeText j.render = .ok (some p)) ∧
    (∀ b, p.strict = .bool b → ∀ j, eroEncode p = .ok j → eroDecodeText j.render = .ok (some p)) := by
  have key : ∀ j, (pathInfoEncode p = .ok j ∨ eroEncode p = .ok j) → j.render ≠ "" ∧ j.render ≠ "None" ∧ parse j.render = some j := by
    intro j hj
    obtain ⟨pl, hpl, _⟩ := payloadJson_domain p h
    have hpp := payloadJson_plain p hp pl hpl
    simp only [pathInfoEncode, eroEncode, hpl] at hj
    rcases hj with hj | hj <;> cases hj <;> exact container_text _ (by simp [plain, plainK, hpp]) rfl
  constructor
  · intro hs j he
    obtain ⟨h1, _, h2⟩ := key j (Or.inl he)
    simp only [pathInfoDecodeText, h1, h2, if_false]
    exact pathinfo_roundtrip p h hs j he
  · intro b hs j he
    obtain ⟨h1, _, h2⟩ := key j (Or.inr he)
    simp only [eroDecodeText, h1, h2, if_false]
    exact ero_roundtrip p h b hs j he

example : PayloadPlain (.path (.arr [.str "n1", .str "n2"]) .null) := by simp [PayloadPlain, plain, plainL]

/-! Failed calls (`Model/CodecFail.lean`).  A method called on an existing value object and REJECTED must leave a value of the codec's
domain behind - for the validating setters the very same value.  The in-place semantics is tied to the code by the `tt.seq` /
`jf.seq` / `pi.seq` / `mi.run` correspondence lines, which carry the state after every step, rejected ones too. -/

/-- **a rejected `parse_from_string` leaves the tuple unchanged**: the method validates the type before it assigns.  That order is
how `ttStep` is defined (`inPlace`); the `tt.seq` correspondence lines compare the state after every rejected call with the code's -/
theorem ttuple_parse_failed_unchanged (types : List (List Char)) (t : TTuple) (s : List Char) (e : Err)
    (h : ttParse types s = .error e) : ttStep types t s = (t, some e) :=
  inPlace_failed _ t e h

theorem ttuple_history_type_ok (types : List (List Char)) (ss : List (List Char)) (t : TTuple) (ht : t.type ∈ types) :
    (ttRun types t ss).type ∈ types :=
  List.foldlRecOn (motive := fun t => t.type ∈ types) ss _ ht fun t ht s _ => ttStep_type types t s ht

/-- whatever state a history of `parse_from_string` calls, accepted or rejected, brings a tuple into, its own encoding decodes: to the
same type and the text of the value (the value itself when it is a str; cf. `ttuple_int_counterexample`) -/
theorem ttuple_history_roundtrip (types : List (List Char)) (hc : ∀ ty ∈ types, ':' ∉ ty)
    (ss : List (List Char)) (t : TTuple) (ht : t.type ∈ types) :
    ttParse types (ttEncode (ttRun types t ss)) = .ok ⟨(ttRun types t ss).type, .str (ttRun types t ss).val.pyStr⟩ := by
  have h := ttuple_history_type_ok types ss t ht
  exact ttParse_encode types _ h (hc _ h)

/-- **state after a rejected `_set_fields`**: the keywords before the rejected one were applied, nothing else -/
theorem setfields_failed_prefix (c : ClassSpec) (valid) (fg : Bool) (kvs : List (String × JVal)) (x y : Fields) (e : Err)
    (h : setFieldsIP c valid fg kvs x = (y, some e)) :
    ∃ pre bad post, kvs = pre ++ bad :: post ∧ setFields c valid fg pre x = .ok y ∧ setFields c valid fg [bad] y = .error e := by
  rcases setFieldsIP_eq c valid fg kvs x with ⟨_, h'⟩ | ⟨pre, bad, post, e', rfl, hp, hb, h'⟩
  · rw [h'] at h; cases h
  · rw [h'] at h; cases h
    exact ⟨pre, bad, post, rfl, (setFields_ok_iff c valid fg pre x _).2 ⟨hp, rfl⟩, by rw [(setFields_cons ..).1, hb]⟩

/-- a rejected `_set_fields` with ONE keyword (what the library itself does on existing objects: gateway.py, component_catalog.py)
leaves the instance unchanged -/
theorem setfields_single_failed_unchanged (c : ClassSpec) (valid) (fg : Bool) (kv : String × JVal) (x y : Fields) (e : Err)
    (h : setFieldsIP c valid fg [kv] x = (y, some e)) : y = x := by
  obtain ⟨pre, bad, post, h1, h2, _⟩ := setfields_failed_prefix c valid fg [kv] x y e h
  cases pre with
  | nil => simp [setFields] at h2; exact h2.symm
  | cons p pre => simp at h1

/-- every state a history of `_set_fields` calls (accepted or rejected, any keywords) can bring a constructed instance into is one the
constructor builds (which is less than `WellTyped`: the setter also takes what it merely tolerates, cf. `inDomain`) -/
theorem setfields_history_constructible (c : ClassSpec) (valid) (calls : List (List (String × JVal))) (x : Fields)
    (hx : ∃ kw, construct c valid kw = .ok x) : ∃ kw, construct c valid kw = .ok (setFieldsRun c valid x calls) := by
  refine List.foldlRecOn (motive := fun x => ∃ kw, construct c valid kw = .ok x) calls _ hx fun x hx kvs _ => ?_
  obtain ⟨kw, hkw⟩ := hx
  obtain ⟨hk, rfl⟩ := (setFields_ok_iff c valid false kw _ x).1 hkw
  -- the call leaves the assignments of an accepted prefix `pre` of its keywords behind: the state `Cls(**kw, **pre)` builds
  have key : ∀ pre, Accepts c valid false pre →
      ∃ kw', construct c valid kw' = .ok (applyAll (knownOnly c pre) (applyAll (knownOnly c kw) (defaults c))) := fun pre hp =>
    ⟨kw ++ pre, (setFields_ok_iff c valid false _ _ _).2 ⟨List.forall_mem_append.2 ⟨hk, hp⟩, (applyAll_knownOnly_append ..).symm⟩⟩
  rcases setFieldsIP_eq c valid false kvs (applyAll (knownOnly c kw) (defaults c)) with ⟨hp, h'⟩ | ⟨pre, _, _, _, _, hp, _, h'⟩
  · rw [h']; exact key _ hp
  · rw [h']; exact key _ hp

/-- concrete witness (the corpus case `corpus/C03/failed_set_fields_partial.json` replays it on the implementation):
`Capacities(core=1)._set_fields(ram=5, disk=-1)` raises AssertionError and leaves `ram = 5` behind -/
theorem setfields_failed_unchanged_counterexample :
    let x := setF (defaults Gen.Fields.capacities) "core" (.int 1)
    let r := setFieldsIP Gen.Fields.capacities (fun _ _ => true) false [("ram", .int 5), ("disk", .int (-1))] x
    r.2 = some "assertion" ∧ r.1 "ram" = .int 5 ∧ x "ram" = .int 0 := by decide

theorem pathinfo_set_failed_unchanged (p : PathInfo) (pl : Payload) (e : Err) (h : piSet p pl = .error e) :
    piStep p pl = (p, some e) := inPlace_failed _ p e h

/-- after ANY history of `set` calls (accepted or rejected) a PathInfo / ERO is still a value of the codec's domain: `to_json`
is total on it -/
theorem pathinfo_history_domain (pls : List Payload) (p : PathInfo) (h : PIDomain p) :
    PIDomain (piRun p pls) ∧ (∃ j, pathInfoEncode (piRun p pls) = .ok j) ∧ (∃ j, eroEncode (piRun p pls) = .ok j) := by
  have hd : PIDomain (piRun p pls) := List.foldlRecOn (motive := PIDomain) pls _ h fun p h pl _ => inPlace_inv PIDomain _ p h fun y => piSet_ok_domain p y pl h
  exact ⟨hd, pathinfo_encode_total _ hd⟩

theorem maintenance_failed_unchanged (m : MInfo) (op : MOp) (e : Err) (h : miApply m op = .error e) :
    miStep m op = (m, some e) := inPlace_failed _ m e h

/-- `finalized_immutable` over histories -/
theorem maintenance_history_finalized (ops : List MOp) (m : MInfo) (h : m.lock = true) : miRunOps m ops = m := by
  refine List.foldlRecOn (motive := (· = m)) ops _ rfl fun s hs op _ => ?_
  subst hs
  -- a modifier is refused (`finalized_immutable`) and a refused call keeps the record; `finalize` sets the lock, which is set
  have refused : ∀ e, miApply s op = .error e → (miStep s op).1 = s := fun e he => by rw [maintenance_failed_unchanged s op e he]
  cases op with
  | add n e => exact refused _ (finalized_immutable s h n e).1
  | rem n => exact refused _ (finalized_immutable s h n ⟨none, none, none⟩).2.1
  | pop n => exact refused "maintenance" (by rw [miApply, (finalized_immutable s h n ⟨none, none, none⟩).2.2]; rfl)
  | finalize => cases s; cases h; rfl

/-- the generated type lists are colon-free; a history with rejected calls (`vlans:200`, no separator) in between -/
example : (∀ ty ∈ labelTypes, ':' ∉ ty) ∧ "vlan".toList ∈ labelTypes ∧
    ttRun labelTypes ⟨"vlan".toList, .str "100"⟩ ["vlans:200".toList, "mac:aa".toList, "nocolon".toList] = ⟨"mac".toList, .str "aa"⟩ ∧
    ttStep labelTypes ⟨"vlan".toList, .str "100"⟩ "vlans:200".toList = (⟨"vlan".toList, .str "100"⟩, some "tuple") := by decide +kernel

example : PIDomain { type := some .path, payload := .unset } ∧
    piStep { type := some .path, payload := .path (.arr [.str "a"]) .null } (.raw (.str "g")) =
      ({ type := some .path, payload := .path (.arr [.str "a"]) .null }, some "assertion") := by
  constructor
  · simp [PIDomain]
  · rfl

example : ∃ kw, construct Gen.Fields.capacities (fun _ _ => true) kw = .ok (setF (defaults Gen.Fields.capacities) "core" (.int 1)) :=
  ⟨[("core", .int 1)], by rfl⟩

example : (MInfo.empty.finalize).lock = true := rfl

/-! Handles that outlive finalize (`Model/CodecPhase.lean`; flags probed by gen/miphase.py).  "A finalized maintenance record cannot be
altered" - also not through an entry object the caller obtained while the record was still being built (the object given to `add`,
what `get` handed out for editing in place). -/
section phase
open Phase

def genFlags : Flags :=
  { addKeepsArg := Gen.MiPhase.addKeepsArg, getOpenHandsOutOwn := Gen.MiPhase.getOpenHandsOutOwn,
    finalizeCopies := Gen.MiPhase.finalizeCopies, getLockedCopies := Gen.MiPhase.getLockedCopies }

/-- the code copies where the guarantee needs it: at finalize and when a finalized record hands an entry out; modifiers are refused -/
theorem phase_flags_safe : genFlags.finalizeCopies = true ∧ genFlags.getLockedCopies = true ∧ Gen.MiPhase.addLockedRefused = true := by decide

theorem phase_finalize_keeps_view {α : Type} (f : Flags) (hf : f.finalizeCopies = true) (d : α) (build : List (Op α)) :
    view (run f (init d) (build ++ [.finalize])) = view (run f (init d) build) := by
  rw [run_append]
  exact (finalize_sep f hf _ (wf_run f build _ (wf_init d))).2

/-- the content of the record after any later history (edits through every handle ever obtained, gets, rejected adds, further
finalizes) is its content at finalize, whatever the build history.  Only the two copying flags are needed: what `add` and `get` do
while the record is open is irrelevant. -/
theorem phase_finalized_immutable {α : Type} (f : Flags) (hf : f.finalizeCopies = true) (hg : f.getLockedCopies = true)
    (d : α) (build after : List (Op α)) :
    view (run f (init d) (build ++ [.finalize] ++ after)) = view (run f (init d) (build ++ [.finalize])) := by
  rw [run_append f (build ++ [Op.finalize]) after, run_append f build [Op.finalize]]
  have w := wf_run f build _ (wf_init d)
  have h := finalize_sep f hf _ w
  exact sep_run f hf hg after _ (wf_step f _ .finalize w) h.1

theorem phase_finalized_immutable_code {α : Type} (d : α) (build after : List (Op α)) :
    view (run genFlags (init d) (build ++ [.finalize] ++ after)) = view (run genFlags (init d) (build ++ [.finalize])) :=
  phase_finalized_immutable genFlags phase_flags_safe.1 phase_flags_safe.2.1 d build after

example : ∃ f : Flags, f.finalizeCopies = true ∧ f.getLockedCopies = true := ⟨⟨true, true, true, true⟩, rfl, rfl⟩

/-- copying on the way IN (at add) instead of at finalize is not enough: a handle from `get` on the open record survives -/
theorem phase_no_copy_at_finalize_counterexample :
    let f : Flags := { addKeepsArg := false, getOpenHandsOutOwn := true, finalizeCopies := false, getLockedCopies := true }
    view (run f (init 0) [.add "n" 1, .get "n", .finalize, .edit 1 2]) = [("n", 2)] ∧
    view (run f (init 0) [.add "n" 1, .get "n", .finalize]) = [("n", 1)] := by
  decide

end phase

/-- a validator that remembers verdicts under the key (category, name) answers every lookup of every history, from an empty memo, with
membership of the name in the table of the category asked: the test `ttNew` / `ttOf` make on the tuple's own table.  (So does every
key that separates (category, name) pairs: `CodecShared.runLookups_ok`.) -/
theorem ttuple_shared_validator_history (tbl : String → List (List Char)) (qs : List (String × List Char)) :
    CodecShared.runLookups (fun c t => (c, t)) tbl [] qs = qs.map (fun q => (tbl q.1).contains q.2) := by
  rw [CodecShared.runLookups_ok _ tbl (by intro c t c' t' h; exact Prod.mk.inj h) qs [] (by intro p hp; simp at hp)]
  simp [CodecShared.verdict]

/-- remembering verdicts under the NAME alone is not such a validator: a name refused in one category is then refused in the
category that has it -/
theorem ttuple_validator_memo_by_name_counterexample :
    let tbl : Bool → List Nat := fun c => if c then [1] else []
    CodecShared.runLookups (fun _ t => t) tbl [] [(false, 1), (true, 1)] = [false, false] ∧
    [(false, 1), (true, 1)].map (fun q => CodecShared.verdict tbl q.1 q.2) = [false, true] := by
  decide

/-- the constant is what gen/ttshared.py finds when it runs the code on its probe histories (every name of every category offered to
every tuple class through the three entry points, own category first / foreign categories first / rotated, everything twice):
every verdict is the one of the class's own table.  The differential lines `tt.new / tt.from / tt.parse` with foreign names in a
seeded order and the oracle family `tt_cross` check the same on every run. -/
theorem ttuple_validator_history_free_code : Gen.TTShared.validatorHistoryFree = true := by decide

end FimVerif.C03
