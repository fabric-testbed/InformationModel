import FimVerif.Proofs.Lemmas.TopoInvExt
import FimVerif.Model.TopoView
import FimVerif.Model.TopoExt
import FimVerif.Generated.DetachProbe
/-!
# C07 — models built through the topology API satisfy the published rules; views are exact

Full statement: for every history `ops` of building calls, `Topo.Inv (run ops Topo.empty)` (`Topo.Inv`: Proofs/Lemmas/TopoInv.lean).
The driver evaluates every conjunct on every state of the correspondence run and the harness compares the verdicts with the Python
transliteration of the published rules on the implementation's graph.

Proved, under decidable guards on the arguments of each call (types from the API's enums, handles refer to elements of their
class, fresh uuids, no ServicePort handed to add_link / connect_interface): `InvD` ("at most one" owner / parent / peer) along every
history of all calls of both alphabets, any outcome; `InvS` ("exactly one") along histories of the creating and property calls;
`InvSN` (with the four name scopes no creating call breaks) without rename; the full `Inv` for add_node and set/unset property.
`Topo.setProps` is set_property for keywords other than `name` / `type` (`setPropsNT_eq_setProps`); with those two the code rewrites
the element (`setPropsNT` of Model/TopoExt.lean, which the driver runs for them) and breaks name scopes and the ServicePort rule; the
`.setProps` rows of the guards do not exclude such keywords, so for them the theorems speak of the model function only.
NOT proved (oracle + correspondence only): "exactly one" after the removing calls (C08's subject); the Link and
interface-of-a-service name scopes and every name scope under rename (the code breaks them: the `_counterexample` theorems, known
findings); the name scopes under removals.
-/
namespace FimVerif.C07
open FimVerif FimVerif.M FimVerif.Topo FimVerif.Gen

/-- every member of the API's enums is in the published type vocabulary of its class -/
def covered : Bool :=
  Rules.enumMembers.all (fun (cls, ms) =>
    match Rules.typeVocab.find? (fun p => p.1 == cls) with
    | some (_, vs) => ms.all (fun m => vs.contains m)
    | none => false)

theorem vocab_covers_enums : covered = true := by decide +kernel

/-- the number of rule kinds and of classes in the rule file the invariant and the oracle were written against -/
theorem rules_pinned : Rules.ruleKinds.length = 13 ∧ Rules.classVocab.length = 6 := by decide

theorem views_exact_nodes (s : Topo) (x : String) :
    x ∈ viewNodes s ↔ ∃ n ∈ s.nodes, n.cls = .networkNode ∧ n.typ ≠ "Facility" ∧ n.name = x := by
  simp [viewNodes, List.mem_map, List.mem_filter, and_assoc]

theorem views_exact_facilities (s : Topo) (x : String) :
    x ∈ viewFacilities s ↔ ∃ n ∈ s.nodes, n.cls = .networkNode ∧ n.typ = "Facility" ∧ n.name = x := by
  simp [viewFacilities, List.mem_map, List.mem_filter, and_assoc]

theorem views_exact_links (s : Topo) (x : String) :
    x ∈ viewLinks s ↔ ∃ n ∈ s.nodes, n.cls = .link ∧ n.name = x := by
  simp [viewLinks, List.mem_map, List.mem_filter, and_assoc]

theorem views_exact_services (s : Topo) (x : String) :
    x ∈ viewServices s ↔ ∃ n ∈ s.nodes, n.cls = .networkService ∧ n.name = x := by
  simp [viewServices, List.mem_map, List.mem_filter, and_assoc]

theorem views_partition_nodes (s : Topo) :
    (viewNodes s).length + (viewFacilities s).length = (s.nodes.filter (fun n => n.cls == .networkNode)).length := by
  simp only [viewNodes, viewFacilities, List.length_map]
  induction s.nodes with
  | nil => rfl
  | cons a l ih =>
    simp only [List.filter_cons]
    by_cases h1 : a.cls = .networkNode <;> by_cases h2 : a.typ = "Facility" <;> simp [h1, h2] <;> omega

section Views
open FimVerif.TopoView

/-- the table generated from fim/view_only_dict.py says: no in-place method of `dict` is accepted, none changes the view or the
wrapped dictionary, the class does not forward attributes and is not a (subclass of a) mutable mapping -/
def allRefused : Bool :=
  ViewDict.mutators.all (fun r => r.2.2.1 != "ok" && !r.2.2.2.1 && !r.2.2.2.2) && !ViewDict.forwardsAttributes &&
    !ViewDict.isMutableMapping && !ViewDict.isDict

theorem view_mutators_refused : allRefused = true := by decide +kernel

/-- the table covers every way a dict can be changed in place, as a method and as a statement -/
theorem view_mutators_complete :
    ["__setitem__", "item-assignment", "__delitem__", "del-item", "pop", "popitem", "clear", "update", "setdefault", "__ior__", "|="].all
      (fun m => ViewDict.mutators.any (fun r => r.1 == m)) = true := by decide +kernel

/-- every `interface_list` is a tuple, or a list whose change does not show in the next read -/
theorem view_lists_immutable : ViewDict.listViews.all (fun r => r.2.1 == "tuple" || r.2.2) = true := by decide +kernel

theorem verdict_not_ok {name out : String} (h : verdict name = some out) : (out == "ok") = false := by
  unfold verdict at h
  cases hf : ViewDict.mutators.find? (fun r => r.1 == name) with
  | none => rw [hf] at h; cases h
  | some r =>
    rw [hf] at h
    simp only [Option.map_some, Option.some.injEq] at h
    have hm := List.mem_of_find?_eq_some hf
    have hall := view_mutators_refused
    simp only [allRefused, Bool.and_eq_true, List.all_eq_true] at hall
    have := hall.1.1.1 r hm
    simp only [bne_iff_ne, ne_eq] at this
    rw [← h]
    simpa using this.1.1

/-- every operation on a view - reading or any in-place method of `dict` - leaves the view object and the model as they were -/
theorem view_call_readOnly (c : Call) : ReadOnly (TopoView.call c) := by
  cases c with
  | len => exact readOnly_read _
  | keys => exact readOnly_read _
  | contains k => exact readOnly_read _
  | get k => exact readOnly_read _
  | getitem k => constructor; intro v; simp only [TopoView.call]; split <;> rfl
  | mutator name k =>
    simp only [TopoView.call]
    cases hv : verdict name with
    | none => exact readOnly_raise _
    | some out =>
      simp only [verdict_not_ok hv]
      exact readOnly_raise _

theorem views_cannot_modify (cs : List Call) : ∀ v : VState, TopoView.runCalls cs v = v := by
  induction cs with
  | nil => intro v; rfl
  | cons c cs ih => intro v; simp only [TopoView.runCalls]; rw [(view_call_readOnly c).h v]; exact ih v

/-- a view lists exactly the elements of its class, and still does after any sequence of calls on it -/
theorem view_stays_exact (k : Kind) (s : Topo) (cs : List Call) (x : String) :
    x ∈ (TopoView.runCalls cs (openView k s)).keys ↔ x ∈ listing k s := by
  rw [views_cannot_modify]
  simp [openView, dictKeys]

example : failed (TopoView.call (.mutator "pop" "n1") (openView .nodes ⟨[⟨.networkNode, .user "a", "n1", "VM", []⟩], []⟩)) ∧
    (openView .nodes ⟨[⟨.networkNode, .user "a", "n1", "VM", []⟩], []⟩).keys = ["n1"] := by decide +kernel

end Views

/-- node ids distinct (rule "All node NodeIDs must be distinct") and no dangling edge: `IdsOk s ∧ ClosedOk s` written out -/
def Wf (s : Topo) : Prop :=
  (s.nodes.map (·.nid)).Nodup ∧ ∀ e ∈ s.edges, (∃ n ∈ s.nodes, n.ref = e.a) ∧ (∃ n ∈ s.nodes, n.ref = e.b)

theorem wf_empty : Wf Topo.empty := by simp [Wf, Topo.empty]

/-- the id guard of `add_node` looks at every class (regenerated from a behaviour probe of the code) -/
theorem id_guard_any_class : Rules.idAnyClass = true := by decide

theorem wf_addGNode (n : GNode) (s : Topo) (h : Wf s) : Wf (addGNode n s).2 := by
  rcases addGNode_cases n s with he | ⟨he, hn⟩
  · rw [he]; exact h
  · rw [he]
    exact ⟨idsDistinct_push h.1 hn, pushNode_eq_grow n s ▸ closed_grow h.2 (fun _ he => nomatch he)⟩

theorem wf_setEdge (a b : Ref) (rel : Rel) (s : Topo) (ha : ∃ n ∈ s.nodes, n.ref = a) (hb : ∃ n ∈ s.nodes, n.ref = b)
    (h : Wf s) : Wf (setEdge a b rel s) := by
  refine ⟨h.1, ?_⟩
  intro e he
  simp only [setEdge, List.mem_append, List.mem_filter, List.mem_singleton] at he
  rcases he with ⟨he, _⟩ | rfl
  · exact h.2 e he
  · exact ⟨ha, hb⟩

theorem wf_dropNode (r : Ref) (s : Topo) (h : Wf s) : Wf (dropNode r s) :=
  ⟨idsDistinct_drop h.1 r, closedOk_dropNode r h.2⟩

theorem wf_mapNodes (f : GNode → GNode) (hf : ∀ n, (f n).nid = n.nid ∧ (f n).cls = n.cls) (s : Topo) (h : Wf s) :
    Wf { s with nodes := s.nodes.map f } :=
  ⟨idsOk_mapNodes (fun n => (hf n).1) h.1, closedOk_mapNodes (fun n => by simp [GNode.ref, (hf n).1, (hf n).2]) h.2⟩

theorem pw_addGNode (n : GNode) : Preserves Wf (addGNode n) := ⟨fun s h => wf_addGNode n s h⟩

theorem pw_addEdge (a : Nid) (r : Rel) (b : Nid) : Preserves Wf (addEdge a r b) := by
  constructor; intro s h
  unfold addEdge
  refine ro_step (Q := fun x => Wf x.2) (readOnly_findNode a) (fun _ => h) (fun na h1 => ?_)
  refine ro_step (Q := fun x => Wf x.2) (readOnly_findNode b) (fun _ => h) (fun nb h2 => ?_)
  exact wf_setEdge _ _ _ _ ⟨na, (findNode_ok h1).1, rfl⟩ ⟨nb, (findNode_ok h2).1, rfl⟩ h

theorem pw_deleteNode (n : Nid) : Preserves Wf (deleteNode n) := preserves_deleteNode wf_dropNode n

theorem pw_updateProps (n : Nid) (p : Props) : Preserves Wf (updateProps n p) :=
  preserves_updateProps (fun f hf _ s h => wf_mapNodes f (fun m => ⟨hf.nid m, hf.cls m⟩) s h) n p

theorem pw_mapNodes (f : GNode → GNode) (hf : ∀ n, (f n).nid = n.nid ∧ (f n).cls = n.cls) :
    Preserves Wf (M.modify (fun s : Topo => { s with nodes := s.nodes.map f })) :=
  preserves_modify (fun s h => wf_mapNodes f hf s h)

theorem inv_empty : Inv Topo.empty := by decide

theorem invS_iff (s : Topo) : InvS s ↔ InvD s ∧
    (∀ n ∈ s.nodes, n.cls = .component → 1 ≤ (ownersOf s n.ref).length) ∧
    (∀ n ∈ s.nodes, n.cls = .connectionPoint → 1 ≤ (parentsOf s n.ref).length) ∧
    (∀ n ∈ s.nodes, n.cls = .connectionPoint → n.typ = "ServicePort" → 1 ≤ (spPeers s n.ref).length) := by
  constructor
  · intro h
    exact ⟨h.down, fun n hn hc => Nat.le_of_eq (h.compOwned n hn hc).symm, fun n hn hc => Nat.le_of_eq (h.ifaceOwned n hn hc).symm,
      fun n hn hc ht => Nat.le_of_eq (h.spPeer n hn hc ht).symm⟩
  · intro ⟨h, h1, h2, h3⟩
    exact ⟨h.ids, h.closed, h.vocab, h.schema, fun n hn hc => Nat.le_antisymm (h.compOwned n hn hc) (h1 n hn hc),
      fun n hn hc => Nat.le_antisymm (h.ifaceOwned n hn hc) (h2 n hn hc),
      fun n hn hc ht => Nat.le_antisymm (h.spPeer n hn hc ht) (h3 n hn hc ht)⟩

/-- "links join only interfaces" as the published rule states it -/
theorem links_only_interfaces {s : Topo} (h : SchemaOk s) (e : GEdge) (he : e ∈ s.edges) :
    (e.a.cls = .link → e.b.cls = .connectionPoint) ∧ (e.b.cls = .link → False) := by
  have := h e he
  unfold edgeOk at this
  constructor
  · intro ha; rw [ha] at this; cases hr : e.rel <;> cases hb : e.b.cls <;> simp [hr, hb] at this ⊢
  · intro hb; rw [hb] at this; cases hr : e.rel <;> cases ha : e.a.cls <;> simp [hr, ha] at this

def run : List TopoOp → Topo → Topo
  | [], s => s
  | op :: ops, s => run ops (step op s).2

def NoSpOpt (s : Topo) : Option (List IfArg) → Prop
  | none => True
  | some l => NoSpIn s l
instance (s : Topo) (o : Option (List IfArg)) : Decidable (NoSpOpt s o) := by cases o <;> unfold NoSpOpt <;> infer_instance

/-- uuid4 returns ids that are not in the model -/
def FreshTwo (s : Topo) (c : Nat) : Prop := ∀ m ∈ s.nodes, m.nid ≠ .gen c ∧ m.nid ≠ .gen (c + 1)
instance (s : Topo) (c : Nat) : Decidable (FreshTwo s c) := by unfold FreshTwo; infer_instance

def ConnectOk (s : Topo) (c : Nat) (svc : Nid) : IfArg → Prop
  | .bogus => True
  | .iface iid iname => HandleOk s svc .networkService ∧ HandleOk s iid .connectionPoint ∧ FreshTwo s c ∧ NoSpIn s [.iface iid iname]
instance (s : Topo) (c : Nat) (svc : Nid) (i : IfArg) : Decidable (ConnectOk s c svc i) := by
  cases i <;> unfold ConnectOk <;> infer_instance

/-- the calls (with the decidable conditions on their arguments in state `s`) for which `inv_op` is proved -/
def CoveredS (s : Topo) : TopoOp → Prop
  | .addNode _ _ a => TypeArgOk .networkNode a.ntype
  | .addComponent _ _ _ _ => True
  | .addStorage _ _ _ _ _ _ => True
  | .addService _ c a => SvcGuards s c none a
  | .nodeAddService _ c parent a => SvcGuards s c (some parent) a
  | .nsAddInterface _ _ svc _ _ _ itype _ => HandleOk s svc .networkService ∧ TypeArgOk .connectionPoint itype ∧ NotSp itype
  | .addLink _ _ _ _ ltype ifs _ _ => TypeArgOk .link ltype ∧ NoSpOpt s ifs
  | .connect _ c svc _ i => ConnectOk s c svc i
  | .addFacility _ _ _ _ _ t _ _ _ => TypeArgOk .networkService t
  | .addSwitch _ _ _ _ _ t _ _ => TypeArgOk .networkService t
  | .setProps _ _ => True
  | .unsetProp _ _ => True
  | .rename _ _ _ => True
  | _ => False

/-- the alphabet for the downward-closed invariant: every removing call as well; `add_interface` may make a ServicePort -/
def CoveredD (s : Topo) : TopoOp → Prop
  | .addNode _ _ a => TypeArgOk .networkNode a.ntype
  | .addComponent _ _ _ _ => True
  | .addStorage _ _ _ _ _ _ => True
  | .addService _ c a => SvcGuards s c none a
  | .nodeAddService _ c parent a => SvcGuards s c (some parent) a
  | .nsAddInterface _ _ svc _ _ _ itype _ => HandleOk s svc .networkService ∧ TypeArgOk .connectionPoint itype
  | .addLink _ _ _ _ ltype ifs _ _ => TypeArgOk .link ltype ∧ NoSpOpt s ifs
  | .connect _ c svc _ i => ConnectOk s c svc i
  | .setProps _ _ | .unsetProp _ _ | .rename _ _ _ => True
  | .nsRemoveInterface _ _ _ | .disconnect _ _ | .removeNode _ | .removeFacility _ | .removeSwitch _ | .removeLink _
  | .removeService _ | .nodeRemoveService _ _ | .removeComponent _ _ => True
  | .addFacility _ _ _ _ _ t _ _ _ => TypeArgOk .networkService t
  | .addSwitch _ _ _ _ _ t _ _ => TypeArgOk .networkService t

instance (s : Topo) (op : TopoOp) : Decidable (CoveredS s op) := by cases op <;> unfold CoveredS <;> infer_instance
instance (s : Topo) (op : TopoOp) : Decidable (CoveredD s op) := by cases op <;> unfold CoveredD <;> infer_instance

def ValidS : List TopoOp → Topo → Prop
  | [], _ => True
  | op :: ops, s => CoveredS s op ∧ ValidS ops (step op s).2
def ValidD : List TopoOp → Topo → Prop
  | [], _ => True
  | op :: ops, s => CoveredD s op ∧ ValidD ops (step op s).2

instance decValidS : (ops : List TopoOp) → (s : Topo) → Decidable (ValidS ops s)
  | [], _ => isTrue trivial
  | op :: ops, s => by
      unfold ValidS
      have := decValidS ops (step op s).2
      infer_instance
instance decValidD : (ops : List TopoOp) → (s : Topo) → Decidable (ValidD ops s)
  | [], _ => isTrue trivial
  | op :: ops, s => by
      unfold ValidD
      have := decValidD ops (step op s).2
      infer_instance

/-- `CoveredS` minus rename (it breaks every name scope: known finding) -/
def CoveredN (s : Topo) : TopoOp → Prop
  | .rename _ _ _ => False
  | op => CoveredS s op
instance (s : Topo) (op : TopoOp) : Decidable (CoveredN s op) := by cases op <;> unfold CoveredN <;> infer_instance

theorem build_op {P : Topo → Prop} (hP : BuildStable P) (s : Topo) (op : TopoOp) (hc : CoveredN s op) (h : P s) : P (step op s).2 := by
  cases op <;> simp only [CoveredN, CoveredS] at hc <;> simp only [step] <;> rw [state_after_bind _ _ (fun _ _ => rfl)]
  case addNode fl c a => exact addNode_stable hP fl c a s hc h
  case addComponent fl c p a => exact inv_addComponent_anyHandle hP.toAttachStable fl c p a s h
  case addStorage fl c p n i pr => exact inv_addStorage_anyHandle hP.toAttachStable fl c p n i pr s h
  case addService fl c a => exact addService_stable hP fl c a s hc h
  case nodeAddService fl c p a => exact nodeAddService_stable hP fl c p a s hc h
  case nsAddInterface fl c svc ca n i t p => exact nsAddInterface_stable hP.toAttachStable fl c svc ca n i t p s hc.1 hc.2.1 hc.2.2 h
  case addLink fl c n i lt ifs t p =>
    exact addLink_stable hP fl c n i lt ifs t p s hc.1 (fun l hl => by have := hc.2; rw [hl] at this; exact this) h
  case connect fl c svc ca i =>
    cases i with
    | bogus => exact h
    | iface iid iname => exact connect_stable hP fl c svc iid iname ca s hc.1 hc.2.1 hc.2.2.1 hc.2.2.2 h
  case addFacility fl c n i st t np ifs kw => exact addFacility_stable hP fl c n i st t np ifs kw s hc h
  case addSwitch fl c n i st t np ports => exact addSwitch_stable hP fl c n i st t np ports s hc h
  case setProps i p => exact (preserves_setProps hP.map i p).h s h
  case unsetProp i g => exact (preserves_unsetProp hP.map i g).h s h

theorem preserves_then_pure {P : Topo → Prop} {α β : Type} {m : M Topo α} (hm : Preserves P m) {g : α → β} {s : Topo} (h : P s) :
    P ((m >>= fun r => Pure.pure (g r)) s).2 := by
  rw [state_after_bind _ _ (fun _ _ => rfl)]; exact hm.h s h

/-- every covered building call keeps the structural invariant, whether it returns or raises -/
theorem inv_op (s : Topo) (op : TopoOp) (hc : CoveredS s op) (h : InvS s) : InvS (step op s).2 := by
  cases op
  case rename c i n => exact preserves_then_pure (preserves_rename keyStable_invS c i n) h
  -- on every other call `CoveredS` and `CoveredN` unfold to the same guard
  all_goals exact build_op buildStable_invS s _ hc h

/-- the creating and property calls as in `build_op` (`add_interface` may make a ServicePort here); the removing calls only delete -/
theorem invD_op (s : Topo) (op : TopoOp) (hc : CoveredD s op) (h : InvD s) : InvD (step op s).2 := by
  cases op
  case rename c i n => exact preserves_then_pure (preserves_rename keyStable_invD c i n) h
  case nsAddInterface fl c svc ca n i t p =>
    simp only [step]; rw [state_after_bind _ _ (fun _ _ => rfl)]; exact invD_nsAddInterface fl c svc ca n i t p s hc.1 hc.2 h
  case nsRemoveInterface fl svc n => exact preserves_then_pure (preserves_nsRemoveInterface dropStable_invD fl svc n) h
  case disconnect ca i => exact preserves_then_pure (preserves_disconnectInterface dropStable_invD ca i) h
  case removeNode n => exact preserves_then_pure (preserves_removeNode dropStable_invD n) h
  case removeFacility n => exact preserves_then_pure (preserves_removeFacility dropStable_invD n) h
  case removeSwitch n => exact preserves_then_pure (preserves_removeSwitch dropStable_invD n) h
  case removeLink n => exact preserves_then_pure (preserves_removeLink dropStable_invD n) h
  case removeService n => exact preserves_then_pure (preserves_removeService dropStable_invD n) h
  case nodeRemoveService p n => exact preserves_then_pure (preserves_nodeRemoveService dropStable_invD p n) h
  case removeComponent p n => exact preserves_then_pure (preserves_removeComponent dropStable_invD p n) h
  all_goals exact build_op buildStable_invD s _ hc h

/-- PARTIAL: name scopes, uncovered calls and "exactly one" after removals are missing -/
theorem inv_history_partial (ops : List TopoOp) : ∀ s, ValidS ops s → InvS s → InvS (run ops s) := by
  induction ops with
  | nil => intro s _ h; exact h
  | cons op ops ih => intro s hv h; exact ih _ hv.2 (inv_op s op hv.1 h)

theorem invD_history_partial (ops : List TopoOp) : ∀ s, ValidD ops s → InvD s → InvD (run ops s) := by
  induction ops with
  | nil => intro s _ h; exact h
  | cons op ops ih => intro s hv h; exact ih _ hv.2 (invD_op s op hv.1 h)

theorem inv_history_from_empty (ops : List TopoOp) (hv : ValidS ops Topo.empty) : InvS (run ops Topo.empty) :=
  inv_history_partial ops _ hv inv_empty.struct

theorem invD_history_from_empty (ops : List TopoOp) (hv : ValidD ops Topo.empty) : InvD (run ops Topo.empty) :=
  invD_history_partial ops _ hv inv_empty.struct.down

def ValidN : List TopoOp → Topo → Prop
  | [], _ => True
  | op :: ops, s => CoveredN s op ∧ ValidN ops (step op s).2
instance decValidN : (ops : List TopoOp) → (s : Topo) → Decidable (ValidN ops s)
  | [], _ => isTrue trivial
  | op :: ops, s => by
      unfold ValidN
      have := decValidN ops (step op s).2
      infer_instance

theorem invN_op (s : Topo) (op : TopoOp) (hc : CoveredN s op) (h : InvSN s) : InvSN (step op s).2 :=
  build_op buildStable_invSN s op hc h

/-- PARTIAL: the Link and interface-of-a-service name scopes, rename and the removing calls are missing -/
theorem invN_history_partial (ops : List TopoOp) : ∀ s, ValidN ops s → InvSN s → InvSN (run ops s) := by
  induction ops with
  | nil => intro s _ h; exact h
  | cons op ops ih => intro s hv h; exact ih _ hv.2 (invN_op s op hv.1 h)

theorem invN_history_from_empty (ops : List TopoOp) (hv : ValidN ops Topo.empty) : InvSN (run ops Topo.empty) :=
  invN_history_partial ops _ hv ⟨inv_empty.struct, inv_empty.names.core⟩

/-- non-vacuity -/
example : ValidN [.addNode .experiment 0 ⟨"n1", none, some "RENC", some "VM", []⟩,
                  .addComponent .experiment 1 (.gen 0) ⟨"nic1", none, some "SmartNIC", some "ConnectX-6", none, none, none, []⟩,
                  .addService .experiment 5 ⟨"s1", none, some "L2Bridge", none, none, [], [.iface (.gen 2) "nic1-p1"]⟩,
                  .connect .experiment 8 (.gen 5) [] (.iface (.gen 3) "nic1-p2"),
                  .addFacility .experiment 10 "fac" none (some "RENC") (some "VLAN") [] none [],
                  .setProps (.gen 0) [.ok "Site" "UKY"]] Topo.empty := by decide +kernel

/-! the second alphabet (`XOp`): `add_child_interface`, `remove_child_interface`, `peer`, `unpeer`, `add_port_mirror_service`,
`add_component(model_type=…)`, `prune` -/

def CoveredDX (s : Topo) : XOp → Prop
  | .addChildInterface _ _ port _ _ _ _ _ _ => HandleOk s port .connectionPoint
  | .peer _ c svc _ _ other _ => PeerGuard s c svc other
  | .addPortMirror _ c a _ _ => SvcGuards s c none a
  | .removeChildInterface _ _ _ | .unpeer _ _ | .addComponentMT _ _ _ _ _ | .prune _ _ _ _ => True

def CoveredSX (s : Topo) : XOp → Prop
  | .addChildInterface _ _ port _ _ _ _ _ _ => HandleOk s port .connectionPoint
  | .peer _ c svc _ _ other _ => PeerGuard s c svc other
  | .addPortMirror _ c a _ _ => SvcGuards s c none a
  | .addComponentMT _ _ _ _ _ => True
  | .removeChildInterface _ _ _ | .unpeer _ _ | .prune _ _ _ _ => False

instance (s : Topo) (op : XOp) : Decidable (CoveredDX s op) := by cases op <;> unfold CoveredDX <;> infer_instance
instance (s : Topo) (op : XOp) : Decidable (CoveredSX s op) := by cases op <;> unfold CoveredSX <;> infer_instance

theorem build_xop {P : Topo → Prop} (hP : BuildStable P) (s : Topo) (op : XOp) (hc : CoveredSX s op) (h : P s) : P (stepX op s).2 := by
  cases op <;> simp only [CoveredSX] at hc <;> simp only [stepX] <;> rw [state_after_bind _ _ (fun _ _ => rfl)]
  case addChildInterface fl c p ca n i v tb pr => exact inv_addChildInterface hP.toAttachStable fl c p ca n i v tb pr s hc h
  case peer fl c svc sn ca o pr => exact peer_stable hP fl c svc sn ca o pr s hc h
  case addPortMirror fl c a t f => exact addPortMirror_stable hP fl c a t f s hc h
  case addComponentMT fl c p a mt => exact inv_addComponentMT hP.toAttachStable fl c p a mt s h

theorem invD_xop (s : Topo) (op : XOp) (hc : CoveredDX s op) (h : InvD s) : InvD (stepX op s).2 := by
  cases op
  case removeChildInterface p ca n => exact preserves_then_pure (preserves_removeChildInterface dropStable_invD p ca n) h
  case unpeer ca o => exact preserves_then_pure (preserves_unpeer dropStable_invD ca o) h
  case prune ns cs ss is => exact preserves_then_pure (preserves_prune dropStable_invD ns cs ss is) h
  all_goals exact build_xop buildStable_invD s _ hc h

theorem inv_xop (s : Topo) (op : XOp) (hc : CoveredSX s op) (h : InvS s) : InvS (stepX op s).2 := build_xop buildStable_invS s op hc h

theorem invN_xop (s : Topo) (op : XOp) (hc : CoveredSX s op) (h : InvSN s) : InvSN (stepX op s).2 := build_xop buildStable_invSN s op hc h

inductive Call where
  | t (op : TopoOp)
  | x (op : XOp)

def stepCall : Call → Topo → Topo
  | .t op, s => (step op s).2
  | .x op, s => (stepX op s).2

def runCalls : List Call → Topo → Topo
  | [], s => s
  | c :: cs, s => runCalls cs (stepCall c s)

def CallD (s : Topo) : Call → Prop
  | .t op => CoveredD s op
  | .x op => CoveredDX s op
def CallS (s : Topo) : Call → Prop
  | .t op => CoveredS s op
  | .x op => CoveredSX s op
def CallN (s : Topo) : Call → Prop
  | .t op => CoveredN s op
  | .x op => CoveredSX s op
instance (s : Topo) (c : Call) : Decidable (CallD s c) := by cases c <;> unfold CallD <;> infer_instance
instance (s : Topo) (c : Call) : Decidable (CallS s c) := by cases c <;> unfold CallS <;> infer_instance
instance (s : Topo) (c : Call) : Decidable (CallN s c) := by cases c <;> unfold CallN <;> infer_instance

def ValidCalls (G : Topo → Call → Prop) : List Call → Topo → Prop
  | [], _ => True
  | c :: cs, s => G s c ∧ ValidCalls G cs (stepCall c s)
instance decValidCalls (G : Topo → Call → Prop) [∀ s c, Decidable (G s c)] : (cs : List Call) → (s : Topo) → Decidable (ValidCalls G cs s)
  | [], _ => isTrue trivial
  | c :: cs, s => by
      unfold ValidCalls
      have := decValidCalls G cs (stepCall c s)
      infer_instance

theorem history_of_step {P : Topo → Prop} {G : Topo → Call → Prop} (hstep : ∀ s c, G s c → P s → P (stepCall c s)) (cs : List Call) :
    ∀ s, ValidCalls G cs s → P s → P (runCalls cs s) := by
  induction cs with
  | nil => intro s _ h; exact h
  | cons c cs ih => intro s hv h; exact ih _ hv.2 (hstep s c hv.1 h)

theorem invD_call (s : Topo) (c : Call) (hc : CallD s c) (h : InvD s) : InvD (stepCall c s) := by
  cases c with
  | t op => exact invD_op s op hc h
  | x op => exact invD_xop s op hc h
theorem inv_call (s : Topo) (c : Call) (hc : CallS s c) (h : InvS s) : InvS (stepCall c s) := by
  cases c with
  | t op => exact inv_op s op hc h
  | x op => exact inv_xop s op hc h
theorem invN_call (s : Topo) (c : Call) (hc : CallN s c) (h : InvSN s) : InvSN (stepCall c s) := by
  cases c with
  | t op => exact invN_op s op hc h
  | x op => exact invN_xop s op hc h

/-- PARTIAL ("at most one" owner / parent / peer instead of "exactly one"; the name scopes are missing): EVERY building call of
both alphabets - all 29 request kinds, removing calls, rollbacks and half-way raises included - keeps `InvD` -/
theorem invD_calls_partial (cs : List Call) (s : Topo) (hv : ValidCalls CallD cs s) (h : InvD s) : InvD (runCalls cs s) :=
  history_of_step invD_call cs s hv h

/-- PARTIAL (the removing calls and the name scopes are missing): every creating / property call of both alphabets keeps `InvS`
("exactly one" owner / parent / peer), whether it returns or raises -/
theorem inv_calls_partial (cs : List Call) (s : Topo) (hv : ValidCalls CallS cs s) (h : InvS s) : InvS (runCalls cs s) :=
  history_of_step inv_call cs s hv h

/-- PARTIAL (as `inv_calls_partial`, without rename; Link and interface-of-a-service name scopes missing): … and the four name
scopes of `NamesCore` -/
theorem invN_calls_partial (cs : List Call) (s : Topo) (hv : ValidCalls CallN cs s) (h : InvSN s) : InvSN (runCalls cs s) :=
  history_of_step invN_call cs s hv h

theorem invD_calls_from_empty (cs : List Call) (hv : ValidCalls CallD cs Topo.empty) : InvD (runCalls cs Topo.empty) :=
  invD_calls_partial cs _ hv inv_empty.struct.down

/-- non-vacuity, removing calls included -/
example : ValidCalls CallD [
    .t (.addNode .experiment 0 ⟨"n1", none, some "RENC", some "VM", []⟩),
    .x (.addComponentMT .experiment 1 (.gen 0) ⟨"nic1", none, some "SmartNIC", none, none, none, none, []⟩ ("ConnectX-6", "SmartNIC")),
    .x (.addChildInterface .experiment 5 (.gen 2) [] "sub1" none (some "101") [] [.ok "Labels" "{\"vlan\": \"101\"}"]),
    .t (.addService .experiment 6 ⟨"s1", none, some "L2Bridge", none, none, [], [.iface (.gen 5) "sub1"]⟩),
    .t (.addService .experiment 9 ⟨"s2", none, some "L2STS", none, none, [], []⟩),
    .x (.peer .experiment 10 (.gen 6) "s1" [] (some ⟨.gen 9, "s2", []⟩) []),
    .t (.removeComponent (.gen 0) "nic1"),
    .x (.unpeer [("s1-s2", .gen 10)] (some ⟨.gen 9, "s2", [("s2-s1", .gen 11)]⟩)),
    .x (.prune ["n1"] [] [] [])] Topo.empty ∧
  (runCalls [
    .t (.addNode .experiment 0 ⟨"n1", none, some "RENC", some "VM", []⟩),
    .x (.addComponentMT .experiment 1 (.gen 0) ⟨"nic1", none, some "SmartNIC", none, none, none, none, []⟩ ("ConnectX-6", "SmartNIC")),
    .x (.addChildInterface .experiment 5 (.gen 2) [] "sub1" none (some "101") [] [.ok "Labels" "{\"vlan\": \"101\"}"]),
    .t (.addService .experiment 6 ⟨"s1", none, some "L2Bridge", none, none, [], [.iface (.gen 5) "sub1"]⟩),
    .t (.addService .experiment 9 ⟨"s2", none, some "L2STS", none, none, [], []⟩),
    .x (.peer .experiment 10 (.gen 6) "s1" [] (some ⟨.gen 9, "s2", []⟩) [])] Topo.empty).nodes.length = 13 := by decide +kernel

example : ValidCalls CallN [
    .t (.addNode .experiment 0 ⟨"n1", none, some "RENC", some "VM", []⟩),
    .x (.addComponentMT .experiment 1 (.gen 0) ⟨"nic1", none, some "SmartNIC", none, none, none, none, []⟩ ("ConnectX-6", "SmartNIC")),
    .x (.addChildInterface .experiment 5 (.gen 2) [] "sub1" none (some "101") [] [.ok "Labels" "{\"vlan\": \"101\"}"]),
    .t (.addService .experiment 6 ⟨"s1", none, some "L2Bridge", none, none, [], [.iface (.gen 5) "sub1"]⟩),
    .t (.addService .experiment 9 ⟨"s2", none, some "L2STS", none, none, [], []⟩),
    .x (.peer .experiment 10 (.gen 6) "s1" [] (some ⟨.gen 9, "s2", []⟩) []),
    .x (.addPortMirror .experiment 13 ⟨"pm", none, some "PortMirror", none, none, [], [.iface (.gen 3) "nic1-p2"]⟩ true true)] Topo.empty := by decide +kernel

theorem inv_setProps (nid : Nid) (props : List PropArg) (s : Topo) (h : Inv s) : Inv (setProps nid props s).2 :=
  (preserves_setProps mapStable_inv nid props).h s h
theorem inv_unsetProp (nid : Nid) (g : Option String) (s : Topo) (h : Inv s) : Inv (unsetProp nid g s).2 :=
  (preserves_unsetProp mapStable_inv nid g).h s h

theorem inv_addNode (fl : Flavour) (c : Nat) (a : NodeArgs) (s : Topo) (ht : TypeArgOk .networkNode a.ntype) (h : Inv s) :
    Inv (addNode fl c a s).2 :=
  addNode_inv fl c a s ht h fun _ hf hv hc hnm =>
    ⟨invS_push h.struct hf hv (.inl hc), namesOk_pushNode h.names h.struct.closed hf hv hc hnm⟩

/-! Every witness below (non-vacuity of the guards, known findings) is replayed on the implementation by a deterministic case of the
oracle (props/c07.py `deterministic_cases`), which prints the corresponding KNOWN-FINDING line on every run. -/

/-- a node with a service of two interfaces, and a top-level service -/
def w2 : Topo := ⟨[⟨.networkNode, .user "n", "n1", "VM", []⟩, ⟨.networkService, .user "ns", "n1-ns", "OVS", []⟩,
    ⟨.connectionPoint, .user "f1", "p1", "TrunkPort", []⟩, ⟨.connectionPoint, .user "f2", "p2", "TrunkPort", []⟩,
    ⟨.networkService, .user "s", "s1", "L2Bridge", []⟩],
  [⟨⟨.networkNode, .user "n"⟩, ⟨.networkService, .user "ns"⟩, .has⟩,
   ⟨⟨.networkService, .user "ns"⟩, ⟨.connectionPoint, .user "f1"⟩, .connects⟩,
   ⟨⟨.networkService, .user "ns"⟩, ⟨.connectionPoint, .user "f2"⟩, .connects⟩]⟩

/-- the guards of `CoveredS` are satisfiable by real calls -/
example : ValidS [.addNode .experiment 0 ⟨"n1", none, some "RENC", some "VM", []⟩,
                  .addNode .experiment 1 ⟨"n2", some (.user "x"), some "UKY", some "Server", []⟩,
                  .rename .networkNode (.gen 0) "n3", .setProps (.user "x") [.ok "Site" "RENC"]] Topo.empty := by decide +kernel
example : Inv w2 ∧ CoveredS w2 (.connect .experiment 0 (.user "s") [] (.iface (.user "f1") "p1")) ∧
    CoveredS w2 (.nsAddInterface .experiment 0 (.user "s") [] "i9" none (some "TrunkPort") []) ∧
    CoveredS w2 (.addLink .experiment 0 "l1" none (some "L2Path") (some [.iface (.user "f1") "p1", .iface (.user "f2") "p2"]) none []) ∧
    (step (.connect .experiment 0 (.user "s") [] (.iface (.user "f1") "p1")) w2).2.nodes.length = 7 := by decide +kernel
/-- 10 = 5 + service + 2 ServicePorts + 2 Links -/
example : CoveredS w2 (.addService .experiment 0 ⟨"s2", none, some "L2Bridge", none, none, [], [.iface (.user "f1") "p1", .iface (.user "f2") "p2"]⟩) ∧
    (step (.addService .experiment 0 ⟨"s2", none, some "L2Bridge", none, none, [], [.iface (.user "f1") "p1", .iface (.user "f2") "p2"]⟩) w2).2.nodes.length = 10 := by
  decide +kernel
example : CoveredS w2 (.addFacility .experiment 0 "fac" none (some "RENC") (some "VLAN") [] none []) ∧
    CoveredS w2 (.addSwitch .substrate 0 "sw1" (some (.user "sw")) (some "RENC") (some "P4") [] [("p1", "-int1", []), ("p2", "-int2", [])]) ∧
    (step (.addSwitch .substrate 0 "sw1" (some (.user "sw")) (some "RENC") (some "P4") [] [("p1", "-int1", []), ("p2", "-int2", [])]) w2).2.nodes.length = 9 := by
  decide +kernel
example : ValidD [.addNode .experiment 0 ⟨"n1", none, some "RENC", some "VM", []⟩,
                  .addComponent .experiment 1 (.gen 0) ⟨"nic1", none, some "SmartNIC", some "ConnectX-6", none, none, none, []⟩,
                  .addService .experiment 5 ⟨"s1", none, some "L2Bridge", none, none, [], [.iface (.gen 2) "nic1-p1"]⟩,
                  .removeLink "n1-nic1-p1-link", .removeComponent (.gen 0) "nic1", .removeNode "n1"] Topo.empty := by decide +kernel
/-- 9 = 5 + component, its service and two interfaces -/
example : CoveredS w2 (.addComponent .experiment 0 (.user "n") ⟨"nic1", none, some "SmartNIC", some "ConnectX-6", none, none, none, []⟩) ∧
    (step (.addComponent .experiment 0 (.user "n") ⟨"nic1", none, some "SmartNIC", some "ConnectX-6", none, none, none, []⟩) w2).2.nodes.length = 9 ∧
    Inv (step (.addComponent .experiment 0 (.user "n") ⟨"nic1", none, some "SmartNIC", some "ConnectX-6", none, none, none, []⟩) w2).2 := by
  decide +kernel

def w0 : Topo := ⟨[⟨.networkNode, .user "a", "n1", "VM", []⟩, ⟨.networkNode, .user "b", "n2", "VM", []⟩], []⟩

/-- known finding `C07:names-unique:NetworkNode:rename`: full statement `Inv s → Inv (rename … s).2` fails -/
theorem rename_names_counterexample : Inv w0 ∧ ¬ NodeNames (rename .networkNode (.user "b") "n1" w0).2 := by decide +kernel

def w1 : Topo := ⟨[⟨.networkService, .user "s", "s1", "L2Bridge", []⟩, ⟨.connectionPoint, .user "i1", "ii", "TrunkPort", []⟩],
  [⟨⟨.networkService, .user "s"⟩, ⟨.connectionPoint, .user "i1"⟩, .connects⟩]⟩

/-- known finding `C07:names-unique:ConnectionPoint-in-NetworkService:ns_add_interface` (the handle cache is not extended) -/
theorem nsAddInterface_names_counterexample :
    Inv w1 ∧ ¬ CpNames (nsAddInterface .experiment 0 (.user "s") [] "ii" none (some "TrunkPort") [] w1).2 := by decide +kernel

/-- known finding `C07:serviceport-one-peer:…:ns_add_interface`: the guard `NotSp` of `CoveredS` is needed -/
theorem nsAddInterface_sp_counterexample :
    Inv w1 ∧ ¬ SpPeer (nsAddInterface .experiment 0 (.user "s") [] "sp" none (some "ServicePort") [] w1).2 := by decide +kernel

def w3 : Topo := (connectInterface .experiment 0 (.user "s") [] (.iface (.user "f1") "p1") w2).2

/-- known finding `C07:serviceport-one-peer:…:add_link`: the guard `NoSpIn` of `CoveredS` is needed -/
theorem addLink_sp_counterexample : Inv w3 ∧ ¬ SpPeer (addLink .experiment 2 "lx" none (some "Patch")
    (some [.iface (.gen 0) "n1-p1", .iface (.user "f2") "p2"]) none [] w3).2 := by decide +kernel

/-- a node with two services that each have an interface called `ii` -/
def w4 : Topo := ⟨[⟨.networkNode, .user "n", "n1", "VM", []⟩, ⟨.networkService, .user "na", "nsa", "OVS", []⟩,
    ⟨.networkService, .user "nb", "nsb", "OVS", []⟩,
    ⟨.connectionPoint, .user "f1", "ii", "TrunkPort", []⟩, ⟨.connectionPoint, .user "f2", "ii", "TrunkPort", []⟩,
    ⟨.networkService, .user "s", "s1", "L2Bridge", []⟩],
  [⟨⟨.networkNode, .user "n"⟩, ⟨.networkService, .user "na"⟩, .has⟩, ⟨⟨.networkNode, .user "n"⟩, ⟨.networkService, .user "nb"⟩, .has⟩,
   ⟨⟨.networkService, .user "na"⟩, ⟨.connectionPoint, .user "f1"⟩, .connects⟩,
   ⟨⟨.networkService, .user "nb"⟩, ⟨.connectionPoint, .user "f2"⟩, .connects⟩]⟩
def w5 : Topo := (connectInterface .experiment 0 (.user "s") [] (.iface (.user "f1") "ii") w4).2

/-- known findings `C07:names-unique:Link:connect` and `…ConnectionPoint-in-NetworkService:connect`: the derived names collide -/
theorem connect_names_counterexample : Inv w4 ∧ Inv w5 ∧
    ¬ LinkNames (connectInterface .experiment 2 (.user "s") [] (.iface (.user "f2") "ii") w5).2 ∧
    ¬ CpNames (connectInterface .experiment 2 (.user "s") [] (.iface (.user "f2") "ii") w5).2 := by decide +kernel

/-- known finding `C07:names-unique:NetworkNode:set_props`: the generic property setter writes `Name` without a uniqueness guard
(full statement `Inv s → Inv (setPropsNT … s).2` fails) -/
theorem setName_names_counterexample : Inv w0 ∧ ¬ NodeNames (setPropsNT (.user "b") [.ok "Name" "n1"] w0).2 := by decide +kernel

/-- known finding `C07:serviceport-one-peer:…:set_props`: … and `Type` without a look at the element's links: a port retyped
to ServicePort has no peer -/
theorem setType_sp_counterexample : Inv w1 ∧ ¬ SpPeer (setPropsNT (.user "i1") [.ok "Type" "ServicePort"] w1).2 := by decide +kernel

/-- known finding `C07:names-unique:ConnectionPoint-in-NetworkService:peer`: a service peered with itself gets two ServicePorts of
one name (the structural invariant `InvS` survives: `inv_xop`) -/
theorem peer_self_names_counterexample : Inv w1 ∧ CoveredSX w1 (.peer .experiment 0 (.user "s") "s1" [] (some ⟨.user "s", "s1", []⟩) []) ∧
    InvS (peer .experiment 0 (.user "s") "s1" [] (some ⟨.user "s", "s1", []⟩) [] w1).2 ∧
    ¬ CpNames (peer .experiment 0 (.user "s") "s1" [] (some ⟨.user "s", "s1", []⟩) [] w1).2 := by decide +kernel

/-- keywords other than `name` / `type` (what `Topo.setProps` models, and what `inv_setProps` is about) do what `setProps` does -/
theorem setPropsNT_eq_setProps (nid : Nid) (k v : String) (hk : k ≠ "Name") (ht : k ≠ "Type") (s : Topo) :
    (setPropsNT nid [.ok k v] s).2 = (setProps nid [.ok k v] s).2 := by
  simp only [setPropsNT, setProps, updateProps, validateProps, ofExcept_apply, bind_apply', modify_apply]
  rcases cases_run (findNode nid) s with ⟨n, s', h⟩ | ⟨e, s', h⟩
  · simp [h, applyKw, dictUpdate, hk, ht]
  · simp [h]

/-! `Topology.network_services` is keyed by name over every service (owned ones, whose names the library derives, included) and
`remove_network_service(name)` looks the name up over every service, so a topology-level service must not share its name with any
other service.  The code guards one direction. -/

def svcNamesAll (s : Topo) : List String := (s.nodes.filter (fun n => n.cls == .networkService)).map (·.name)

/-- a topology-level service has a name no OTHER service of the model carries -/
def TopSvcWide (s : Topo) : Prop :=
  ∀ n ∈ s.nodes, n.cls = .networkService → hasParent s n.ref = false →
    ∀ m ∈ s.nodes, m.cls = .networkService → m.ref ≠ n.ref → m.name ≠ n.name

instance (s : Topo) : Decidable (TopSvcWide s) := by unfold TopSvcWide; infer_instance

/-- the guarded direction: a topology-level service creation that returns was given a name no service of the model carried, owned
or not (`check_node_unique` over the whole class in `add_network_service_sliver`) -/
theorem svcNew_top_name_unused (fl : Flavour) (c : Nat) (a : SvcArgs) (s s' : Topo) (r : Nid × Cache)
    (hok : svcNew fl c none a s = (.ok r, s')) : a.name ∉ svcNamesAll s := by
  refine svcNew_cases (Q := fun x => ∀ r s', x = (.ok r, s') → a.name ∉ svcNamesAll s) (fun _ hp => by cases hp) (fun _ hp => by cases hp)
    (fun e r s' he => by simp at he) (fun sn pn f _ _ _ hmem => ?_) r s' hok
  simp only [svcNamesAll, List.mem_map, List.mem_filter] at hmem
  obtain ⟨m, ⟨hm, hmc⟩, hmn⟩ := hmem
  exact f.unused rfl m hm (by simpa using hmc) hmn

theorem addService_name_unused (fl : Flavour) (c : Nat) (a : SvcArgs) (s s' : Topo) (r : Nid × Cache)
    (hok : addService fl c a s = (.ok r, s')) : a.name ∉ svcNamesAll s :=
  svcNew_top_name_unused fl c a s s' r hok

theorem addPortMirror_name_unused (fl : Flavour) (c : Nat) (a : SvcArgs) (toOk fromOk : Bool) (s s' : Topo) (r : Nid × Cache)
    (hok : addPortMirror fl c a toOk fromOk s = (.ok r, s')) : a.name ∉ svcNamesAll s :=
  addPortMirror_cases (Q := fun x => ∀ r s', x = (.ok r, s') → a.name ∉ svcNamesAll s) (fun e r s' he => by simp at he)
    (fun r s' => svcNew_top_name_unused fl c a s s' r) r s' hok

/-- non-vacuity: the call returns on a state that holds a service -/
example : ∃ r s', addService .experiment 0 ⟨"s2", none, some "L2Bridge", none, none, [], []⟩ w1 = (.ok r, s') :=
  ok_of_not_failed (by decide +kernel)

def w6 : Topo := ⟨[⟨.networkNode, .user "a", "n1", "VM", []⟩, ⟨.networkService, .user "t", "nsa", "L2Bridge", []⟩], []⟩

/-- known finding `C07:names-unique:NetworkService-topology-wide:node_add_service` (and `add_switch` / `add_facility` /
`add_component`, which reach the same constructor with a derived name): the other direction is not guarded - full statement
`TopSvcWide s → TopSvcWide (nodeAddService … s).2` fails -/
theorem nodeAddService_topwide_counterexample :
    Inv w6 ∧ TopSvcWide w6 ∧ "nsa" ∈ svcNamesAll w6 ∧
    (nodeAddService .experiment 0 (.user "a") ⟨"nsa", none, some "OVS", none, none, [], []⟩ w6).1.toBool = true ∧
    ¬ TopSvcWide (nodeAddService .experiment 0 (.user "a") ⟨"nsa", none, some "OVS", none, none, [], []⟩ w6).2 := by decide +kernel

inductive SweepConn where | port | child | mirror
  deriving DecidableEq, Repr
inductive SweepRoute where | removeComponent | removeNode | prune
  deriving DecidableEq, Repr

def sweepConns : List SweepConn := [.port, .child, .mirror]
def sweepRoutes : List SweepRoute := [.removeComponent, .removeNode, .prune]

/-- does the connection kind apply to the entry (a sub-interface needs a second, dedicated port) -/
def SweepConn.applies (e : Rules.CatEntry) : SweepConn → Bool
  | .child => match e.ifaces with | _ :: i :: _ => i.itype == "DedicatedPort" | _ => false
  | _ => !e.ifaces.isEmpty

/-- two nodes, a SharedNIC on the second, the entry (under `name`: its Model or one of AlsoModels) on the first, connected -/
def sweepPre (e : Rules.CatEntry) (name : String) (k : SweepConn) : List Call :=
  let ifn := (["d0", "d1", "d2", "d3"].take e.ifaces.length).map Nid.user
  let p1 := match e.ifaces with | i :: _ => i.port | [] => ""
  [ .t (.addNode .experiment 0 ⟨"n1", some (.user "n1"), some "RENC", some "VM", []⟩),
    .t (.addNode .experiment 0 ⟨"n2", some (.user "n2"), some "UKY", some "VM", []⟩),
    .t (.addComponent .experiment 0 (.user "n2")
      ⟨"nic0", some (.user "c0"), some "SharedNIC", some "ConnectX-6", some (.user "c0ns"), some [.user "c0i"], some 1, []⟩),
    .t (.addComponent .experiment 0 (.user "n1")
      ⟨"dev1", some (.user "c1"), some e.ctype, some name, some (.user "c1ns"), some ifn, some ifn.length, []⟩) ] ++
  match k with
  | .port => [ .t (.addService .experiment 0 ⟨"br1", some (.user "br1"), some "L2Bridge", none, none, [],
                  [.iface (.user "d0") ("dev1-" ++ p1), .iface (.user "c0i") "nic0-p1"]⟩) ]
  | .child => [ .x (.addChildInterface .experiment 0 (.user "d1") [] "sub1" (some (.user "sub1")) (some "100") []
                  [.ok "Labels" "{\"vlan\": \"100\"}"]),
                .t (.addService .experiment 0 ⟨"br2", some (.user "br2"), some "L2Bridge", none, none, [], [.iface (.user "sub1") "sub1"]⟩) ]
  | .mirror => [ .x (.addPortMirror .experiment 0 ⟨"pm1", some (.user "pm1"), some "PortMirror", none, none,
                  [.ok "MirrorPort" "nic0-p1", .ok "MirrorDirection" "Both"], [.iface (.user "d0") ("dev1-" ++ p1)]⟩ true true) ]

def SweepRoute.call : SweepRoute → Call
  | .removeComponent => .t (.removeComponent (.user "n1") "dev1")
  | .removeNode => .t (.removeNode "n1")
  | .prune => .x (.prune [] [(.user "c1", "dev1", .user "n1")] [] [])

def nSp (s : Topo) : Nat := (s.nodes.filter (fun n => n.cls == .connectionPoint && n.typ == "ServicePort")).length

/-- the component's own elements: itself, its service, its ports, the sub-interface -/
def ofDev (n : GNode) : Bool := [Nid.user "c1", .user "c1ns", .user "d0", .user "d1", .user "d2", .user "d3", .user "sub1"].contains n.nid

/-- before the teardown the model holds the ServicePort of the connection: two with `port`, whose service also joins an interface of
the second node -/
def sweepOk (e : Rules.CatEntry) (name : String) (k : SweepConn) (r : SweepRoute) : Bool :=
  let s1 := runCalls (sweepPre e name k) Topo.empty
  let s2 := stepCall r.call s1
  decide (InvS s1) && s1.nodes.any ofDev && nSp s1 == (if k == .port then 2 else 1)
  && decide (InvS s2) && nSp s2 + 1 == nSp s1 && !(s2.nodes.any ofDev)

def sweepAll : Bool :=
  Rules.catalog.all (fun e => (e.model :: e.also).all (fun name => sweepConns.all (fun k => !k.applies e ||
    sweepRoutes.all (fun r => sweepOk e name k r))))

theorem also_finds_same : ∀ e ∈ Rules.catalog, ∀ n ∈ e.also, catalogFind n e.ctype = catalogFind e.model e.ctype := by
  have h : Rules.catalog.all (fun e => e.also.all (fun n => Rules.catalog.all (fun x =>
      ((n == x.model && e.ctype == x.ctype) || (x.also.contains n && e.ctype == x.ctype)) ==
      ((e.model == x.model && e.ctype == x.ctype) || (x.also.contains e.model && e.ctype == x.ctype))))) = true := by decide +kernel
  simp only [List.all_eq_true, beq_iff_eq] at h
  intro e he n hn
  exact List.find?_congr' (h e he n hn)

/-- `add_component` looks at the model name only to find the catalogue entry -/
theorem addComponent_model (fl : Flavour) (c : Nat) (p : Nid) (nm : String) (nid : Option Nid) (ct m m' : String) (ns : Option Nid)
    (ifs : Option (List Nid)) (nl : Option Nat) (pr : List PropArg) (h : catalogFind m ct = catalogFind m' ct) :
    addComponent fl c p ⟨nm, nid, some ct, some m, ns, ifs, nl, pr⟩ = addComponent fl c p ⟨nm, nid, some ct, some m', ns, ifs, nl, pr⟩ := by
  unfold addComponent compNew
  simp only [Option.getD_some, Option.isSome_some, h]

theorem sweepPre_name {e : Rules.CatEntry} (he : e ∈ Rules.catalog) {name : String} (hn : name ∈ e.model :: e.also) (k : SweepConn) :
    runCalls (sweepPre e name k) Topo.empty = runCalls (sweepPre e e.model k) Topo.empty := by
  rcases List.mem_cons.mp hn with rfl | hn
  · rfl
  · simp only [sweepPre, List.cons_append, List.nil_append, runCalls, stepCall, step]
    rw [addComponent_model _ _ _ _ _ _ name e.model _ _ _ _ (also_finds_same e he name hn)]

def sweepModels : Bool :=
  Rules.catalog.all (fun e => sweepConns.all (fun k => !k.applies e || sweepRoutes.all (fun r => sweepOk e e.model k r)))

theorem sweepModels_true : sweepModels = true := by decide +kernel

theorem sweepAll_true : sweepAll = true := by
  have base := sweepModels_true
  simp only [sweepAll, sweepModels, List.all_eq_true] at base ⊢
  intro e he name hn k hk
  have := base e he k hk
  simp only [sweepOk, sweepPre_name he hn] at this ⊢
  exact this

/-- Every component of the catalogue, under every name it can be ordered by, connected in every way that applies to it and removed
through every route: the model before and after the teardown satisfies `InvS`, the teardown leaves one ServicePort fewer (a count:
which one went is not stated) and nothing of the component.  Evaluated over the regenerated catalogue (`Generated/Rules.lean`) under
the Model names; ordering by another name of the entry builds the same model (`sweepPre_name`).  That the code's teardown does not
look at the component's Type either is `teardown_clean_every_catalogue_entry` (behaviour probe) and the harness's catalogue sweep. -/
theorem catalogue_teardown_keeps_invS (e : Rules.CatEntry) (he : e ∈ Rules.catalog) (name : String) (hn : name ∈ e.model :: e.also)
    (k : SweepConn) (hk : k.applies e = true) (r : SweepRoute) :
    let s1 := runCalls (sweepPre e name k) Topo.empty
    InvS s1 ∧ InvS (stepCall r.call s1) ∧ nSp (stepCall r.call s1) + 1 = nSp s1 ∧ (stepCall r.call s1).nodes.any ofDev = false := by
  have h := sweepAll_true
  simp only [sweepAll, List.all_eq_true] at h
  have hk' : k ∈ sweepConns := by cases k <;> decide
  have hr' : r ∈ sweepRoutes := by cases r <;> decide
  have h2 := h e he name hn k hk'
  simp only [hk, Bool.not_true, Bool.false_or, List.all_eq_true] at h2
  have h3 := h2 r hr'
  simp only [sweepOk, Bool.and_eq_true, decide_eq_true_eq, beq_iff_eq, Bool.not_eq_true'] at h3
  exact ⟨h3.1.1.1.1.1, h3.1.1.2, h3.1.2, h3.2⟩

/-- non-vacuity: the rare port-bearing type is among the entries, with a dedicated second port -/
example : ∃ e ∈ Rules.catalog, e.ctype = "FPGA" ∧ SweepConn.child.applies e = true ∧ SweepConn.mirror.applies e = true := by decide +kernel

def probeConn : SweepConn → String
  | .port => "port" | .child => "child" | .mirror => "mirror"

/-- the behaviour probe of the implementation (gen/detachprobe.py, regenerated every run): every row is clean, and there is a row
for every entry of the catalogue table of gen/rules.py that has ports, under every name, for every connection kind that applies
and every route of the API (remove_component, remove_storage, remove_node, prune) -/
def probeCovers : Bool :=
  DetachProbe.table.all (fun t => t.clean) &&
  Rules.catalog.all (fun e => (e.model :: e.also).all (fun name => sweepConns.all (fun k => !k.applies e ||
    DetachProbe.routes.all (fun r => DetachProbe.table.any (fun t =>
      t.route == r && t.conn == probeConn k && t.ctype == e.ctype && t.name == name && t.model == e.model)))))

theorem teardown_clean_every_catalogue_entry : probeCovers = true ∧ DetachProbe.routes.length = 4 := by decide +kernel

end FimVerif.C07
