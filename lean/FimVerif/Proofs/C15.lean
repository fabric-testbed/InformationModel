import FimVerif.Model.Cap
import FimVerif.Proofs.Lemmas.ListAux
/-!
# C15 — capacity arithmetic and comparison obey their algebraic laws

Every theorem quantifies over all capacity values (all `Int` in every field, any
field list the translator emits; only `legacy_eq_symm_counterexample` and the
`example`s name fields of the current list).  The operators `addOp subOp gtFail ltFail eqFail
negField posFail freeOp` are regenerated from the Python source on every run, so a
change of any of them re-checks these proofs against the new definition.
-/
namespace FimVerif.C15
open FimVerif.Cap FimVerif.Gen.CapOps

/-! `add`, `sub`, `free` act field by field. The laws below rest on these equations: a change of `addOp`, `subOp` or `freeOp`
in the source shows here. -/
theorem add_apply (a b : Cap) (f : String) : add a b f = a f + b f := rfl
theorem sub_apply (a b : Cap) (f : String) : sub a b f = a f - b f := rfl
theorem free_apply (t al : Cap) (f : String) : free t al f = t f - al f := rfl
theorem zero_apply (f : String) : zero f = 0 := rfl

attribute [local simp] add_apply sub_apply free_apply zero_apply

theorem add_sub_cancel (a b : Cap) : sub (add a b) b = a := by
  funext f; simp

theorem add_comm (a b : Cap) : add a b = add b a := by
  funext f; simp; omega

theorem free_eq_sub (t al : Cap) : free t al = sub t al := rfl

theorem free_plus_alloc (t al : Cap) : add (free t al) al = t := by
  funext f; simp

theorem sub_add_cancel (a b : Cap) : add (sub a b) b = a := by
  funext f; simp

theorem add_assoc (a b c : Cap) : add (add a b) c = add a (add b c) := by
  funext f; simp; omega

theorem add_zero (a : Cap) : add a zero = a := by
  funext f; simp

theorem sub_zero (a : Cap) : sub a zero = a := by
  funext f; simp

theorem sub_self (a : Cap) : sub a a = zero := by
  funext f; simp

/-- allocating twice is allocating the sum -/
theorem sub_sub (a b c : Cap) : sub (sub a b) c = sub a (add b c) := by
  funext f; simp; omega

/-- `FreeCapacity(total, alloc + x).free = FreeCapacity(total, alloc).free - x` -/
theorem free_after_allocation (t al x : Cap) : free t (add al x) = sub (free t al) x := by
  funext f; simp; omega

/-- `negative_fields` reports exactly the (known) fields whose value is negative, by name. -/
theorem negative_fields_exact (x : Cap) (f : String) :
    f ∈ negativeFields x ↔ f ∈ fields ∧ x f < 0 := by
  simp [negativeFields, negField]

theorem sub_negative_fields (a b : Cap) (f : String) :
    f ∈ negativeFields (sub a b) ↔ f ∈ fields ∧ a f < b f := by
  rw [negative_fields_exact, sub_apply]; exact and_congr_right fun _ => by omega

theorem positive_fields_iff (x : Cap) (fs : List String) :
    positiveFields x fs = true ↔ ∀ f ∈ fs, 0 < x f := by
  simp [positiveFields, posFail]

/-- the library's `a < b` ("a fits in b") is `≤` in every field -/
theorem lt_iff_fields (a b : Cap) : lt a b = true ↔ ∀ f ∈ fields, a f ≤ b f := by
  simp [lt, ltFail]

theorem gt_iff_lt_swap (a b : Cap) : gt a b = lt b a := by
  -- `gtFail x y` and `ltFail y x` are the same term once `>` is unfolded
  simp only [gt, lt]; congr

theorem gt_iff_fields (a b : Cap) : gt a b = true ↔ ∀ f ∈ fields, b f ≤ a f := by
  rw [gt_iff_lt_swap]; exact lt_iff_fields b a

/-- "a fits in b exactly when b - a has no negative field" -/
theorem lt_iff_sub_nonneg (a b : Cap) : lt a b = true ↔ negativeFields (sub b a) = [] := by
  simp [lt_iff_fields, List.eq_nil_iff_forall_not_mem, sub_negative_fields]

theorem gt_iff_sub_nonneg (a b : Cap) : gt a b = true ↔ negativeFields (sub a b) = [] := by
  rw [gt_iff_lt_swap]; exact lt_iff_sub_nonneg b a

theorem lt_refl (a : Cap) : lt a a = true := (lt_iff_fields a a).mpr fun _ _ => Int.le_refl _

theorem lt_trans (a b c : Cap) (h1 : lt a b = true) (h2 : lt b c = true) : lt a c = true := by
  rw [lt_iff_fields] at *
  exact fun f hf => Int.le_trans (h1 f hf) (h2 f hf)

theorem lt_add_right (a b c : Cap) : lt a b = true → lt (add a c) (add b c) = true := by
  simp only [lt_iff_fields, add_apply]
  intro h f hf; have := h f hf; omega

theorem not_lt_names_deficit (a b : Cap) (h : lt a b = false) :
    negativeFields (sub b a) ≠ [] ∧ ∀ f, f ∈ negativeFields (sub b a) ↔ f ∈ fields ∧ b f < a f := by
  refine ⟨?_, fun f => sub_negative_fields b a f⟩
  intro hnil
  have := (lt_iff_sub_nonneg a b).mpr hnil
  simp [this] at h

theorem eq_iff (a b : Cap) : eq a b = true ↔ ∀ f ∈ fields, a f = b f := by
  simp [eq, eqFail]

theorem eq_refl (a : Cap) : eq a a = true := (eq_iff a a).mpr fun _ _ => rfl

theorem eq_symm (a b : Cap) : eq a b = eq b a := by
  rw [Bool.eq_iff_iff, eq_iff, eq_iff]; exact forall₂_congr fun _ _ => eq_comm

theorem eq_trans (a b c : Cap) (h1 : eq a b = true) (h2 : eq b c = true) : eq a c = true := by
  rw [eq_iff] at *
  intro f hf; rw [h1 f hf, h2 f hf]

theorem lt_antisymm (a b : Cap) (h1 : lt a b = true) (h2 : lt b a = true) : eq a b = true := by
  rw [lt_iff_fields] at h1 h2
  exact (eq_iff a b).mpr fun f hf => Int.le_antisymm (h1 f hf) (h2 f hf)

theorem eq_iff_toList (a b : Cap) : eq a b = true ↔ toList a = toList b := by
  simp [eq_iff, toList]

theorem eq_zero_zero : eq zero zero = true := eq_refl zero

theorem eq_zero_iff (a : Cap) : eq a zero = true ↔ ∀ f ∈ fields, a f = 0 := by
  simp [eq_iff]

theorem add_congr (a a' b b' : Cap) (h1 : eq a a' = true) (h2 : eq b b' = true) : eq (add a b) (add a' b') = true := by
  rw [eq_iff] at *
  intro f hf; simp [h1 f hf, h2 f hf]

theorem sub_congr (a a' b b' : Cap) (h1 : eq a a' = true) (h2 : eq b b' = true) : eq (sub a b) (sub a' b') = true := by
  rw [eq_iff] at *
  intro f hf; simp [h1 f hf, h2 f hf]

/-! ### equality when an operand lacks fields (an object restored from a pickle of an older release)

`eqMissing` (how `__eq__` reads a field the other object does not carry) is probed on the real method each run.  The property wants
`∀ x y, eqD x y = eqD y x`; that is FALSE for the code as it is (`legacy_eq_symm_counterexample`: the loop runs over the left
operand's own fields, so a non-zero field only the right operand carries is never looked at).  Symmetry holds when the fields only
one side carries are 0 there (`legacy_eq_symm_partial`). -/

/-- complete objects: the loop with `.get` is the ordinary `__eq__` -/
theorem legacy_eq_full (a b : Cap) : eqD (PCap.full a) (PCap.full b) = eq a b := by
  simp [eqD, PCap.full, PCap.read, eq]

/-- the probed `eqMissing` (missing = 0) enters here -/
theorem read_eq_value (y : PCap) (f : String) : y.read f = some (y.value f) := by
  simp only [PCap.read, PCap.value, eqMissing]; split <;> rfl

theorem legacy_eq_iff (x y : PCap) : eqD x y = true ↔ ∀ f ∈ fields, x.has f = true → x.val f = y.value f := by
  -- `List.all_filter` would turn the implication into a disjunction
  simp [eqD, read_eq_value, eqFail, -List.all_filter]

theorem legacy_eq_refl (x : PCap) : eqD x x = true := by
  rw [legacy_eq_iff]; intro f _ hx; simp [PCap.value, hx]

/-- a current object on the left, the case the comment in `__eq__` is about -/
theorem legacy_eq_full_left (a : Cap) (y : PCap) : eqD (PCap.full a) y = eq a y.value := by
  simp [eqD, PCap.full, read_eq_value, eq]

/-- every field that only one of the two objects carries holds 0 there -/
def zeroExtras (x y : PCap) : Bool :=
  fields.all fun f => (!(x.has f && !y.has f) || x.val f == 0) && (!(y.has f && !x.has f) || y.val f == 0)

theorem legacy_eq_symm_partial (x y : PCap) (h : zeroExtras x y = true) : eqD x y = eqD y x := by
  rw [Bool.eq_iff_iff, legacy_eq_iff, legacy_eq_iff]
  simp only [zeroExtras, List.all_eq_true] at h
  refine forall₂_congr fun f hf => ?_
  have h1 := h f hf
  by_cases hx : x.has f = true <;> by_cases hy : y.has f = true <;> simp [PCap.value, hx, hy] at h1 ⊢ <;> omega

/-- an object pickled before `mtu` existed (every field but `mtu`), and a current object with the same values and the given `mtu` -/
def legacyOld : PCap := { has := fun f => f != "mtu", val := fun f => if f == "core" then 4 else 0 }
def legacyNew (mtu : Int) : PCap := PCap.full fun f => if f == "core" then 4 else if f == "mtu" then mtu else 0

example : zeroExtras legacyOld (legacyNew 0) = true := by decide +kernel
example : eqD legacyOld (legacyNew 0) = true ∧ eqD (legacyNew 0) legacyOld = true := by decide +kernel

/-- symmetry fails as soon as the right operand carries a non-zero field the left one lacks -/
theorem legacy_eq_symm_counterexample : eqD legacyOld (legacyNew 1500) = true ∧ eqD (legacyNew 1500) legacyOld = false := by decide +kernel

theorem value_eq_iff (x y : PCap) (f : String) :
    x.value f = y.value f ↔ (x.has f = true → x.val f = y.value f) ∧ (y.has f = true → y.val f = x.value f) := by
  by_cases hx : x.has f = true <;> by_cases hy : y.has f = true <;> simp [PCap.value, hx, hy, eq_comm]

theorem legacy_eq_both_iff_value (x y : PCap) : (eqD x y = true ∧ eqD y x = true) ↔ eq x.value y.value = true := by
  simp only [legacy_eq_iff, eq_iff, value_eq_iff, forall_and]

/-! ### operands are never modified

The class defines no in-place, reflected or comparison/truthiness hook: `no_operator_hooks`, decided over the list of special
methods read from the running class. That is a fact about the table on its own; the model (`augAdd`, `augSub`, `step`) depends on the
two flags `iaddInPlace`, `isubInPlace` only, the translator's probe of `acc = a; acc += b` on the real objects (it found a new object). -/

theorem no_operator_hooks : operatorHooks.all (fun m => !methods.contains m) = true := by decide +kernel

theorem aug_assign_pure (a b : Cap) :
    (augAdd a b).1 = add a b ∧ (augAdd a b).2 = a ∧ (augSub a b).1 = sub a b ∧ (augSub a b).2 = a := by
  simp [augAdd, augSub, iaddInPlace, isubInPlace]

theorem running_total (xs : List Cap) (z : Cap) :
    xs.foldl (fun acc x => (augAdd acc x).1) z = xs.foldl add z := by
  simp [augAdd, iaddInPlace]

/-! `St.obj` / `St.val` answer object 0 / `zero` for an unbound variable or a dangling id; well-formedness of a state is asked for
piecewise, as `d < s.env.length` (the variable is bound) and `s.obj v < s.heap.length` (it holds an existing object). -/
theorem obj_bindNew_self (s : St) {d : Nat} (c : Cap) (hd : d < s.env.length) : (s.bindNew d c).obj d = s.heap.length := by
  simp [St.obj, St.bindNew, List.getD_eq_getElem?_getD, hd]

theorem val_bindNew_self (s : St) {d : Nat} (c : Cap) (hd : d < s.env.length) : (s.bindNew d c).val d = c := by
  rw [St.val, obj_bindNew_self s c hd]; simp [St.bindNew, List.getD_eq_getElem?_getD]

theorem val_bindNew_of_ne (s : St) {d w : Nat} (c : Cap) (h : w ≠ d) (hw : s.obj w < s.heap.length) :
    (s.bindNew d c).val w = s.val w := by
  simp only [St.obj, List.getD_eq_getElem?_getD] at hw
  simp [St.val, St.obj, St.bindNew, List.getD_eq_getElem?_getD, Ne.symm h, List.getElem?_append_left hw]

def resultVal (s : St) : Stmt → Cap
  | .bin isAdd _ x y | .aug isAdd x y => if isAdd then add (s.val x) (s.val y) else sub (s.val x) (s.val y)
  | .free _ t a => free (s.val t) (s.val a)
  | .alias _ x => s.val x

/-- the two probed flags (no in-place operator) enter here -/
theorem step_of_result {s : St} {st : Stmt} {d : Nat} (h : resultVar st = some d) : step s st = s.bindNew d (resultVal s st) := by
  cases st with
  | alias => cases h
  | aug isAdd x y => cases h; cases isAdd <;> rfl
  | _ => cases h; rfl

theorem step_prefix (s : St) (st : Stmt) : s.heap <+: (step s st).heap := by
  cases st with
  | alias => exact List.prefix_rfl
  | _ => rw [step_of_result rfl]; exact List.prefix_append ..

/-- **Operands are never modified**: whatever sequence of `+ - += -= FreeCapacity =` statements runs, in whatever aliasing
situation, every object that existed keeps its value and its id. -/
theorem objects_never_modified (p : List Stmt) (s : St) : s.heap <+: (run p s).heap :=
  List.foldl_invariant (fun s' => s.heap <+: s'.heap) (List.prefix_refl _) fun s' h st _ => h.trans (step_prefix s' st)

theorem object_value_stable (p : List Stmt) (s : St) (k : Nat) (hk : k < s.heap.length) :
    (run p s).heap[k]? = s.heap[k]? := by
  obtain ⟨t, ht⟩ := objects_never_modified p s
  rw [← ht, List.getElem?_append_left hk]

/-- `x += y` or `x -= y` while another variable `w` refers to the same object: `w` still sees the old value, `x` sees the result -/
theorem aug_other_holders (isAdd : Bool) (s : St) (x y w : Nat) (hx : s.obj x < s.heap.length) (hw : s.obj w = s.obj x) (hne : w ≠ x)
    (hxl : x < s.env.length) :
    (step s (.aug isAdd x y)).val w = s.val x ∧ (step s (.aug isAdd x y)).val x = resultVal s (.aug isAdd x y) := by
  rw [step_of_result (d := x) rfl]
  refine ⟨?_, val_bindNew_self s _ hxl⟩
  rw [val_bindNew_of_ne s _ hne (hw ▸ hx), St.val, hw]; rfl

/-- the case `x += y` -/
theorem aug_leaves_other_holders (s : St) (x y w : Nat) (hx : s.obj x < s.heap.length) (hw : s.obj w = s.obj x) (hne : w ≠ x)
    (hxl : x < s.env.length) :
    (step s (.aug true x y)).val w = s.val x ∧ (step s (.aug true x y)).val x = add (s.val x) (s.val y) :=
  aug_other_holders true s x y w hx hw hne hxl

/-! ### results are fresh objects

"Operands are never modified" also has to survive what the caller does with the RESULT: if `a - b` handed back one of its operands
(say, when `b` is all zero), updating the result in place later would change that operand.  In the model every statement with a
result allocates (`step` → `bindNew`); the correspondence compares object identities statement by statement (programs) and the
oracle checks `is not` + mutate-the-result on the real objects, all-zero operands included. -/

/-- **every result is a fresh object**, whatever the operand values are (no special case for zero) -/
theorem result_is_fresh (s : St) (st : Stmt) (d : Nat) (h : resultVar st = some d) (hd : d < s.env.length) :
    (step s st).obj d = s.heap.length ∧ (step s st).heap.length = s.heap.length + 1 := by
  rw [step_of_result h]
  exact ⟨obj_bindNew_self s _ hd, List.length_append⟩

theorem result_aliases_nothing (s : St) (st : Stmt) (d v : Nat) (h : resultVar st = some d) (hd : d < s.env.length)
    (hv : s.obj v < s.heap.length) : (step s st).obj d ≠ s.obj v := by
  rw [(result_is_fresh s st d h hd).1]; omega

/-- whatever follows the statement (in-place updates of its result among them), every object a variable held before it - the
operands in particular - keeps its value; nothing here is special to the result -/
theorem operands_survive_result_updates (s : St) (st : Stmt) (p : List Stmt) (v : Nat) (hv : s.obj v < s.heap.length) :
    (run p (step s st)).heap[s.obj v]? = s.heap[s.obj v]? :=
  object_value_stable (st :: p) s (s.obj v) hv

-- `r = a - z` with `z` all zero, then `r -= a`: r is object 2 (new), `a` (object 0) still has its value
example : let s : St := { heap := [ofList [8], zero], env := [0, 1, 0] }
    resultVar (.bin false 2 0 1) = some 2 ∧ 2 < s.env.length ∧ s.obj 0 < s.heap.length ∧ (step s (.bin false 2 0 1)).obj 2 = 2 ∧
    ((run [.aug false 2 0] (step s (.bin false 2 0 1))).heap[0]?).map toList = some (toList (ofList [8])) := by decide +kernel

/-! ### a result with a negative field is representable and printable

Subtraction is a total function on capacities (no guard, no clamp): `sub_negative_fields` above says which fields of the result
are negative.  The rendering `toStr` (checked character by character against `str()` in the correspondence) is total as well. -/

theorem fmtComma_neg (v : Int) (h : v < 0) : fmtComma v = "-" ++ fmtComma (-v) := by
  have h2 : ¬ (-v < 0) := by omega
  simp only [fmtComma, Int.natAbs_neg, h, h2, if_true, if_false]

theorem toStr_empty_iff (x : Cap) : toStr x = "" ↔ ∀ f ∈ fields, x f = 0 := by
  have hfs : (fields.filter fun f => x f != 0).isEmpty = true ↔ ∀ f ∈ fields, x f = 0 := by
    simp [List.isEmpty_iff, List.filter_eq_nil_iff]
  rw [← hfs]
  simp only [toStr]
  split
  · simp [*]
  · -- a non-empty rendering starts with "{ "
    refine iff_of_false (fun h => ?_) ‹_›
    have := congrArg String.length h
    simp at this

private theorem foldr_comma_filter (g : Char × Nat → Bool) (ds : List Char) (h : ∀ c ∈ ds, c ≠ ',') (k : Nat) :
    ((ds.zipIdx k).foldr (fun x acc => if g x then x.1 :: ',' :: acc else x.1 :: acc) []).filter (fun c => c != ',') = ds := by
  induction ds generalizing k with
  | nil => rfl
  | cons p t ih =>
    obtain ⟨hp, ht⟩ := List.forall_mem_cons.mp h
    rw [List.zipIdx_cons, List.foldr_cons]
    split <;> simp [hp, ih ht]

theorem groupDigits_filter (ds : List Char) (h : ∀ c ∈ ds, c ≠ ',') :
    (groupDigits ds).filter (fun c => c != ',') = ds :=
  foldr_comma_filter _ ds h 0

/-- **printing loses nothing**: the text of a value with its thousands separators removed is the decimal numeral of the value
(sign included), for every integer -/
theorem fmtComma_digits (v : Int) : (fmtComma v).toList.filter (fun c => c != ',') = (toString v).toList := by
  have hd (n : Nat) : List.filter (fun c => c != ',') (groupDigits (Nat.toDigits 10 n)) = Nat.toDigits 10 n :=
    groupDigits_filter _ fun _ hc e => Nat.not_mem_toDigits (by decide) n (e ▸ hc)
  cases v with
  | ofNat n => simp [fmtComma, hd, Nat.toList_repr, Int.repr, show ¬ ((n : Int) < 0) by omega]
  | negSucc m => simp [fmtComma, hd, Nat.toList_repr, Int.repr, Int.negSucc_lt_zero]

theorem deficit_is_printable (a b : Cap) (f : String) (hf : f ∈ negativeFields (sub a b)) : toStr (sub a b) ≠ "" := by
  intro h
  have hz := (toStr_empty_iff _).mp h f ((negative_fields_exact _ f).mp hf).1
  have := ((negative_fields_exact _ f).mp hf).2
  omega

example : lt (ofList [1,2,3,4,0,0,0,0]) (ofList [1,2,3,5,0,0,0,0]) = true := by decide +kernel
example : negativeFields (sub (ofList [1,2,3,4,0,0,0,0]) (ofList [1,2,4,4,0,0,0,0])) = ["ram"] := by decide +kernel
example : lt (ofList [1,2,3,4,0,0,0,0]) (ofList [1,2,2,5,0,0,0,0]) = false := by decide +kernel
example : toStr (sub (ofList [1,2,3,4,0,0,0,0]) (ofList [1,2,4,4,0,0,0,0])) = "{ ram: -1 G}" := by decide +kernel
/-- a two-variable aliasing situation satisfying the hypotheses of `aug_leaves_other_holders` -/
example : let s : St := { heap := [ofList [1], ofList [2]], env := [0, 1, 0] }
    s.obj 0 < s.heap.length ∧ s.obj 2 = s.obj 0 ∧ (2 : Nat) ≠ 0 ∧ 0 < s.env.length := by decide +kernel

end FimVerif.C15
