import FimVerif.Proofs.Lemmas.C13Closure
import FimVerif.Proofs.Lemmas.C13Store
import FimVerif.Proofs.Lemmas.C13Rekey
/-!
# C13 — partitioning an aggregate model yields sound per-delegation models

Model: `FimVerif.Arm` (`genAdm`, `generateAdmsS`, `rekey`).  Its configuration `genCfg` is fitted on every run to what
`generate_adms` / `get_first_and_second_neighbor` do (gen/armcfg.py runs the code on probe graphs and keeps the one member of the
model family that predicts every partition observed; the source text is not matched).  `partition_sound` is the whole property as
one statement about the run on the store, put together from the clause theorems before it; `partition_exact` says what exactly a
partition contains.  After it: a later run leaves earlier partitions alone (`earlier_partitions_persist`), and the `rekey_*` theorems
about `rewrite_delegations`.

The link trace.  `generate_adms` repeats the trace CP —connects— Link —connects— CP from the connection points found until no new
one turns up (`Cfg.linkRounds = none`, `link_fixpoint`); `closure_link_peer` rests on that.  With a single pass (`onePassCfg`) an
interface that is in a partition only as the far end of a kept link loses its other links: `closure_one_pass_counterexample`,
known finding `C13:closure:peer-interface-other-link` (known_findings/C13.json; the oracle replays
corpus/C13/peer_interface_other_link.json on the implementation on every run).
-/
namespace FimVerif.C13
open FimVerif.Arm

theorem kept_of_keep0 {cfg : Cfg} {g : G} {d : String} {n : Node} (hn : n ∈ g.nodes) (h0 : n.id ∈ keep0 cfg g d) :
    n.rewrite d ∈ (genAdm cfg g d).nodes ∧ n.id ∈ (genAdm cfg g d).ids :=
  have hk := mem_keepSet.2 (.inl h0)
  ⟨mem_genAdm_nodes.2 ⟨n, hn, hk, rfl⟩, mem_genAdm_ids.2 hk⟩

/-- every resource delegated to `d` is present in the partition for `d` -/
theorem holders_kept (cfg : Cfg) (g : G) (d : String) (n : Node) (hn : n ∈ g.nodes) (hd : n.holds d = true) :
    n.rewrite d ∈ (genAdm cfg g d).nodes ∧ n.id ∈ (genAdm cfg g d).ids :=
  kept_of_keep0 hn (List.mem_append.2 (Or.inl (List.mem_map.2 ⟨n, List.mem_filter.2 ⟨hn, hd⟩, rfl⟩)))

/-- a kept holder carries exactly its own entries for `d` (that the node of the partition with the holder's id is
`n.rewrite d`: `holders_kept`, `holder_in_partition_unique`) -/
theorem only_own_entries (n : Node) (d : String) (hd : n.holds d = true) :
    (∀ k, (n.rewrite d).ldel.get k = if k = d then n.ldel.get d else none) ∧
    (∀ k, (n.rewrite d).cdel.get k = if k = d then n.cdel.get d else none) ∧
    (n.rewrite d).ldel.keys = (if d ∈ n.ldel.keys then [d] else []) ∧
    (n.rewrite d).cdel.keys = (if d ∈ n.cdel.keys then [d] else []) := by
  have hc := Node.catalogued_of_holds hd
  rw [Node.rewrite_of_catalogued d hc]
  exact ⟨fun k => DelProp.get_restrict _ _ _, fun k => DelProp.get_restrict _ _ _,
    DelProp.keys_restrict _ _, DelProp.keys_restrict _ _⟩

/-- no entry of another delegation id appears anywhere in the partition for `d` -/
theorem no_foreign_entries (cfg : Cfg) (g : G) (d : String) (m : Node) (hm : m ∈ (genAdm cfg g d).nodes)
    (k : String) (hk : k ∈ m.ldel.keys ++ m.cdel.keys) : k = d := by
  rcases mem_genAdm_nodes.1 hm with ⟨n, _, _, rfl⟩
  exact Node.rewrite_keys_sub n d k hk

/-- with unique node ids, the node of the partition that has a holder's id IS that holder with exactly its own entries -/
theorem holder_in_partition_unique (cfg : Cfg) (g : G) (d : String) (hnd : g.ids.Nodup) (n m : Node)
    (hn : n ∈ g.nodes) (hm : m ∈ (genAdm cfg g d).nodes) (hid : m.id = n.id) : m = n.rewrite d := by
  rcases mem_genAdm_nodes.1 hm with ⟨n', hn', _, rfl⟩
  have : n' = n := eq_of_nodup_map (fun x : Node => x.id) (l := g.nodes) hnd hn' hn (by simpa using hid)
  rw [this]

example : (Node.rewrite ⟨"w", "NetworkNode", [], .dels [("a", "ea"), ("b", "eb")], .dels [("b", "fb")]⟩ "b").ldel
    = .dels [("b", "eb")] := by decide

/-- one model per delegation id that occurs on some node -/
theorem one_model_per_id (cfg : Cfg) (g : G) (r : List (String × G)) (h : generateAdms cfg g = some r) :
    (r.map (·.1)).Nodup ∧ (∀ d, d ∈ r.map (·.1) ↔ ∃ n ∈ g.nodes, n.holds d = true) ∧
    (∀ p ∈ r, p.2 = genAdm cfg g p.1) := by
  unfold generateAdms at h
  split at h
  · cases h
  · cases h
    rw [List.map_map, show ((·.1) ∘ fun d => (d, genAdm cfg g d)) = id from rfl, List.map_id]
    exact ⟨List.nodup_eraseDups _, fun d => mem_delIds, List.forall_mem_map.2 fun _ _ => rfl⟩

/-- the partition is a sub-model of the original: its nodes are original nodes with the same id, class and other properties, its
edges are the original edges between kept nodes -/
theorem sub_model (cfg : Cfg) (g : G) (d : String) :
    (∀ m ∈ (genAdm cfg g d).nodes, ∃ n ∈ g.nodes, m.id = n.id ∧ m.cls = n.cls ∧ m.props = n.props) ∧
    (genAdm cfg g d).ids.Sublist g.ids ∧
    (g.ids.Nodup → (genAdm cfg g d).ids.Nodup) ∧
    (∀ e ∈ (genAdm cfg g d).edges, e ∈ g.edges) ∧
    (∀ e ∈ g.edges, e.a ∈ (genAdm cfg g d).ids → e.b ∈ (genAdm cfg g d).ids → e ∈ (genAdm cfg g d).edges) ∧
    (∀ e ∈ (genAdm cfg g d).edges, e.a ∈ g.ids → e.b ∈ g.ids →
        e.a ∈ (genAdm cfg g d).ids ∧ e.b ∈ (genAdm cfg g d).ids) := by
  have hs : (genAdm cfg g d).ids.Sublist g.ids := genAdm_ids cfg g d ▸ List.filter_sublist
  refine ⟨fun m hm => ?_, hs, fun h => h.sublist hs, fun e he => (mem_genAdm_edges.1 he).1,
    fun e he ha hb => mem_genAdm_edges.2 ⟨he, mem_genAdm_ids.1 ha, mem_genAdm_ids.1 hb⟩,
    fun e he _ _ => ⟨mem_genAdm_ids.2 (mem_genAdm_edges.1 he).2.1, mem_genAdm_ids.2 (mem_genAdm_edges.1 he).2.2⟩⟩
  rcases mem_genAdm_nodes.1 hm with ⟨n, hn, _, rfl⟩
  exact ⟨n, hn, by simp⟩

/-- all stitching elements are present in every partition -/
theorem stitch_everywhere (cfg : Cfg) (g : G) (d : String) (n : Node) (hn : n ∈ g.nodes)
    (hs : n.isStitch cfg = true) : n.rewrite d ∈ (genAdm cfg g d).nodes ∧ n.id ∈ (genAdm cfg g d).ids :=
  kept_of_keep0 hn (List.mem_append.2 (Or.inr (List.mem_map.2 ⟨n, List.mem_filter.2 ⟨hn, hs⟩, rfl⟩)))

example : (⟨"sw", "NetworkNode", [("Name", "sw"), ("StitchNode", "true")], .absent, .absent⟩ : Node).isStitch genCfg = true := by
  decide

/-- the fitted selection is the `StitchNode == 'true'` property -/
theorem stitch_is_property (n : Node) : n.isStitch genCfg = (n.props.lookup "StitchNode" == some "true") := rfl

-- the literals in the theorems below are tied to `genCfg` by these facts: they stop compiling when the fitted configuration changes
private theorem link_trace : (⟨"connects", "Link", "connects", "ConnectionPoint"⟩ : Trace) ∈ genCfg.linkTraces := by decide +kernel
private theorem owner_trace_nn : (⟨"connects", "NetworkService", "has", "NetworkNode"⟩ : Trace) ∈ genCfg.ownerTraces := by decide +kernel
private theorem owner_trace_comp : (⟨"connects", "NetworkService", "has", "Component"⟩ : Trace) ∈ genCfg.ownerTraces := by decide +kernel
private theorem cp_class : genCfg.cpClass = "ConnectionPoint" := by decide +kernel
private theorem link_not_cp : ∀ t ∈ genCfg.linkTraces, t.l1 ≠ genCfg.cpClass := by decide +kernel
private theorem owner_not_cp : ∀ t ∈ genCfg.ownerTraces, t.l1 ≠ genCfg.cpClass ∧ t.l2 ≠ genCfg.cpClass := by decide +kernel
private theorem link_fixpoint : genCfg.linkRounds = none := by decide +kernel

/-- the definite members of the partition for `d`: holders of `d` and stitch nodes -/
def definite (g : G) (d x : String) : Prop := x ∈ keep0 genCfg g d

/-- closure, owning service and owner: every kept interface keeps its owning service and that service's
owner (a NetworkNode or a Component). `hsimple`: the edge between service and owner is the only one between them
(what `networkx.Graph` guarantees). -/
theorem closure_service_owner (g : G) (d c S o : String)
    (hc : c ∈ (genAdm genCfg g d).ids) (hcp : g.hasCls c "ConnectionPoint" = true)
    (h1 : g.adj c S "connects") (hS : g.hasCls S "NetworkService" = true)
    (h2 : g.adj S o "has") (ho : g.hasCls o "NetworkNode" = true ∨ g.hasCls o "Component" = true)
    (hsimple : ∀ r, g.adj S o r → r = "has") :
    S ∈ (genAdm genCfg g d).ids ∧ o ∈ (genAdm genCfg g d).ids := by
  rw [mem_genAdm_ids] at hc ⊢
  rw [mem_genAdm_ids]
  have hc2 := kept_cp_mem_keepCps2 link_not_cp owner_not_cp hc (by rw [cp_class]; exact hcp)
  -- the owner's class is one of the two the owner traces look for; it is neither a service's nor an interface's
  obtain ⟨l2, ht, ho, hn1, hn2⟩ : ∃ l2, (⟨"connects", "NetworkService", "has", l2⟩ : Trace) ∈ genCfg.ownerTraces ∧
      g.hasCls o l2 = true ∧ l2 ≠ "NetworkService" ∧ l2 ≠ "ConnectionPoint" :=
    ho.elim (fun h => ⟨_, owner_trace_nn, h, by decide, by decide⟩) (fun h => ⟨_, owner_trace_comp, h, by decide, by decide⟩)
  exact closure_owner hc2 ht h1 hS h2 ho (fun e => hn2 (hasCls_unique (e ▸ ho) hcp)) (fun e => hn1 (hasCls_unique (e ▸ ho) hS))
    hsimple

/-- closure, link and peer: EVERY kept interface (delegated to `d`, a stitch node, or pulled in as the far end of a kept link at
any distance) keeps each of its links and every other end of that link.  Needs the link trace repeated to a fixed point
(`link_fixpoint`); false for a single pass (`closure_one_pass_counterexample`). -/
theorem closure_link_peer (g : G) (d c L p : String)
    (hc : c ∈ (genAdm genCfg g d).ids) (hcp : g.hasCls c "ConnectionPoint" = true)
    (h1 : g.adj c L "connects") (hL : g.hasCls L "Link" = true)
    (h2 : g.adj L p "connects") (hp : g.hasCls p "ConnectionPoint" = true) (hpc : p ≠ c)
    (hsimple : ∀ r, g.adj L p r → r = "connects") :
    L ∈ (genAdm genCfg g d).ids ∧ p ∈ (genAdm genCfg g d).ids := by
  have hpL : p ≠ L := by rintro rfl; exact absurd (hasCls_unique hp hL) (by decide)
  rw [mem_genAdm_ids] at hc ⊢
  rw [mem_genAdm_ids]
  exact closure_link_any (t := ⟨"connects", "Link", "connects", "ConnectionPoint"⟩) link_fixpoint link_not_cp owner_not_cp
    hc (by rw [cp_class]; exact hcp) link_trace h1 hL h2 hp hpc hpL hsimple

/-- the interfaces the run traces (`keepCps2`, the code's `keep_cps` at the end of the link loop) are closed under "other end of
one of my links".  Every kept interface is among them (`kept_cp_mem_keepCps2`); the converse is not proved. -/
theorem kept_interfaces_closed (g : G) (d c c' : String) (hc : c ∈ keepCps2 genCfg g d) (h : LinkNext genCfg g c c') :
    c' ∈ keepCps2 genCfg g d :=
  reach_keepCps2 link_fixpoint hc (.step (.refl c) h)

/-- what exactly is in a partition when the link traces are repeated to a fixed point: the holders of `d` and the stitch nodes,
and both elements of every link-trace or owner-trace pair found from an interface reached, link by link, from one of those -/
theorem partition_exact (cfg : Cfg) (hr : cfg.linkRounds = none) (g : G) (d x : String) :
    x ∈ (genAdm cfg g d).ids ↔
      x ∈ keep0 cfg g d ∨
      ∃ c0 ∈ keepCps cfg g d, ∃ c, LinkReach cfg g c0 c ∧
        ∃ t ∈ cfg.linkTraces ++ cfg.ownerTraces, ∃ p ∈ firstSecond cfg.dropsK g c t, x = p.1 ∨ x = p.2 := by
  rw [mem_genAdm_ids]
  constructor
  · intro hx
    rcases keepSet_cases hx with hk | ⟨c, hc, t, p, hfs, hxp, ht⟩
    · exact .inl hk
    · obtain ⟨c0, hc0, hreach⟩ := keepCps2_reach hc
      exact .inr ⟨c0, hc0, c, hreach, t, List.mem_append.2 (ht.imp And.left id), p, hfs, hxp⟩
  · rintro (h | ⟨c0, hc0, c, hreach, t, ht, p, hfs, hxp⟩)
    · exact mem_keepSet.2 (.inl h)
    · have hc := reach_keepCps2 hr (keepCps_sub_keepCps2 hc0) hreach
      rcases List.mem_append.1 ht with ht | ht
      · exact mem_keepSet.2 (.inr (.inl ⟨p, linkPairs_of_keepCps2 hr hc ht hfs, hxp⟩))
      · exact mem_keepSet.2 (.inr (.inr ⟨p, mem_ownerPairs.2 ⟨c, hc, t, ht, hfs⟩, hxp⟩))

theorem partition_exact_extracted (g : G) (d x : String) :
    x ∈ (genAdm genCfg g d).ids ↔
      x ∈ keep0 genCfg g d ∨
      ∃ c0 ∈ keepCps genCfg g d, ∃ c, LinkReach genCfg g c0 c ∧
        ∃ t ∈ genCfg.linkTraces ++ genCfg.ownerTraces, ∃ p ∈ firstSecond genCfg.dropsK g c t, x = p.1 ∨ x = p.2 :=
  partition_exact genCfg link_fixpoint g d x

theorem adj_kept (cfg : Cfg) (g : G) (d x y r : String) (h : g.adj x y r)
    (hx : x ∈ (genAdm cfg g d).ids) (hy : y ∈ (genAdm cfg g d).ids) : (genAdm cfg g d).adj x y r := by
  obtain ⟨e, he, hr, hxy⟩ := G.adj_iff.1 h
  -- `sub_model`: an ARM edge between two kept nodes is kept
  have hk := (sub_model cfg g d).2.2.2.2.1 e he
  exact G.adj_iff.2 ⟨e, by rcases hxy with ⟨rfl, rfl⟩ | ⟨rfl, rfl⟩ <;> exact hk ‹_› ‹_›, hr, hxy⟩

/-- closure, in the partition itself: every kept interface is still joined there to each of its links, the link to its other
ends, the interface to its owning service and the service to its owner -/
theorem closure_in_partition (g : G) (d c : String) (hc : c ∈ (genAdm genCfg g d).ids)
    (hcp : g.hasCls c "ConnectionPoint" = true) :
    (∀ L p, g.adj c L "connects" → g.hasCls L "Link" = true → g.adj L p "connects" → g.hasCls p "ConnectionPoint" = true →
        p ≠ c → (∀ r, g.adj L p r → r = "connects") →
        (genAdm genCfg g d).adj c L "connects" ∧ (genAdm genCfg g d).adj L p "connects") ∧
    (∀ S o, g.adj c S "connects" → g.hasCls S "NetworkService" = true → g.adj S o "has" →
        (g.hasCls o "NetworkNode" = true ∨ g.hasCls o "Component" = true) → (∀ r, g.adj S o r → r = "has") →
        (genAdm genCfg g d).adj c S "connects" ∧ (genAdm genCfg g d).adj S o "has") := by
  constructor
  · intro L p h1 hL h2 hp hpc hs
    have := closure_link_peer g d c L p hc hcp h1 hL h2 hp hpc hs
    exact ⟨adj_kept genCfg g d c L _ h1 hc this.1, adj_kept genCfg g d L p _ h2 this.1 this.2⟩
  · intro S o h1 hS h2 ho hs
    have := closure_service_owner g d c S o hc hcp h1 hS h2 ho hs
    exact ⟨adj_kept genCfg g d c S _ h1 hc this.1, adj_kept genCfg g d S o _ h2 this.1 this.2⟩

/-- witness graph: `p` is in the partition of `d2` only as the far end of `f1i`'s link `l1`, and has a second link `l2` -/
def cexG : G :=
  { nodes := [⟨"f1i", "ConnectionPoint", [], .absent, .dels [("d2", "e")]⟩, ⟨"l1", "Link", [], .absent, .absent⟩,
              ⟨"p", "ConnectionPoint", [], .absent, .dels [("d1", "e")]⟩, ⟨"l2", "Link", [], .absent, .absent⟩,
              ⟨"f2i", "ConnectionPoint", [], .absent, .dels [("d1", "e")]⟩],
    edges := [⟨"f1i", "l1", "connects", []⟩, ⟨"l1", "p", "connects", []⟩, ⟨"l2", "p", "connects", []⟩,
              ⟨"f2i", "l2", "connects", []⟩] }

/-- non-vacuity for `holders_kept` / `only_own_entries` -/
example : (⟨"f1i", "ConnectionPoint", [], .absent, .dels [("d2", "e")]⟩ : Node) ∈ cexG.nodes ∧
    (⟨"f1i", "ConnectionPoint", [], .absent, .dels [("d2", "e")]⟩ : Node).holds "d2" = true := by decide

def onePassCfg : Cfg := { genCfg with linkRounds := some 1 }

private theorem cexG_d2_ids : (genAdm genCfg cexG "d2").ids = ["f1i", "l1", "p", "l2", "f2i"] := by decide +kernel
private theorem cexG_d2_onePass_ids : (genAdm onePassCfg cexG "d2").ids = ["f1i", "l1", "p"] := by decide +kernel

/-- one pass of the link trace is not enough (known finding `C13:closure:peer-interface-other-link`): the interface `p` is in
the partition of `d2`, its link `l2` to `f2i` is not; with the fitted configuration it is -/
theorem closure_one_pass_counterexample :
    "p" ∈ (genAdm onePassCfg cexG "d2").ids ∧ cexG.hasCls "p" "ConnectionPoint" = true ∧
    cexG.adj "p" "l2" "connects" ∧ cexG.hasCls "l2" "Link" = true ∧
    cexG.adj "l2" "f2i" "connects" ∧ cexG.hasCls "f2i" "ConnectionPoint" = true ∧
    "l2" ∉ (genAdm onePassCfg cexG "d2").ids ∧
    "l2" ∈ (genAdm genCfg cexG "d2").ids ∧ "f2i" ∈ (genAdm genCfg cexG "d2").ids := by
  rw [cexG_d2_ids, cexG_d2_onePass_ids]
  refine ⟨by decide, by decide, ?_, by decide, ?_, by decide⟩ <;> (unfold G.adj; decide)

/-- non-vacuity of the closure hypotheses, at a kept interface that is not definite -/
example : "p" ∈ (genAdm genCfg cexG "d2").ids ∧ ¬ definite cexG "d2" "p" ∧ cexG.adj "p" "l2" "connects" ∧
    cexG.adj "l2" "f2i" "connects" ∧ (∀ r, cexG.adj "l2" "f2i" r → r = "connects") := by
  rw [cexG_d2_ids]
  refine ⟨by decide, by unfold definite; decide, by unfold G.adj; decide, by unfold G.adj; decide, ?_⟩
  intro r hr
  simpa [G.adj, show cexG.nbrs "l2" = [("p", "connects"), ("f2i", "connects")] by decide] using hr

/-- non-vacuity of `kept_interfaces_closed` / `partition_exact` -/
example : "f1i" ∈ keepCps genCfg cexG "d2" ∧ LinkNext genCfg cexG "f1i" "p" ∧ LinkNext genCfg cexG "p" "f2i" := by
  refine ⟨by decide, ⟨⟨"connects", "Link", "connects", "ConnectionPoint"⟩, by decide, "l1", by decide⟩,
    ⟨⟨"connects", "Link", "connects", "ConnectionPoint"⟩, by decide, "l2", by decide⟩⟩

/-- the original model is left untouched: if none of the generated graph ids is the ARM's own id
(`uuid4` freshness, or the caller's `delegation_guids`), the ARM's entry in the store is unchanged —
and so is every other graph whose id is not one of the generated ids. -/
theorem arm_untouched (cfg : Cfg) (s s' : Store) (arm : String) (gid : String → String) (g0 : G)
    (r : List (String × String)) (hs : s.get arm = some g0)
    (hfresh : ∀ d ∈ delIds g0, gid d ≠ arm)
    (hrun : generateAdmsS cfg s arm gid = some (r, s')) :
    s'.get arm = some g0 ∧ ∀ y, (∀ d ∈ delIds g0, gid d ≠ y) → s'.get y = s.get y := by
  obtain ⟨_, rfl⟩ := generateAdmsS_eq hs hrun
  exact ⟨(foldl_stepS_frame cfg arm g0 gid _ s arm hfresh).trans hs, foldl_stepS_frame cfg arm g0 gid _ s⟩

/-- the hypothesis is needed: with the ARM's own id as the generated id the ARM is replaced by the partition -/
theorem arm_untouched_needs_fresh :
    ∃ s' r, generateAdmsS genCfg [("arm", cexG)] "arm" (fun _ => "arm") = some (r, s') ∧
      Store.get s' "arm" ≠ some cexG := by
  refine ⟨_, _, rfl, ?_⟩
  decide +kernel

/-- the run on the store produces exactly `genAdm` (`hends`: see `stepS_get`) -/
theorem store_run_is_genAdm (cfg : Cfg) (s s' : Store) (arm : String) (gid : String → String) (g0 : G)
    (r : List (String × String)) (hs : s.get arm = some g0)
    (hfresh : ∀ d ∈ delIds g0, gid d ≠ arm) (hinj : ((delIds g0).map gid).Nodup)
    (hnd : g0.ids.Nodup) (hends : ∀ e ∈ g0.edges, e.a ∈ g0.ids ∧ e.b ∈ g0.ids)
    (hrun : generateAdmsS cfg s arm gid = some (r, s')) :
    r = (delIds g0).map (fun d => (d, gid d)) ∧ ∀ d ∈ delIds g0, s'.get (gid d) = some (genAdm cfg g0 d) := by
  obtain ⟨rfl, rfl⟩ := generateAdmsS_eq hs hrun
  exact ⟨rfl, foldl_stepS_get cfg arm g0 gid _ s hs hfresh hinj hnd hends⟩

/-- non-vacuity of the hypotheses of `store_run_is_genAdm` / `partition_sound` -/
example : cexG.ids.Nodup ∧ (∀ e ∈ cexG.edges, e.a ∈ cexG.ids ∧ e.b ∈ cexG.ids) ∧ delIds cexG = ["d2", "d1"] ∧
    ((delIds cexG).map (fun d => "adm-" ++ d)).Nodup ∧ (∀ d ∈ delIds cexG, "adm-" ++ d ≠ "arm") := by
  decide +kernel

/-- the property, as one statement about the run on the store (clauses of C13 in the order of its text): `generate_adms` returns
one graph id per delegation id present, and the graph `m` stored under the id generated for `d`
 1. contains every node delegated to `d`, carrying exactly its own entries for `d` (`Node.rewrite`, see `only_own_entries`);
 2. has no entry of another delegation id anywhere;
 3. is a sub-model of the ARM;
 4. keeps, for every kept interface, each link with every other end, and the owning service with its owner;
 5. contains every stitch node;
and 6. the ARM (and every other graph of the store whose id was not generated) is unchanged. -/
theorem partition_sound (s s' : Store) (arm : String) (gid : String → String) (g0 : G)
    (r : List (String × String)) (hs : s.get arm = some g0)
    (hfresh : ∀ d ∈ delIds g0, gid d ≠ arm) (hinj : ((delIds g0).map gid).Nodup)
    (hnd : g0.ids.Nodup) (hends : ∀ e ∈ g0.edges, e.a ∈ g0.ids ∧ e.b ∈ g0.ids)
    (hrun : generateAdmsS genCfg s arm gid = some (r, s')) :
    r = (delIds g0).map (fun d => (d, gid d)) ∧
    (∀ d, d ∈ delIds g0 ↔ ∃ n ∈ g0.nodes, n.holds d = true) ∧
    (∀ d ∈ delIds g0, ∃ m, s'.get (gid d) = some m ∧
      (∀ n ∈ g0.nodes, n.holds d = true → n.rewrite d ∈ m.nodes) ∧
      (∀ x ∈ m.nodes, ∀ k ∈ x.ldel.keys ++ x.cdel.keys, k = d) ∧
      (∀ x ∈ m.nodes, ∃ n ∈ g0.nodes, x.id = n.id ∧ x.cls = n.cls ∧ x.props = n.props) ∧
      (m.ids.Nodup ∧ ∀ e ∈ m.edges, e ∈ g0.edges) ∧
      (∀ e ∈ g0.edges, e.a ∈ m.ids → e.b ∈ m.ids → e ∈ m.edges) ∧
      (∀ c L p, c ∈ m.ids → g0.hasCls c "ConnectionPoint" = true → g0.adj c L "connects" → g0.hasCls L "Link" = true →
          g0.adj L p "connects" → g0.hasCls p "ConnectionPoint" = true → p ≠ c → (∀ r, g0.adj L p r → r = "connects") →
          L ∈ m.ids ∧ p ∈ m.ids) ∧
      (∀ c S o, c ∈ m.ids → g0.hasCls c "ConnectionPoint" = true → g0.adj c S "connects" → g0.hasCls S "NetworkService" = true →
          g0.adj S o "has" → (g0.hasCls o "NetworkNode" = true ∨ g0.hasCls o "Component" = true) →
          (∀ r, g0.adj S o r → r = "has") → S ∈ m.ids ∧ o ∈ m.ids) ∧
      (∀ n ∈ g0.nodes, n.isStitch genCfg = true → n.id ∈ m.ids)) ∧
    s'.get arm = some g0 ∧ (∀ y, (∀ d ∈ delIds g0, gid d ≠ y) → s'.get y = s.get y) := by
  have hrun' := store_run_is_genAdm genCfg s s' arm gid g0 r hs hfresh hinj hnd hends hrun
  have hunt := arm_untouched genCfg s s' arm gid g0 r hs hfresh hrun
  refine ⟨hrun'.1, fun d => mem_delIds, fun d hd => ?_, hunt⟩
  have sm := sub_model genCfg g0 d
  exact ⟨_, hrun'.2 d hd, fun n hn hh => (holders_kept genCfg g0 d n hn hh).1, no_foreign_entries genCfg g0 d, sm.1,
    ⟨sm.2.2.1 hnd, sm.2.2.2.1⟩, sm.2.2.2.2.1, closure_link_peer g0 d, closure_service_owner g0 d,
    fun n hn hst => (stitch_everywhere genCfg g0 d n hn hst).2⟩

/-- a later partitioning — of another model of the same store, or of the same model again (`armB = armA`) — leaves the
partitions of an earlier one, and that model's entry, what they were, whatever delegation names the two models share, provided
none of the graph ids the second call generates is one the first generated or the first model's own id (`uuid4` freshness when
`delegation_guids` is left out; distinct ids handed in by the caller).  That `s1.get armA` is `some gA` is `arm_untouched` for
the first call. -/
theorem earlier_partitions_persist (cfg : Cfg) (s s1 s2 : Store) (armA armB : String) (gidA gidB : String → String)
    (gA gB : G) (rA rB : List (String × String))
    (hsA : s.get armA = some gA) (hfreshA : ∀ d ∈ delIds gA, gidA d ≠ armA) (hinjA : ((delIds gA).map gidA).Nodup)
    (hndA : gA.ids.Nodup) (hendsA : ∀ e ∈ gA.edges, e.a ∈ gA.ids ∧ e.b ∈ gA.ids)
    (hrunA : generateAdmsS cfg s armA gidA = some (rA, s1))
    (hsB : s1.get armB = some gB) (hfreshB : ∀ d ∈ delIds gB, gidB d ≠ armB)
    (hnew : ∀ d ∈ delIds gB, ∀ d' ∈ delIds gA, gidB d ≠ gidA d') (hnewArm : ∀ d ∈ delIds gB, gidB d ≠ armA)
    (hrunB : generateAdmsS cfg s1 armB gidB = some (rB, s2)) :
    (∀ d ∈ delIds gA, s2.get (gidA d) = some (genAdm cfg gA d)) ∧ s2.get armA = s1.get armA := by
  have h1 := (store_run_is_genAdm cfg s s1 armA gidA gA rA hsA hfreshA hinjA hndA hendsA hrunA).2
  have h2 := (arm_untouched cfg s1 s2 armB gidB gB rB hsB hfreshB hrunB).2
  exact ⟨fun d hd => (h2 (gidA d) fun d' hd' => hnew d' hd' d hd).trans (h1 d hd), h2 armA hnewArm⟩

/-- a second model sharing the delegation name `d2` with `cexG` -/
def cexH : G := { nodes := [⟨"x", "NetworkNode", [], .absent, .dels [("d2", "e")]⟩], edges := [] }

/-- non-vacuity of `earlier_partitions_persist` -/
example : ∃ r1 s1 r2 s2, generateAdmsS genCfg [("armA", cexG), ("armB", cexH)] "armA" (fun d => "adm-" ++ d) = some (r1, s1) ∧
    Store.get s1 "armB" = some cexH ∧ generateAdmsS genCfg s1 "armB" (fun d => "b-" ++ d) = some (r2, s2) ∧
    (∀ d ∈ delIds cexH, ∀ d' ∈ delIds cexG, "b-" ++ d ≠ "adm-" ++ d') ∧
    (∀ d ∈ delIds cexH, "b-" ++ d ≠ "armA" ∧ "b-" ++ d ≠ "armB") ∧ delIds cexH = ["d2"] := by
  refine ⟨_, _, _, _, rfl, ?_, rfl, ?_, ?_, ?_⟩ <;> decide

/-- the hypothesis `hnew` is needed: when the second call generates, for a delegation name both models use, the graph id the
first call generated (a remembered name ↦ id table), the first model's partition is replaced by the second model's -/
theorem earlier_partitions_need_fresh :
    ∃ r1 s1 r2 s2, generateAdmsS genCfg [("armA", cexG), ("armB", cexH)] "armA" (fun d => "adm-" ++ d) = some (r1, s1) ∧
      generateAdmsS genCfg s1 "armB" (fun d => "adm-" ++ d) = some (r2, s2) ∧
      Store.get s1 "adm-d2" = some (genAdm genCfg cexG "d2") ∧
      Store.get s2 "adm-d2" = some (genAdm genCfg cexH "d2") ∧
      Store.get s2 "adm-d2" ≠ some (genAdm genCfg cexG "d2") := by
  refine ⟨_, _, _, _, rfl, rfl, ?_, ?_, ?_⟩ <;> decide

/-- re-keying changes only the key (whatever the outcome, raised or not): node ids, classes, other
properties and all edges are the same; a delegation property is either unchanged or had exactly one entry whose
key — and nothing else — was replaced by the graph id. -/
theorem rekey_only_key (g : G) (x : String) :
    (rekey g x).2.edges = g.edges ∧ Forall2 (NodeKeyOnly x) g.nodes (rekey g x).2.nodes :=
  ⟨rfl, rekeyNodes_keyOnly x g.nodes⟩

/-- when it does not raise, every node was re-keyed -/
theorem rekey_ok_all (g : G) (x : String) (h : (rekey g x).1 = false) :
    Forall2 (fun n m => n.rekey x = some m) g.nodes (rekey g x).2.nodes :=
  rekeyNodes_ok x g.nodes h

/-- re-keying a generated partition never raises (each of its delegation properties has one entry or none) -/
theorem rekey_partition_ok (cfg : Cfg) (g : G) (d x : String) : (rekey (genAdm cfg g d) x).1 = false := by
  apply rekeyNodes_of_all_some
  intro m hm
  rcases mem_genAdm_nodes.1 hm with ⟨n, _, _, rfl⟩
  exact Node.rekey_rewrite_isSome n d x

private theorem rekey_cex_nodes : (rekey (genAdm genCfg cexG "d2") "G").2.nodes =
    [⟨"f1i", "ConnectionPoint", [], .absent, .dels [("G", "e")]⟩, ⟨"l1", "Link", [], .absent, .absent⟩,
     ⟨"p", "ConnectionPoint", [], .absent, .absent⟩, ⟨"l2", "Link", [], .absent, .absent⟩,
     ⟨"f2i", "ConnectionPoint", [], .absent, .absent⟩] := by decide +kernel

example : (rekey (genAdm genCfg cexG "d2") "G").2.nodes.map (·.cdel) =
    [.dels [("G", "e")], .absent, .absent, .absent, .absent] := by rw [rekey_cex_nodes]; rfl

/-- re-keying a partition in the store touches that graph only, whether or not the call raises -/
theorem rekey_store_frame (s s' : Store) (x new : String) (raised : Bool) (h : rekeyS s x new = some (raised, s')) :
    (∀ y, y ≠ x → s'.get y = s.get y) ∧ ∃ g, s.get x = some g ∧ s'.get x = some (rekey g new).2 ∧ raised = (rekey g new).1 := by
  unfold rekeyS at h
  split at h
  · cases h
  · cases h; exact ⟨fun y hy => Store.get_set_ne s _ hy, _, ‹_›, Store.get_set_eq _ _ _, rfl⟩

example : ∃ s', rekeyS [("arm", cexG), ("adm", genAdm genCfg cexG "d2")] "adm" "G" = some (false, s') ∧
    Store.get s' "arm" = some cexG := ⟨_, rfl, by decide⟩

/-- re-keying composes (a → b is b): in particular nothing but the key can have been lost on the way -/
theorem rekey_compose (g : G) (a b : String) (h : (rekey g a).1 = false) :
    rekey (rekey g a).2 b = rekey g b := by
  unfold rekey
  simp only
  rw [rekeyNodes_comp a b g.nodes h]

/-- re-keying to the key already present is the identity (`KeyedBy x`: not an object, or a single entry under `x`) -/
theorem rekey_present_key_id (g : G) (x : String)
    (h : ∀ n ∈ g.nodes, KeyedBy x n.ldel ∧ KeyedBy x n.cdel) : rekey g x = (false, g) := by
  unfold rekey
  rw [rekeyNodes_present x g.nodes h]

/-- re-keying twice to the same id (what a merge of an already re-keyed ADM does) changes nothing more (a → a) -/
theorem rekey_twice_same (g : G) (x : String) (h : (rekey g x).1 = false) :
    rekey (rekey g x).2 x = (false, (rekey g x).2) := by
  rw [rekey_compose g x x h]
  exact Prod.ext h rfl

/-- a → b → a ends where a → a does -/
theorem rekey_there_and_back (g : G) (a b : String) (h : (rekey g a).1 = false) :
    rekey (rekey (rekey g a).2 b).2 a = rekey g a := by
  have hb : (rekey (rekey g a).2 b).1 = false := by
    rw [rekey_compose g a b h]
    exact (rekeyNodes_raise_indep b a g.nodes).trans h
  rw [rekey_compose _ b a hb, rekey_compose g a a h]

/-- non-vacuity of `rekey_present_key_id`: the partition of `cexG` for `d2` re-keyed to `"G"` -/
example : ∀ n ∈ (rekey (genAdm genCfg cexG "d2") "G").2.nodes, KeyedBy "G" n.ldel ∧ KeyedBy "G" n.cdel := by
  rw [rekey_cex_nodes]
  intro n hn
  simp only [List.mem_cons, List.not_mem_nil, or_false] at hn
  rcases hn with rfl | rfl | rfl | rfl | rfl
  · exact ⟨Or.inl rfl, Or.inr ⟨"e", rfl⟩⟩
  all_goals exact ⟨Or.inl rfl, Or.inl rfl⟩

/-- end to end for one holder: after partitioning for `d` and re-keying to graph id `x`, the holder's property
has the single key `x` carrying the holder's original entry for `d` (or is absent if it had none) -/
theorem rekey_partition_entry (n : Node) (d x : String) (hd : n.holds d = true) :
    ∃ m, (n.rewrite d).rekey x = some m ∧
      m.ldel.keys = (if d ∈ n.ldel.keys then [x] else []) ∧ (d ∈ n.ldel.keys → m.ldel.get x = n.ldel.get d) ∧
      m.cdel.keys = (if d ∈ n.cdel.keys then [x] else []) ∧ (d ∈ n.cdel.keys → m.cdel.get x = n.cdel.get d) := by
  have hc := Node.catalogued_of_holds hd
  have key : ∀ p : DelProp, ∃ q, rekeyProp (p.restrict d) x = some q ∧
      q.keys = (if d ∈ p.keys then [x] else []) ∧ (d ∈ p.keys → q.get x = p.get d) := by
    intro p
    unfold DelProp.restrict DelProp.get
    rcases DelProp.find_entry p d with ⟨h, hk⟩ | ⟨v, h, hk⟩ <;> rw [h]
    · exact ⟨.absent, rfl, (if_neg hk).symm, fun h' => absurd h' hk⟩
    · exact ⟨.dels [(x, v)], rfl, (if_pos hk).symm, fun _ => by simp [DelProp.entries]⟩
  rcases key n.ldel with ⟨ql, hl1, hl2, hl3⟩
  rcases key n.cdel with ⟨qc, hc1, hc2, hc3⟩
  refine ⟨{ n.rewrite d with ldel := ql, cdel := qc }, ?_, hl2, hl3, hc2, hc3⟩
  unfold Node.rekey
  rw [Node.rewrite_of_catalogued d hc, hl1, hc1]

end FimVerif.C13
