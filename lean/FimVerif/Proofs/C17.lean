import FimVerif.Proofs.Lemmas.C17Script
import FimVerif.Proofs.Lemmas.C17Cfg
import FimVerif.Proofs.Lemmas.C17Val
import FimVerif.Generated.DiffCfg
/-!
# C17 — sliver comparison reports exactly the differences between two slivers

Theorems about `Model/Diff.lean` (`InterfaceSliver.diff`, `NetworkServiceSliver.diff`, `NodeSliver.diff` of /repo), for every
sliver tree and every value type `V` for labels / capacities / user data.

`X.Wf`: the `*Info` dictionaries have unique keys (which a Python dict guarantees).  `PairOk a b`: the SmartNIC descent of
`NodeSliver.diff` finds a first network service on both sides (otherwise the method raises: `node_diff_raises_iff`); `n.Ok`, every
SmartNIC of `n` has a network service, is enough for `n` against itself and against any edited copy.

Tie to the source: the driver runs not `ifaceDiff / svcDiff / nodeDiff` but the table-driven `ifaceDiffC / svcDiffC / nodeDiffC` on
`Generated/DiffCfg.lean`, which `gen/diffcfg.py` extracts from the source on every run.  Section 0 proves that the extracted table is
`Good` and that on a good table the two agree; a source change that drops a compared property, a descent, a term of the final test or
moves a collection to another field changes the table and makes `table_good` fail.
-/
namespace FimVerif.C17
open FimVerif.Diff
variable {V : Type} [DecidableEq V]

instance {ε α : Type} [DecidableEq ε] [DecidableEq α] : DecidableEq (Except ε α) := fun a b =>
  match a, b with
  | .ok x, .ok y => if h : x = y then isTrue (by rw [h]) else isFalse (fun e => h (by cases e; rfl))
  | .error x, .error y => if h : x = y then isTrue (by rw [h]) else isFalse (fun e => h (by cases e; rfl))
  | .ok _, .error _ => isFalse (fun e => by cases e)
  | .error _, .ok _ => isFalse (fun e => by cases e)

/-! ## 0. the extracted table -/

/-- the table extracted from the source in this run describes the comparison the theorems are about -/
theorem table_good : FimVerif.Gen.DiffCfg.cfg.Good := by decide +kernel

/-- the integer value of a `WhatsModifiedFlag` built by the methods tells exactly which of labels / capacities / user data /
sub-interfaces were flagged (the member values extracted from `topology_diff.py` are independent bits) -/
theorem flag_values_decodable (f g : Flags)
    (h : encodeC FimVerif.Gen.DiffCfg.cfg.flagVal f = encodeC FimVerif.Gen.DiffCfg.cfg.flagVal g) : f = g :=
  encodeC_injective (by decide +kernel) h

theorem table_model_eq (cfg : Cfg) (h : cfg.Good) :
    (∀ a b : Props V, propDiffC cfg.props a b = propDiff a b) ∧ (∀ a b : Iface V, ifaceDiffC cfg a b = ifaceDiff a b) ∧
    (∀ a b : Svc V, svcDiffC cfg a b = svcDiff a b) ∧ (∀ a b : Node V, nodeDiffC cfg a b = nodeDiff a b) :=
  ⟨propDiffC_eq h.props, ifaceDiffC_eq h, svcDiffC_eq h, nodeDiffC_eq h⟩

/-- what the driver runs, on the table of this run -/
theorem generated_model_eq :
    (∀ a b : Iface V, ifaceDiffC FimVerif.Gen.DiffCfg.cfg a b = ifaceDiff a b) ∧
    (∀ a b : Svc V, svcDiffC FimVerif.Gen.DiffCfg.cfg a b = svcDiff a b) ∧
    (∀ a b : Node V, nodeDiffC FimVerif.Gen.DiffCfg.cfg a b = nodeDiff a b) :=
  ⟨ifaceDiffC_eq table_good, svcDiffC_eq table_good, nodeDiffC_eq table_good⟩

private abbrev gcfg : Cfg := FimVerif.Gen.DiffCfg.cfg

-- dropping a compared property, a descent or a term of the final test is not a good table
example : ¬ Cfg.Good { gcfg with props := [(.labels, .labels), (.caps, .caps)] } := by decide +kernel
example : ¬ Cfg.Good { gcfg with node := { gcfg.node with cond := gcfg.node.cond.filter (fun p => p ≠ .added .svcs) } } := by decide +kernel
example : ¬ Cfg.Good { gcfg with svc := { gcfg.svc with levels := gcfg.svc.levels.map (fun l => { l with descend := none }) } } := by
  decide +kernel
-- the order in which `prop_diff` compares and the order of the terms of the final test do not matter
example : Cfg.Good { gcfg with props := gcfg.props.reverse, node := { gcfg.node with cond := gcfg.node.cond.reverse } } := by decide +kernel
-- member values that overlap (LABELS = 1, CAPACITIES = 2, USER_DATA = 3) cannot be decoded
example : ¬ EncInj [(.labels, 1), (.caps, 2), (.ud, 3), (.sub, 4)] := by decide +kernel

/-! ## 1. a sliver compared with an identical copy of itself reports no difference -/

theorem iface_diff_self_none (i : Iface V) (h : i.Wf) : ifaceDiff i i = none := by
  rw [ifaceDiff_eq_mk, mkReport_eq_none_iff]
  exact ⟨selfMod_self, level_self leafFlag h (fun _ _ => propDiff_self _)⟩

theorem svc_diff_self_none (s : Svc V) (h : s.Wf) : svcDiff s s = none := svcDiff_self s h

theorem node_diff_self_none (n : Node V) (h : n.Wf) (hok : n.Ok) : nodeDiff n n = .ok none := by
  rw [nodeDiff_of_pairOk (pairOk_self n h hok), nodeDiffP, mkNodeReport_eq_none_iff.2]
  refine ⟨selfMod_self, ?_, ?_⟩
  · exact level_self compFlagP h.1 (fun x hx => compFlagP_self x (h.2.2 x hx))
  · exact level_self svcPropFlag h.2.1 (fun _ _ => propDiff_self _)

/-- `NodeSliver.diff` raises exactly when a SmartNIC present on both sides lacks a first network service -/
theorem node_diff_raises_iff (a b : Node V) : (∃ e, nodeDiff a b = .error e) ↔ ¬ PairOk a b := by
  cases h : nodeDiff a b with
  | error e => exact ⟨fun _ hp => (nomatch h.symm.trans (nodeDiff_of_pairOk hp)), fun _ => ⟨e, rfl⟩⟩
  | ok r => exact ⟨fun ⟨_, he⟩ => (nomatch he), fun hn => absurd ((nodeDiff_eq_ok_iff a b r).1 h).1 hn⟩

private def exLeaf : Leaf Nat := { name := "p1.1", props := { labels := some 100 } }
private def exIface : Iface Nat := { name := "p1", props := { ud := some 7 }, dedicated := true, subs := some [exLeaf] }
private def exSvc : Svc Nat := { name := "nic1-ns", props := {}, ifs := some [exIface, { exIface with name := "p2", subs := none }] }
private def exNode : Node Nat :=
  { name := "n1", props := { caps := some 3 },
    comps := some [{ name := "nic1", props := {}, smart := true, svcs := some [exSvc] },
                   { name := "gpu1", props := {}, smart := false, svcs := none }],
    svcs := some [{ exSvc with name := "ns1" }] }
example : exIface.Wf := by decide +kernel
example : exSvc.Wf := by decide +kernel
example : exNode.Wf ∧ exNode.Ok ∧ PairOk exNode exNode := by decide +kernel
example : ¬ PairOk { exNode with comps := some [{ name := "nic1", props := {}, smart := true, svcs := none }] } exNode := by decide +kernel

/-- the same of what the driver runs -/
theorem generated_node_diff_self_none (n : Node V) (h : n.Wf) (hok : n.Ok) :
    nodeDiffC FimVerif.Gen.DiffCfg.cfg n n = .ok none := by
  rw [nodeDiffC_eq table_good]; exact node_diff_self_none n h hok

/-! ## 2. what is added old→new is what is removed new→old -/

theorem iface_added_removed_dual (a b : Iface V) :
    (rep (ifaceDiff a b)).addedIfs = (rep (ifaceDiff b a)).removedIfs ∧
    (rep (ifaceDiff a b)).removedIfs = (rep (ifaceDiff b a)).addedIfs := by
  simp only [ifaceDiff_eq_mk, rep_mkReport]
  exact ⟨level_dual _ _, (level_dual _ _).symm⟩

theorem svc_added_removed_dual (a b : Svc V) :
    (rep (svcDiff a b)).addedIfs = (rep (svcDiff b a)).removedIfs ∧
    (rep (svcDiff a b)).removedIfs = (rep (svcDiff b a)).addedIfs := by
  simp only [svcDiff_eq_mk, rep_mkReport]
  exact ⟨level_dual _ _, (level_dual _ _).symm⟩

theorem node_added_removed_dual (a b : Node V) (x y : Option TDiff)
    (hx : nodeDiff a b = .ok x) (hy : nodeDiff b a = .ok y) :
    (rep x).addedComps = (rep y).removedComps ∧ (rep x).removedComps = (rep y).addedComps ∧
    (rep x).addedSvcs = (rep y).removedSvcs ∧ (rep x).removedSvcs = (rep y).addedSvcs := by
  rw [eq_nodeDiffP_of_ok hx, eq_nodeDiffP_of_ok hy]
  simp only [nodeDiffP, rep_mkNodeReport]
  exact ⟨level_dual _ _, (level_dual _ _).symm, level_dual _ _, (level_dual _ _).symm⟩

/-! ## 3. exactness for *all* pairs of slivers: the report is the set difference of the children and, for the
survivors, the comparison of the tracked properties -/

/-- `prop_diff`: a flag is set iff that property differs; `prop_diff` itself never sets SUB_INTERFACES -/
theorem prop_diff_spec (a b : Props V) :
    ((propDiff a b).labels = true ↔ a.labels ≠ b.labels) ∧ ((propDiff a b).caps = true ↔ a.caps ≠ b.caps) ∧
    ((propDiff a b).ud = true ↔ a.ud ≠ b.ud) ∧ (propDiff a b).sub = false := by
  simp [propDiff]

/-- `InterfaceSliver.diff a b`: added / removed sub-interfaces are the key-set differences, a common sub-interface is
listed (once) iff its `prop_diff` is not NONE, with exactly that flag; the interface itself is listed (under
`modified.services`, as the code does) iff its own `prop_diff` is not NONE; nothing else is reported -/
theorem iface_diff_spec (a b : Iface V) (ha : a.Wf) :
    (∀ k, k ∈ (rep (ifaceDiff a b)).addedIfs ↔ hasKey (dictOf b.subs) k = true ∧ hasKey (dictOf a.subs) k = false) ∧
    (∀ k, k ∈ (rep (ifaceDiff a b)).removedIfs ↔ hasKey (dictOf a.subs) k = true ∧ hasKey (dictOf b.subs) k = false) ∧
    (∀ k f, (k, f) ∈ (rep (ifaceDiff a b)).modIfs ↔
      ∃ x y, get? (dictOf a.subs) k = some x ∧ get? (dictOf b.subs) k = some y ∧ propDiff x.props y.props = f ∧ f ≠ Flags.none) ∧
    (∀ k f, (k, f) ∈ (rep (ifaceDiff a b)).modSvcs ↔ k = a.name ∧ f = propDiff a.props b.props ∧ f ≠ Flags.none) ∧
    ((rep (ifaceDiff a b)).modIfs.map Prod.fst).Nodup ∧
    (rep (ifaceDiff a b)).addedComps = [] ∧ (rep (ifaceDiff a b)).addedSvcs = [] ∧ (rep (ifaceDiff a b)).removedComps = [] ∧
    (rep (ifaceDiff a b)).removedSvcs = [] ∧ (rep (ifaceDiff a b)).modNodes = [] ∧ (rep (ifaceDiff a b)).modComps = [] := by
  rw [ifaceDiff_eq_mk, rep_mkReport]
  exact ⟨mem_level_added, mem_level_removed, mem_level_modified ha, mem_selfMod,
    level_modified_nodup ha, rfl, rfl, rfl, rfl, rfl, rfl⟩

/-- the flag `NetworkServiceSliver.diff` computes for a common interface: LABELS / CAPACITIES / USER_DATA iff that
property differs, SUB_INTERFACES iff the interface is a DedicatedPort and its sub-interface dictionaries differ
(keys, or tracked properties of a common sub-interface) -/
theorem iface_flag_spec (x y : Iface V) (hx : x.Wf) :
    ((ifaceFlag x y).labels = true ↔ x.props.labels ≠ y.props.labels) ∧
    ((ifaceFlag x y).caps = true ↔ x.props.caps ≠ y.props.caps) ∧
    ((ifaceFlag x y).ud = true ↔ x.props.ud ≠ y.props.ud) ∧
    ((ifaceFlag x y).sub = true ↔ x.dedicated = true ∧ ¬ SameDict Leaf.Same x.subs y.subs) := by
  rw [ifaceFlag_eq, ← subs_level_empty_iff x y hx, ← Level.nonempty_eq_false_iff]
  simp [descFlag, propDiff]

theorem svc_diff_spec (a b : Svc V) (ha : a.Wf) :
    (∀ k, k ∈ (rep (svcDiff a b)).addedIfs ↔ hasKey (dictOf b.ifs) k = true ∧ hasKey (dictOf a.ifs) k = false) ∧
    (∀ k, k ∈ (rep (svcDiff a b)).removedIfs ↔ hasKey (dictOf a.ifs) k = true ∧ hasKey (dictOf b.ifs) k = false) ∧
    (∀ k f, (k, f) ∈ (rep (svcDiff a b)).modIfs ↔
      ∃ x y, get? (dictOf a.ifs) k = some x ∧ get? (dictOf b.ifs) k = some y ∧ ifaceFlag x y = f ∧ f ≠ Flags.none) ∧
    (∀ k f, (k, f) ∈ (rep (svcDiff a b)).modSvcs ↔ k = a.name ∧ f = propDiff a.props b.props ∧ f ≠ Flags.none) ∧
    ((rep (svcDiff a b)).modIfs.map Prod.fst).Nodup ∧
    (rep (svcDiff a b)).addedComps = [] ∧ (rep (svcDiff a b)).addedSvcs = [] ∧ (rep (svcDiff a b)).removedComps = [] ∧
    (rep (svcDiff a b)).removedSvcs = [] ∧ (rep (svcDiff a b)).modNodes = [] ∧ (rep (svcDiff a b)).modComps = [] := by
  rw [svcDiff_eq_mk, rep_mkReport]
  exact ⟨mem_level_added, mem_level_removed, mem_level_modified ha.1, mem_selfMod,
    level_modified_nodup ha.1, rfl, rfl, rfl, rfl, rfl, rfl⟩

/-- the flag `NodeSliver.diff` computes for a common component: the three property flags, and SUB_INTERFACES iff it is a
SmartNIC whose first network service differs in any way `NetworkServiceSliver.diff` can see -/
theorem comp_flag_spec (x y : Comp V) (hx : x.Wf) (hok : CompOk x y) :
    compFlag x y = .ok (compFlagP x y) ∧
    ((compFlagP x y).labels = true ↔ x.props.labels ≠ y.props.labels) ∧
    ((compFlagP x y).caps = true ↔ x.props.caps ≠ y.props.caps) ∧
    ((compFlagP x y).ud = true ↔ x.props.ud ≠ y.props.ud) ∧
    ((compFlagP x y).sub = true ↔ x.smart = true ∧
      ∃ sx sy, (dictOf x.svcs).head? = some sx ∧ (dictOf y.svcs).head? = some sy ∧ ¬ Svc.Same sx sy) := by
  refine ⟨(compFlag_eq_ok_iff x y _).2 ⟨hok, rfl⟩, ?_⟩
  rw [compFlagP_eq]
  refine ⟨by simp [descFlag, propDiff], by simp [descFlag, propDiff], by simp [descFlag, propDiff], ?_⟩
  simp only [descFlag, Bool.and_eq_true, Option.any_eq_true, Option.isSome_iff_ne_none]
  constructor
  · rintro ⟨hs, sx, hsx, sy, hsy, h⟩
    exact ⟨hs, sx, sy, hsx, hsy, fun e => h ((svcDiff_none_iff_same sx sy (hx sx hsx)).2 e)⟩
  · rintro ⟨hs, sx, sy, hsx, hsy, h⟩
    exact ⟨hs, sx, hsx, sy, hsy, fun e => h ((svcDiff_none_iff_same sx sy (hx sx hsx)).1 e)⟩

theorem node_diff_spec (a b : Node V) (ha : a.Wf) (hok : PairOk a b) :
    ∃ r, nodeDiff a b = .ok r ∧
    (∀ k, k ∈ (rep r).addedComps ↔ hasKey (dictOf b.comps) k = true ∧ hasKey (dictOf a.comps) k = false) ∧
    (∀ k, k ∈ (rep r).removedComps ↔ hasKey (dictOf a.comps) k = true ∧ hasKey (dictOf b.comps) k = false) ∧
    (∀ k, k ∈ (rep r).addedSvcs ↔ hasKey (dictOf b.svcs) k = true ∧ hasKey (dictOf a.svcs) k = false) ∧
    (∀ k, k ∈ (rep r).removedSvcs ↔ hasKey (dictOf a.svcs) k = true ∧ hasKey (dictOf b.svcs) k = false) ∧
    (∀ k f, (k, f) ∈ (rep r).modComps ↔
      ∃ x y, get? (dictOf a.comps) k = some x ∧ get? (dictOf b.comps) k = some y ∧ compFlagP x y = f ∧ f ≠ Flags.none) ∧
    (∀ k f, (k, f) ∈ (rep r).modSvcs ↔
      ∃ x y, get? (dictOf a.svcs) k = some x ∧ get? (dictOf b.svcs) k = some y ∧ propDiff x.props y.props = f ∧ f ≠ Flags.none) ∧
    (∀ k f, (k, f) ∈ (rep r).modNodes ↔ k = a.name ∧ f = propDiff a.props b.props ∧ f ≠ Flags.none) ∧
    ((rep r).modComps.map Prod.fst).Nodup ∧ ((rep r).modSvcs.map Prod.fst).Nodup ∧
    (rep r).addedIfs = [] ∧ (rep r).removedIfs = [] ∧ (rep r).modIfs = [] := by
  refine ⟨_, nodeDiff_of_pairOk hok, ?_⟩
  rw [nodeDiffP, rep_mkNodeReport]
  exact ⟨mem_level_added, mem_level_removed, mem_level_added, mem_level_removed,
    mem_level_modified ha.1, mem_level_modified ha.2.1, mem_selfMod,
    level_modified_nodup ha.1, level_modified_nodup ha.2.1, rfl, rfl, rfl⟩

/-! ## 4. a diff is `None` exactly when nothing the method looks at differs -/

theorem iface_diff_none_iff (a b : Iface V) (ha : a.Wf) : ifaceDiff a b = none ↔ Iface.Same a b := by
  rw [ifaceDiff_eq_mk, mkReport_eq_none_iff, selfMod_eq_nil_iff, subs_level_empty_iff a b ha]; rfl

theorem svc_diff_none_iff (a b : Svc V) (ha : a.Wf) : svcDiff a b = none ↔ Svc.Same a b :=
  svcDiff_none_iff_same a b ha

theorem node_diff_none_iff (a b : Node V) (ha : a.Wf) (hok : PairOk a b) : nodeDiff a b = .ok none ↔ Node.Same a b := by
  rw [nodeDiff_eq_ok_iff, nodeDiffP_none_iff_same a b ha, and_iff_right hok]

/-! ## 5. exactness against edit scripts: `diff s (apply es s)` reports exactly what the script `es` did

Scripts are hierarchical (`NodeScript ⊃ CompScript ⊃ SvcScript ⊃ IfaceScript ⊃ PScript`, `Lemmas/C17Script.lean`): at every
dictionary a list of `add x` / `remove k` / `modify k childScript`, at every sliver at most one `set_labels` / `set_capacities` /
`set_user_data`.  `sc.NC s`: the script is non-conflicting, recursively.  `expX sc s` is computed from the script alone (plus the old
values, to tell whether a `set_…` really changes something). -/

/-- a tracked property is flagged iff the script sets it to a different value -/
theorem props_edit_exact (sc : PScript V) (p : Props V) : propDiff p (applyP sc p) = expP sc p := propDiff_applyP sc p

/-- one dictionary level, for any child type, any child-script type and any flag function that is NONE on identical children -/
theorem dict_edit_exact {α ε : Type} [Named α] (flag : α → α → Flags) (app : ε → α → α)
    (happ : ∀ e y, name (app e y) = name y) (a : Option (List α)) (es : List (DEdit α ε))
    (ha : WfDict (dictOf a)) (hnc : NC es (dictOf a)) (hself : ∀ x ∈ dictOf a, flag x x = Flags.none) :
    Level.Equiv (levelDiff flag a (applyO app es a)) (expLevel (fun e x => flag x (app e x)) (dictOf a) es) :=
  level_edit flag app happ ha hnc hself (fun _ _ _ _ _ => rfl)

theorem iface_diff_exact (sc : IfaceScript V) (i : Iface V) (hi : i.Wf) (hnc : sc.NC i) :
    SameReport (ifaceDiff i (applyIface sc i)) (expIface sc i) := by
  rw [ifaceDiff_eq_mk]
  exact mkReport_same (selfMod_applyP _ _ _) (subs_level_edit sc i hi hnc)

theorem svc_diff_exact (sc : SvcScript V) (s : Svc V) (hs : s.Wf) (hnc : sc.NC s) :
    SameReport (svcDiff s (applySvc sc s)) (expSvc sc s) := svcDiff_edit sc s hs hnc

theorem node_diff_exact (sc : NodeScript V) (n : Node V) (hn : n.Wf) (hnc : sc.NC n) (hok : n.Ok) :
    ∃ r, nodeDiff n (applyNode sc n) = .ok r ∧ SameReport r (expNode sc n) :=
  ⟨_, nodeDiff_of_pairOk (pairOk_applyNode sc n hn hnc hok), nodeDiffP_edit sc n hn hnc⟩

/-- the same of what the driver runs -/
theorem generated_node_diff_exact (sc : NodeScript V) (n : Node V) (hn : n.Wf) (hnc : sc.NC n) (hok : n.Ok) :
    ∃ r, nodeDiffC FimVerif.Gen.DiffCfg.cfg n (applyNode sc n) = .ok r ∧ SameReport r (expNode sc n) := by
  rw [nodeDiffC_eq table_good]; exact node_diff_exact sc n hn hnc hok

-- a combined script on the example node (set node capacities; add a component; change a sub-interface's
-- labels and add a sub-interface below the SmartNIC; remove one node-level service and add another)
private def exScript : NodeScript Nat :=
  { pe := { caps := some (some 4) },
    comps := [.add { name := "gpu2", props := {}, smart := false, svcs := none },
              .modify "nic1" { svc := some { ifs := [.modify "p1" { subs := [.modify "p1.1" { labels := some (some 200) },
                                                                             .add { name := "p1.2", props := {} }] }] } }],
    svcs := [.remove "ns1", .add { name := "ns2", props := {}, ifs := none }] }
example : exScript.NC exNode ∧ exNode.Ok := by decide +kernel
example : expNode exScript exNode =
    some { addedComps := ["gpu2"], addedSvcs := ["ns2"], removedSvcs := ["ns1"],
           modNodes := [("n1", { caps := true })], modComps := [("nic1", { sub := true })] } := by decide +kernel
example : (nodeDiff exNode (applyNode exScript exNode)).toOption =
    some (some { addedComps := ["gpu2"], addedSvcs := ["ns2"], removedSvcs := ["ns1"],
                 modNodes := [("n1", { caps := true })], modComps := [("nic1", { sub := true })] }) := by decide +kernel
-- known finding `C17:NodeSliver.diff:unreported:node-service-subtree`: a script below a node-level service is predicted (and reported) as nothing
example : expNode { svcs := [.modify "ns1" { ifs := [.remove "p2"] }] } exNode = none := by decide +kernel

/-! ## 6. the "modified" part is the same in both directions

What is listed as modified, and with which flag, does not depend on the direction, provided both sides agree on which interfaces are
dedicated ports and which components are SmartNICs: the methods test the type of the *old* side only
(`svc_modified_symm_counterexample`). -/

theorem prop_diff_symm (a b : Props V) : propDiff a b = propDiff b a := propDiff_comm a b

theorem iface_modified_symm (a b : Iface V) (ha : a.Wf) (hb : b.Wf) :
    (∀ k f, (k, f) ∈ (rep (ifaceDiff a b)).modIfs ↔ (k, f) ∈ (rep (ifaceDiff b a)).modIfs) ∧
    (rep (ifaceDiff a b)).modSvcs.map Prod.snd = (rep (ifaceDiff b a)).modSvcs.map Prod.snd := by
  simp only [ifaceDiff_eq_mk, rep_mkReport]
  exact ⟨mem_level_modified_comm leafFlag ha hb (fun _ _ _ _ => propDiff_comm _ _),
    selfMod_snd_comm _ _ _ _⟩

theorem svc_modified_symm (a b : Svc V) (ha : a.Wf) (hb : b.Wf) (hk : Svc.KindsAgree a b) :
    (∀ k f, (k, f) ∈ (rep (svcDiff a b)).modIfs ↔ (k, f) ∈ (rep (svcDiff b a)).modIfs) ∧
    (rep (svcDiff a b)).modSvcs.map Prod.snd = (rep (svcDiff b a)).modSvcs.map Prod.snd := by
  simp only [svcDiff_eq_mk, rep_mkReport]
  exact ⟨mem_level_modified_comm ifaceFlag ha.1 hb.1 (ifaceFlag_comm_of ha hb hk),
    selfMod_snd_comm _ _ _ _⟩

theorem node_modified_symm (a b : Node V) (ha : a.Wf) (hb : b.Wf) (hk : Node.KindsAgree a b) (x y : Option TDiff)
    (hx : nodeDiff a b = .ok x) (hy : nodeDiff b a = .ok y) :
    (∀ k f, (k, f) ∈ (rep x).modComps ↔ (k, f) ∈ (rep y).modComps) ∧
    (∀ k f, (k, f) ∈ (rep x).modSvcs ↔ (k, f) ∈ (rep y).modSvcs) ∧
    (rep x).modNodes.map Prod.snd = (rep y).modNodes.map Prod.snd := by
  rw [eq_nodeDiffP_of_ok hx, eq_nodeDiffP_of_ok hy]
  simp only [nodeDiffP, rep_mkNodeReport]
  exact ⟨mem_level_modified_comm compFlagP ha.1 hb.1
      (fun u hu v hv => compFlagP_comm u v (ha.2.2 u hu) (hb.2.2 v (get?_some_mem hv).1) (hk u hu v hv)),
    mem_level_modified_comm svcPropFlag ha.2.1 hb.2.1 (fun _ _ _ _ => propDiff_comm _ _),
    selfMod_snd_comm _ _ _ _⟩

/-- a sliver and an edited copy of it agree on the kinds by themselves; `hb` is asked for because `NC` says nothing about the inside
of added children -/
theorem svc_modified_symm_edit (sc : SvcScript V) (s : Svc V) (hs : s.Wf) (hb : (applySvc sc s).Wf) (hnc : sc.NC s) :
    (∀ k f, (k, f) ∈ (rep (svcDiff s (applySvc sc s))).modIfs ↔ (k, f) ∈ (rep (svcDiff (applySvc sc s) s)).modIfs) ∧
    (rep (svcDiff s (applySvc sc s))).modSvcs.map Prod.snd = (rep (svcDiff (applySvc sc s) s)).modSvcs.map Prod.snd :=
  svc_modified_symm s (applySvc sc s) hs hb (kindsAgree_applySvc sc s hs.1 hnc)

theorem node_modified_symm_edit (sc : NodeScript V) (n : Node V) (hn : n.Wf) (hb : (applyNode sc n).Wf) (hnc : sc.NC n)
    (x y : Option TDiff) (hx : nodeDiff n (applyNode sc n) = .ok x) (hy : nodeDiff (applyNode sc n) n = .ok y) :
    (∀ k f, (k, f) ∈ (rep x).modComps ↔ (k, f) ∈ (rep y).modComps) ∧
    (∀ k f, (k, f) ∈ (rep x).modSvcs ↔ (k, f) ∈ (rep y).modSvcs) ∧
    (rep x).modNodes.map Prod.snd = (rep y).modNodes.map Prod.snd :=
  node_modified_symm n (applyNode sc n) hn hb (kindsAgree_applyNode sc n hn hnc) x y hx hy

example : exNode.Wf ∧ (applyNode exScript exNode).Wf ∧ Node.KindsAgree exNode (applyNode exScript exNode) := by decide +kernel
example : exSvc.Wf ∧ Svc.KindsAgree exSvc { exSvc with ifs := some [{ exIface with subs := none }] } := by decide +kernel

/-- a port that is dedicated on the old side only: old→new lists it (SUB_INTERFACES), new→old does not -/
theorem svc_modified_symm_counterexample :
    ∃ a b : Svc Nat, a.Wf ∧ b.Wf ∧ ¬ Svc.KindsAgree a b ∧
      ("p1", ({ sub := true } : Flags)) ∈ (rep (svcDiff a b)).modIfs ∧ (rep (svcDiff b a)).modIfs = [] :=
  ⟨{ name := "ns", props := {}, ifs := some [exIface] },
   { name := "ns", props := {}, ifs := some [{ exIface with dedicated := false, subs := none }] }, by decide +kernel⟩

/-! ## 7. the two blind spots of `NodeSliver.diff`, and nothing else

Full statement (not true of the code): `nodeDiff a b = .ok none → Node.DeepSame a b`, i.e. a node diff that reports nothing
means the two nodes agree on everything a sliver comparison can report.  The code compares node-level services by
`prop_diff` only and descends only below SmartNICs (known findings `C17:NodeSliver.diff:unreported:*`). -/

private def bsSvcA : Svc Nat := { name := "ns1", props := {}, ifs := exSvc.ifs }
private def bsSvcB : Svc Nat := { name := "ns1", props := {}, ifs := some [exIface] }
private def bsCompA : Comp Nat := { name := "nic2", props := {}, smart := false, svcs := some [bsSvcA] }
private def bsCompB : Comp Nat := { name := "nic2", props := {}, smart := false, svcs := some [bsSvcB] }

/-- interfaces changed below a node-level service: `NetworkServiceSliver.diff` on the service reports it, the node diff is None -/
theorem node_diff_complete_service_subtree_counterexample :
    ∃ (a b : Node Nat) (u v : Svc Nat), a.Wf ∧ a.svcs = some [u] ∧ b.svcs = some [v] ∧
      nodeDiff a b = .ok none ∧ (svcDiff u v).isSome = true :=
  ⟨{ name := "n1", props := {}, comps := none, svcs := some [bsSvcA] },
   { name := "n1", props := {}, comps := none, svcs := some [bsSvcB] }, bsSvcA, bsSvcB, by decide +kernel⟩

/-- an interface changed below a component that is not a SmartNIC -/
theorem node_diff_complete_non_smartnic_counterexample :
    ∃ (a b : Node Nat) (x y : Comp Nat) (u v : Svc Nat), a.Wf ∧ a.comps = some [x] ∧ b.comps = some [y] ∧ x.smart = false ∧
      x.svcs = some [u] ∧ y.svcs = some [v] ∧ nodeDiff a b = .ok none ∧ (svcDiff u v).isSome = true :=
  ⟨{ name := "n1", props := {}, svcs := none, comps := some [bsCompA] },
   { name := "n1", props := {}, svcs := none, comps := some [bsCompB] }, bsCompA, bsCompB, bsSvcA, bsSvcB, by decide +kernel⟩

/-- exact characterisation: when the node diff reports nothing, the nodes agree on everything reportable except possibly
(i) below the first service of a common component that is not a SmartNIC, (ii) among the interfaces of a common node-level
service; and whenever they do agree on everything, the node diff reports nothing -/
theorem node_diff_complete_partial (a b : Node V) (ha : a.Wf) (hok : PairOk a b) :
    (Node.DeepSame a b → nodeDiff a b = .ok none) ∧
    (nodeDiff a b = .ok none →
      (Node.DeepSame a b ↔
        (∀ k x y, get? (dictOf a.comps) k = some x → get? (dictOf b.comps) k = some y → x.smart = false →
          ∀ sx ∈ (dictOf x.svcs).head?, ∀ sy ∈ (dictOf y.svcs).head?, Svc.Same sx sy) ∧
        (∀ k u v, get? (dictOf a.svcs) k = some u → get? (dictOf b.svcs) k = some v → SameDict Iface.SameIn u.ifs v.ifs))) :=
  ⟨fun h => (node_diff_none_iff a b ha hok).2 h.same,
   fun h => node_same_deep_iff a b ((node_diff_none_iff a b ha hok).1 h)⟩

/-! ## 8. corner cases, and where the hypotheses come from -/

/-- a dedicated port that had no sub-interfaces (`interface_info` None or empty) and gets its first one is flagged -/
theorem first_sub_interface_flagged (x y : Iface V) (hx : x.Wf) (hd : x.dedicated = true) (h0 : dictOf x.subs = [])
    (l : Leaf V) (hl : l ∈ dictOf y.subs) : (ifaceFlag x y).sub = true := by
  rw [(iface_flag_spec x y hx).2.2.2]
  refine ⟨hd, fun hs => ?_⟩
  have h : hasKey (dictOf x.subs) l.name = true := (hs.1 l.name).trans (hasKey_self hl)
  rw [h0] at h
  exact Bool.false_ne_true h

example : exIface.Wf ∧ ({ exIface with subs := none } : Iface Nat).Wf ∧ exLeaf ∈ dictOf exIface.subs := by decide +kernel

/-- the comparison is by name: an element that reappears under another name is a removal and an addition, never a modification
(any child dictionary, any flag function) -/
theorem rename_reported_as_remove_and_add {α : Type} [Named α] (flag : α → α → Flags) (a b : Option (List α))
    (ha : WfDict (dictOf a)) (k k' : String)
    (h1 : hasKey (dictOf a) k = true) (h2 : hasKey (dictOf a) k' = false)
    (h3 : hasKey (dictOf b) k = false) (h4 : hasKey (dictOf b) k' = true) :
    k ∈ (levelDiff flag a b).removed ∧ k' ∈ (levelDiff flag a b).added ∧
    ∀ f, (k, f) ∉ (levelDiff flag a b).modified ∧ (k', f) ∉ (levelDiff flag a b).modified := by
  refine ⟨(mem_level_removed k).2 ⟨h1, h3⟩, (mem_level_added k').2 ⟨h4, h2⟩, fun f => ⟨?_, ?_⟩⟩
  · rw [mem_level_modified ha]
    rintro ⟨x, y, _, hy, _⟩
    exact Bool.false_ne_true (h3.symm.trans (hasKey_of_get? hy))
  · rw [mem_level_modified ha]
    rintro ⟨x, y, hx, _, _⟩
    exact Bool.false_ne_true (h2.symm.trans (hasKey_of_get? hx))

example : WfDict (dictOf (some [exLeaf])) ∧ hasKey (dictOf (some [exLeaf])) "p1.1" = true ∧
    hasKey (dictOf (some [exLeaf])) "p1.9" = false ∧ hasKey (dictOf (some [{ exLeaf with name := "p1.9" }])) "p1.1" = false := by decide +kernel

/-- a missing `interface_info` and one whose dictionary is empty are indistinguishable, on either side, to `InterfaceSliver.diff` and
`NetworkServiceSliver.diff`.  Not so the `network_service_info` of a SmartNIC: `firstSvc` raises `"attribute"` on a missing one and
`"index"` on an empty one -/
theorem none_info_is_empty_info (i j : Iface V) (s t : Svc V) :
    ifaceDiff { i with subs := none } j = ifaceDiff { i with subs := some [] } j ∧
    ifaceDiff i { j with subs := none } = ifaceDiff i { j with subs := some [] } ∧
    svcDiff { s with ifs := none } t = svcDiff { s with ifs := some [] } t ∧
    svcDiff s { t with ifs := none } = svcDiff s { t with ifs := some [] } := by
  simp only [ifaceDiff_eq_mk, svcDiff_eq_mk, levelDiff_norm]
  exact ⟨rfl, rfl, rfl, rfl⟩

/-- every dictionary built from the empty one by `add_*` (`d[name] = x`, also over an existing key) and `remove_*` (`d.pop`)
has unique keys: `WfDict`, which the `Wf` hypotheses ask of every dictionary in a tree, is an invariant of the `*Info` classes.
`dictRun` replays a bare sequence of the two calls (the driver's `dictops`) -/
theorem dict_keys_unique_invariant {α : Type} [Named α] (ops : List (DictOp α)) : WfDict (dictRun ops []) :=
  List.foldl_invariant WfDict List.nodup_nil fun d hd o _ => by
    cases o with
    | set x => exact wf_dictSet d x hd
    | pop k => exact wf_dictPop d k hd

/-- `_dict_diff` / `_dict_common` look at the keys of the other dictionary and at nothing else: any other slivers under the same keys
there (a fresh `node_id` after remove + add under the old name, other properties, other children) give the same selection -/
theorem dict_select_by_key_only {α : Type} [Named α] (a b b' : List α) (h : b.map name = b'.map name) :
    dictRemoved a b = dictRemoved a b' ∧ dictCommon a b = dictCommon a b' ∧
    (dictAdded a b).map name = (dictAdded a b').map name := by
  refine ⟨?_, ?_, ?_⟩
  · rw [dictRemoved, dictRemoved, hasKey_of_names h]
  · rw [dictCommon, dictCommon, hasKey_of_names h]
  · have e : ∀ d : List α, (dictAdded a d).map name = (d.map name).filter (fun k => !hasKey a k) := by
      intro d; simp [dictAdded, List.filter_map, Function.comp_def]
    rw [e b, e b', h]

/-- no child drops out of the comparison and none is counted twice, whatever is stored under the keys -/
theorem dict_partition_by_key {α : Type} [Named α] (a b : List α) :
    (∀ x ∈ a, (x ∈ dictRemoved a b ∧ x ∉ dictCommon a b) ∨ (x ∈ dictCommon a b ∧ x ∉ dictRemoved a b)) ∧
    (∀ y ∈ b, (y ∈ dictAdded a b ∧ hasKey (dictCommon a b) (name y) = false) ∨
              (y ∉ dictAdded a b ∧ hasKey (dictCommon a b) (name y) = true)) := by
  constructor
  · intro x hx
    simp only [mem_dictRemoved, mem_dictCommon]
    cases hk : hasKey b (name x) <;> simp [hx]
  · intro y hy
    simp only [mem_dictAdded, hasKey_dictCommon, hasKey_self hy, Bool.and_true]
    cases hk : hasKey a (name y) <;> simp [hy]

-- a child re-created under its old name is common whatever else differs (the model has no `node_id`: the labels stand for any
-- difference between the two slivers)
example : dictCommon (α := Leaf Nat) [⟨"p1.1", {labels := some 10}⟩] [⟨"p1.1", {labels := some 11}⟩] = [⟨"p1.1", {labels := some 10}⟩] ∧
    dictAdded (α := Leaf Nat) [⟨"p1.1", {labels := some 10}⟩] [⟨"p1.1", {labels := some 11}⟩] = [] := by decide +kernel

omit [DecidableEq V] in
/-- where `PairOk` comes from: every SmartNIC has a network service and a component present on both sides keeps its type -/
theorem pair_ok_of_ok (a b : Node V) (ha' : a.Ok) (hb' : b.Ok)
    (hk : ∀ x ∈ dictOf a.comps, ∀ y ∈ get? (dictOf b.comps) x.name, x.smart = y.smart) : PairOk a b := by
  intro x hx y hy hs
  exact ⟨ha' x hx hs, hb' y (get?_some_mem hy).1 ((hk x hx y hy) ▸ hs)⟩

example : exNode.Ok ∧ (applyNode exScript exNode).Ok := by decide +kernel

/-- a component that is a SmartNIC on the old side and a service-less component of another type under the same name on the new
side: the comparison raises (known finding `C17:NodeSliver.diff:kind-collision:raises:attribute`) -/
theorem node_diff_kind_collision_counterexample :
    ∃ a b : Node Nat, a.Wf ∧ b.Wf ∧ a.Ok ∧ b.Ok ∧ nodeDiff a b = .error "attribute" ∧ (nodeDiff b a).toOption.isSome = true :=
  ⟨{ name := "n1", props := {}, svcs := none, comps := some [{ name := "nic1", props := {}, smart := true, svcs := some [exSvc] }] },
   { name := "n1", props := {}, svcs := none, comps := some [{ name := "nic1", props := {}, smart := false, svcs := none }] },
   by decide +kernel⟩

/-! ## 9. the values that are compared: the value classes' own equality

`prop_diff` asks `!=` of `Labels`, `Capacities` and `UserData` objects.  `Model/DiffVal.lean` mirrors their `__eq__` as written
(`gen/diffcfg.py` extracts the loop's default for a missing field, the `if not other` guard being a `None` test, and that
`JSONData.__eq__` compares class and canonical text); the sliver model above is used on canonical forms `Val`. -/

open FimVerif.DiffVal

/-- `Labels.__eq__` / `Capacities.__eq__` on two instances with the same fields: equal iff the field dictionaries are equal,
whatever the default for a missing field -/
theorem fields_eq_is_dict_equality (m : FV) (a b : Fields) (hk : a.map (·.1) = b.map (·.1)) (hn : (a.map (·.1)).Nodup) :
    fieldsEq m a b = true ↔ a = b := fieldsEq_iff_eq hk hn

/-- in particular an instance equals an identical copy of itself - also one on which nothing is set (`Labels()`,
`Capacities()`, all fields `None` / `0`) -/
theorem fields_eq_refl (m : FV) (a : Fields) (hn : (a.map (·.1)).Nodup) : fieldsEq m a a = true :=
  (fieldsEq_iff_eq rfl hn).2 rfl

example : ([("vlan", FV.null), ("mac", FV.null)] : Fields).map (·.1) |>.Nodup := by decide +kernel
example : fieldsEq .null [("vlan", .null), ("mac", .null)] [("vlan", .null), ("mac", .null)] = true := by decide +kernel
example : fieldsEq (.int 0) [("core", .int 0), ("ram", .int 0)] [("core", .int 0), ("ram", .int 0)] = true := by decide +kernel
-- and an instance never equals `None`: a present-but-empty `Labels()` against an unset property is a change
example : optNe (fieldsEq .null) (some [("vlan", .null)]) none = true ∧ optNe (fieldsEq .null) none (some [("vlan", .null)]) = true ∧
    optNe (fieldsEq .null) (none : Option Fields) none = false := by decide +kernel

/-- no normalisation between a stored value and the comparison: a label field (a capacity field) of an element set to ANY other
value - a string that differs only in letter case, by a blank or a leading zero, a list with its elements in another order, a
one-element list for the bare string - raises LABELS (CAPACITIES) in `prop_diff`, in both directions (the case-folding
`Labels.__eq__` of the seeded change `C17-r6-1` loses exactly these) -/
theorem field_value_change_is_reported (a : RawProps) (l : Fields) (f : String) (v w : FV)
    (hn : (l.map (·.1)).Nodup) (hv : lookup l f = some v) (hne : w ≠ v) :
    (a.labels = some l →
      (propDiffRaw a { a with labels := some (setField l f w) }).labels = true ∧
      (propDiffRaw { a with labels := some (setField l f w) } a).labels = true) ∧
    (a.caps = some l →
      (propDiffRaw a { a with caps := some (setField l f w) }).caps = true ∧
      (propDiffRaw { a with caps := some (setField l f w) } a).caps = true) := by
  have hF := fieldsEq_setField_ne hn hv hne
  constructor
  · intro h
    simp [propDiffRaw, h, optNe, optEq, hF]
  · intro h
    simp [propDiffRaw, h, optNe, optEq, hF]

-- the values of `seeded/C17-r6-1/demo.py` (the instance name, a BGP key in another letter case), and other near misses
example : lookup [("instance", FV.str "Instance-001A"), ("vlan", .null)] "instance" = some (.str "Instance-001A") ∧
    FV.str "instance-001a" ≠ .str "Instance-001A" ∧
    (([("instance", FV.str "Instance-001A"), ("vlan", .null)] : Fields).map (·.1)).Nodup := by decide +kernel
example : fieldsEq .null [("bgp_key", .str "SecretKey/AbCdEf")] [("bgp_key", .str "secretkey/abcdef")] = false ∧
    fieldsEq .null [("vlan_range", .strs ["1-10", "20-30"])] [("vlan_range", .strs ["20-30", "1-10"])] = false ∧
    fieldsEq .null [("vlan", .str "100")] [("vlan", .strs ["100"])] = false ∧
    fieldsEq .null [("vlan", .str "100")] [("vlan", .str "0100")] = false ∧
    fieldsEq (.int 0) [("bw", .int 9007199254740992)] [("bw", .int 9007199254740993)] = false := by decide +kernel

/-- `JSONData.__eq__` (same class) as modelled, `udEq`, is equality of canonical forms by definition, hence an equivalence -/
theorem user_data_eq_equivalence (a b c : J) :
    udEq a a = true ∧ udEq a b = udEq b a ∧ (udEq a b = true → udEq b c = true → udEq a c = true) ∧
    (udEq a b = true ↔ a.canon = b.canon) := by
  simp only [Bool.eq_iff_iff (a := udEq a b) (b := udEq b a), udEq_iff]
  exact ⟨trivial, eq_comm, Eq.trans, trivial⟩

/-- swapping the first two members of an object (with different keys) changes neither its canonical form nor the verdict of
`JSONData.__eq__` -/
theorem user_data_member_order_irrelevant (k1 k2 : String) (v1 v2 t : J) (hne : k1 ≠ k2) :
    (J.mem k1 v1 (.mem k2 v2 t)).canon = (J.mem k2 v2 (.mem k1 v1 t)).canon ∧
    udEq (.obj (.mem k1 v1 (.mem k2 v2 t))) (.obj (.mem k2 v2 (.mem k1 v1 t))) = true :=
  have h : (J.mem k1 v1 (.mem k2 v2 t)).canon = (J.mem k2 v2 (.mem k1 v1 t)).canon := J.insert_comm hne ..
  ⟨h, (udEq_iff _ _).2 (congrArg J.obj h)⟩

/-- JSON values of different type stay different although Python's `==` on the decoded values conflates them:
`true` / `1`, `1` / `1.0`, `false` / `0`, also inside an object (a comparison of decoded values - the seeded change `C17-1` -
misses these) -/
theorem user_data_types_distinct :
    udEq (.bool true) (.num "1") = false ∧ udEq (.num "1") (.num "1.0") = false ∧ udEq (.bool false) (.num "0") = false ∧
    udEq (.obj (.mem "autostart" (.bool true) .nil)) (.obj (.mem "autostart" (.num "1") .nil)) = false := by decide +kernel

/-- the flags `prop_diff` computes with the value classes' own equality are those of the sliver model on canonical forms -/
theorem prop_diff_on_values (a b : RawProps) (hl : SameFields a.labels b.labels) (hc : SameFields a.caps b.caps) :
    propDiffRaw a b = propDiff (canonProps a) (canonProps b) := by
  simp only [propDiffRaw, propDiff, canonProps, optNe_fields hl, optNe_fields hc, optNe_ud]
  congr

/-- hence no flag for an identical copy of the three values, whatever they are -/
theorem prop_diff_on_values_self (a : RawProps) (hl : SameFields a.labels a.labels) (hc : SameFields a.caps a.caps) :
    propDiffRaw a a = Flags.none := by
  rw [prop_diff_on_values a a hl hc]; exact propDiff_self _

example : SameFields (some [("vlan", FV.str "100"), ("mac", .null)]) (some [("vlan", .null), ("mac", .null)]) := by decide +kernel

end FimVerif.C17
