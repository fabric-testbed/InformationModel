import FimVerif.Proofs.Lemmas.C08Prune
import FimVerif.Proofs.Lemmas.C08Ops
import FimVerif.Proofs.Lemmas.C08Names
import FimVerif.Proofs.Lemmas.C08Plan
import FimVerif.Proofs.Lemmas.C08Rename
import FimVerif.Generated.RemovalProbe
/-!
# C08 — removal and disconnection delete exactly the owned structure and nothing else

Model: `Model/Remove.lean`.  Two developments stand side by side: under separation hypotheses (`Sep*`, `HypPrune`: a link with other
than two ends has at most one end in what is removed), for every graph, against `Owned` of `C08Spec`; and under `WF` alone
(`*_exact_wf`), for links with any number of ends, against `OwnedS` of `C08Full`.  Neither set of hypotheses implies the other (`Sep*` is
local and allows any shape of interface family, `WF` is global; `exShared` below is well-formed and not separated), and no theorem relates
`Owned g x` to `OwnedS g [x]` (they differ on links).  The driver evaluates the hypotheses of both on every correspondence case.
-/
namespace FimVerif.C08
open FimVerif.Remove

/-- the by-id calls of `Model/Remove.lean` and the graph-level functions they are made of.  Not among them: `remove_interface`, the
by-name calls and `pruneApi` of `Model/RemoveNames.lean`, whose theorems below give the result as a `g.minus D` or as the by-id call -/
inductive Op
  | removeNode (n : Nat) | removeFacility (n : Nat) | removeSwitch (n : Nat)
  | removeComponent (c : Nat) | removeNs (s : Nat) | removeLink (l : Nat)
  | disconnect (h : List IfH) (i : Nat) | unpeer (ha hb : List IfH) | removeChild (h : List IfH) (p c : Nat)
  | prune (nodes comps nss ifs : List Nat)
  | gRemoveCp (x : Nat) (dp : Bool) | gRemoveNs (x : Nat) | gRemoveComp (x : Nat) | gRemoveNode (x : Nat) | gRemoveLink (x : Nat)

def Op.run : Op → G → Except Err G
  | .removeNode n, g => removeNodeApi g n
  | .removeFacility n, g => removeFacilityApi g n
  | .removeSwitch n, g => removeSwitchApi g n
  | .removeComponent c, g => removeComponentApi g c
  | .removeNs s, g => removeNsApi g s
  | .removeLink l, g => removeLinkApi g l
  | .disconnect h i, g => (Remove.disconnect g h i).map (·.1)
  | .unpeer ha hb, g => (Remove.unpeer g ha hb).map (·.1)
  | .removeChild h p c, g => (Remove.removeChild g h p c).map (·.1)
  | .prune ns cs ss is, g => Remove.prune g ns cs ss is
  | .gRemoveCp x dp, g => removeCp g x dp
  | .gRemoveNs x, g => Remove.removeNs g x
  | .gRemoveLink x, g => removeLinkG g x
  | .gRemoveComp x, g => removeComp g x
  | .gRemoveNode x, g => removeNodeG g x

theorem Op.shrinks {op : Op} {g g' : G} (h : op.run g = .ok g') : Shrinks g g' := by
  cases op <;> simp only [Op.run] at h
  case removeNode n => exact removeNodeApi_shrinks h
  case removeFacility n => exact removeFacilityApi_shrinks h
  case removeSwitch n => exact removeSwitchApi_shrinks h
  case removeComponent c => exact removeComponentApi_shrinks h
  case removeNs s => exact removeNsApi_shrinks h
  case removeLink l => exact removeLinkApi_shrinks h
  case gRemoveNs s => exact removeNs_shrinks h
  case gRemoveLink l => exact removeLinkG_shrinks h
  case disconnect hl i =>
    obtain ⟨r, hr, rfl⟩ := Except.map_eq_ok_iff.1 h
    obtain ⟨r', hr', rfl⟩ := Except.map_eq_ok_iff.1 hr
    exact disconnectG_shrinks hr'
  case unpeer ha hb => obtain ⟨r, hr, rfl⟩ := Except.map_eq_ok_iff.1 h; exact unpeer_shrinks hr
  case removeChild hl p c => obtain ⟨r, hr, rfl⟩ := Except.map_eq_ok_iff.1 h; exact removeChild_shrinks hr
  case prune ns cs ss is => exact prune_shrinks h
  case gRemoveCp x dp => exact removeCp_shrinks h
  case gRemoveComp x => exact removeComp_shrinks h
  case gRemoveNode x => exact removeNodeG_shrinks h

/-- **Frame**: a successful call, on any graph, adds nothing and changes nothing: survivors keep class, kind and properties, and the
surviving edges are the old edges between survivors. -/
theorem remove_frame (op : Op) (g g' : G) (h : op.run g = .ok g') :
    ∃ D : List Nat, g'.nodes = g.nodes.filter (fun n => !D.contains n.id) ∧
         g'.edges = g.edges.filter (fun e => !D.contains e.a && !D.contains e.b) := by
  obtain ⟨D, rfl⟩ := Op.shrinks h
  exact ⟨D, rfl, rfl⟩

/-- a sequence of `delete_node` calls on distinct present elements removes exactly those elements -/
theorem deleteAll_minus (g : G) (L : List Nat) (hp : ∀ x ∈ L, g.has x = true) (hn : L.Nodup) :
    deleteAll g L = .ok (g.minus L) := FimVerif.Remove.deleteAll_minus g L hp hn

example : deleteAll ⟨[⟨1, .cp, 0, ""⟩, ⟨2, .link, 0, ""⟩], [⟨1, 2, .connects, ""⟩]⟩ [2] = .ok ⟨[⟨1, .cp, 0, ""⟩], []⟩ := by rfl

/-- `remove_network_link` (graph level): the link element goes, nothing else -/
theorem removeLinkG_exact (g : G) (l : Nat) (h : g.cls? l = some .link) :
    removeLinkG g l = .ok (g.minus [l]) := by
  simp [removeLinkG, h]

/-! ## Exactness of the recursive removal

The operation, run as the code runs it (sequential `delete_node` calls, every neighbour query evaluated on the *current* graph),
returns the pre-state minus a set given in closed form **in the pre-state**.  The hypotheses `Sep…` are decidable predicates on the
pre-state (the driver computes them for every case of the correspondence run; they fail on well-formed graphs such as `exShared` and
`exPrune` below): the structures removed one after the other do not overlap, and a link with other than two ends has at most one end
in what is removed. -/

/-- the closed form of `remove_cp_and_links(x, dp)`; a connection-point neighbour with no other connection-point neighbour is a
sub-interface of `x`, or the parent of an only child -/
theorem mem_cpDel (g : G) (x : Nat) (dp : Bool) (y : Nat) :
    y ∈ cpDel g x dp ↔
      y = x ∨ (y ∈ g.nbrs x .connects .cp ∧ (g.nbrs y .connects .cp).length = 1 ∧ dp = true) ∨
      ∃ i, (i = x ∨ (i ∈ g.nbrs x .connects .cp ∧ (g.nbrs i .connects .cp).length = 1 ∧ dp = true)) ∧
        y ∈ g.nbrs i .connects .link ∧ (g.nbrs y .connects .cp).length = 2 := by
  simp only [mem_cpDel_fam, mem_cpFamily, and_or_left, exists_or, exists_eq_right', or_assoc]

/-- **`remove_cp_and_links`** (which `disconnect`, `remove_child_interface`, `unpeer` call), on *every* graph; `mem_cpDel`
characterises `cpDel`. -/
theorem removeCp_exact (g : G) (x : Nat) (dp : Bool) (hx : g.has x = true) :
    removeCp g x dp = .ok (g.minus (cpDel g x dp)) := removeCp_minus hx

/-- **`remove_ns_with_cps_and_links`** (`Topology.remove_network_service`, `Node.remove_network_service`) -/
theorem removeNs_exact (g : G) (s : Nat) (h : SepNs g [] s = true) :
    removeNs g s = .ok (g.minus (nsDel g s)) := by
  simpa [minus_nil] using removeNs_after h

/-- **`remove_component_with_nss_cps_and_links`** -/
theorem removeComp_exact (g : G) (c : Nat) (h : SepComp g [] c = true) :
    removeComp g c = .ok (g.minus (compDel g c)) := by
  simpa [minus_nil] using removeComp_after h

/-- **`remove_network_node_with_components_nss_cps_and_links`**: components first, then the node, then its services. -/
theorem removeNodeG_exact (g : G) (n : Nat) (h : SepNode g [] n = true) :
    removeNodeG g n = .ok (g.minus (nodeDel g n)) := by
  simpa [minus_nil] using removeNodeG_after h

/-- a VM `10` with component `11`, its service `12` with ports `13` (sub-interface `15`) and `14`; a service `20` with
port `21` joined to `14` by link `30`; the sub-interface `15` and the far interfaces `40`, `41` share the three-ended link `31` -/
def exG : G :=
  { nodes := [⟨10, .node, 0, "n"⟩, ⟨11, .comp, 0, "c"⟩, ⟨12, .ns, 0, "ovs"⟩, ⟨13, .cp, 4, "p1"⟩, ⟨14, .cp, 4, "p2"⟩,
              ⟨15, .cp, 0, "ch"⟩, ⟨20, .ns, 0, "s"⟩, ⟨21, .cp, 1, "sp"⟩, ⟨30, .link, 0, "l"⟩, ⟨40, .cp, 0, "far"⟩,
              ⟨41, .cp, 0, "far2"⟩, ⟨31, .link, 0, "shared"⟩],
    edges := [⟨10, 11, .has, ""⟩, ⟨11, 12, .has, ""⟩, ⟨12, 13, .connects, ""⟩, ⟨12, 14, .connects, ""⟩, ⟨13, 15, .connects, ""⟩,
              ⟨20, 21, .connects, ""⟩, ⟨30, 14, .connects, ""⟩, ⟨30, 21, .connects, ""⟩, ⟨31, 15, .connects, ""⟩,
              ⟨31, 40, .connects, ""⟩, ⟨31, 41, .connects, ""⟩] }

example : SepNs exG [] 12 = true := by decide +kernel
example : SepComp exG [] 11 = true := by decide +kernel
example : SepNode exG [] 10 = true := by decide +kernel
example : nodeDel exG 10 = [11, 12, 13, 15, 14, 30, 10] := by decide +kernel

/-- **`Topology.remove_node(name)`**: every interface of the node and of its components, and every sub-interface of one that is a
DedicatedPort, is disconnected from the service it is connected to (the one ServicePort peer and its link deleted), then the node's
structure goes. -/
theorem removeNodeApi_exact (g : G) (n : Nat) (hk : (g.cls? n == some .node && g.kind? n != some kFacility) = true)
    (h : SepNodeApi g n = true) : removeNodeApi g n = .ok (g.minus (nodeApiDel g n)) := by
  simp only [removeNodeApi, hk, ite_true]
  exact removeNodeBody_exact g n h

theorem removeFacilityApi_exact (g : G) (n : Nat) (hk : (g.cls? n == some .node && g.kind? n == some kFacility) = true)
    (h : SepNodeApi g n = true) : removeFacilityApi g n = .ok (g.minus (nodeApiDel g n)) := by
  simp only [removeFacilityApi, hk, ite_true]
  exact removeNodeBody_exact g n h

theorem removeSwitchApi_exact (g : G) (n : Nat) (hk : (g.cls? n == some .node && g.kind? n == some kSwitch) = true)
    (h : SepNodeApi g n = true) : removeSwitchApi g n = .ok (g.minus (nodeApiDel g n)) := by
  simp only [Bool.and_eq_true, beq_iff_eq] at hk
  have hk' : (g.cls? n == some .node && g.kind? n != some kFacility) = true := by
    simp [hk.1, hk.2, kSwitch, kFacility]
  simp only [removeSwitchApi, hk.1, hk.2, beq_self_eq_true, Bool.and_self, ite_true]
  exact removeNodeApi_exact g n hk' h

theorem removeComponentApi_exact (g : G) (c : Nat) (h : SepCompApi g c = true) :
    removeComponentApi g c = .ok (g.minus (compApiDel g c)) := by
  simp only [SepCompApi, Bool.and_eq_true] at h
  simp only [removeComponentApi, sepComp_cls h.2, beq_self_eq_true, ite_true, disconnectDeep_after h.1, bind, Except.bind]
  exact removeComp_after h.2

/-- **`Topology.remove_network_service` / `Node.remove_network_service`** -/
theorem removeNsApi_exact (g : G) (s : Nat) (h : SepNsApi g s = true) :
    removeNsApi g s = .ok (g.minus (nsApiDel g s)) := by
  simp only [SepNsApi, Bool.and_eq_true] at h
  simp only [removeNsApi, sepNs_cls h.2, beq_self_eq_true, ite_true, disconnectDeep_after h.1, bind, Except.bind]
  exact removeNs_after h.2

/-- **`Topology.remove_link`**: the link and the ServicePorts it peered -/
theorem removeLink_exact (g : G) (l : Nat) (hc : g.cls? l = some .link) (h : SepSeq g [l] (spEnds g l) = true) :
    removeLinkApi g l = .ok (g.minus (linkApiDel g l)) := by
  simp only [removeLinkApi, hc, beq_self_eq_true, ite_true]
  have := seqCp h
  simpa [linkApiDel, spEnds] using this

example : SepNsApi exG 12 = true := by decide +kernel
example : SepNsApi exG 20 = true := by decide +kernel
example : SepSeq exG [30] (spEnds exG 30) = true ∧ linkApiDel exG 30 = [30, 21, 30] := by decide +kernel

example : SepNodeApi exG 10 = true := by decide +kernel
example : nodeApiDel exG 10 = [21, 30, 11, 12, 13, 15, 14, 30, 10] := by decide +kernel
example : SepCompApi exG 11 = true := by decide +kernel

/-! ## Handles

`h` is the interface list cached in the handle the call goes through; `freshIfs g s` is what a freshly looked-up
handle of `s` lists. The shape hypotheses say that the ServicePort removed is a plain port (no sub-interfaces) and
that the service itself is not among what is deleted. -/

/-- **handle_fresh (`disconnect_interface`)**: the handle used reports what a fresh lookup reports, about node ids; the names in the
list play no role, in particular they need not be distinct -/
theorem handle_fresh_disconnect (g : G) (h : List IfH) (s i : Nat) (g' : G) (h' : List IfH)
    (hrun : disconnect g h i = .ok (g', h'))
    (hshape : ∀ p ∈ spPeers g i, g.nbrs p .connects .cp = [] ∧ (cpDel g p true).contains s = false)
    (hh : ∀ y, y ∈ hIds h ↔ y ∈ freshIfs g s) :
    ∀ y, y ∈ hIds h' ↔ y ∈ freshIfs g' s := by
  rcases disconnect_ok hrun with ⟨rfl, rfl⟩ | ⟨p, hsp, hg1, rfl⟩
  · exact hh
  · have hp := hshape p (hsp ▸ List.mem_singleton_self p)
    rw [removeCp_ok hg1]
    exact fresh_after_cpDel (by simp [cpFamily, hp.1]) hp.2 hh

/-- moreover the surviving entries are the old entries, names included: the list is pruned by node id only -/
theorem handle_disconnect_entries (g : G) (h : List IfH) (i : Nat) (g' : G) (h' : List IfH)
    (hrun : disconnect g h i = .ok (g', h')) :
    h' = h ∨ ∃ p, spPeers g i = [p] ∧ h' = h.filter (fun x => x.id != p) := by
  rcases disconnect_ok hrun with ⟨_, rfl⟩ | ⟨p, hsp, _, rfl⟩
  · exact Or.inl rfl
  · exact Or.inr ⟨p, hsp, rfl⟩

/-- **handle_fresh (`remove_child_interface`)** -/
theorem handle_fresh_removeChild (g : G) (h : List IfH) (p c : Nat) (hk : g.kind? p = some kDedicatedPort) (hc : g.has c = true)
    (h1 : SepDiscSeq g [] (deepIfs g [c]) = true) (h2 : Sep g ((deepIfs g [c]).flatMap (discDel g)) c false = true)
    (hp : (childDel g c).contains p = false) (hD : ∀ y ∈ freshIfs g p, y ∈ childDel g c ↔ y = c)
    (hh : ∀ y, y ∈ hIds h ↔ y ∈ freshIfs g p) :
    ∃ g' h', removeChild g h p c = .ok (g', h') ∧ ∀ y, y ∈ hIds h' ↔ y ∈ freshIfs g' p :=
  ⟨_, _, removeChild_exact g h p c hk hc h1 h2, fresh_after_minus hp hD hh⟩

/-- **handle_fresh (`unpeer`)**, both handles -/
theorem handle_fresh_unpeer (g : G) (ha hb : List IfH) (a b i p : Nat) (g' : G) (ha' hb' : List IfH)
    (hfind : findPeering g ha hb = some (i, p))
    (hrun : unpeer g ha hb = .ok (g', ha', hb'))
    (hi : cpFamily g i true = [i]) (hpf : cpFamily (g.minus (cpDel g i true)) p true = [p])
    (hsa : (cpDel g i true).contains a = false) (hsb : (cpDel g i true).contains b = false)
    (hsa2 : (cpDel (g.minus (cpDel g i true)) p true).contains a = false)
    (hsb2 : (cpDel (g.minus (cpDel g i true)) p true).contains b = false)
    (hpa : p ∉ hIds ha) (hib : i ∉ hIds hb)
    (hha : ∀ y, y ∈ hIds ha ↔ y ∈ freshIfs g a) (hhb : ∀ y, y ∈ hIds hb ↔ y ∈ freshIfs g b) :
    (∀ y, y ∈ hIds ha' ↔ y ∈ freshIfs g' a) ∧ (∀ y, y ∈ hIds hb' ↔ y ∈ freshIfs g' b) := by
  unfold unpeer at hrun
  rw [hfind] at hrun
  obtain ⟨g1, h1, hrun⟩ := Except.bind_eq_ok_iff.1 hrun
  obtain ⟨g2, h2, hrun⟩ := Except.bind_eq_ok_iff.1 hrun
  simp only [Except.ok.injEq, Prod.mk.injEq] at hrun
  obtain ⟨rfl, rfl, rfl⟩ := hrun
  cases removeCp_ok h1
  cases removeCp_ok h2
  constructor
  · -- `p` is not in `ha`, `i` not in `hb`: dropping it changes nothing
    have s := fresh_after_cpDel hpf hsa2 (fresh_after_cpDel hi hsa hha)
    rwa [hDrop_of_not_mem fun h => hpa (by rw [hIds_hDrop] at h; exact (List.mem_filter.mp h).1)] at s
  · have s := fresh_after_cpDel hi hsb hhb
    rw [hDrop_of_not_mem hib] at s
    exact fresh_after_cpDel hpf hsb2 s

/-- two peered services `1`, `2` with ports `3`, `4` joined by link `5` -/
def exPeer : G :=
  { nodes := [⟨1, .ns, 0, "a"⟩, ⟨2, .ns, 0, "b"⟩, ⟨3, .cp, 1, "a-b"⟩, ⟨4, .cp, 1, "b-a"⟩, ⟨5, .link, 0, "l"⟩],
    edges := [⟨1, 3, .connects, ""⟩, ⟨2, 4, .connects, ""⟩, ⟨5, 3, .connects, ""⟩, ⟨5, 4, .connects, ""⟩] }

example : findPeering exPeer [⟨3, 0⟩] [⟨4, 0⟩] = some (3, 4) := by decide +kernel
example : (unpeer exPeer [⟨3, 0⟩] [⟨4, 0⟩]).toOption.map (fun r => (r.1.nodes.map (·.id), r.2)) = some ([1, 2], [], []) := by decide +kernel
example : ∀ p ∈ spPeers exG 14, exG.nbrs p .connects .cp = [] ∧ (cpDel exG p true).contains 20 = false := by decide +kernel

/-- service `1` with two ports `2`, `3` carrying the *same name* (code 7) joined by links `8`, `9` to interfaces `5`, `6`:
disconnecting `5` drops only the port `2` from the handle — a prune keyed by name would drop both -/
def exNames : G :=
  { nodes := [⟨1, .ns, 0, "s"⟩, ⟨2, .cp, 1, "n1-v100"⟩, ⟨3, .cp, 1, "n1-v100"⟩, ⟨5, .cp, 0, "v100"⟩, ⟨6, .cp, 0, "v100"⟩,
              ⟨8, .link, 0, ""⟩, ⟨9, .link, 0, ""⟩],
    edges := [⟨1, 2, .connects, ""⟩, ⟨1, 3, .connects, ""⟩, ⟨8, 2, .connects, ""⟩, ⟨8, 5, .connects, ""⟩,
              ⟨9, 3, .connects, ""⟩, ⟨9, 6, .connects, ""⟩] }

example : (disconnect exNames [⟨2, 7⟩, ⟨3, 7⟩] 5).toOption.map (fun r => (r.2, freshIfs r.1 1)) = some ([⟨3, 7⟩], [3]) := by decide +kernel

/-! ## `remove_exact`: against the declarative ownership relation

`OwnedG` (what the graph-layer functions are to delete) and `Owned` (the user-level calls: with the ServicePort at the other end of
an owned interface's Link) are those of `Proofs/Lemmas/C08Spec.lean`, written without reference to the removal code.  `InvCP` and
`InvPeer` are the decidable containment / peering invariants of API-built topologies; the driver evaluates them, together with the
separation hypothesis, on every case of the correspondence run. -/

/-- **remove_exact, graph layer** (`remove_ns_with_cps_and_links`) -/
theorem remove_exact_ns (g : G) (s : Nat) (hI : InvCP g = true) (h : SepNs g [] s = true) :
    ∃ D, removeNs g s = .ok (g.minus D) ∧ ∀ y, y ∈ D ↔ OwnedG g s y :=
  ⟨_, removeNs_exact g s h, mem_nsDel_iff_ownedG hI (sepNs_cls h)⟩

/-- **remove_exact, graph layer** (`remove_component_with_nss_cps_and_links`) -/
theorem remove_exact_comp (g : G) (c : Nat) (hI : InvCP g = true) (h : SepComp g [] c = true) :
    ∃ D, removeComp g c = .ok (g.minus D) ∧ ∀ y, y ∈ D ↔ OwnedG g c y :=
  ⟨_, removeComp_exact g c h, mem_compDel_iff_ownedG hI (sepComp_cls h)⟩

/-- **remove_exact, graph layer** (`remove_network_node_with_components_nss_cps_and_links`) -/
theorem remove_exact_nodeG (g : G) (n : Nat) (hI : InvCP g = true) (h : SepNode g [] n = true) :
    ∃ D, removeNodeG g n = .ok (g.minus D) ∧ ∀ y, y ∈ D ↔ OwnedG g n y :=
  ⟨_, removeNodeG_exact g n h, mem_nodeDel_iff_ownedG hI (sepNode_cls h)⟩

/-- **remove_exact** (`Topology.remove_node`) -/
theorem remove_exact_node (g : G) (n : Nat) (hI : InvCP g = true) (hP : InvPeer g = true)
    (hk : (g.cls? n == some .node && g.kind? n != some kFacility) = true) (h : SepNodeApi g n = true) :
    ∃ D, removeNodeApi g n = .ok (g.minus D) ∧ ∀ y, y ∈ D ↔ Owned g n y :=
  ⟨_, removeNodeApi_exact g n hk h, mem_nodeApiDel_iff_owned hI hP (eq_of_beq (Bool.and_eq_true_iff.mp hk).1)⟩

/-- **remove_exact** (`Topology.remove_facility`) -/
theorem remove_exact_facility (g : G) (n : Nat) (hI : InvCP g = true) (hP : InvPeer g = true)
    (hk : (g.cls? n == some .node && g.kind? n == some kFacility) = true) (h : SepNodeApi g n = true) :
    ∃ D, removeFacilityApi g n = .ok (g.minus D) ∧ ∀ y, y ∈ D ↔ Owned g n y :=
  ⟨_, removeFacilityApi_exact g n hk h, mem_nodeApiDel_iff_owned hI hP (eq_of_beq (Bool.and_eq_true_iff.mp hk).1)⟩

/-- **remove_exact** (`Topology.remove_switch`) -/
theorem remove_exact_switch (g : G) (n : Nat) (hI : InvCP g = true) (hP : InvPeer g = true)
    (hk : (g.cls? n == some .node && g.kind? n == some kSwitch) = true) (h : SepNodeApi g n = true) :
    ∃ D, removeSwitchApi g n = .ok (g.minus D) ∧ ∀ y, y ∈ D ↔ Owned g n y :=
  ⟨_, removeSwitchApi_exact g n hk h, mem_nodeApiDel_iff_owned hI hP (eq_of_beq (Bool.and_eq_true_iff.mp hk).1)⟩

/-- **remove_exact** (`Node.remove_component`) -/
theorem remove_exact_component (g : G) (c : Nat) (hI : InvCP g = true) (hP : InvPeer g = true) (h : SepCompApi g c = true) :
    ∃ D, removeComponentApi g c = .ok (g.minus D) ∧ ∀ y, y ∈ D ↔ Owned g c y :=
  ⟨_, removeComponentApi_exact g c h, mem_compApiDel_iff_owned hI hP (sepComp_cls (Bool.and_eq_true_iff.mp h).2)⟩

/-- **remove_exact** (`Topology.remove_network_service`, `Node.remove_network_service`) -/
theorem remove_exact_service (g : G) (s : Nat) (hI : InvCP g = true) (hP : InvPeer g = true) (h : SepNsApi g s = true) :
    ∃ D, removeNsApi g s = .ok (g.minus D) ∧ ∀ y, y ∈ D ↔ Owned g s y :=
  ⟨_, removeNsApi_exact g s h, mem_nsApiDel_iff_owned hI hP (sepNs_cls (Bool.and_eq_true_iff.mp h).2)⟩

/-- **remove_exact** (`Topology.remove_link`): the link and the ServicePorts it peered -/
theorem remove_exact_link (g : G) (l : Nat) (hP : InvPeer g = true) (hc : g.cls? l = some .link)
    (h : SepSeq g [l] (spEnds g l) = true) :
    ∃ D, removeLinkApi g l = .ok (g.minus D) ∧ ∀ y, y ∈ D ↔ OwnedLink g l y :=
  ⟨_, removeLink_exact g l hc h, mem_linkApiDel_iff_owned hP hc⟩

/-- **remove_exact** (`Interface.remove_child_interface`), with the handle -/
theorem remove_exact_child (g : G) (hl : List IfH) (p c : Nat) (hP : InvPeer g = true)
    (hk : g.kind? p = some kDedicatedPort) (hc : g.cls? c = some .cp) (hs : isSub g c = true)
    (hkc : g.kind? c ≠ some kDedicatedPort)
    (h1 : SepDiscSeq g [] (deepIfs g [c]) = true) (h2 : Sep g ((deepIfs g [c]).flatMap (discDel g)) c false = true) :
    ∃ D, removeChild g hl p c = .ok (g.minus D, hDrop hl c) ∧ ∀ y, y ∈ D ↔ Owned g c y := by
  exact ⟨_, removeChild_exact g hl p c hk (cls_has hc) h1 h2, mem_childDel_iff_owned hP hc hs hkc⟩

example : InvCP exG = true ∧ InvPeer exG = true := by decide +kernel
example : InvCP exPeer = true ∧ InvPeer exPeer = true ∧ SepNsApi exPeer 1 = true ∧ sameSet (nsApiDel exPeer 1) [1, 3, 5, 4] = true := by decide +kernel

/-- a node `10` whose *sub-interface* `15` is connected to service `20` (port `21`, link `30`): the ServicePort is deleted
by `remove_node` -/
def exSub : G :=
  { nodes := [⟨10, .node, 0, "n"⟩, ⟨11, .comp, 0, "c"⟩, ⟨12, .ns, 0, "ovs"⟩, ⟨13, .cp, 4, "p1"⟩, ⟨15, .cp, 0, "ch"⟩,
              ⟨20, .ns, 0, "s"⟩, ⟨21, .cp, 1, "sp"⟩, ⟨30, .link, 0, "l"⟩],
    edges := [⟨10, 11, .has, ""⟩, ⟨11, 12, .has, ""⟩, ⟨12, 13, .connects, ""⟩, ⟨13, 15, .connects, ""⟩,
              ⟨20, 21, .connects, ""⟩, ⟨30, 15, .connects, ""⟩, ⟨30, 21, .connects, ""⟩] }

example : InvCP exSub = true ∧ InvPeer exSub = true ∧ SepNodeApi exSub 10 = true := by decide +kernel
example : (removeNodeApi exSub 10).toOption.map (fun g => g.nodes.map (·.id)) = some [20] := by decide +kernel
example : sameSet (nodeApiDel exSub 10) (owned exSub 10) = true := by decide +kernel

/-! ## Shared links with several ends inside the removed element

The separation hypothesis of the theorems above excludes a link with other than two ends that has two ends inside
what is removed.  What the code does there: each `remove_cp_and_links` call deletes the links of the family that are still present
and have exactly two *surviving* ends (`cpDelA`, evaluated on the pre-state with the set `A` deleted so far); `seqDelA` is the fold
over the pre-state for the interface loop of a service.  The component / node levels and the declarative form "a link that joined at
least two interfaces goes iff at most one of them survives" are not proved in this closed form (hence `_partial`); under `WF` they
are `remove_component_exact_wf`, `remove_node_exact_wf`, `prune_exact_wf` below. -/

theorem removeCp_after_general (g : G) (A : List Nat) (i : Nat) (dp : Bool) (hi : g.has i = true) (h : SepFam g A i = true) :
    removeCp (g.minus A) i dp = .ok (g.minus (A ++ cpDelA g A i dp)) := removeCp_after' hi h

/-- `remove_ns_with_cps_and_links` with shared links having any number of ends inside the service -/
theorem removeNs_exact_general_partial (g : G) (s : Nat) (hc : g.cls? s = some .ns)
    (h : SepFamSeq g [s] (g.nbrs s .connects .cp) = true) :
    removeNs g s = .ok (g.minus (seqDelA g [s] (g.nbrs s .connects .cp))) := by
  simp only [removeNs, hc, beq_self_eq_true, ite_true]
  exact seqCp' h

/-- service `1` with ports `2`, `3`; link `9` joins `2`, `3` and the far interface `4`: two of its three ends are inside -/
def exShared : G :=
  { nodes := [⟨1, .ns, 0, "s"⟩, ⟨2, .cp, 0, "a"⟩, ⟨3, .cp, 0, "b"⟩, ⟨4, .cp, 0, "far"⟩, ⟨9, .link, 0, "l"⟩],
    edges := [⟨1, 2, .connects, ""⟩, ⟨1, 3, .connects, ""⟩, ⟨9, 2, .connects, ""⟩, ⟨9, 3, .connects, ""⟩, ⟨9, 4, .connects, ""⟩] }

/-- the closed-form hypothesis fails here, the general one holds, and the link is deleted when its second inside end goes -/
example : SepNs exShared [] 1 = false ∧ SepFamSeq exShared [1] (exShared.nbrs 1 .connects .cp) = true ∧
    seqDelA exShared [1] (exShared.nbrs 1 .connects .cp) = [1, 2, 3, 9] := by decide +kernel

/-! ## `prune_exact`

`prune` removes the marked nodes, then — unless already gone — the marked components, services and interfaces, each
through the user-level call.  `pruneDel` is the fold of the closed forms over the pre-state (an element that
is already in the set deleted so far is skipped, as `still_present` does); `HypPrune` chains the separation
hypotheses along the four loops (decidable; evaluated by the driver on every prune case). -/

theorem prune_exact (g : G) (ns cs ss is : List Nat) (h : HypPrune g ns cs ss is = true) :
    prune g ns cs ss is = .ok (g.minus (pruneDel g ns cs ss is)) := by
  simp only [HypPrune, Bool.and_eq_true] at h
  obtain ⟨⟨⟨h1, h2⟩, h3⟩, h4⟩ := h
  have e1 := ufold (removeNodeApi_after g) h1
  rw [minus_nil] at e1
  simp only [prune, e1, bind, Except.bind, gfold (removeComponentApi_after g) h2, gfold (removeNsApi_after g) h3]
  exact gfold (pruneIface_after g) h4

/-- **prune deletes nothing but owned structure of marked elements** (declarative form, under the invariants) -/
theorem prune_sound (g : G) (hI : InvCP g = true) (hP : InvPeer g = true) (ns cs ss is : List Nat)
    (hn : ∀ n ∈ ns, g.cls? n = some .node) (hc : ∀ c ∈ cs, g.cls? c = some .comp) (hs : ∀ s ∈ ss, g.cls? s = some .ns)
    (hi : ∀ i ∈ is, g.cls? i = some .cp ∧ isSub g i = false)
    (y : Nat) (h : y ∈ pruneDel g ns cs ss is) : ∃ x, (x ∈ ns ∨ x ∈ cs ∨ x ∈ ss ∨ x ∈ is) ∧ Owned g x y := by
  rcases pruneDel_sound h with ⟨n, h1, h2⟩ | ⟨c, h1, h2⟩ | ⟨s, h1, h2⟩ | ⟨i, h1, h2⟩
  · exact ⟨n, Or.inl h1, (mem_nodeApiDel_iff_owned hI hP (hn n h1) y).mp h2⟩
  · exact ⟨c, Or.inr (Or.inl h1), (mem_compApiDel_iff_owned hI hP (hc c h1) y).mp h2⟩
  · exact ⟨s, Or.inr (Or.inr (Or.inl h1)), (mem_nsApiDel_iff_owned hI hP (hs s h1) y).mp h2⟩
  · exact ⟨i, Or.inr (Or.inr (Or.inr h1)), (mem_ifaceApiDel_iff_owned hI hP (hi i h1).1 (hi i h1).2 y).mp h2⟩

/-- **every marked node goes with all it owns, every other marked element is gone.**  Not claimed (`_partial`): that all a marked
component / service / interface owns is gone too when it was *skipped* because an enclosing marked element had already taken it;
under `WF` that is `prune_exact_wf`. -/
theorem prune_covers_partial (g : G) (hI : InvCP g = true) (hP : InvPeer g = true) (ns cs ss is : List Nat)
    (hn : ∀ n ∈ ns, g.cls? n = some .node) :
    (∀ n ∈ ns, ∀ y, Owned g n y → y ∈ pruneDel g ns cs ss is) ∧
    (∀ x, x ∈ cs ∨ x ∈ ss ∨ x ∈ is → x ∈ pruneDel g ns cs ss is ∨ g.has x = false) :=
  ⟨fun n h1 y ho => (pruneDel_covers g ns cs ss is).1 n h1 y ((mem_nodeApiDel_iff_owned hI hP (hn n h1) y).mpr ho),
   (pruneDel_covers g ns cs ss is).2⟩

example : HypPrune exG [10] [11] [] [14] = true ∧ sameSet (pruneDel exG [10] [11] [] [14]) [10, 11, 12, 13, 14, 15, 30, 21] = true := by decide +kernel

/-! ## Exactness from well-formedness alone

`WF g` is one decidable predicate on the pre-state (containment and peering invariants, distinct link ends with no two in
one interface family, no parallel edges, every ServicePort on one service, no DedicatedPort below a port); the driver
evaluates it on every correspondence case.  `OwnedS g R` is the declarative owned set of the roots `R`
(`Proofs/Lemmas/C08Full.lean`): below a root, or the service-side port of an interface below a root, or a Link that joined
at least two connection points of which at least one is owned and at most one is not.  The proofs carry the invariant
`InvA g A` (`LinkOK`: the links of the deletion list are determined by its connection points; family, downward and port
closure) through every `delete_node`, so the same lemmas serve a call on the pre-state and a call after any number of
earlier calls. -/

theorem remove_node_exact_wf (g : G) (hW : WF g = true) (n : Nat) (hc : g.cls? n = some .node)
    (hk : g.kind? n ≠ some kFacility) : ∃ D, removeNodeApi g n = .ok (g.minus D) ∧ ∀ y, y ∈ D ↔ OwnedS g [n] y :=
  removes_exact g hW (cls_ne_link hc) (removeNodeApi_resA g hW n hc hk)

theorem remove_facility_exact_wf (g : G) (hW : WF g = true) (n : Nat) (hc : g.cls? n = some .node)
    (hk : g.kind? n = some kFacility) : ∃ D, removeFacilityApi g n = .ok (g.minus D) ∧ ∀ y, y ∈ D ↔ OwnedS g [n] y :=
  removes_exact g hW (cls_ne_link hc) (removeFacilityApi_resA g hW n hc hk)

theorem remove_switch_exact_wf (g : G) (hW : WF g = true) (n : Nat) (hc : g.cls? n = some .node)
    (hk : g.kind? n = some kSwitch) : ∃ D, removeSwitchApi g n = .ok (g.minus D) ∧ ∀ y, y ∈ D ↔ OwnedS g [n] y :=
  removes_exact g hW (cls_ne_link hc) (removeSwitchApi_resA g hW n hc hk)

theorem remove_component_exact_wf (g : G) (hW : WF g = true) (c : Nat) (hc : g.cls? c = some .comp) :
    ∃ D, removeComponentApi g c = .ok (g.minus D) ∧ ∀ y, y ∈ D ↔ OwnedS g [c] y :=
  removes_exact g hW (cls_ne_link hc) (removeComponentApi_resA g hW c hc)

theorem remove_service_exact_wf (g : G) (hW : WF g = true) (s : Nat) (hc : g.cls? s = some .ns) :
    ∃ D, removeNsApi g s = .ok (g.minus D) ∧ ∀ y, y ∈ D ↔ OwnedS g [s] y :=
  removes_exact g hW (cls_ne_link hc) (removeNsApi_resA g hW s hc)

/-- **`Topology.remove_link`**: the Link and the ServicePorts it peered, for a Link with any number of ends -/
theorem remove_link_exact_wf (g : G) (hW : WF g = true) (l : Nat) (hc : g.cls? l = some .link) :
    ∃ D, removeLinkApi g l = .ok (g.minus D) ∧ ∀ y, y ∈ D ↔ OwnedLink g l y := by
  refine ⟨_, removeLinkApi_wf g hW l hc, fun y => ?_⟩
  simp [OwnedLink, mem_spEnds]

/-- **`Interface.remove_child_interface`**, with the parent handle's cache -/
theorem remove_child_exact_wf (g : G) (hW : WF g = true) (h : List IfH) (p c : Nat) (hk : g.kind? p = some kDedicatedPort)
    (hpc : g.cls? p = some .cp) (hps : isSub g p = false) (hcp : c ∈ g.nbrs p .connects .cp) :
    ∃ D, removeChild g h p c = .ok (g.minus D, hDrop h c) ∧ ∀ y, y ∈ D ↔ OwnedS g [c] y := by
  obtain ⟨D, h1, h2, _⟩ := removeChild_wf g hW h p c hk hpc hps hcp
  exact ⟨D, h1, h2⟩

/-- **`NetworkService.disconnect_interface`**: nothing changes when the interface has no service-side port; otherwise that
port and the Link created with it go, and the handle loses exactly that port -/
theorem disconnect_exact_wf (g : G) (hW : WF g = true) (h : List IfH) (i : Nat) (hc : g.cls? i = some .cp) :
    ((∀ p, ¬ PortOf g i p) ∧ disconnect g h i = .ok (g, h)) ∨
    ∃ p D, PortOf g i p ∧ disconnect g h i = .ok (g.minus D, hDrop h p) ∧ ∀ y, y ∈ D ↔ y = p ∨ LinkOf g i y := by
  rcases disconnect_wf g hW h i hc with h0 | ⟨p, h1, h2, h3⟩
  · exact Or.inl h0
  · exact Or.inr ⟨p, _, h1, h2, h3⟩

/-- **`NetworkService.unpeer`**: the two facing ServicePorts `i`, `p` found by the peering search and their Link -/
theorem unpeer_exact_wf (g : G) (hW : WF g = true) (ha hb : List IfH) (a b i p : Nat)
    (hac : g.cls? a = some .ns) (hbc : g.cls? b = some .ns) (hab : a ≠ b)
    (hha : ∀ y, y ∈ hIds ha ↔ y ∈ freshIfs g a) (hhb : ∀ y, y ∈ hIds hb ↔ y ∈ freshIfs g b)
    (hfind : findPeering g ha hb = some (i, p)) :
    ∃ D, unpeer g ha hb = .ok (g.minus D, hDrop ha i, hDrop hb p) ∧ ∀ y, y ∈ D ↔ OwnedS g [i] y := by
  obtain ⟨D, h1, h2, _⟩ := unpeer_wf g hW ha hb a b i p hac hbc hab hha hhb hfind
  exact ⟨D, h1, h2⟩

/-- **prune_exact, full strength**: for *any* marking of a well-formed topology — distinct non-facility nodes, components,
services and interfaces attached to services, nested in each other or not, sharing links or not, in any order —
`prune` succeeds and deletes exactly the owned structure of the marked elements. -/
theorem prune_exact_wf (g : G) (hW : WF g = true) (ns cs ss is : List Nat) (hnd : ns.Nodup)
    (hn : ∀ n ∈ ns, g.cls? n = some .node ∧ g.kind? n ≠ some kFacility) (hc : ∀ c ∈ cs, g.cls? c = some .comp)
    (hs : ∀ s ∈ ss, g.cls? s = some .ns) (hi : ∀ i ∈ is, g.cls? i = some .cp ∧ isSub g i = false) :
    ∃ D, prune g ns cs ss is = .ok (g.minus D) ∧ ∀ y, y ∈ D ↔ OwnedS g (ns ++ cs ++ ss ++ is) y := by
  have := pruneLoops_exact g hW removeNodeApi id removeComponentApi ns cs ss is hnd
    (fun _ _ _ _ _ => rfl) (fun _ _ _ _ _ => rfl) hn hc hs hi
  rw [List.map_id] at this
  exact this

/-- `remove_node`, `remove_component`, `remove_network_service` on `g.minus A` for any deletion list `A` satisfying `InvA` (what
earlier user-level calls leave).  The links of the result are then fixed by `mem_iff_closure`. -/
theorem remove_after_wf (g : G) (hW : WF g = true) (A : List Nat) (hA : InvA g A) (x : Nat) (hxA : x ∉ A) :
    (g.cls? x = some .node → g.kind? x ≠ some kFacility → ResA g A (Own g x) (removeNodeApi (g.minus A) x)) ∧
    (g.cls? x = some .comp → ResA g A (Own g x) (removeComponentApi (g.minus A) x)) ∧
    (g.cls? x = some .ns → ResA g A (Own g x) (removeNsApi (g.minus A) x)) :=
  ⟨fun hc hk => removeNodeApi_resA g hW x hc hk A hA hxA, fun hc => removeComponentApi_resA g hW x hc A hA hxA,
   fun hc => removeNsApi_resA g hW x hc A hA hxA⟩

/-- **handle_fresh (`disconnect_interface`)**: whatever service handle the call goes through -/
theorem handle_fresh_disconnect_wf (g : G) (hW : WF g = true) (h : List IfH) (s i : Nat) (g' : G) (h' : List IfH)
    (hs : g.cls? s = some .ns) (hrun : disconnect g h i = .ok (g', h'))
    (hh : ∀ y, y ∈ hIds h ↔ y ∈ freshIfs g s) : ∀ y, y ∈ hIds h' ↔ y ∈ freshIfs g' s := by
  have hP := wf_peer hW
  refine handle_fresh_disconnect g h s i g' h' hrun (fun p hp => ?_) hh
  obtain ⟨l, hl, hpl, _, hk⟩ := mem_spPeers.mp hp
  refine ⟨sp_cps hP (mem_nbrs_cls hpl) hk, contains_false fun hs' => ?_⟩
  -- the port goes alone or with its Link; the service is neither
  rcases (mem_cpDel_sp hP (mem_nbrs_cls hl) hpl hk s).mp hs' with rfl | ⟨rfl, _⟩
  · exact nomatch hs.symm.trans (mem_nbrs_cls hpl)
  · exact nomatch hs.symm.trans (mem_nbrs_cls hl)

/-- **handle_fresh (`remove_child_interface`)** -/
theorem handle_fresh_removeChild_wf (g : G) (hW : WF g = true) (h : List IfH) (p c : Nat)
    (hk : g.kind? p = some kDedicatedPort) (hpc : g.cls? p = some .cp) (hps : isSub g p = false)
    (hcp : c ∈ g.nbrs p .connects .cp) (hh : ∀ y, y ∈ hIds h ↔ y ∈ freshIfs g p) :
    ∃ g' h', removeChild g h p c = .ok (g', h') ∧ ∀ y, y ∈ hIds h' ↔ y ∈ freshIfs g' p := by
  obtain ⟨D, hr, _, hpD, hsib⟩ := removeChild_wf g hW h p c hk hpc hps hcp
  refine ⟨_, _, hr, ?_⟩
  exact fresh_after_minus (contains_false hpD) hsib hh

/-- **handle_fresh (`unpeer`)**, both handles -/
theorem handle_fresh_unpeer_wf (g : G) (hW : WF g = true) (ha hb : List IfH) (a b i p : Nat)
    (hac : g.cls? a = some .ns) (hbc : g.cls? b = some .ns) (hab : a ≠ b)
    (hha : ∀ y, y ∈ hIds ha ↔ y ∈ freshIfs g a) (hhb : ∀ y, y ∈ hIds hb ↔ y ∈ freshIfs g b)
    (hfind : findPeering g ha hb = some (i, p)) :
    ∃ g' ha' hb', unpeer g ha hb = .ok (g', ha', hb') ∧
      (∀ y, y ∈ hIds ha' ↔ y ∈ freshIfs g' a) ∧ (∀ y, y ∈ hIds hb' ↔ y ∈ freshIfs g' b) := by
  obtain ⟨D, h1, _, h3, h4⟩ := unpeer_wf g hW ha hb a b i p hac hbc hab hha hhb hfind
  exact ⟨_, _, _, h1, h3, h4⟩

/-- non-vacuity: the running examples are well-formed, `exShared` (where the separation hypothesis of `removeNs_exact` fails) among them -/
example : WF exG = true ∧ WF exPeer = true ∧ WF exNames = true ∧ WF exSub = true ∧ WF exShared = true := by decide +kernel

/-- node `1` (component `2`, service `3`, ports `4`, `5`) and node `6` (service `7`, port `8`); link `9` joins `4`, `5`
and `8`; both nodes and the component are marked: the link goes although no single marked element owns it -/
def exPrune : G :=
  { nodes := [⟨1, .node, 0, "n1"⟩, ⟨2, .comp, 0, "c"⟩, ⟨3, .ns, 0, "ovs"⟩, ⟨4, .cp, 0, "p1"⟩, ⟨5, .cp, 0, "p2"⟩,
              ⟨6, .node, 0, "n2"⟩, ⟨7, .ns, 0, "s"⟩, ⟨8, .cp, 0, "q"⟩, ⟨9, .link, 0, "l"⟩],
    edges := [⟨1, 2, .has, ""⟩, ⟨2, 3, .has, ""⟩, ⟨3, 4, .connects, ""⟩, ⟨3, 5, .connects, ""⟩, ⟨6, 7, .has, ""⟩,
              ⟨7, 8, .connects, ""⟩, ⟨9, 4, .connects, ""⟩, ⟨9, 5, .connects, ""⟩, ⟨9, 8, .connects, ""⟩] }

example : WF exPrune = true ∧ HypPrune exPrune [1, 6] [2] [] [] = false ∧
    (prune exPrune [1, 6] [2] [] []).toOption.map (fun g => g.nodes.map (·.id)) = some [] := by decide +kernel

example : (unpeer exPeer [⟨3, 0⟩] [⟨4, 0⟩]).toOption.map (fun r => r.1.nodes.map (·.id)) = some [1, 2] ∧
    findPeering exPeer [⟨3, 0⟩] [⟨4, 0⟩] = some (3, 4) ∧ freshIfs exPeer 1 = [3] ∧ freshIfs exPeer 2 = [4] := by decide +kernel

/-! ## Names

The public calls take names.  `Model/RemoveNames.lean` mirrors the lookups (`find_node_by_name`: none or several matches
raise; `find_component_by_name` …: first neighbour with the name; the name-keyed dictionaries `Topology.nodes`,
`Node.components`: last element wins) and the collection phase of `prune`.  Names are opaque codes compared for equality
only, so an element whose name is a prefix of another's, or equals the name of an element of another class, cannot be
confused by the model — and the correspondence run, which feeds such names, shows the code does not confuse them either. -/

/-- **what a successful `find_node_by_name` returns**: the one element of that class carrying that name -/
theorem lookup_spec {g : G} {d : Dir} {c : Cls} {name n : Nat} (h : findByName g d c name = .ok n) :
    ∃ e ∈ g.nodes, e.id = n ∧ e.cls = c ∧ d.nameOf n = some name ∧
      ∀ e' ∈ g.nodes, e'.cls = c → d.nameOf e'.id = some name → e' = e := findByName_spec h

/-- **by-name = by-id**, for every removal call that takes a name: the call removes the element the lookup designates.
The statement also assumes component names distinct within the node (what `add_component` enforces); the proof does not need it. -/
theorem remove_byName (h : G) (d : Dir) (name x : Nat) (hid : (h.nodes.map (·.id)).Nodup) :
    (findByName h d .node name = .ok x → ((h.nbrs x .has .comp).map d.nameOf).Nodup →
      (h.kind? x ≠ some kFacility → removeNodeByName h d name = removeNodeApi h x) ∧
      (h.kind? x = some kFacility → removeFacilityByName h d name = removeFacilityApi h x) ∧
      (h.kind? x = some kSwitch → removeSwitchByName h d name = removeSwitchApi h x)) ∧
    (findByName h d .link name = .ok x → removeLinkByName h d name = removeLinkApi h x) ∧
    (findByName h d .ns name = .ok x → removeNsByName h d name = removeNsApi h x) :=
  ⟨fun hf _ => ⟨removeNodeByName_eq hid hf, removeFacilityByName_eq hid hf, removeSwitchByName_eq hid hf⟩,
   removeLinkByName_eq, removeNsByName_eq⟩

/-- **by-name through a parent handle**: `Node.remove_component`, `Node.remove_network_service`,
`Interface.remove_child_interface` -/
theorem remove_byName_child (h : G) (d : Dir) (hl : List IfH) (p x name : Nat) (hname : d.nameOf x = some name) :
    (h.cls? p = some .node → x ∈ h.nbrs p .has .comp → ((h.nbrs p .has .comp).map d.nameOf).Nodup →
      nodeRemoveComponent h d p name = removeComponentApi h x) ∧
    ((h.cls? p = some .node ∨ h.cls? p = some .comp) → x ∈ h.nbrs p .has .ns →
      (∀ y ∈ h.nbrs p .has .ns, d.nameOf y = some name → y = x) → nodeRemoveNs h d p name = removeNsApi h x) ∧
    (x ∈ h.nbrs p .connects .cp → (∀ y ∈ h.nbrs p .connects .cp, d.nameOf y = some name → y = x) →
      removeChildByName h d hl p name = removeChild h hl p x) :=
  ⟨fun hp hx => nodeRemoveComponent_eq hp hx hname, fun hp hx => nodeRemoveNs_eq hp hx hname,
   fun hx => removeChildByName_eq hx hname⟩

/-- **`NetworkService.remove_interface(name=)`** (substrate topologies): exactness, the handle, and by-name = by-id -/
theorem remove_interface_exact_wf (g : G) (hW : WF g = true) (h : List IfH) (s i : Nat) (hs : g.cls? s = some .ns)
    (hi : i ∈ g.nbrs s .connects .cp) (hh : ∀ y, y ∈ hIds h ↔ y ∈ freshIfs g s) :
    ∃ D, removeInterface g h i = .ok (g.minus D, hDrop h i) ∧
      (∀ y, y ∈ D ↔ Below g i y ∨ (g.cls? y = some .link ∧ 2 ≤ (g.nbrs y .connects .cp).length ∧
        (∃ e ∈ g.nbrs y .connects .cp, Below g i e) ∧
        ∀ e1 ∈ g.nbrs y .connects .cp, ∀ e2 ∈ g.nbrs y .connects .cp, ¬ Below g i e1 → ¬ Below g i e2 → e1 = e2)) ∧
      ∀ y, y ∈ hIds (hDrop h i) ↔ y ∈ freshIfs (g.minus D) s := by
  have hI := wf_cp hW
  have hic := mem_nbrs_cls hi
  have his := port_not_sub hs hi
  obtain ⟨A, hr, _, hmem, hInv⟩ := removeCpTop_res g hW i hic his [] (invC_nil g) (by simp)
  rw [minus_nil] at hr
  have hmem' : ∀ y, g.cls? y ≠ some .link → (y ∈ A ↔ Below g i y) := fun y hy => by rw [hmem y hy]; simp
  refine ⟨A, by simp [removeInterface, hr, Except.map], ?_, ?_⟩
  · exact mem_iff_closure g hW (Below g i) A hInv.1 (fun e he => below_nl (cls_ne_link hic) he) hmem'
  · refine fresh_after_minus (contains_false fun h' => ?_) (fun y hy => ?_) hh
    · rcases (below_cp_top hI hic his s).mp ((hmem' s (cls_ne_link hs)).mp h') with rfl | h''
      · exact nomatch hs.symm.trans hic
      · exact nomatch hs.symm.trans (mem_nbrs_cls h'')
    · rw [hmem' y (cls_ne_link (mem_nbrs_cls hy)), below_cp_top hI hic his y]
      -- a sub-interface of `i` is not attached to a service
      exact or_iff_left fun h' => nomatch (child_sub hI hic his h').symm.trans (port_not_sub hs hy)

theorem remove_interface_byName (g : G) (d : Dir) (h : List IfH) (s i name : Nat) (hs : g.cls? s = some .ns)
    (hi : i ∈ g.nbrs s .connects .cp) (hname : d.nameOf i = some name)
    (huniq : ∀ y ∈ g.nbrs s .connects .cp, d.nameOf y = some name → y = i) :
    removeInterfaceByName g d h s name = removeInterface g h i := by
  simp [removeInterfaceByName, hs, findChild_unique hi hname huniq, bind, Except.bind]

/-- a name that designates no (non-facility) node — e.g. the name of a service, of a link, or a prefix of a node's name —
makes `remove_node` raise before anything is touched -/
theorem remove_node_absent_name (h : G) (d : Dir) (name : Nat)
    (hno : ∀ e ∈ h.nodes, e.cls = .node → e.kind ≠ kFacility → d.nameOf e.id ≠ some name) :
    removeNodeByName h d name = .error .topology := by
  have : dictGet d (nonFacNodes h) (some name) = none := by
    unfold dictGet
    rw [List.find?_eq_none]
    intro y hy
    simp only [List.mem_reverse, nonFacNodes, List.mem_map, List.mem_filter, Bool.and_eq_true, beq_iff_eq, bne_iff_ne, ne_eq] at hy
    obtain ⟨e, ⟨he, hc, hk⟩, rfl⟩ := hy
    simpa using hno e he hc hk
  simp [removeNodeByName, this]

/-- **soundness of the collection phase of `prune`** -/
theorem prune_collect_sound (g : G) (d : Dir) (hid : (g.nodes.map (·.id)).Nodup) : MarkedOK g d (pruneCollect g d) :=
  ((collectNodes_ext g d).trans (Ext.foldl (late_ext g d) _)).ok hid ⟨by simp, by simp, by simp, by simp, by simp⟩

/-- **completeness of the collection phase** for nodes and services: every marked node of `Topology.nodes` and every marked
service of `Topology.network_services` (met below a component or only in the final pass) is collected.  (For components
and interfaces the correspondence run compares what the model collects with the marks on every prune case.) -/
theorem prune_collect_complete (g : G) (d : Dir) (x : Nat) (hm : d.isMarked x = true) :
    (x ∈ topoNodes g d → x ∈ (pruneCollect g d).nodes) ∧ (x ∈ topoNss g d → x ∈ (pruneCollect g d).nss) :=
  ⟨fun h => pruneCollect_nodes_complete g d x h hm, fun h => pruneCollect_nss_complete g d x h hm⟩

/-- **`ExperimentTopology.prune(state)` through its public entry point** — collection phase, by-name pruning of nodes
and components, guarded loops — on a well-formed topology with unique names deletes exactly the owned structure of what
the collection phase gathered -/
theorem prune_api_exact (g : G) (hW : WF g = true) (d : Dir) (hN : NamesOK g d = true) :
    ∃ D, pruneApi g d = .ok (g.minus D) ∧
      ∀ y, y ∈ D ↔ OwnedS g ((pruneCollect g d).nodes ++ (pruneCollect g d).comps.map (·.1) ++ (pruneCollect g d).nss ++
        (pruneCollect g d).ifs) y := by
  have hid := namesOK_ids hN
  have hm := prune_collect_sound g d hid
  simp only [pruneApi]
  generalize pruneCollect g d = m at hm ⊢
  have hcomp : ∀ cn ∈ m.comps, g.cls? cn.2 = some .node ∧ cn.1 ∈ g.nbrs cn.2 .has .comp := fun cn hcn =>
    ⟨((mem_nonFacNodes hid).mp (hm.comps cn hcn).1).1, (hm.comps cn hcn).2.1⟩
  have hnode := fun n hn => (mem_nonFacNodes hid).mp (hm.nodes n hn).1
  refine pruneLoops_exact g hW (fun g' n => removeNodeByName g' d ((d.nameOf n).getD 0)) (fun cn : Nat × Nat => cn.1)
    (fun g' cn => nodeRemoveComponent g' d cn.2 ((d.nameOf cn.1).getD 0))
    m.nodes m.comps m.nss m.ifs hm.nodup ?_ ?_ hnode (fun cn hcn => mem_nbrs_cls (hcomp cn hcn).2)
    (fun s hs => (hm.nss s hs).1) ?_
  · -- names are looked up in the current graph
    exact fun A n hn _ hnA => removeNodeByName_named (namesOK_minus hN A) ((cls_minus_keep (contains_false hnA)).trans (hnode n hn).1)
      ((kind_minus_keep (contains_false hnA)).symm ▸ (hnode n hn).2)
  · -- the parent node is still there when the component is
    intro A cn hcn hA hcA
    have hok := hcomp cn hcn
    have hnA : cn.2 ∉ A := fun h' => hcA (hA.downC cn.2 h' cn.1 (children_node hok.1 ▸ List.mem_append_left _ hok.2))
    exact nodeRemoveComponent_named (namesOK_minus hN A) ((cls_minus_keep (contains_false hnA)).trans hok.1)
      ((mem_nbrs_minus hnA _).mpr ⟨hok.2, hcA⟩)
  · intro i hi
    obtain ⟨⟨s, hs, his⟩, _⟩ := hm.ifs i hi
    exact ⟨mem_nbrs_cls his, port_not_sub hs his⟩

/-- names for `exPrune`: node `1` "a" (code 0), node `6` "ab" (code 1: a prefix-related name is just another code), the
service of node `6` carries the same name as node `1`; nodes `1`, `6` and component `2` are marked -/
def exDir : Dir :=
  { names := [(1, 0), (2, 2), (3, 3), (4, 4), (5, 5), (6, 1), (7, 0), (8, 6), (9, 7)], marked := [1, 6, 2] }

example : NamesOK exPrune exDir = true ∧ (findByName exPrune exDir .node 0).toOption = some 1 ∧
    (findByName exPrune exDir .ns 0).toOption = some 7 ∧ (findByName exPrune exDir .link 0).toOption = none ∧
    ((pruneCollect exPrune exDir).nodes, (pruneCollect exPrune exDir).comps) = ([1, 6], [(2, 1)]) ∧
    (pruneApi exPrune exDir).toOption.map (fun g => g.nodes.map (·.id)) = some [] := by decide +kernel

/-! ## The generated plans

`Generated/RemovalPlan.lean` is rewritten from /repo's AST on every run: per removal function the tracked helper calls
in evaluation order, the shape of the argument of `_disconnect_interfaces`, the two length tests of
`remove_cp_and_links`, the loops of `prune`.  The driver runs the interpretations of these plans
(`Model/RemovePlan.lean`); the theorems above are about the hand-written functions.  `plan_bridge` identifies the two for
the plans as they are; it is re-checked against the regenerated table on every run. -/

theorem plan_bridge :
    (∀ g x dp, removeCpP g x dp = removeCp g x (dp.getD true)) ∧ removeNsP = Remove.removeNs ∧ removeCompP = removeComp ∧
    removeNodeGP = removeNodeG ∧ removeLinkGP = removeLinkG ∧
    (∀ g n, removeNodeApiP g n = removeNodeApi g n) ∧ (∀ g n, removeFacilityApiP g n = removeFacilityApi g n) ∧
    (∀ g n, removeSwitchApiP g n = removeSwitchApi g n) ∧ (∀ g c, removeComponentApiP g c = removeComponentApi g c) ∧
    (∀ g s, removeNsApiP g s = removeNsApi g s) ∧ (∀ g l, removeLinkApiP g l = removeLinkApi g l) ∧
    (∀ g h p c, removeChildP g h p c = Remove.removeChild g h p c) ∧
    (∀ g h i, removeInterfaceP g h i = removeInterface g h i) ∧
    (∀ g ns cs ss is, pruneP g ns cs ss is = Remove.prune g ns cs ss is) :=
  ⟨removeCpP_eq, removeNsP_fun, removeCompP_fun, removeNodeGP_fun, removeLinkGP_fun, fun _ _ => removeNodeApiP_fun ▸ rfl,
   removeFacilityApiP_eq, removeSwitchApiP_eq, fun _ _ => removeComponentApiP_fun ▸ rfl, removeNsApiP_eq, removeLinkApiP_eq, removeChildP_eq, removeInterfaceP_eq, pruneP_eq⟩

open FimVerif.Gen.RemovalPlan in
/-- **table facts** for the calls that are not interpreted step by step: `disconnect_interface` looks for the peers and
makes one `remove_cp_and_links` call with the default `delete_parent`; `unpeer` makes two; `remove_interface` one;
`remove_storage` is `remove_component`; `_disconnect_interfaces` tests presence, asks for the ServicePort peers, takes the
parent element of the single peer and calls its `disconnect_interface`, all inside the loop, and insists on exactly one
peer; `Topology.remove_network_service` and `Node.remove_network_service` have the same plan -/
theorem plan_facts :
    disconnectInterface = [⟨.getPeers, false⟩, ⟨.gcp none, false⟩] ∧
    Gen.RemovalPlan.unpeer = [⟨.getPeers, true⟩, ⟨.gcp none, false⟩, ⟨.gcp none, false⟩] ∧
    Gen.RemovalPlan.removeInterface = [⟨.gcp none, false⟩] ∧ nodeRemoveStorage = [⟨.callRemoveComponent, false⟩] ∧
    disconnectInterfaces = [⟨.nodeExists, true⟩, ⟨.getPeers, true⟩, ⟨.getParent, true⟩, ⟨.dconn, true⟩] ∧
    discPeerCount = 1 ∧ removeNetworkService = nodeRemoveNetworkService ∧ cpDeleteParentDefault = true ∧
    pruneLoops = [(.pruneNode, false), (.pruneComp, true), (.pruneNs, true), (.pruneIface, true)] := by decide +kernel

/-! ## Renames: a name denotes what carries it now

A by-name call after `x.rename(new)` (with any lookups before it, and whoever took the freed name since) finds,
for every name other than `new`, an element that is not `x`, that is a child now and carries the name now; with
`remove_byName` (which holds for every `Dir`, hence for `d.rename x new`) the call then removes exactly `OwnedS` of that element.
The histories of the correspondence (lookup, rename, re-use of the freed name, by-name removal) send the model the names as
they are after the history. -/

/-- after a rename the element is denoted by no name other than the new one: `find_*_by_name` under a parent does not return it -/
theorem findChild_rename_ne (g : G) (d : Dir) (x new p : Nat) (r : Rel) (c : Cls) (nm y : Nat)
    (hne : nm ≠ new) (h : findChild g (d.rename x new) p r c nm = .ok y) : y ≠ x :=
  fun hyx => hne (nameOf_rename_self (hyx ▸ (findChild_spec h).2))

/-- `findChild_spec` at `d.rename x new` (it holds for every `Dir`): what `find_*_by_name` under a parent finds is a child at the time of
the call and carries the name then -/
theorem findChild_rename_spec (g : G) (d : Dir) (x new p : Nat) (r : Rel) (c : Cls) (nm y : Nat)
    (h : findChild g (d.rename x new) p r c nm = .ok y) :
    y ∈ g.nbrs p r c ∧ (d.rename x new).nameOf y = some nm := findChild_spec h

/-- after a rename `find_node_by_name` does not return the element under any name other than the new one -/
theorem findByName_rename_ne (g : G) (d : Dir) (x new : Nat) (c : Cls) (nm y : Nat)
    (hne : nm ≠ new) (h : findByName g (d.rename x new) c nm = .ok y) : y ≠ x := by
  obtain ⟨_, _, _, _, hn, _⟩ := findByName_spec h
  exact fun hyx => hne (nameOf_rename_self (hyx ▸ hn))

example : findChild ⟨[⟨1, .node, 0, ""⟩, ⟨2, .comp, 0, ""⟩, ⟨3, .comp, 0, ""⟩], [⟨1, 2, .has, ""⟩, ⟨1, 3, .has, ""⟩]⟩
    ((Dir.mk [(1, 0), (2, 7), (3, 8)] []).rename 2 9 |>.rename 3 7) 1 .has .comp 7 = .ok 3 := by rfl

/-! ### What survives keeps every property

`props` stands for every property of an element other than the class and the `Type` the removal code looks at (the Site
of a service, labels, capacities, ...).  The implementation side of the correspondence compares the complete property
dictionaries of all survivors before and after the call (`frame`), the model answers `frame = true`: the two theorems
below say why - for every operation of `Op`, every graph, every payload, and after any sequence of such calls. -/

/-- **A survivor is literally the element it was**: class, kind and the whole property payload (the Site of a service whose
last interface has just been disconnected, for one). -/
theorem survivor_unchanged (op : Op) (g g' : G) (h : op.run g = .ok g') (x : Nat) (hx : g'.has x = true) :
    g'.find x = g.find x := (Op.shrinks h).find_eq hx

/-- a survivor of any sequence of removal / disconnect / un-peer calls (connect .. disconnect .. disconnect) is the element it was -/
theorem survivor_unchanged_seq (ops : List Op) (g g' : G) (h : ops.foldlM (fun g op => op.run g) g = .ok g')
    (x : Nat) (hx : g'.has x = true) : g'.find x = g.find x :=
  (foldlM_shrinks Op.shrinks h).find_eq hx

example : Op.run (.gRemoveLink 2) ⟨[⟨1, .ns, 0, "Site=RENC"⟩, ⟨2, .link, 0, ""⟩], [⟨1, 2, .connects, ""⟩]⟩ = .ok ⟨[⟨1, .ns, 0, "Site=RENC"⟩], []⟩ := by rfl

/-- The removal model never looks at the *model* of a component (a component is a class, its services and their ports);
the catalog probe (`gen/removalplan.py: probe_catalog`, regenerated on every run) pins that the code does not either: for every
model of the catalog - the rare one with ports of its own, an FPGA, included - `Node.remove_component`, `Node.remove_storage`
and `Topology.remove_node` leave nothing of the peering created for the component's interfaces behind; and the table is not
vacuous (some model has ports and had them connected). -/
theorem catalog_removal_clean :
    Gen.RemovalProbe.catalogRemoval.all (fun r => r.2.2.2.2) = true ∧
    Gen.RemovalProbe.catalogRemoval.any (fun r => decide (r.2.2.1 > 0) && decide (r.2.2.2.1 > r.2.2.1)) = true := by decide +kernel

/-- `survivor_unchanged` says the model never touches a property of a survivor; the service probe (regenerated on every run) pins
that the code does not either where it is most tempted to: a service of ANY ServiceType - single-site or not - that carries a
Site, given by the user or written by `validate()`, keeps its whole property dictionary when its last interface is
disconnected or removed with its owner. -/
theorem service_properties_kept :
    Gen.RemovalProbe.serviceKept.all (fun r => r.2.2.2) = true ∧ Gen.RemovalProbe.serviceKept.length > 0 := by decide +kernel

/-- The removal model deletes what hangs below a node by walking the containment graph: every interface of every service the
node owns, whatever it is called.  Interface names are unique per *service* only, so a node that owns several services
directly holds several interfaces of one name; the probe (`gen/removalplan.py: probe_own_services`, regenerated on every run)
pins that the code collects "the interfaces of the node" the same way - by identity, not by name: `remove_node`,
`remove_switch` and `prune` on a node / a switch with 1, 2, 3 services, each with a connected `p1`, leave no service-side port
and no link of any of them behind; and the table is not vacuous (hosts with several such services are in it). -/
theorem own_services_removal_clean :
    Gen.RemovalProbe.ownServicesRemoval.all (fun r => r.2.2.2) = true ∧
    Gen.RemovalProbe.ownServicesRemoval.any (fun r => decide (r.2.2.1 ≥ 2)) = true := by decide +kernel

end FimVerif.C08
