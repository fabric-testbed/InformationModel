import FimVerif.Proofs.Lemmas.ListAux
import FimVerif.Proofs.Lemmas.C06Wf
import FimVerif.Proofs.Lemmas.C06Nbr
import FimVerif.Proofs.Lemmas.C06Cycle
/-!
# C06 — neighbour and path queries return exactly what their contract describes

The property theorems, the contracts `TwoHopSpec`, `TwoHopAsWritten`, `HopPathU` (the others stand with their lemmas: `Edge` in
`C06Basic`, `Adj` and `IsPath` in `C06Sp`, `LoopFree` and `HopPath` in `C06Hops`, `IsCycle` in `C06Cycle`) and the witness graphs.
`wf g` (node ids distinct, edge ends are nodes, one edge per unordered pair) is decidable and holds for every view built
through `add_node`/`add_link` (`wf_build`).
-/
namespace FimVerif.C06
open FimVerif.Query FimVerif.Gen

/-- On a well-formed view, `get_first_neighbor(n, rel, cls)` returns exactly the nodes of class `cls` joined to `n` by an
    edge of relation `rel`. -/
theorem first_neighbor_exact {g : TGraph} (hw : wf g = true) {n r c : String} {l : List String}
    (h : getFirstNeighbor g n r c = .ok l) (m : String) :
    m ∈ l ↔ Edge g n m r ∧ classOf g m = some c := by
  obtain ⟨_, rfl⟩ := getFirstNeighbor_ok.1 h
  have hf : QueryIdioms.firstViaDropsNeighbour = true := by decide
  rw [hf, mem_hop (wf_uniq hw), Kept]

/-- the query answers (does not raise) for every node of the graph, whatever edges are present -/
theorem first_neighbor_total {g : TGraph} {n : String} (hn : n ∈ verts g) (r c : String) :
    ∃ l, getFirstNeighbor g n r c = .ok l :=
  ⟨_, getFirstNeighbor_ok.2 ⟨hn, rfl⟩⟩

/-- No node is returned twice. -/
theorem first_neighbor_nodup {g : TGraph} (hw : wf g = true) {n r c : String} {l : List String}
    (h : getFirstNeighbor g n r c = .ok l) : l.Nodup := by
  obtain ⟨_, rfl⟩ := getFirstNeighbor_ok.1 h
  exact hop_nodup (wf_uniq hw)

/-- No pair is returned twice, under either value of the idiom flag, i.e. also for the code as written. -/
theorem two_hop_nodup {g : TGraph} (hw : wf g = true) {n r1 c1 r2 c2 : String} {l : List (String × String)}
    (h : getFirstAndSecondNeighbor g n r1 c1 r2 c2 = .ok l) : l.Nodup := by
  obtain ⟨_, rfl⟩ := getFirstAndSecondNeighbor_ok.1 h
  exact twoHopWith_nodup (wf_uniq hw)

/-- When `get_parent` names a parent, it is the one and only neighbour of that relation and class. -/
theorem get_parent_unique {g : TGraph} (hw : wf g = true) {n rel cls p : String}
    (h : getParentId g n rel cls = .ok (some p)) :
    Edge g n p rel ∧ classOf g p = some cls ∧ ∀ m, Edge g n m rel → classOf g m = some cls → m = p := by
  obtain ⟨l, hl, hp⟩ := Except.bind_eq_ok_iff.1 h
  have hex := first_neighbor_exact hw hl
  match l, pure_ok.1 hp with
  | [q], hp =>
    obtain rfl : p = q := Option.some.inj hp
    have := (hex p).1 List.mem_cons_self
    exact ⟨this.1, this.2, fun m h1 h2 => List.mem_singleton.1 ((hex m).2 ⟨h1, h2⟩)⟩

/-- the derived helpers `find_peer_connection_points` / `get_all_node_or_component_connection_points` return the
    second components of the two-hop answer -/
theorem second_components_spec {g : TGraph} {n r1 c1 r2 c2 : String} {ks : List String}
    (h : secondComponents g n r1 c1 r2 c2 = .ok ks) :
    ∃ l, getFirstAndSecondNeighbor g n r1 c1 r2 c2 = .ok l ∧ ∀ k, k ∈ ks ↔ ∃ m, (m, k) ∈ l := by
  obtain ⟨l, hl, hk⟩ := Except.bind_eq_ok_iff.1 h
  exact ⟨l, hl, fun k => by simp [pure_ok.1 hk]⟩

/-- the first drop list of the two-hop query receives the loop variable (re-read from the source on every run) -/
theorem hop1 : QueryIdioms.hop1DropsNeighbour = true := by decide

/-- the contract of `get_first_and_second_neighbor` -/
def TwoHopSpec (g : TGraph) (n r1 c1 r2 c2 : String) (p : String × String) : Prop :=
  Edge g n p.1 r1 ∧ classOf g p.1 = some c1 ∧ Edge g p.1 p.2 r2 ∧ classOf g p.2 = some c2 ∧ p.2 ≠ n

/-- Holds for the code once the second drop list receives the inner loop variable (the flag is read from the source on
    every run). -/
theorem two_hop_exact (hfix : QueryIdioms.hop2DropsNeighbour = true)
    {g : TGraph} (hw : wf g = true) {n r1 c1 r2 c2 : String} {l : List (String × String)}
    (h : getFirstAndSecondNeighbor g n r1 c1 r2 c2 = .ok l) (p : String × String) :
    p ∈ l ↔ TwoHopSpec g n r1 c1 r2 c2 p := by
  obtain ⟨_, rfl⟩ := getFirstAndSecondNeighbor_ok.1 h
  rw [twoHop, hop1, hfix, mem_twoHopWith (wf_uniq hw)]
  simp only [Kept, TwoHopSpec]

/-- the two-hop query answers for every node of the graph -/
theorem two_hop_total {g : TGraph} {n : String} (hn : n ∈ verts g) (r1 c1 r2 c2 : String) :
    getFirstAndSecondNeighbor g n r1 c1 r2 c2 = .ok (twoHop g n r1 c1 r2 c2) :=
  getFirstAndSecondNeighbor_ok.2 ⟨hn, rfl⟩

theorem second_components_total {g : TGraph} {n : String} (hn : n ∈ verts g) (r1 c1 r2 c2 : String) :
    secondComponents g n r1 c1 r2 c2 = .ok ((twoHop g n r1 c1 r2 c2).map (·.2)) :=
  Except.bind_eq_ok_iff.2 ⟨_, two_hop_total hn .., rfl⟩

/-- the graph of the known finding: a -r- b (class B), b -s- c (class A) -/
def cexGraph : TGraph := build [.node "a" "A", .node "b" "B", .node "c" "A", .link "a" "r" "b", .link "b" "s" "c"]

/-- As long as the second drop list receives the first-hop node, a pair whose second edge has the wrong relation is returned
    (replayed on the implementation by corpus case `two_hop_wrong_relation`). -/
theorem two_hop_counterexample (hbug : QueryIdioms.hop2DropsNeighbour = false) :
    wf cexGraph = true ∧
    ∃ l, getFirstAndSecondNeighbor cexGraph "a" "r" "B" "r" "A" = .ok l ∧ ("b", "c") ∈ l ∧
      ¬ TwoHopSpec cexGraph "a" "r" "B" "r" "A" ("b", "c") := by
  refine ⟨by decide +kernel, _, two_hop_total (g := cexGraph) (n := "a") (by decide +kernel) .., ?_, ?_⟩
  · simp only [twoHop, hbug, hop1]
    decide +kernel
  · exact fun h => absurd h.2.2.1 (by unfold Edge; decide +kernel)

/-- What holds for the code *as written* (either value of the generated flag).
    Full statement, which the as-written code violates (`two_hop_counterexample`):
      `p ∈ l ↔ TwoHopSpec g n r1 c1 r2 c2 p`.
    Missing here: the relation of the second edge is not checked (1), and a pair `(m, m)` over a self-loop can be
    lost (2).  (3): the answer is exact on graphs where every edge at a first-hop node has relation `r2`. -/
theorem two_hop_partial {g : TGraph} (hw : wf g = true) {n r1 c1 r2 c2 : String} {l : List (String × String)}
    (h : getFirstAndSecondNeighbor g n r1 c1 r2 c2 = .ok l) :
    (∀ p ∈ l, Edge g n p.1 r1 ∧ classOf g p.1 = some c1 ∧ (∃ r, Edge g p.1 p.2 r) ∧ classOf g p.2 = some c2 ∧ p.2 ≠ n) ∧
    (∀ p, TwoHopSpec g n r1 c1 r2 c2 p → p.2 ≠ p.1 → p ∈ l) ∧
    ((∀ m k r, Edge g n m r1 → Edge g m k r → r = r2) → ∀ p, p ∈ l ↔ TwoHopSpec g n r1 c1 r2 c2 p) := by
  obtain ⟨_, rfl⟩ := getFirstAndSecondNeighbor_ok.1 h
  have hu := wf_uniq hw
  rw [twoHop, hop1]
  refine ⟨fun p hp => ?_, fun p ⟨a, b, c, d⟩ hne => ?_, fun hguard p => ?_⟩
  · obtain ⟨a, b, c, d⟩ := (mem_twoHopWith hu).1 hp
    exact ⟨a, b, c.edge, d⟩
  · exact (mem_twoHopWith hu).2 ⟨a, b, .of_edge c fun e => absurd e hne, d⟩
  · rw [mem_twoHopWith hu]
    refine and_congr_right fun a => and_congr_right fun _ => and_congr_left fun _ => ⟨fun c => ?_, fun c => ?_⟩
    · obtain ⟨r, hr⟩ := c.edge
      exact hguard _ _ _ a hr ▸ hr
    · exact .of_edge c fun _ w r => hguard _ _ _ a

/-- non-vacuity of guard (3): in a -r- b -r- c every edge at the first-hop node b has relation r -/
example : ∀ m k r, Edge (build [.node "a" "A", .node "b" "B", .node "c" "A", .link "a" "r" "b", .link "b" "r" "c"]) "a" m "r" →
    Edge (build [.node "a" "A", .node "b" "B", .node "c" "A", .link "a" "r" "b", .link "b" "r" "c"]) m k r → r = "r" := by
  intro m k r _ h2
  have he : (build [.node "a" "A", .node "b" "B", .node "c" "A", .link "a" "r" "b", .link "b" "r" "c"]).edges =
      [("a", "b", "r"), ("b", "c", "r")] := by decide +kernel
  simp [Edge, he] at h2
  rcases h2 with (h | h) | (h | h) <;> exact h.2.2

/-- what the code *as written* computes: the relation of the second edge is not looked at, except that a pair `(m, m)`
    over a self-loop is returned only when *every* edge at `m` has relation `r2` -/
def TwoHopAsWritten (g : TGraph) (n r1 c1 r2 c2 : String) (p : String × String) : Prop :=
  Edge g n p.1 r1 ∧ classOf g p.1 = some c1 ∧ (∃ r, Edge g p.1 p.2 r) ∧
  (p.2 = p.1 → ∀ w r, Edge g p.1 w r → r = r2) ∧ classOf g p.2 = some c2 ∧ p.2 ≠ n

/-- The exact answer of the code as written (second drop list receives the first-hop node); the difference to `TwoHopSpec`
    is exactly the two known findings. -/
theorem two_hop_as_written_exact (hbug : QueryIdioms.hop2DropsNeighbour = false)
    {g : TGraph} (hw : wf g = true) {n r1 c1 r2 c2 : String} {l : List (String × String)}
    (h : getFirstAndSecondNeighbor g n r1 c1 r2 c2 = .ok l) (p : String × String) :
    p ∈ l ↔ TwoHopAsWritten g n r1 c1 r2 c2 p := by
  obtain ⟨_, rfl⟩ := getFirstAndSecondNeighbor_ok.1 h
  rw [twoHop, hop1, hbug, mem_twoHopWith (wf_uniq hw)]
  simp only [Kept, TwoHopAsWritten, and_assoc]

/-- the graph of the second known finding: b -r- a, a -s- a (self-loop), a -r- c, all of class A -/
def loopGraph : TGraph := build [.node "a" "A", .node "b" "A", .node "c" "A", .link "b" "r" "a", .link "a" "s" "a", .link "a" "r" "c"]

/-- Second known finding: a pair of the contract is *missing* — the first-hop node `a` has a self-loop of the requested
    second relation and another edge of a different relation, so `a` is put on its own drop list (replayed on the
    implementation by corpus case `two_hop_self_loop_lost`). -/
theorem two_hop_selfloop_counterexample (hbug : QueryIdioms.hop2DropsNeighbour = false) :
    wf loopGraph = true ∧
    ∃ l, getFirstAndSecondNeighbor loopGraph "b" "r" "A" "s" "A" = .ok l ∧
      TwoHopSpec loopGraph "b" "r" "A" "s" "A" ("a", "a") ∧ ("a", "a") ∉ l := by
  refine ⟨by decide +kernel, _, two_hop_total (g := loopGraph) (n := "b") (by decide +kernel) .., ?_, ?_⟩
  · unfold TwoHopSpec Edge; decide +kernel
  · simp only [twoHop, hbug, hop1]
    decide +kernel

/-- ConnectionPoint n1 -connects- Link n2 -has- ConnectionPoint n3 (corpus case `peer_wrong_relation`) -/
def peerGraph : TGraph := build [.node "n1" "ConnectionPoint", .node "n2" "Link", .node "n3" "ConnectionPoint",
  .link "n1" "connects" "n2", .link "n2" "has" "n3"]

/-- `find_peer_connection_points` inherits the inert second relation filter: n3 is reported as a peer of n1 although the
    Link does not *connect* it. -/
theorem peer_counterexample (hbug : QueryIdioms.hop2DropsNeighbour = false) :
    wf peerGraph = true ∧
    ∃ ks, secondComponents peerGraph "n1" "connects" "Link" "connects" "ConnectionPoint" = .ok ks ∧ "n3" ∈ ks ∧
      ¬ ∃ m, TwoHopSpec peerGraph "n1" "connects" "Link" "connects" "ConnectionPoint" (m, "n3") := by
  refine ⟨by decide +kernel, _, second_components_total (g := peerGraph) (n := "n1") (by decide +kernel) .., ?_, ?_⟩
  · simp only [twoHop, hbug, hop1]
    decide +kernel
  · rintro ⟨m, _, _, h, _⟩
    have he : peerGraph.edges = [("n1", "n2", "connects"), ("n2", "n3", "has")] := by decide +kernel
    simp [Edge, he] at h

/-- Component n1 -has- NetworkService n2 -has- ConnectionPoint n3 (corpus case `nodecps_wrong_relation`) -/
def nodecpsGraph : TGraph := build [.node "n1" "Component", .node "n2" "NetworkService", .node "n3" "ConnectionPoint",
  .link "n1" "has" "n2", .link "n2" "has" "n3"]

/-- `get_all_node_or_component_connection_points` inherits it as well. -/
theorem nodecps_counterexample (hbug : QueryIdioms.hop2DropsNeighbour = false) :
    wf nodecpsGraph = true ∧
    ∃ ks, secondComponents nodecpsGraph "n1" "has" "NetworkService" "connects" "ConnectionPoint" = .ok ks ∧ "n3" ∈ ks ∧
      ¬ ∃ m, TwoHopSpec nodecpsGraph "n1" "has" "NetworkService" "connects" "ConnectionPoint" (m, "n3") := by
  refine ⟨by decide +kernel, _, second_components_total (g := nodecpsGraph) (n := "n1") (by decide +kernel) .., ?_, ?_⟩
  · simp only [twoHop, hbug, hop1]
    decide +kernel
  · rintro ⟨m, _, _, h, _⟩
    have he : nodecpsGraph.edges = [("n1", "n2", "has"), ("n2", "n3", "has")] := by decide +kernel
    simp [Edge, he] at h

/-- The hypothesis `wf g` of the theorems above holds for every view obtained through `add_node` / `add_link`, which is how
    the harness (and the library) builds graphs. -/
theorem wf_build (ops : List Op) : wf (build ops) = true :=
  List.foldl_invariant (wf · = true) wf_empty fun g hg o _ => by
    cases o with
    | node i c => exact wf_addNode hg i c
    | link a r b => exact wf_addLink hg a r b

/-- What the translator read from the four derived helpers of `ABCPropertyGraph`: the admitted classes of each gate and the
    relation / class constants of the underlying query. -/
theorem helper_constants :
    QueryIdioms.linkCpsGate = ["Link", "NetworkService"] ∧ QueryIdioms.linkCpsQuery = ["connects", "ConnectionPoint"] ∧
    QueryIdioms.childCpsGate = ["ConnectionPoint"] ∧ QueryIdioms.childCpsQuery = ["connects", "ConnectionPoint"] ∧
    QueryIdioms.nodeCpsGate = ["NetworkNode", "Component", "CompositeNode"] ∧
    QueryIdioms.nodeCpsQuery = ["has", "NetworkService", "connects", "ConnectionPoint"] ∧
    QueryIdioms.peerQuery = ["connects", "Link", "connects", "ConnectionPoint"] := by decide +kernel

/-- `get_all_ns_or_link_connection_points(n)` answers only for a Link or a NetworkService (whole class names: a
    CompositeLink is not a Link), and then with exactly the ConnectionPoints joined to `n` by `connects`. -/
theorem link_cps_exact {g : TGraph} (hw : wf g = true) {n : String} {l : List String} (h : linkCps g n = .ok l) :
    (classOf g n = some "Link" ∨ classOf g n = some "NetworkService") ∧
    ∀ m, m ∈ l ↔ Edge g n m "connects" ∧ classOf g m = some "ConnectionPoint" := by
  obtain ⟨hg, hq⟩ := gated_ok_iff.1 h
  exact ⟨by simpa [QueryIdioms.linkCpsGate] using hg, first_neighbor_exact hw hq⟩

/-- `get_all_child_connection_points` -/
theorem child_cps_exact {g : TGraph} (hw : wf g = true) {n : String} {l : List String} (h : childCps g n = .ok l) :
    classOf g n = some "ConnectionPoint" ∧
    ∀ m, m ∈ l ↔ Edge g n m "connects" ∧ classOf g m = some "ConnectionPoint" := by
  obtain ⟨hg, hq⟩ := gated_ok_iff.1 h
  exact ⟨by simpa [QueryIdioms.childCpsGate] using hg, first_neighbor_exact hw hq⟩

/-- `get_all_node_or_component_connection_points` answers only for a NetworkNode, Component or CompositeNode, with the
    second components of the two-hop query has/NetworkService, connects/ConnectionPoint. -/
theorem node_cps_spec {g : TGraph} {n : String} {ks : List String} (h : nodeCps g n = .ok ks) :
    (classOf g n = some "NetworkNode" ∨ classOf g n = some "Component" ∨ classOf g n = some "CompositeNode") ∧
    secondComponents g n "has" "NetworkService" "connects" "ConnectionPoint" = .ok ks := by
  obtain ⟨hg, hq⟩ := gated_ok_iff.1 h
  exact ⟨by simpa [QueryIdioms.nodeCpsGate] using hg, hq⟩

/-- Asked about a node of any other class — `CompositeLink` for the Link helper included — or about an unknown node, each
    gated helper raises the query exception. -/
theorem helpers_outside_domain {g : TGraph} {n : String} :
    ((¬ ∃ c, classOf g n = some c ∧ (c = "Link" ∨ c = "NetworkService")) → linkCps g n = .error .query) ∧
    ((¬ ∃ c, classOf g n = some c ∧ c = "ConnectionPoint") → childCps g n = .error .query) ∧
    ((¬ ∃ c, classOf g n = some c ∧ (c = "NetworkNode" ∨ c = "Component" ∨ c = "CompositeNode")) → nodeCps g n = .error .query) := by
  exact ⟨gated_outside (by simp [QueryIdioms.linkCpsGate]), gated_outside (by simp [QueryIdioms.childCpsGate]),
    gated_outside (by simp [QueryIdioms.nodeCpsGate])⟩

/-- non-vacuity: on cp -connects- CompositeLink cl -connects- cp2 the Link helper raises for `cl`, and answers for a Link -/
example : (linkCps (build [.node "cp" "ConnectionPoint", .node "cl" "CompositeLink", .node "l" "Link", .link "cp" "connects" "cl",
      .link "cp" "connects" "l"]) "cl").toOption = none ∧
    (linkCps (build [.node "cp" "ConnectionPoint", .node "cl" "CompositeLink", .node "l" "Link", .link "cp" "connects" "cl",
      .link "cp" "connects" "l"]) "l").toOption = some ["cp"] := by decide +kernel

/-- A NetworkX `Graph` keeps one edge per pair of nodes: a second `add_link` between the same two nodes (either orientation,
    any relation) *replaces* the relation, and every first-neighbour query from `a` then sees `b` under the new relation only. -/
theorem relink_replaces_relation {g : TGraph} (hw : wf g = true) {a b : String} (ha : a ∈ verts g) (hb : b ∈ verts g)
    (s r c : String) {l : List String} (h : getFirstNeighbor (addLink g a s b) a r c = .ok l) :
    b ∈ l ↔ r = s ∧ classOf g b = some c := by
  have hw' : wf (addLink g a s b) = true := wf_addLink hw a s b
  have he := edge_addLink ha hb s
  rw [first_neighbor_exact hw' h b, classOf_addLink]
  exact and_congr_left' ⟨fun h => edge_rel_unique (wf_uniq hw') h he, by rintro rfl; exact he⟩

/-- instance: a -has- b, then a -connects- b: the `has` query no longer returns b -/
example : (getFirstNeighbor (build [.node "a" "A", .node "b" "B", .link "a" "has" "b", .link "b" "connects" "a"]) "a" "has" "B").toOption = some [] ∧
    (getFirstNeighbor (build [.node "a" "A", .node "b" "B", .link "a" "has" "b", .link "b" "connects" "a"]) "a" "connects" "B").toOption = some ["b"] := by
  decide +kernel

/-- `classOf g m = some c` in the statements above says that `(m, c)` is a node of the view. -/
theorem class_lookup_is_membership {g : TGraph} (hw : wf g = true) (m c : String) :
    classOf g m = some c ↔ (m, c) ∈ g.nodes :=
  classOf_iff (wf_nodup hw)

/-! ## shortest path

The proofs use `snapshot`, `dropIteratesSnapshot = true`, read from the source on every run.  With the live-view iteration the
model raises `runtime` when an edge of another relation is present; `snapshot`, and with it the four theorems below, then no
longer type-checks. -/

theorem snapshot : QueryIdioms.dropIteratesSnapshot = true := by decide

/-- A non-empty answer is an actual path between the end nodes using only edges of the requested relation. -/
theorem shortest_path_sound {g : TGraph} (hw : wf g = true) {a z : String} {rel : Option String} {p : List String}
    (h : getNodesOnShortestPath g a z rel = .ok p) (hne : p ≠ []) : IsPath g rel a z p :=
  (getNodesOnShortestPath_spec snapshot (wf_ends hw) h).sound hne

/-- The answer is the empty list exactly when no path exists. -/
theorem shortest_path_empty_iff_unreachable {g : TGraph} (hw : wf g = true) {a z : String} {rel : Option String}
    {p : List String} (h : getNodesOnShortestPath g a z rel = .ok p) :
    p = [] ↔ ¬ ∃ q, IsPath g rel a z q :=
  (getNodesOnShortestPath_spec snapshot (wf_ends hw) h).empty_iff Path.not_nil

/-- No path between the end nodes (over the requested relation) is shorter than the answer. -/
theorem shortest_path_minimal {g : TGraph} (hw : wf g = true) {a z : String} {rel : Option String} {p : List String}
    (h : getNodesOnShortestPath g a z rel = .ok p) {q : List String} (hq : IsPath g rel a z q) :
    p ≠ [] ∧ p.length ≤ q.length :=
  (getNodesOnShortestPath_spec snapshot (wf_ends hw) h).minimal Path.not_nil hq

/-- For end nodes of the graph the query answers, whatever relation is requested and whatever other kinds of edges are
    present. -/
theorem shortest_path_total {g : TGraph} {a z : String} (ha : a ∈ verts g) (hz : z ∈ verts g) (rel : Option String) :
    ∃ p, getNodesOnShortestPath g a z rel = .ok p :=
  ⟨_, (getNodesOnShortestPath_ok snapshot).2 ⟨ha, hz, rfl⟩⟩

/-- non-vacuity: on the mixed-relation graph of the corpus the `r`-restricted query from a to b answers `[a, b]`,
    and the `s`-restricted one from a to c answers `[]` -/
example : wf cexGraph = true ∧ shortest (restrict cexGraph (some "r")) "a" "b" = ["a", "b"] ∧
    shortest (restrict cexGraph (some "s")) "a" "c" = [] ∧ shortest (restrict cexGraph none) "a" "c" = ["a", "b", "c"] := by
  decide +kernel

/-! ## path with hops

The statements hold for either form of the replacement test (`len(result) > len(path)` or `>=`, flag
`hopsReplaceStrict`): both keep a path of minimal length.  "Loop-free" is the code's documented sense: no cycle in the
subgraph induced by the path (`LoopFree`; `hops_contract_graph_theoretic`). -/

/-- A non-empty answer runs from `a` to `z`, is loop-free, contains every requested hop and respects the cut-off. -/
theorem hops_sound {g : TGraph} {a z : String} {hops : List String} {cutoff : Nat} {p : List String}
    (h : getNodesOnPathWithHops g a z hops cutoff = .ok p) (hne : p ≠ []) : HopPath g a z hops cutoff p :=
  (getNodesOnPathWithHops_spec h).sound hne

/-- The answer is shortest among *all* loop-free paths with the requested hops within the cut-off (the enumeration is proved
    complete, so this is not relative to what was enumerated). -/
theorem hops_minimal {g : TGraph} {a z : String} {hops : List String} {cutoff : Nat} {p : List String}
    (h : getNodesOnPathWithHops g a z hops cutoff = .ok p) {q : List String} (hq : HopPath g a z hops cutoff q) :
    p ≠ [] ∧ p.length ≤ q.length :=
  (getNodesOnPathWithHops_spec h).minimal HopPath.not_nil hq

/-- The empty list is returned exactly when no such path exists. -/
theorem hops_empty_iff_none {g : TGraph} {a z : String} {hops : List String} {cutoff : Nat} {p : List String}
    (h : getNodesOnPathWithHops g a z hops cutoff = .ok p) : p = [] ↔ ¬ ∃ q, HopPath g a z hops cutoff q :=
  (getNodesOnPathWithHops_spec h).empty_iff HopPath.not_nil

/-- `hops` is an arbitrary *list*: repeating a hop, or listing the hops in path order, in reverse
    or shuffled, does not change the answer, which depends only on which ids are listed. -/
theorem hops_list_semantics {g : TGraph} {a z : String} {hops hops' : List String} (hsame : ∀ x, x ∈ hops ↔ x ∈ hops')
    (cutoff : Nat) : getNodesOnPathWithHops g a z hops cutoff = getNodesOnPathWithHops g a z hops' cutoff := by
  unfold getNodesOnPathWithHops
  rw [pathWithHops_congr hsame]

/-- instances: a repeated hop, and the reversed list -/
example (g : TGraph) (a z c : String) (k : Nat) :
    getNodesOnPathWithHops g a z [c, c] k = getNodesOnPathWithHops g a z [c] k :=
  hops_list_semantics (by simp) k

example (g : TGraph) (a z : String) (hs : List String) (k : Nat) :
    getNodesOnPathWithHops g a z hs.reverse k = getNodesOnPathWithHops g a z hs k :=
  hops_list_semantics (by simp) k

/-- A hop that is not a node of *this* graph (unknown, or a node of another graph in the store) makes the answer the empty
    list — never an error, never a path. -/
theorem hops_foreign_hop_empty {g : TGraph} (hw : wf g = true) {a z : String} {hops : List String} {cutoff : Nat}
    {p : List String} (h : getNodesOnPathWithHops g a z hops cutoff = .ok p) {x : String} (hx : x ∈ hops)
    (hxg : x ∉ verts g) : p = [] := by
  rw [hops_empty_iff_none h]
  rintro ⟨q, hq, _, hhops, _⟩
  exact hxg (path_in_verts (wf_ends hw) hq (getNodesOnPathWithHops_ok.1 h).1 x (hhops x hx))

/-- the empty hop list asks for nothing: the answer is a shortest loop-free path within the cut-off -/
example (g : TGraph) (a z : String) (k : Nat) (p : List String) :
    HopPath g a z [] k p ↔ IsPath g none a z p ∧ LoopFree g p ∧ p.length ≤ k + 1 := by
  simp [HopPath]

/-- the contract as the property states it — no cut-off: a loop-free path from `a` to `z` containing every requested hop -/
def HopPathU (g : TGraph) (a z : String) (hops : List String) (p : List String) : Prop :=
  IsPath g none a z p ∧ LoopFree g p ∧ (∀ h ∈ hops, h ∈ p)

/-- A loop-free path visits every node at most once, so a cut-off of at least `#nodes - 1` edges (the default 100 on any
    graph of up to 101 nodes) excludes nothing. -/
theorem hops_cutoff_irrelevant {g : TGraph} (hw : wf g = true) {a z : String} (ha : a ∈ verts g) (hops : List String)
    {cutoff : Nat} (hc : (verts g).length ≤ cutoff + 1) (q : List String) :
    HopPath g a z hops cutoff q ↔ HopPathU g a z hops q := by
  constructor
  · rintro ⟨h1, h2, h3, _⟩; exact ⟨h1, h2, h3⟩
  · rintro ⟨h1, h2, h3⟩
    refine ⟨h1, h2, h3, ?_⟩
    exact Nat.le_trans (List.Nodup.length_le_of_subset h2.1 (path_in_verts (wf_ends hw) h1 ha)) hc

/-- The property's sentence in one statement, for a cut-off that does not bind: the answer is a loop-free path from `a` to
    `z` containing all requested hops that is shortest among *all* such paths, or it is the empty list and no such path
    exists. -/
theorem hops_full_statement {g : TGraph} (hw : wf g = true) {a z : String} {hops : List String} {cutoff : Nat}
    (hc : (verts g).length ≤ cutoff + 1) {p : List String}
    (h : getNodesOnPathWithHops g a z hops cutoff = .ok p) :
    (p = [] ∧ ¬ ∃ q, HopPathU g a z hops q) ∨
    (HopPathU g a z hops p ∧ ∀ q, HopPathU g a z hops q → p.length ≤ q.length) :=
  (getNodesOnPathWithHops_spec h).congr (hops_cutoff_irrelevant hw (getNodesOnPathWithHops_ok.1 h).1 hops hc _)

/-- `LoopFree` in the statements of this section is the graph-theoretic notion: a path satisfies the contract iff it is a
    simple path (no node twice) from `a` to `z` whose induced subgraph contains no cycle (`IsCycle`) and every requested hop
    lies on it. -/
theorem hops_contract_graph_theoretic {g : TGraph} {a z : String} {hops : List String} (q : List String) :
    HopPathU g a z hops q ↔
      IsPath g none a z q ∧ q.Nodup ∧ (¬ ∃ c, (∀ x ∈ c, x ∈ q) ∧ IsCycle g c) ∧ ∀ h ∈ hops, h ∈ q := by
  unfold HopPathU
  exact and_congr_right fun h1 => by rw [loopFree_iff_acyclic h1.2.2, and_assoc]

/-- a non-empty answer is a simple path and no cycle runs through its nodes -/
theorem hops_answer_acyclic {g : TGraph} {a z : String} {hops : List String} {cutoff : Nat} {p : List String}
    (h : getNodesOnPathWithHops g a z hops cutoff = .ok p) (hne : p ≠ []) :
    p.Nodup ∧ ¬ ∃ c, (∀ x ∈ c, x ∈ p) ∧ IsCycle g c := by
  have hp := hops_sound h hne
  exact (loopFree_iff_acyclic hp.1.2.2).1 hp.2.1

/-- the query answers for end nodes of the graph -/
theorem hops_total {g : TGraph} {a z : String} (ha : a ∈ verts g) (hz : z ∈ verts g) (hops : List String) (cutoff : Nat) :
    ∃ p, getNodesOnPathWithHops g a z hops cutoff = .ok p :=
  ⟨_, getNodesOnPathWithHops_ok.2 ⟨ha, hz, rfl⟩⟩

/-- a square a-b-c-d-a with the chord a-c -/
def hopGraph : TGraph := build [.node "a" "A", .node "b" "A", .node "c" "A", .node "d" "A",
  .link "a" "r" "b", .link "b" "r" "c", .link "c" "r" "d", .link "d" "r" "a", .link "a" "s" "c"]

/-- non-vacuity of the hypotheses of `hops_full_statement` (default cut-off 100) -/
example : wf hopGraph = true ∧ (verts hopGraph).length ≤ 100 + 1 := by decide +kernel

/-- the cycle that makes the path a - b - c of `hopGraph` not loop-free: a - b - c - a (the chord a -s- c closes it) -/
example : IsCycle hopGraph ["a", "b", "c"] := by
  refine Or.inr ⟨by decide, by decide, ⟨⟨"r", by unfold Edge; decide +kernel, by simp⟩, ⟨"r", by unfold Edge; decide +kernel, by simp⟩, trivial⟩,
    "a", "c", rfl, rfl, ⟨"s", by unfold Edge; decide +kernel, by simp⟩⟩

/-- non-vacuity: from a to c the direct edge is the answer; with hop b the path through b is rejected (its induced
    subgraph has the cycle a-b-c) and nothing is returned -/
example : pathWithHops hopGraph "a" "c" [] 100 = ["a", "c"] ∧ pathWithHops hopGraph "a" "c" ["b"] 100 = [] ∧
    pathWithHops hopGraph "b" "d" ["a"] 100 = ["b", "a", "d"] ∧ pathWithHops hopGraph "b" "d" ["a"] 1 = [] := by
  decide +kernel

end FimVerif.C06
