import FimVerif.Generated.Cypher
import FimVerif.Proofs.Lemmas.C19Partial
import FimVerif.Proofs.Lemmas.C19Holes
import FimVerif.Proofs.Lemmas.C19Dangling
/-!
# C19 — persistent-backend statements are well-formed and data-independent

`Gen.Cypher.ops` is regenerated from the five Neo4j modules on every run: one template per call of `session.run` and branch of
the method (variants `_v0`, `_v1`, … of a call site), every interpolation classified as identifier / parameter / value.  The full
statement, `∀ op ∈ ops, ∀ e1 e2, e1.erase = e2.erase → render e1 op.tpl = render e2 op.tpl`, is violated by the library
(known_findings/C19.json): every call site is value-free or listed with a counterexample and exactly the values it leaks, and a new
call site that interpolates a value breaks the build.  Through identifier holes one kernel evaluation per template and argument
shape decides well-formedness for ALL class / relation / property names.
-/
namespace FimVerif.C19
open FimVerif.Cypher FimVerif.Gen.Cypher

/-- A template without value pieces renders to the same text in any two environments that differ only
in stored values (`erase` forgets every value and keeps every name, identifier and mapping shape). -/
theorem no_value_piece_data_independent (t : List Piece) (ht : valueFree t = true) (e1 e2 : Env)
    (hs : e1.erase = e2.erase) : render e1 t = render e2 t := by
  rw [render_erase ht e1, render_erase ht e2, hs]

theorem value_free_text_depends_only_on_identifiers (t : List Piece) (ht : valueFree t = true) :
    ∃ f : Env → Text, ∀ e, render e t = f e.erase :=
  ⟨fun e' => render e' t, fun e => render_erase ht e⟩

theorem wellformed_extends_to_all_values (t : List Piece) (ht : valueFree t = true) (sup : List Text)
    (e0 e : Env) (hs : e.erase = e0.erase) (h0 : checkStmt (render e0 t) sup = true) :
    checkStmt (render e t) sup = true := by
  rw [no_value_piece_data_independent t ht e e0 hs]; exact h0

/-- non-vacuity of `e1.erase = e2.erase`: two environments that differ in every stored value -/
def envA : Env := ⟨[(t!"label", t!"Link")], [(t!"node_id", t!"n1")],
  [(t!"props", [⟨[(t!"k", t!"Name")], [(t!"v", t!"alpha")]⟩])]⟩
def envB : Env := ⟨[(t!"label", t!"Link")], [(t!"node_id", t!"x' }) DETACH DELETE s //")],
  [(t!"props", [⟨[(t!"k", t!"Name")], [(t!"v", t!"it's {{}} $graphId")]⟩])]⟩
example : envA.erase = envB.erase ∧ envA ≠ envB := by decide +kernel

/-- call sites that interpolate a stored value into the statement text (the known findings) -/
def valueDependentKeys : List Text := [
  t!"Neo4jPropertyGraph.update_node_properties#0", t!"Neo4jPropertyGraph.update_link_properties#0", 
  t!"Neo4jPropertyGraph.add_node#0", t!"Neo4jPropertyGraph.add_link#0", t!"Neo4jPropertyGraph.serialize_graph#0", 
  t!"Neo4jPropertyGraph.serialize_graph#1", t!"Neo4jCBMGraph.get_matching_nodes_with_components#0"]

def valueFreeKeys : List Text := [
  t!"Neo4jPropertyGraph._validate_graph#0", t!"Neo4jPropertyGraph.delete_graph#0", 
  t!"Neo4jPropertyGraph.get_all_nodes_by_class#0", t!"Neo4jPropertyGraph.get_all_nodes_by_class_and_type#0", 
  t!"Neo4jPropertyGraph.list_all_node_ids#0", t!"Neo4jPropertyGraph.get_node_properties#0", 
  t!"Neo4jPropertyGraph.get_link_properties#0", t!"Neo4jPropertyGraph.update_node_property#0", 
  t!"Neo4jPropertyGraph.unset_node_property#0", t!"Neo4jPropertyGraph.update_nodes_property#0", 
  t!"Neo4jPropertyGraph.update_link_property#0", t!"Neo4jPropertyGraph.unset_link_property#0", 
  t!"Neo4jPropertyGraph.graph_exists#0", t!"Neo4jPropertyGraph.get_nodes_on_shortest_path#0", 
  t!"Neo4jPropertyGraph.get_nodes_on_path_with_hops#0", t!"Neo4jPropertyGraph.get_first_neighbor#0", 
  t!"Neo4jPropertyGraph.get_first_and_second_neighbor#0", t!"Neo4jPropertyGraph.delete_node#0", 
  t!"Neo4jPropertyGraph.node_exists#0", t!"Neo4jPropertyGraph.find_matching_nodes#0", 
  t!"Neo4jPropertyGraph.merge_nodes#0", t!"Neo4jPropertyGraph.get_stitch_nodes#0", 
  t!"Neo4jPropertyGraph.check_node_unique#0", t!"Neo4jPropertyGraph.get_graph_diff#0", 
  t!"Neo4jPropertyGraph.get_graph_property_diff#0", t!"Neo4jGraphImporter._add_indexes#0", 
  t!"Neo4jGraphImporter._import_graph#0", t!"Neo4jGraphImporter._import_graph#1", 
  t!"Neo4jGraphImporter.delete_all_graphs#0", t!"Neo4jGraphImporter.delete_graph#0", 
  t!"Neo4jCBMGraph.get_intersite_links#0", t!"Neo4jCBMGraph.get_sites#0", t!"Neo4jCBMGraph.get_disconnected_sites#0", 
  t!"Neo4jCBMGraph.get_connected_sites#0", t!"Neo4jCBMGraph.get_facility_ports#0", t!"Neo4jASM.check_node_name#0", 
  t!"Neo4jASM.find_node_by_name#0"]

/-- the two lists cover exactly what the translator found: no call site is unaccounted for, none has vanished -/
theorem all_sites_classified :
    (∀ op ∈ ops, op.key ∈ valueFreeKeys ∨ op.key ∈ valueDependentKeys) ∧
    (∀ k ∈ valueFreeKeys ++ valueDependentKeys, k ∈ ops.map (·.key)) ∧
    (∀ k ∈ valueFreeKeys, k ∉ valueDependentKeys) := by
  -- the keys share long prefixes (`Neo4jPropertyGraph.`): a key is looked up among the keys of its own length
  have h1 : ∀ op ∈ ops, op.key ∈ valueFreeKeys.filter (·.length == op.key.length) ∨
      op.key ∈ valueDependentKeys.filter (·.length == op.key.length) := by decide +kernel
  have h2 : ∀ k ∈ valueFreeKeys ++ valueDependentKeys, k ∈ (ops.map (·.key)).filter (·.length == k.length) := by decide +kernel
  have h3 : ∀ k ∈ valueFreeKeys, k ∉ valueDependentKeys.filter (·.length == k.length) := by decide +kernel
  exact ⟨fun op hop => (h1 op hop).imp (fun h => (List.mem_filter.mp h).1) (fun h => (List.mem_filter.mp h).1),
    fun k hk => (List.mem_filter.mp (h2 k hk)).1, fun k hk h => h3 k hk (List.mem_filter.mpr ⟨h, beq_iff_eq.mpr rfl⟩)⟩

theorem value_free_except_listed : ∀ op ∈ ops, op.key ∉ valueDependentKeys → valueFree op.tpl = true := by
  -- evaluated left to right: a key is looked up in the list only for a template that is not value-free
  have h : ∀ op ∈ ops, valueFree op.tpl = true ∨ op.key ∈ valueDependentKeys := by decide +kernel
  exact fun op hop hk => (h op hop).resolve_right hk

theorem data_independent_except_listed (op : Op) (hop : op ∈ ops) (hk : op.key ∉ valueDependentKeys)
    (e1 e2 : Env) (hs : e1.erase = e2.erase) : render e1 op.tpl = render e2 op.tpl :=
  no_value_piece_data_independent op.tpl (value_free_except_listed op hop hk) e1 e2 hs

/-- every `$name` a template mentions is among the keyword arguments of the same `run` call -/
theorem params_supplied : ∀ op ∈ ops, ∀ x ∈ tplParams op.tpl, x ∈ op.supplied := by decide +kernel

theorem value_free_of_key {k : Text} (hk : k ∉ valueDependentKeys) : ∀ op ∈ ops, op.key = k → valueFree op.tpl = true :=
  fun op hop h => value_free_except_listed op hop (h ▸ hk)

/-- every stored value replaced by a string that closes the literal it is written into -/
def evil : Text := t!"x'} DETACH DELETE s //\"} DETACH DELETE n //"
def evilRow : Row := ⟨canonRow.idents, canonRow.values.map (fun p => (p.1, evil))⟩
def evilEnv : Env := ⟨canonEnv.idents, canonEnv.values.map (fun p => (p.1, evil)),
  canonEnv.maps.map (fun p => (p.1, p.2.map (fun _ => evilRow)))⟩

theorem evil_erase : canonEnv.erase = evilEnv.erase := by decide +kernel

theorem value_dependent_of_render_ne {op : Op} (hop : op ∈ ops) (h : render canonEnv op.tpl ≠ render evilEnv op.tpl) :
    ∃ op' ∈ ops, op'.key = op.key ∧ ∃ e1 e2 : Env, e1.erase = e2.erase ∧ render e1 op'.tpl ≠ render e2 op'.tpl :=
  ⟨op, hop, rfl, canonEnv, evilEnv, evil_erase, h⟩

theorem Neo4jPropertyGraph__validate_graph_s0_value_free : ∀ op ∈ ops, op.key = t!"Neo4jPropertyGraph._validate_graph#0" → valueFree op.tpl = true :=
  value_free_of_key (by decide +kernel)

theorem Neo4jPropertyGraph_delete_graph_s0_value_free : ∀ op ∈ ops, op.key = t!"Neo4jPropertyGraph.delete_graph#0" → valueFree op.tpl = true :=
  value_free_of_key (by decide +kernel)

theorem Neo4jPropertyGraph_get_all_nodes_by_class_s0_value_free : ∀ op ∈ ops, op.key = t!"Neo4jPropertyGraph.get_all_nodes_by_class#0" → valueFree op.tpl = true :=
  value_free_of_key (by decide +kernel)

theorem Neo4jPropertyGraph_get_all_nodes_by_class_and_type_s0_value_free : ∀ op ∈ ops, op.key = t!"Neo4jPropertyGraph.get_all_nodes_by_class_and_type#0" → valueFree op.tpl = true :=
  value_free_of_key (by decide +kernel)

theorem Neo4jPropertyGraph_list_all_node_ids_s0_value_free : ∀ op ∈ ops, op.key = t!"Neo4jPropertyGraph.list_all_node_ids#0" → valueFree op.tpl = true :=
  value_free_of_key (by decide +kernel)

theorem Neo4jPropertyGraph_get_node_properties_s0_value_free : ∀ op ∈ ops, op.key = t!"Neo4jPropertyGraph.get_node_properties#0" → valueFree op.tpl = true :=
  value_free_of_key (by decide +kernel)

theorem Neo4jPropertyGraph_get_link_properties_s0_value_free : ∀ op ∈ ops, op.key = t!"Neo4jPropertyGraph.get_link_properties#0" → valueFree op.tpl = true :=
  value_free_of_key (by decide +kernel)

theorem Neo4jPropertyGraph_update_node_property_s0_value_free : ∀ op ∈ ops, op.key = t!"Neo4jPropertyGraph.update_node_property#0" → valueFree op.tpl = true :=
  value_free_of_key (by decide +kernel)

theorem Neo4jPropertyGraph_unset_node_property_s0_value_free : ∀ op ∈ ops, op.key = t!"Neo4jPropertyGraph.unset_node_property#0" → valueFree op.tpl = true :=
  value_free_of_key (by decide +kernel)

theorem Neo4jPropertyGraph_update_nodes_property_s0_value_free : ∀ op ∈ ops, op.key = t!"Neo4jPropertyGraph.update_nodes_property#0" → valueFree op.tpl = true :=
  value_free_of_key (by decide +kernel)

theorem Neo4jPropertyGraph_update_link_property_s0_value_free : ∀ op ∈ ops, op.key = t!"Neo4jPropertyGraph.update_link_property#0" → valueFree op.tpl = true :=
  value_free_of_key (by decide +kernel)

theorem Neo4jPropertyGraph_unset_link_property_s0_value_free : ∀ op ∈ ops, op.key = t!"Neo4jPropertyGraph.unset_link_property#0" → valueFree op.tpl = true :=
  value_free_of_key (by decide +kernel)

theorem Neo4jPropertyGraph_graph_exists_s0_value_free : ∀ op ∈ ops, op.key = t!"Neo4jPropertyGraph.graph_exists#0" → valueFree op.tpl = true :=
  value_free_of_key (by decide +kernel)

theorem Neo4jPropertyGraph_get_nodes_on_shortest_path_s0_value_free : ∀ op ∈ ops, op.key = t!"Neo4jPropertyGraph.get_nodes_on_shortest_path#0" → valueFree op.tpl = true :=
  value_free_of_key (by decide +kernel)

theorem Neo4jPropertyGraph_get_nodes_on_path_with_hops_s0_value_free : ∀ op ∈ ops, op.key = t!"Neo4jPropertyGraph.get_nodes_on_path_with_hops#0" → valueFree op.tpl = true :=
  value_free_of_key (by decide +kernel)

theorem Neo4jPropertyGraph_get_first_neighbor_s0_value_free : ∀ op ∈ ops, op.key = t!"Neo4jPropertyGraph.get_first_neighbor#0" → valueFree op.tpl = true :=
  value_free_of_key (by decide +kernel)

theorem Neo4jPropertyGraph_get_first_and_second_neighbor_s0_value_free : ∀ op ∈ ops, op.key = t!"Neo4jPropertyGraph.get_first_and_second_neighbor#0" → valueFree op.tpl = true :=
  value_free_of_key (by decide +kernel)

theorem Neo4jPropertyGraph_delete_node_s0_value_free : ∀ op ∈ ops, op.key = t!"Neo4jPropertyGraph.delete_node#0" → valueFree op.tpl = true :=
  value_free_of_key (by decide +kernel)

theorem Neo4jPropertyGraph_node_exists_s0_value_free : ∀ op ∈ ops, op.key = t!"Neo4jPropertyGraph.node_exists#0" → valueFree op.tpl = true :=
  value_free_of_key (by decide +kernel)

theorem Neo4jPropertyGraph_find_matching_nodes_s0_value_free : ∀ op ∈ ops, op.key = t!"Neo4jPropertyGraph.find_matching_nodes#0" → valueFree op.tpl = true :=
  value_free_of_key (by decide +kernel)

theorem Neo4jPropertyGraph_merge_nodes_s0_value_free : ∀ op ∈ ops, op.key = t!"Neo4jPropertyGraph.merge_nodes#0" → valueFree op.tpl = true :=
  value_free_of_key (by decide +kernel)

theorem Neo4jPropertyGraph_get_stitch_nodes_s0_value_free : ∀ op ∈ ops, op.key = t!"Neo4jPropertyGraph.get_stitch_nodes#0" → valueFree op.tpl = true :=
  value_free_of_key (by decide +kernel)

theorem Neo4jPropertyGraph_check_node_unique_s0_value_free : ∀ op ∈ ops, op.key = t!"Neo4jPropertyGraph.check_node_unique#0" → valueFree op.tpl = true :=
  value_free_of_key (by decide +kernel)

theorem Neo4jPropertyGraph_get_graph_diff_s0_value_free : ∀ op ∈ ops, op.key = t!"Neo4jPropertyGraph.get_graph_diff#0" → valueFree op.tpl = true :=
  value_free_of_key (by decide +kernel)

theorem Neo4jPropertyGraph_get_graph_property_diff_s0_value_free : ∀ op ∈ ops, op.key = t!"Neo4jPropertyGraph.get_graph_property_diff#0" → valueFree op.tpl = true :=
  value_free_of_key (by decide +kernel)

theorem Neo4jGraphImporter__add_indexes_s0_value_free : ∀ op ∈ ops, op.key = t!"Neo4jGraphImporter._add_indexes#0" → valueFree op.tpl = true :=
  value_free_of_key (by decide +kernel)

theorem Neo4jGraphImporter__import_graph_s0_value_free : ∀ op ∈ ops, op.key = t!"Neo4jGraphImporter._import_graph#0" → valueFree op.tpl = true :=
  value_free_of_key (by decide +kernel)

theorem Neo4jGraphImporter__import_graph_s1_value_free : ∀ op ∈ ops, op.key = t!"Neo4jGraphImporter._import_graph#1" → valueFree op.tpl = true :=
  value_free_of_key (by decide +kernel)

theorem Neo4jGraphImporter_delete_all_graphs_s0_value_free : ∀ op ∈ ops, op.key = t!"Neo4jGraphImporter.delete_all_graphs#0" → valueFree op.tpl = true :=
  value_free_of_key (by decide +kernel)

theorem Neo4jGraphImporter_delete_graph_s0_value_free : ∀ op ∈ ops, op.key = t!"Neo4jGraphImporter.delete_graph#0" → valueFree op.tpl = true :=
  value_free_of_key (by decide +kernel)

theorem Neo4jCBMGraph_get_intersite_links_s0_value_free : ∀ op ∈ ops, op.key = t!"Neo4jCBMGraph.get_intersite_links#0" → valueFree op.tpl = true :=
  value_free_of_key (by decide +kernel)

theorem Neo4jCBMGraph_get_sites_s0_value_free : ∀ op ∈ ops, op.key = t!"Neo4jCBMGraph.get_sites#0" → valueFree op.tpl = true :=
  value_free_of_key (by decide +kernel)

theorem Neo4jCBMGraph_get_disconnected_sites_s0_value_free : ∀ op ∈ ops, op.key = t!"Neo4jCBMGraph.get_disconnected_sites#0" → valueFree op.tpl = true :=
  value_free_of_key (by decide +kernel)

theorem Neo4jCBMGraph_get_connected_sites_s0_value_free : ∀ op ∈ ops, op.key = t!"Neo4jCBMGraph.get_connected_sites#0" → valueFree op.tpl = true :=
  value_free_of_key (by decide +kernel)

theorem Neo4jCBMGraph_get_facility_ports_s0_value_free : ∀ op ∈ ops, op.key = t!"Neo4jCBMGraph.get_facility_ports#0" → valueFree op.tpl = true :=
  value_free_of_key (by decide +kernel)

theorem Neo4jASM_check_node_name_s0_value_free : ∀ op ∈ ops, op.key = t!"Neo4jASM.check_node_name#0" → valueFree op.tpl = true :=
  value_free_of_key (by decide +kernel)

theorem Neo4jASM_find_node_by_name_s0_value_free : ∀ op ∈ ops, op.key = t!"Neo4jASM.find_node_by_name#0" → valueFree op.tpl = true :=
  value_free_of_key (by decide +kernel)

theorem Neo4jPropertyGraph_update_node_properties_s0_value_dependent_counterexample :
    ∃ op ∈ ops, op.key = t!"Neo4jPropertyGraph.update_node_properties#0" ∧ ∃ e1 e2 : Env, e1.erase = e2.erase ∧ render e1 op.tpl ≠ render e2 op.tpl :=
  value_dependent_of_render_ne (op := op_Neo4jPropertyGraph_update_node_properties_s0_v0) (by simp only [ops, List.mem_cons, true_or, or_true]) (by decide +kernel)

theorem Neo4jPropertyGraph_update_link_properties_s0_value_dependent_counterexample :
    ∃ op ∈ ops, op.key = t!"Neo4jPropertyGraph.update_link_properties#0" ∧ ∃ e1 e2 : Env, e1.erase = e2.erase ∧ render e1 op.tpl ≠ render e2 op.tpl :=
  value_dependent_of_render_ne (op := op_Neo4jPropertyGraph_update_link_properties_s0_v0) (by simp only [ops, List.mem_cons, true_or, or_true]) (by decide +kernel)

theorem Neo4jPropertyGraph_add_node_s0_value_dependent_counterexample :
    ∃ op ∈ ops, op.key = t!"Neo4jPropertyGraph.add_node#0" ∧ ∃ e1 e2 : Env, e1.erase = e2.erase ∧ render e1 op.tpl ≠ render e2 op.tpl :=
  value_dependent_of_render_ne (op := op_Neo4jPropertyGraph_add_node_s0_v0) (by simp only [ops, List.mem_cons, true_or, or_true]) (by decide +kernel)

theorem Neo4jPropertyGraph_add_link_s0_value_dependent_counterexample :
    ∃ op ∈ ops, op.key = t!"Neo4jPropertyGraph.add_link#0" ∧ ∃ e1 e2 : Env, e1.erase = e2.erase ∧ render e1 op.tpl ≠ render e2 op.tpl :=
  value_dependent_of_render_ne (op := op_Neo4jPropertyGraph_add_link_s0_v0) (by simp only [ops, List.mem_cons, true_or, or_true]) (by decide +kernel)

theorem Neo4jPropertyGraph_serialize_graph_s0_value_dependent_counterexample :
    ∃ op ∈ ops, op.key = t!"Neo4jPropertyGraph.serialize_graph#0" ∧ ∃ e1 e2 : Env, e1.erase = e2.erase ∧ render e1 op.tpl ≠ render e2 op.tpl :=
  value_dependent_of_render_ne (op := op_Neo4jPropertyGraph_serialize_graph_s0_v0) (by simp only [ops, List.mem_cons, true_or, or_true]) (by decide +kernel)

theorem Neo4jPropertyGraph_serialize_graph_s1_value_dependent_counterexample :
    ∃ op ∈ ops, op.key = t!"Neo4jPropertyGraph.serialize_graph#1" ∧ ∃ e1 e2 : Env, e1.erase = e2.erase ∧ render e1 op.tpl ≠ render e2 op.tpl :=
  value_dependent_of_render_ne (op := op_Neo4jPropertyGraph_serialize_graph_s1_v0) (by simp only [ops, List.mem_cons, true_or, or_true]) (by decide +kernel)

theorem Neo4jCBMGraph_get_matching_nodes_with_components_s0_value_dependent_counterexample :
    ∃ op ∈ ops, op.key = t!"Neo4jCBMGraph.get_matching_nodes_with_components#0" ∧ ∃ e1 e2 : Env, e1.erase = e2.erase ∧ render e1 op.tpl ≠ render e2 op.tpl :=
  value_dependent_of_render_ne (op := op_Neo4jCBMGraph_get_matching_nodes_with_components_s0_v1) (by simp only [ops, List.mem_cons, true_or, or_true]) (by decide +kernel)

theorem leaks_nil_of_value_free_atom (a : Atom) : a.vf = true → a.leaks = [] := Atom.leaks_nil

/-- which stored values each value-dependent call site writes into the statement text (the known findings, per argument) -/
def allowedLeaks : List (Text × Text) := [
  (t!"Neo4jPropertyGraph.update_node_properties#0", t!"row.v"),
  (t!"Neo4jPropertyGraph.update_link_properties#0", t!"row.v"),
  (t!"Neo4jPropertyGraph.serialize_graph#0", t!"graph_id"),
  (t!"Neo4jPropertyGraph.serialize_graph#1", t!"graph_id"),
  (t!"Neo4jPropertyGraph.add_node#0", t!"graph_id"), (t!"Neo4jPropertyGraph.add_node#0", t!"node_id"),
  (t!"Neo4jPropertyGraph.add_node#0", t!"row.v"),
  (t!"Neo4jPropertyGraph.add_link#0", t!"row.v"),
  (t!"Neo4jCBMGraph.get_matching_nodes_with_components#0", t!"row.v"),
  (t!"Neo4jCBMGraph.get_matching_nodes_with_components#0", t!"row.resource_model") ]

/-- The known findings are keyed by call site and argument; this is what keeps a FURTHER value leaking into an already listed
statement from going unnoticed (`node_id`, `node_a`, `node_b`, the graph ids of these sites stay parameters).  Stated over the set of
variants of a call site, so that a rewrite that adds or reorders branches does not disturb it. -/
theorem leaked_values_exact :
    (∀ op ∈ ops, valueDependentKeys.contains op.key = true → ∀ x ∈ leaks op.tpl, allowedLeaks.contains (op.key, x) = true) ∧
    (∀ kx ∈ allowedLeaks, ∃ op ∈ ops, op.key = kx.1 ∧ kx.2 ∈ leaks op.tpl) := by
  -- unlisted call sites leak nothing (no premise needed); the leak is looked for before the key: long keys are compared rarely
  have h1 : ∀ op ∈ ops, ∀ x ∈ leaks op.tpl, allowedLeaks.contains (op.key, x) = true := by decide +kernel
  have h2 : ∀ kx ∈ allowedLeaks, ∃ op ∈ ops, kx.2 ∈ leaks op.tpl ∧ op.key = kx.1 := by decide +kernel
  exact ⟨fun op hop _ => h1 op hop, fun kx hkx => let ⟨op, hop, hl, hk⟩ := h2 kx hkx; ⟨op, hop, hk, hl⟩⟩

/-- The guarded form of the full statement, for EVERY template (those of the value-dependent call sites too): the text depends on
no stored value other than the ones the template leaks.  With `leaked_values_exact`: every other argument of the listed operations
reaches the driver as a parameter. -/
theorem data_independent_up_to_leaks_partial (t : List Piece) (e1 e2 : Env)
    (hs : e1.eraseExcept (leaks t) = e2.eraseExcept (leaks t)) : render e1 t = render e2 t := by
  rw [render_eraseExcept t e1, render_eraseExcept t e2, hs]

/-- non-vacuity of the hypothesis, for `update_node_properties` -/
example :
    let L := leaks op_Neo4jPropertyGraph_update_node_properties_s0_v0.tpl
    let e1 : Env := ⟨[], [(t!"node_id", t!"n1"), (t!"graph_id", t!"g")], [(t!"props", [⟨[(t!"k", t!"Name")], [(t!"v", t!"it's")]⟩])]⟩
    let e2 : Env := ⟨[], [(t!"node_id", t!"x' //"), (t!"graph_id", t!"\"")], [(t!"props", [⟨[(t!"k", t!"Name")], [(t!"v", t!"it's")]⟩])]⟩
    e1.eraseExcept L = e2.eraseExcept L ∧ e1 ≠ e2 := by decide +kernel

/-- what the interpolation in `update_node_properties` permits: a stored value `x'} DETACH DELETE s //` yields a
statement that still passes the lint; the text shows it is a different statement (it deletes the node) -/
theorem injection_rewrites_statement :
    let e : Env := ⟨[], [], [(t!"props", [⟨[(t!"k", t!"Name")], [(t!"v", t!"x'} DETACH DELETE s //")]⟩])]⟩
    render e op_Neo4jPropertyGraph_update_node_properties_s0_v0.tpl =
      t!"MATCH (s:GraphNode {GraphID: $graphId, NodeID: $nodeId}) SET s+= { Name: 'x'} DETACH DELETE s //' } RETURN properties(s)"
    ∧ checkStmt (render e op_Neo4jPropertyGraph_update_node_properties_s0_v0.tpl)
        op_Neo4jPropertyGraph_update_node_properties_s0_v0.supplied = true := by decide +kernel

/-- every referenced variable is bound where it is referenced (Cypher scoping) -/
def bound_ok (text : Text) : Bool := (lint text []).unbound.isEmpty

/-- The lint's verdict does not depend on the class, relation and property names.  `cleanFor`: holes are whole words, at positions
where the scoping pass ignores identifiers (labels, relationship types, property names, map keys, inside literals). -/
theorem lint_verdict_independent_of_identifiers (ρ : Nat → Text) (hρ : GoodSubst ρ) (t : Text) (hc : cleanFor t = true)
    (sup : List Text) : lint (expand ρ t) sup = lint t sup := lint_expand hρ hc

theorem bound_ok_independent_of_identifiers (ρ₁ ρ₂ : Nat → Text) (h₁ : GoodSubst ρ₁) (h₂ : GoodSubst ρ₂) (t : Text)
    (hc : cleanFor t = true) : bound_ok (expand ρ₁ t) = bound_ok (expand ρ₂ t) := by
  unfold bound_ok; rw [lint_expand h₁ hc, lint_expand h₂ hc]

theorem goodSubst_of_values {ρ : Nat → Text} (l : List Text) (hl : ∀ x ∈ l, identOK x = true ∧ reservedKeys.contains x = false)
    (hρ : ∀ k, ρ k ∈ l) : GoodSubst ρ :=
  ⟨fun k => (hl _ (hρ k)).1, fun k _ => (hl _ (hρ k)).2⟩

/-- a filling with the library's own names, for the examples below -/
def rhoSample : Nat → Text := fun k => if k == 0 then t!"NetworkNode" else if k == 3 then t!"Capacities" else if k == 20 then t!"Site" else t!"has"
example : GoodSubst rhoSample :=
  goodSubst_of_values [t!"NetworkNode", t!"Capacities", t!"Site", t!"has"] (by decide +kernel) fun k => by
    unfold rhoSample; repeat' split
    all_goals simp only [List.mem_cons, true_or, or_true]

/-- Cypher scoping is what the binder follows.  (1) a WITH closes the scope: `n`, projected away, is reported when used later;
(2) the same reference BEFORE the WITH is fine; (3) `WITH *` keeps everything; (4) YIELD and UNWIND … AS introduce their names;
(5) a reference in a clause that precedes the binding clause is reported (binding is sequential); (6) UNION starts from nothing. -/
theorem scoping_follows_cypher :
    (lint t!"match (n:GraphNode {GraphID: $g}), (m:GraphNode {GraphID: $h}) with head(collect([n, m])) as nodes call apoc.refactor.mergeNodes(nodes, {mergeRels: true}) yield node set node.GraphID = n.GraphID return node" [t!"g", t!"h"]).unbound = [t!"n"] ∧
    (lint t!"match (n:GraphNode {GraphID: $g}), (m:GraphNode {GraphID: $h}) set m.GraphID = n.GraphID with head(collect([n, m])) as nodes call apoc.refactor.mergeNodes(nodes, {mergeRels: true}) yield node return node" [t!"g", t!"h"]).defects = [] ∧
    (lint t!"match (n:GraphNode {GraphID: $g}) with *, count(n) as c set n.Count = c return n" [t!"g"]).defects = [] ∧
    (lint t!"match (a {GraphID: $g}) call apoc.nodes.delete(a, 10) yield value unwind value as v return v, w" [t!"g"]).unbound = [t!"w"] ∧
    (lint t!"match (a {GraphID: $g}) where b.NodeID = a.NodeID match (b) return a" [t!"g"]).unbound = [t!"b"] ∧
    (lint t!"match (a {GraphID: $g}) return a as x union match (b) return a as x" [t!"g"]).unbound = [t!"a"] := by decide +kernel

/-- clause structure: a clause keyword, boolean word or operator symbol without its operand, a dangling comma, clauses in an order
Cypher rejects -/
theorem clause_structure_checked :
    (lint t!"MATCH(n:GraphNode:NetworkNode {GraphID: $g, Site: \"RENC\" }) WHERE  RETURN collect(n.NodeID) as candidate_ids" [t!"g"]).defects = ["empty-clause"] ∧
    (lint t!"MATCH (n {GraphID: $g}) WHERE n.a = 1 and  RETURN n" [t!"g"]).defects = ["empty-clause"] ∧
    (lint t!"MATCH (n {GraphID: $g}) WHERE ( and n.a = 1) RETURN n" [t!"g"]).defects = ["missing-operand"] ∧
    (lint t!"MATCH (n {GraphID: $g}) SET n.a =  RETURN n" [t!"g"]).defects = ["missing-operand"] ∧
    (lint t!"MATCH (n {GraphID: $g, Name: }) RETURN n" [t!"g"]).defects = ["missing-operand"] ∧
    (lint t!"MATCH (n {GraphID: $g, }) RETURN n" [t!"g"]).defects = ["dangling-comma"] ∧
    (lint t!"MATCH (n {GraphID: $g}) WHERE n.a = 1 WHERE n.b = 2 RETURN n" [t!"g"]).defects = ["clause-order"] ∧
    (lint t!"MATCH (n {GraphID: $g}) RETURN n SET n.a = 1" [t!"g"]).defects = ["clause-order"] ∧
    (lint t!"MATCH (n {GraphID: $g}) WHERE n.a = 1" [t!"g"]).defects = ["clause-order"] := by decide +kernel

/-- An empty entry in the middle or at the end of a map / list / item list (`{ a: 'x', , b: 'y' }`, `{ a: 'x', }`: a comma followed
by a comma, a closing bracket or nothing) is reported as `dangling-comma`, in any statement and at any position. -/
theorem lint_rejects_empty_entry (text : Text) (supplied : List Text) (pre post : List Tok)
    (h : classify none (lexRaw text).toks = pre ++ Tok.sym cp%',' :: post) (hb : commaBad post.head? = true) :
    "dangling-comma" ∈ (lint text supplied).defects :=
  dangling_mem_defects text supplied (h ▸ scan_dangling_of_sym _ post (by rw [hb]; rfl) pre none none St.init)

/-- an empty FIRST entry (`{ , a: 'x' }`, `[ , 1]`, `( , n)`) is rejected in the same way -/
theorem lint_rejects_leading_empty_entry (text : Text) (supplied : List Text) (pre post : List Tok) (c : Nat) (hc : isOpener c = true)
    (h : classify none (lexRaw text).toks = pre ++ Tok.sym c :: Tok.sym cp%',' :: post) :
    "dangling-comma" ∈ (lint text supplied).defects :=
  dangling_mem_defects text supplied (h ▸ scan_dangling_of_sym c _ (by rw [hc]; exact Bool.or_true _) pre none none St.init)

set_option maxRecDepth 1000000 in
/-- non-vacuity: the statement update_node_properties would issue with an emptied middle entry has that token shape -/
example : ∃ pre post, classify none (lexRaw t!"MATCH (s {GraphID: $g}) SET s+= { Name: 'n1', , Site: 'RENC' } RETURN properties(s)").toks
      = pre ++ Tok.sym cp%',' :: post ∧ commaBad post.head? = true :=
  ⟨(classify none (lexRaw t!"MATCH (s {GraphID: $g}) SET s+= { Name: 'n1', , Site: 'RENC' } RETURN properties(s)").toks).take 17,
   (classify none (lexRaw t!"MATCH (s {GraphID: $g}) SET s+= { Name: 'n1', , Site: 'RENC' } RETURN properties(s)").toks).drop 18, by decide +kernel⟩

/-- empty map entries: a `{ }` map built by joining per-entry fragments of which one is empty (an entry skipped by emptying it
instead of filtering it) has a doubled, leading or trailing comma - rejected at every position, in both literal styles and in the
apoc.create.node form; the empty map itself and a map with every entry present are accepted -/
theorem empty_map_entries_rejected :
    (lint t!"MATCH (s:GraphNode {GraphID: $g, NodeID: $n}) SET s+= { Name: 'n1', , Site: 'RENC' } RETURN properties(s)" [t!"g", t!"n"]).defects = ["dangling-comma"] ∧
    (lint t!"MATCH (s:GraphNode {GraphID: $g, NodeID: $n}) SET s+= { , Site: 'RENC' } RETURN properties(s)" [t!"g", t!"n"]).defects = ["dangling-comma"] ∧
    (lint t!"MATCH (s:GraphNode {GraphID: $g, NodeID: $n}) SET s+= { Name: 'n1',  } RETURN properties(s)" [t!"g", t!"n"]).defects = ["dangling-comma"] ∧
    (lint t!"MATCH (s:GraphNode {GraphID: $g, NodeID: $n}) SET s+= { , ,  } RETURN properties(s)" [t!"g", t!"n"]).defects = ["dangling-comma"] ∧
    (lint t!"MATCH (a {GraphID: $g}) -[r:has]- (b {GraphID: $g}) SET r+= { Name: \"n1\", , Site: \"RENC\" } RETURN properties(r)" [t!"g"]).defects = ["dangling-comma"] ∧
    (lint t!"CALL apoc.create.node([ 'GraphNode', 'X' ], { Class: 'X', , NodeID: 'n' });" []).defects = ["dangling-comma"] ∧
    (lint t!"MATCH (s:GraphNode {GraphID: $g, NodeID: $n}) SET s+= {  } RETURN properties(s)" [t!"g", t!"n"]).defects = [] ∧
    (lint t!"MATCH (s:GraphNode {GraphID: $g, NodeID: $n}) SET s+= { Name: 'None', Site: '' } RETURN properties(s)" [t!"g", t!"n"]).defects = [] := by
  decide +kernel

/-- every class, relation and property name the library knows (regenerated from abc_property_graph_constants.py) may fill a hole as
far as `identOK` goes; `GoodSubst` further excludes the reserved keys `Class`, `GraphID`, `NodeID`, which are property names, from
the holes of map keys -/
theorem vocabulary_fills_holes : ∀ x ∈ classesT ++ relsT ++ propsT, identOK x = true := by
  simp only [identOK, isKw_eq_isKwL]
  decide +kernel

/-- what is checked on a template rendered with holes: the side conditions of the two commutation theorems, and the lint itself -/
def holeChecked (op : Op) (e : Env) : Bool :=
  renderOK e op.tpl && cleanFor (render e op.tpl) && checkStmt (render e op.tpl) op.supplied

/-- templates that iterate over no mapping: ONE evaluation with a hole in every identifier slot -/
theorem hole_templates_clean_scalar : ∀ op ∈ ops, usesMaps op.tpl = false → holeChecked op (holeEnv 0 false) = true := by
  -- evaluated with `classifyL`, which does not compare every word with all the keywords
  simp only [holeChecked, cleanFor, checkStmt, lint, lintCodes, classify_eq_classifyL]
  decide +kernel

theorem holeChecked_congr {op : Op} {e e' : Env} (hi : e.idents = e'.idents) (hv : e.values = e'.values)
    (hm : ∀ m ∈ mapArgs op.tpl, getMap e m = getMap e' m) : holeChecked op e = holeChecked op e' := by
  unfold holeChecked; rw [render_congr hi hv hm, renderOK_congr hi hv hm]

theorem getMap_holeEnv (n : Nat) (b : Bool) {m : Text} (hm : m ≠ t!"component_counts") :
    getMap (holeEnv n b) m = getMap (holeEnv n false) m := by
  have h : (t!"component_counts" == m) = false := beq_false_of_ne (Ne.symm hm)
  cases h1 : (t!"props" == m) <;> cases h2 : (t!"merge_properties" == m) <;>
    simp only [getMap, holeEnv, List.find?_cons, h, h1, h2]

theorem hole_templates_clean_comps :
    ∀ op ∈ ops, (mapArgs op.tpl).contains t!"component_counts" = true →
      ∀ e ∈ holeEnvs, op.reachable e = true → holeChecked op e = true := by
  simp only [holeChecked, cleanFor, checkStmt, lint, lintCodes, classify_eq_classifyL]
  decide +kernel

/-- `holeEnvs` by number of rows, each with the values of `withComps` it occurs with -/
def holeShapes : List (Nat × List Bool) := [(0, [false]), (1, [true, false]), (2, [true, false]), (3, [true])]

theorem holeEnvs_eq : holeEnvs = holeShapes.flatMap fun s => s.2.map (holeEnv s.1) := rfl

/-- whether components are counted makes no difference to the other templates over mappings (`render_congr`): each number of entries in
which such a template can run is evaluated once -/
theorem hole_templates_clean_rows :
    ∀ op ∈ ops, usesMaps op.tpl = true → (mapArgs op.tpl).contains t!"component_counts" = false →
      ∀ s ∈ holeShapes, (∃ b ∈ s.2, op.reachable (holeEnv s.1 b) = true) → holeChecked op (holeEnv s.1 false) = true := by
  simp only [holeChecked, cleanFor, checkStmt, lint, lintCodes, classify_eq_classifyL]
  decide +kernel

/-- templates that iterate over a mapping (property map, merge strategies, counted components): every shape of `holeEnvs` in which
they can run, with a hole in every identifier slot, map key, merge behaviour and component type (a row of `holeEnvs` has every field;
no row lacks its type or model) -/
theorem hole_templates_clean_maps :
    ∀ op ∈ ops.filter (fun op => usesMaps op.tpl), ∀ e ∈ holeEnvs, op.reachable e = true → holeChecked op e = true := by
  intro op hop e he hr
  obtain ⟨hop, hu⟩ := List.mem_filter.mp hop
  cases hc : (mapArgs op.tpl).contains t!"component_counts" with
  | true => exact hole_templates_clean_comps op hop hc e he hr
  | false =>
    rw [holeEnvs_eq] at he
    obtain ⟨s, hs, he⟩ := List.mem_flatMap.mp he
    obtain ⟨b, hb, rfl⟩ := List.mem_map.mp he
    rw [holeChecked_congr (e := holeEnv s.1 b) (e' := holeEnv s.1 false) rfl rfl fun m hm =>
      getMap_holeEnv s.1 b fun h => by rw [← h, List.contains_iff_mem.mpr hm] at hc; cases hc]
    exact hole_templates_clean_rows op hop hu hc s hs ⟨b, hb, hr⟩

theorem hole_templates_clean (op : Op) (hop : op ∈ ops) (e : Env) (he : e ∈ holeEnvs) (hr : op.reachable e = true) :
    holeChecked op e = true := by
  cases hu : usesMaps op.tpl with
  | true => exact hole_templates_clean_maps op (List.mem_filter.mpr ⟨hop, hu⟩) e he hr
  | false =>
    have hi : e.idents = (holeEnv 0 false).idents ∧ e.values = (holeEnv 0 false).values := by
      simp only [holeEnvs, List.mem_cons, List.not_mem_nil, or_false] at he
      rcases he with rfl | rfl | rfl | rfl | rfl | rfl <;> exact ⟨rfl, rfl⟩
    rw [holeChecked_congr hi.1 hi.2 (mapArgs_noMaps hu ▸ nofun)]
    exact hole_templates_clean_scalar op hop hu

example : cleanFor (render (holeEnv 2 true) op_Neo4jPropertyGraph_merge_nodes_s0_v0.tpl) = true := by
  have h := hole_templates_clean op_Neo4jPropertyGraph_merge_nodes_s0_v0 (by simp only [ops, List.mem_cons, true_or, or_true])
    (holeEnv 2 true) (by simp [holeEnvs]) (by decide +kernel)
  simp only [holeChecked, Bool.and_eq_true] at h
  exact h.1.2

/-- Well-formedness for ALL identifiers: for every statement template, every argument shape of `holeEnvs` in which it can run and
EVERY choice of class, relation and property names, map keys, merge behaviours and component types (map keys other than the reserved
`Class` / `GraphID` / `NodeID`, which would replace an entry of the statement's own dict literal), the statement handed to the driver
passes the lint.  Stored values and counts are the canonical ones here (`wellformed_all_identifiers_all_values` frees the values of
the value-free call sites).
`ρ` is a free choice per slot because the slots of a member of `holeEnvs` carry pairwise distinct hole numbers: scalar slots 0-8,
below `rowBase` = 20; row `i` of the three mappings three each from 20 + 4i, 40 + 4i, 60 + 4i, distinct up to five rows, and
`holeEnvs` has at most three. -/
theorem wellformed_all_identifiers (op : Op) (hop : op ∈ ops) (e : Env) (he : e ∈ holeEnvs) (hr : op.reachable e = true)
    (ρ : Nat → Text) (hρ : GoodSubst ρ) : checkStmt (render (e.expandAll ρ) op.tpl) op.supplied = true := by
  have h := hole_templates_clean op hop e he hr
  simp only [holeChecked, Bool.and_eq_true] at h
  exact (checkStmt_render_expandAll hρ h.1.1 h.1.2).trans h.2

theorem wellformed_all_identifiers_all_values (op : Op) (hop : op ∈ ops) (hk : op.key ∉ valueDependentKeys) (e0 : Env)
    (he : e0 ∈ holeEnvs) (hr : op.reachable e0 = true) (ρ : Nat → Text) (hρ : GoodSubst ρ) (e : Env)
    (hs : e.erase = (e0.expandAll ρ).erase) : checkStmt (render e op.tpl) op.supplied = true :=
  wellformed_extends_to_all_values op.tpl (value_free_except_listed op hop hk) op.supplied (e0.expandAll ρ) e hs
    (wellformed_all_identifiers op hop e0 he hr ρ hρ)

/-- non-vacuity: one filling gives the canonical identifiers, the sample filling names from the library's vocabulary -/
example : ((holeEnv 1 true).expandAll (fun _ => t!"X")).idents = canonEnv.idents := by decide +kernel
example : render ((holeEnv 1 true).expandAll rhoSample) op_Neo4jPropertyGraph_add_node_s0_v0.tpl =
    t!"CALL apoc.create.node([ 'GraphNode', 'NetworkNode' ], { Class: 'NetworkNode', GraphID: 'v', NodeID: 'v', Site: 'v' });" := by
  decide +kernel

/-- the canonical names as a filling of the holes (`holeRow b` numbers key, merge behaviour and component type `b`, `b + 1`, `b + 2`,
and every `b` in `holeEnv` is a multiple of 4) -/
def rhoCanon : Nat → Text := fun k =>
  if k < rowBase then t!"X" else if k % 4 = 1 then t!"discard" else if k % 4 = 2 then t!"GPU" else t!"K"

theorem rhoCanon_good : GoodSubst rhoCanon :=
  goodSubst_of_values [t!"X", t!"discard", t!"GPU", t!"K"] (by decide +kernel) fun k => by
    unfold rhoCanon; repeat' split
    all_goals simp only [List.mem_cons, true_or, or_true]

theorem wellformed_filled {e0 e : Env} (he0 : e0 ∈ holeEnvs) {ρ : Nat → Text} (hρ : GoodSubst ρ) (he : e0.expandAll ρ = e)
    (op : Op) (hop : op ∈ ops) (hr : op.reachable e = true) : checkStmt (render e op.tpl) op.supplied = true := by
  subst he
  exact wellformed_all_identifiers op hop e0 he0 (reachable_expandAll ρ op e0 ▸ hr) ρ hρ

theorem canonEnv_filled : (holeEnv 1 true).expandAll rhoCanon = canonEnv := by decide +kernel
theorem emptyMapsEnv_filled : (holeEnv 0 false).expandAll rhoCanon = emptyMapsEnv := by decide +kernel
theorem propsOnlyEnv_filled : (holeEnv 1 false).expandAll rhoCanon = propsOnlyEnv := by decide +kernel

theorem wellformed_canonical_unreachable :
    ∀ op ∈ ops, op.reachable canonEnv = false → checkStmt (render canonEnv op.tpl) op.supplied = true := by decide +kernel

/-- with the canonical identifiers every generated statement passes the lint (all eight defect classes of `lintCodes`) -/
theorem wellformed_canonical : ∀ op ∈ ops, checkStmt (render canonEnv op.tpl) op.supplied = true := by
  intro op hop
  cases hr : op.reachable canonEnv with
  | true => exact wellformed_filled (by simp [holeEnvs]) rhoCanon_good canonEnv_filled op hop hr
  | false => exact wellformed_canonical_unreachable op hop hr

/-- EMPTY containers (empty props dict, empty merge_properties, component info without devices) and mappings without counted
components: every variant that can run in such an environment (`reachable`: the branch conditions the translator could
evaluate) still hands over a well-formed statement; rows have every field, as in `holeEnvs` -/
theorem wellformed_empty_containers :
    ∀ op ∈ ops.filter (fun op => usesMaps op.tpl), ∀ e ∈ [emptyMapsEnv, propsOnlyEnv], op.reachable e = true →
      checkStmt (render e op.tpl) op.supplied = true := by
  intro op hop e he
  have hop := (List.mem_filter.mp hop).1
  simp only [List.mem_cons, List.not_mem_nil, or_false] at he
  rcases he with rfl | rfl
  · exact wellformed_filled (by simp [holeEnvs]) rhoCanon_good emptyMapsEnv_filled op hop
  · exact wellformed_filled (by simp [holeEnvs]) rhoCanon_good propsOnlyEnv_filled op hop

/-- `get_matching_nodes_with_components(props={})` (the separator travels with each property): the map is
`{GraphID: $graphId }`, no dangling comma -/
theorem get_matching_nodes_empty_props_wellformed :
    op_Neo4jCBMGraph_get_matching_nodes_with_components_s0_v0.reachable emptyMapsEnv = true ∧
    render emptyMapsEnv op_Neo4jCBMGraph_get_matching_nodes_with_components_s0_v0.tpl =
      t!"MATCH(n:GraphNode:X {GraphID: $graphId }) RETURN collect(n.NodeID) as candidate_ids" ∧
    (lint (render emptyMapsEnv op_Neo4jCBMGraph_get_matching_nodes_with_components_s0_v0.tpl)
      op_Neo4jCBMGraph_get_matching_nodes_with_components_s0_v0.supplied).defects = [] := by
  have hr : op_Neo4jCBMGraph_get_matching_nodes_with_components_s0_v0.reachable emptyMapsEnv = true := by decide +kernel
  exact ⟨hr, by decide +kernel, List.isEmpty_iff.mp (wellformed_filled (by simp [holeEnvs]) rhoCanon_good emptyMapsEnv_filled _
    (by simp only [ops, List.mem_cons, true_or, or_true]) hr)⟩

theorem wellformed_all_values_except_listed (op : Op) (hop : op ∈ ops) (hk : op.key ∉ valueDependentKeys)
    (e : Env) (hs : e.erase = canonEnv.erase) : checkStmt (render e op.tpl) op.supplied = true :=
  wellformed_extends_to_all_values op.tpl (value_free_except_listed op hop hk) op.supplied canonEnv e hs
    (wellformed_canonical op hop)

/-! Histories of calls.  `σ` stands for everything that can carry a stored value from one call to a later one: the database, results
the caller kept, whatever a graph handle (or a class-level table) remembers.  A step issues the statement of one call site; `env`
says - arbitrarily - what reaches the call's arguments in a given state, `next` how the call changes the state. -/
structure Step (σ : Type) where
  op : Op
  env : σ → Env
  next : σ → σ

def runHist {σ : Type} : List (Step σ) → σ → List Text
  | [], _ => []
  | c :: rest, s => render (c.env s) c.op.tpl :: runHist rest (c.next s)

/-- the state decides values only: names, identifiers and the shapes of the mappings of every call are the caller's -/
def StateFeedsValuesOnly {σ : Type} (h : List (Step σ)) : Prop :=
  ∀ c ∈ h, ∀ a b : σ, (c.env a).erase = (c.env b).erase

/-- Over a whole history of value-free call sites the texts handed to the driver are the same from any two initial states, however
stored values are routed from earlier calls into the value arguments of later ones (second-order flows included). -/
theorem history_texts_independent_of_state {σ : Type} (h : List (Step σ))
    (hvf : ∀ c ∈ h, valueFree c.op.tpl = true) (hid : StateFeedsValuesOnly h) (a b : σ) :
    runHist h a = runHist h b := by
  induction h generalizing a b with
  | nil => rfl
  | cons c rest ih =>
    have h1 : render (c.env a) c.op.tpl = render (c.env b) c.op.tpl :=
      no_value_piece_data_independent c.op.tpl (hvf c (List.mem_cons_self ..)) _ _ (hid c (List.mem_cons_self ..) a b)
    have h2 : runHist rest (c.next a) = runHist rest (c.next b) :=
      ih (fun c' hc' => hvf c' (List.mem_cons_of_mem _ hc')) (fun c' hc' => hid c' (List.mem_cons_of_mem _ hc')) _ _
    simp only [runHist, h1, h2]

theorem history_data_independent_except_listed {σ : Type} (h : List (Step σ))
    (hops : ∀ c ∈ h, c.op ∈ ops ∧ c.op.key ∉ valueDependentKeys) (hid : StateFeedsValuesOnly h) (a b : σ) :
    runHist h a = runHist h b :=
  history_texts_independent_of_state h (fun c hc => value_free_except_listed c.op (hops c hc).1 (hops c hc).2) hid a b

/-- non-vacuity: the state is the Class string a node holds; a read leaves it, the later write gets it as a VALUE argument -/
def readThenWrite : List (Step Text) :=
  [⟨op_Neo4jPropertyGraph_get_node_properties_s0_v0, fun _ => ⟨[], [(t!"node_id", t!"n1")], []⟩, id⟩,
   ⟨op_Neo4jPropertyGraph_update_node_property_s0_v0, fun s => ⟨[(t!"prop_name", t!"Name")], [(t!"node_id", t!"n1"), (t!"prop_val", s)], []⟩, id⟩]
example : StateFeedsValuesOnly readThenWrite := by
  intro c hc a b
  simp only [readThenWrite, List.mem_cons, List.mem_nil_iff, or_false] at hc
  rcases hc with rfl | rfl <;> rfl
example : runHist readThenWrite t!"NetworkNode" = runHist readThenWrite t!"x' }) DETACH DELETE s //" := by decide +kernel

/-- the hypothesis is needed: a step that lets the state choose an IDENTIFIER (the form of a handle that pastes a remembered Class string
behind `:GraphNode:`) issues different texts from different states -/
def rememberedLabel : List (Step Text) :=
  [⟨op_Neo4jPropertyGraph_get_all_nodes_by_class_s0_v0, fun s => ⟨[(t!"label", s)], [], []⟩, id⟩]
theorem state_in_identifier_position_counterexample :
    runHist rememberedLabel t!"NetworkNode" ≠ runHist rememberedLabel t!"x {GraphID: $x}) DETACH DELETE n //" := by decide +kernel

end FimVerif.C19
