import FimVerif.Proofs.Lemmas.C12Details
import FimVerif.Proofs.Lemmas.C12Api
import FimVerif.Proofs.Lemmas.C12Annotate
import FimVerif.Proofs.Lemmas.C12Single
import FimVerif.Model.DelegHeap
/-!
# C12 — delegations and pools survive encoding and regrouping unchanged

Model: `Model/Deleg.lean`, a hand mirror of `fim/slivers/delegations.py` checked differentially; key constants
`Generated/DelegConsts.lean`, regenerated every run.  The generic theorems take abstract details (`DetailOps D`) with the
details' own round trip `DetOk` (`Cls(**x.to_dict()) == x`) as a hypothesis.  The `_real` ones instantiate them with the C03
model of `Capacities` / `Labels` (`Model/DelegDet.lean`, what the driver executes) and discharge `DetOk` from C03's
losslessness theorems (`Lemmas/C12Details.lean`).  Left abstract there: `valid`, the label value validators (C16), and JSON
*text* (`json.dumps` / `json.loads` are taken as the identity on values).  The `hist_*` theorems are about one `Pools` object
whose pools are mutated between indexing runs (`Model/DelegHeap.lean`).
-/
namespace FimVerif.C12
open FimVerif.Deleg FimVerif.Gen.DelegConsts

variable {D : Type}

/-! ## Codec: `Delegations.to_json` / `from_json`

The name `singlePoolName` (`"_"`) marks a single-resource delegation in the text, so a pool definition carrying it would
decode as a single-resource delegation (the harness reports that as `C12:codec:definition-of-pool-named-single-sentinel`).
`Delegation(...)`, `Pool(...)` and `add_pool` refuse the name (`reserved_name_rejected`), so the clause
"a pool name is not `singlePoolName`" of `WFDeleg` excludes nothing that can be constructed (`constructed_pool_name`). -/

/-- the reserved name cannot be given to a pool: `Delegation(...)` (definition / reference), `Pool(...)`, `add_pool` and the
step of `incorporate_delegation` that finds or creates the pool of an entry (`poolFor`) all refuse it -/
theorem reserved_name_rejected (ty : DType) (id : String) (fmt : Fmt) (hf : fmt ≠ .single) (deleg on_ : Option String)
    (for_ : List String) (ps : Pools D) (p : Pool D) (hp : p.pid = singlePoolName) :
    (mkDelegation ty id fmt (some singlePoolName) : Except Err (Delegation D)) = .error .delegation ∧
    (newPool ty singlePoolName deleg on_ for_ : Except Err (Pool D)) = .error .pool ∧
    addPool ps p = .error .pool ∧
    ((∀ q ∈ ps.byId, q.pid ≠ singlePoolName) → poolFor ty ps.byId singlePoolName = .error .pool) := by
  refine ⟨by simp [mkDelegation, hf], by simp [newPool], by rw [addPool_eq, if_neg (by simp [admitted, hp])], fun h => ?_⟩
  cases hg : getPool ps.byId singlePoolName with
  | some q => exact absurd (getPool_some hg).2 (h q (getPool_some hg).1)
  | none => simp [poolFor, hg, newPool]

/-- what `Delegation(...)` returns already has the pool name `WFDeleg` asks for -/
theorem constructed_pool_name (ty : DType) (id : String) (fmt : Fmt) (pool : Option String) (d : Delegation D)
    (h : mkDelegation ty id fmt pool = .ok d) :
    d.fmt = fmt ∧ d.pool = pool ∧ d.ty = ty ∧ d.id = id ∧ d.details = none ∧
      (fmt ≠ .single → match pool with | none => False | some p => p ≠ singlePoolName) := by
  obtain ⟨he, hp⟩ := mkDelegation_ok h
  refine ⟨he ▸ rfl, he ▸ rfl, he ▸ rfl, he ▸ rfl, he ▸ rfl, fun hf => ?_⟩
  cases pool <;> exact hp hf

/-- **the sentinel test is equality, at every site**: a name that starts or ends with `singlePoolName`, contains it or doubles
it is accepted and kept as it is (the translator probes exactly this on the code: gen/delegconsts.py `_probe_sentinel_sites`) -/
theorem sentinel_exact_sites (ty : DType) (id : String) (fmt : Fmt) (hf : fmt ≠ .single) (p : String)
    (deleg on_ : Option String) (for_ : List String) (ps : Pools D) (q : Pool D) (hq : q.ty = ps.ty) (hqp : q.pid = p) :
    ((mkDelegation ty id fmt (some p) : Except Err (Delegation D)) =
        if p = singlePoolName then .error .delegation else .ok { ty := ty, id := id, fmt := fmt, pool := some p, details := none }) ∧
    ((newPool ty p deleg on_ for_ : Except Err (Pool D)) =
        if p = singlePoolName then .error .pool else .ok (mkPool ty p deleg on_ for_)) ∧
    (addPool ps q = if p = singlePoolName then .error .pool else .ok { ps with byId := putPool q ps.byId }) := by
  refine ⟨?_, ?_, ?_⟩
  · by_cases h : p = singlePoolName <;> simp [mkDelegation, hf, h]
  · simp [newPool]
  · by_cases h : p = singlePoolName <;> simp [addPool, hq, hqp, h]

/-- **the decoder's sentinel test is equality**: an entry `from_json` accepts with `pool_id` `p` is a single-resource delegation
iff `p = singlePoolName`, and the definition of the pool named `p` otherwise (cf. seeded C12-r4-1: `startswith`) -/
theorem sentinel_exact_decode (ops : DetailOps D) (ty : DType) (ds ds' : Delegations D) (k p : String)
    (e : List (String × Deleg.JVal)) (h : lookup fieldPoolId e = some (.str p))
    (hd : decodeEntry ops ty ds k (.obj e) = .ok ds') :
    ∃ d, ds'.items = ds.items ++ [d] ∧ d.id = k ∧
      ((p = singlePoolName ∧ d.fmt = .single ∧ d.pool = none) ∨ (p ≠ singlePoolName ∧ d.fmt = .definition ∧ d.pool = some p)) := by
  unfold decodeEntry at hd
  simp only [h] at hd
  split at hd
  · cases hd -- capacities and labels mixed: refused
  · simp only [poolOf, bind, Except.bind] at hd
    split at hd
    · cases hd -- no details under `ty`'s key: refused
    · rename_i dj _
      cases hx : ops.fromDict ty dj with
      | error err => simp [hx] at hd
      | ok x =>
        simp only [hx] at hd
        refine ⟨_, decodeEntry_tail_ok ops ty k _ _ x hd, rfl, ?_⟩
        by_cases hp : p = singlePoolName <;> simp [hp]

/-- corpus/C12/pool_name_starts_with_sentinel.json: a pool named `"_mgmt"`, against the same entry under the name `"_"` -/
example : (mkDelegation .cap "d" .definition (some "_mgmt") : Except Err (Delegation Det)) =
      .ok { ty := .cap, id := "d", fmt := .definition, pool := some "_mgmt", details := none } ∧
    decodeEntry detOps .cap { ty := .cap, items := [] } "d" (.obj [(fieldPoolId, .str "_mgmt"), (fieldCapacities, .obj [("core", .int 2)])]) =
      .ok { ty := .cap, items := [{ ty := .cap, id := "d", fmt := .definition, pool := some "_mgmt",
                                    details := some (setField (defaultDet .cap) "core" (.int 2)) }] } ∧
    decodeEntry detOps .cap { ty := .cap, items := [] } "d" (.obj [(fieldPoolId, .str "_"), (fieldCapacities, .obj [("core", .int 2)])]) =
      .ok { ty := .cap, items := [{ ty := .cap, id := "d", fmt := .single, pool := none,
                                    details := some (setField (defaultDet .cap) "core" (.int 2)) }] } := ⟨rfl, rfl, rfl⟩

/-- **the codec clause**: every well-formed delegation set (single ⇒ non-empty details, no pool; definition ⇒ pool name,
non-empty details; reference ⇒ pool name, no details; distinct ids; details that survive their own codec) decodes from its
`to_json` text to exactly itself -/
theorem delegations_roundtrip (ops : DetailOps D) (ds : Delegations D) (h : WF ops ds) :
    (encode ops ds).bind (decode ops ds.ty) = .ok ds := by
  rw [encode_wf ops ds h]
  exact decode_encoded ops ds h

/-- the concrete details used for non-vacuity: `Capacities(core=2, ram=8)` and `Labels(vlan_range='1-100')` -/
def capEx : Det := setField (setField (defaultDet .cap) "core" (.int 2)) "ram" (.int 8)
def labEx : Det := setField (defaultDet .lab) "vlan_range" (.str "1-100")

/-- `detOps`: the small executable details of `Model/Deleg.lean` (generated field names, hand-written defaults and drop
rule); for the C03 model of the two classes the statement is `detOk_real` -/
theorem det_roundtrip : DetOk detOps .cap (some capEx) ∧ DetOk detOps .lab (some labEx) := by
  exact ⟨⟨rfl, rfl⟩, ⟨rfl, rfl⟩⟩

/-- the three-entry set of `delegation_label_test` -/
def dsEx : Delegations Det :=
  { ty := .cap, items := [
      { ty := .cap, id := "del1", fmt := .single, pool := none, details := some capEx },
      { ty := .cap, id := "del2", fmt := .definition, pool := some "pool1", details := some capEx },
      { ty := .cap, id := "del3", fmt := .reference, pool := some "pool1", details := none }] }

theorem dsEx_api : Reachable .cap dsEx ∧ (∀ d ∈ dsEx.items, Built detOps d) ∧ Complete detOps dsEx := by
  refine ⟨Reachable.call _ dsEx.items Reachable.new, ?_, ?_⟩
  · intro d hd
    simp only [dsEx, List.mem_cons, List.not_mem_nil, or_false] at hd
    rcases hd with rfl | rfl | rfl
    · exact Built.set _ _ capEx (Built.ctor .cap "del1" .single none _ rfl) rfl
    · exact Built.set _ _ capEx (Built.ctor .cap "del2" .definition (some "pool1") _ rfl) rfl
    · exact Built.ctor .cap "del3" .reference (some "pool1") _ rfl
  · have hs := (detOk_iff_survives.mp det_roundtrip.1).2
    intro d hd
    simp only [dsEx, List.mem_cons, List.not_mem_nil, or_false] at hd
    rcases hd with rfl | rfl | rfl
    · exact ⟨fun _ => ⟨capEx, rfl, hs⟩, fun _ => rfl⟩
    · exact ⟨fun _ => ⟨capEx, rfl, hs⟩, fun h => by cases h⟩
    · exact ⟨fun h => absurd rfl h, fun h => by cases h⟩

example : WF detOps dsEx := wf_of_api dsEx_api.1 dsEx_api.2.1 dsEx_api.2.2

/-- **the codec clause over all histories of API calls**: `Delegations(atype=ty)`, then any `add_delegations(*args)` calls
(accepted or rejected) with objects built by `Delegation(...)` and `set_details`.  The type, duplicate-id, kind-of-details,
reference-without-details and pool-name clauses of `WF` then hold by construction; `Complete` is the property's own
restriction.  Assumption: a `Delegation` is not mutated after it was handed to `add_delegations` (the container aliases it). -/
theorem delegations_roundtrip_api (ops : DetailOps D) (ty : DType) (ds : Delegations D) (hr : Reachable ty ds)
    (hb : ∀ d ∈ ds.items, Built ops d) (hc : Complete ops ds) :
    (encode ops ds).bind (decode ops ty) = .ok ds := by
  have h := delegations_roundtrip ops ds (wf_of_api hr hb hc)
  rw [(reachable_inv ty ds hr).1] at h
  exact h

example : Reachable .cap dsEx ∧ (∀ d ∈ dsEx.items, Built detOps d) ∧ Complete detOps dsEx := dsEx_api

/-- corpus/C12/pool_named_underscore.json: the definition of a pool named `"_"` cannot be built, and a text that holds a
reference to it does not decode -/
example : (mkDelegation .cap "del2" .definition (some singlePoolName) : Except Err (Delegation Det)) = .error .delegation ∧
    decode detOps .cap (.obj [("a", .obj [(fieldPool, .str singlePoolName)])]) = .error .delegation := ⟨rfl, rfl⟩

theorem rejects_mixed_details (ops : DetailOps D) (d : Delegation D) (x : D) (h : ops.kindOf x ≠ d.ty) :
    setDetails ops d x = .error .delegation := by
  simp [setDetails, h]

theorem rejects_mixed_container (ds : Delegations D) (d : Delegation D) (h : d.ty ≠ ds.ty) :
    addDelegation ds d = .error .assertion := by
  rw [addDelegation_eq, if_pos h]

theorem rejects_mixed_pools (ps : Pools D) (p : Pool D) (ds : Delegations D) (node : String) :
    (p.ty ≠ ps.ty → addPool ps p = .error .pool) ∧ (ds.ty ≠ ps.ty → incorporate ps node ds = .error .pool) := by
  constructor <;> intro h <;> simp [addPool, incorporate, h]

def otherTy : DType → DType | .cap => .lab | .lab => .cap

/-- text written for one delegation type does not decode under the other as soon as it carries details (in the code a
`KeyError` on the missing key; the statement says only that decoding does not succeed) -/
theorem decode_rejects_other_type (ops : DetailOps D) (ds : Delegations D) (h : WF ops ds)
    (d : Delegation D) (hd : d ∈ ds.items) (hfmt : d.fmt ≠ .reference) (r : Delegations D) :
    (encode ops ds).bind (decode ops (otherTy ds.ty)) ≠ .ok r := by
  rw [encode_wf ops ds h]
  simp only [Except.bind, decode]
  intro hok
  obtain ⟨b, b', hb⟩ := List.foldlM_ok_all hok (encPure ops ds.ty d) (List.mem_map.mpr ⟨d, hd, rfl⟩)
  have hne : ¬ ds.ty = otherTy ds.ty := by cases ds.ty <;> exact fun h => nomatch h
  -- a single-resource delegation or a definition is written with its details under `ds.ty`'s key
  cases hf : d.fmt with
  | reference => exact hfmt hf
  | single => simp [encPure, hf, decodeEntry_details, hne] at hb
  | definition => simp [encPure, hf, decodeEntry_details, hne] at hb

/-- `add_delegations(*args)` is accepted exactly when every argument has the container's type and the ids of container and
arguments stay distinct (`CallOk`) -/
theorem add_delegations_accepts_iff (ds : Delegations D) (args : List (Delegation D)) :
    ((addDelegations ds args).2 = none ↔ CallOk ds args) ∧
    (CallOk ds args → (addDelegations ds args).1 = { ds with items := ds.items ++ args }) := by
  refine ⟨⟨fun hn => ?_, fun hc => by rw [addDelegations_accepted ds args hc]⟩, fun hc => by rw [addDelegations_accepted ds args hc]⟩
  obtain ⟨pre, suf, rfl, hok, -, hs⟩ := addDelegations_spec ds args
  cases suf with
  | nil => rw [List.append_nil]; exact hok
  | cons x rest =>
    obtain ⟨e, he, -⟩ := hs
    rw [he] at hn
    cases hn

/-- **duplicate ids are always rejected**, wherever the two holders of the id are: one in the container (an earlier call)
and one among the arguments, or both among the arguments of ONE call -/
theorem rejects_duplicate_id (ds : Delegations D) (args : List (Delegation D))
    (hdup : (∃ e ∈ ds.items, ∃ a ∈ args, e.id = a.id) ∨ ¬ args.Pairwise (fun a b => a.id ≠ b.id)) :
    (addDelegations ds args).2 ≠ none := by
  intro h
  obtain ⟨_, h2, h3⟩ := (add_delegations_accepts_iff ds args).1.mp h
  rcases hdup with ⟨e, he, a, ha, heq⟩ | hnp
  · exact h2 a ha e he heq
  · exact hnp h3

theorem rejects_duplicate_in_call (ds : Delegations D) (pre mid post : List (Delegation D)) (a b : Delegation D)
    (hid : a.id = b.id) :
    (addDelegations ds (pre ++ a :: mid ++ b :: post)).2 ≠ none ∧
    ((∀ x ∈ pre ++ a :: mid ++ b :: post, x.ty = ds.ty) →
      (addDelegations ds (pre ++ a :: mid ++ b :: post)).2 = some .delegation) := by
  have hrej : (addDelegations ds (pre ++ a :: mid ++ b :: post)).2 ≠ none := by
    apply rejects_duplicate_id ds _ (Or.inr _)
    intro hp
    exact (List.pairwise_append.mp hp).2.2 a (by simp) b (by simp) hid
  exact ⟨hrej, fun hty => addDelegations_err_kind ds _ hty hrej⟩

theorem rejects_duplicate_across_calls (ds : Delegations D) (d e : Delegation D) (hty : d.ty = ds.ty)
    (he : e ∈ ds.items) (hid : e.id = d.id) : addDelegation ds d = .error .delegation := by
  rw [addDelegation_eq, if_neg (Decidable.not_not.mpr hty), if_pos ⟨e, he, hid⟩]

theorem rejects_mixed_in_call (ds : Delegations D) (args : List (Delegation D)) (a : Delegation D)
    (ha : a ∈ args) (hty : a.ty ≠ ds.ty) : (addDelegations ds args).2 ≠ none := by
  intro h
  exact hty (((add_delegations_accepts_iff ds args).1.mp h).1 a ha)

/-- a rejected call is not undone (the code's loop stores argument by argument): the container keeps the longest acceptable
prefix of the arguments -/
theorem add_delegations_state (ds : Delegations D) (args : List (Delegation D)) :
    ∃ pre suf, args = pre ++ suf ∧ (addDelegations ds args).1 = { ds with items := ds.items ++ pre } ∧
      CallOk ds pre ∧ ((addDelegations ds args).2 = none → suf = []) ∧
      ((addDelegations ds args).2 ≠ none → ∃ x rest, suf = x :: rest ∧ ¬ CallOk ds (pre ++ [x])) := by
  obtain ⟨pre, suf, h1, hok, hst, hs⟩ := addDelegations_spec ds args
  refine ⟨pre, suf, h1, hst, hok, ?_⟩
  cases suf with
  | nil => exact ⟨fun _ => rfl, fun hne => absurd hs hne⟩
  | cons x rest =>
    obtain ⟨e, he, hx⟩ := hs
    exact ⟨fun hn => (by rw [he] at hn; cases hn), fun _ => ⟨x, rest, rfl, not_callOk_of_error hx⟩⟩

example :
    let d1 : Delegation Det := { ty := .cap, id := "a", fmt := .single, pool := none, details := some capEx }
    let d2 : Delegation Det := { ty := .cap, id := "b", fmt := .reference, pool := some "p", details := none }
    let d3 : Delegation Det := { ty := .cap, id := "a", fmt := .reference, pool := some "p", details := none }
    addDelegations { ty := .cap, items := [] } [d1, d2, d3] = ({ ty := .cap, items := [d1, d2] }, some .delegation) := rfl

theorem rejects_details_on_reference (ops : DetailOps D) (d : Delegation D) (x : D) (h : d.fmt = .reference) :
    setDetails ops d x = .error .delegation := by
  simp [setDetails, h]

/-- details are not accepted on a pool reference (`pool` key, no `pool_id` key) from JSON either -/
theorem decode_rejects_details_on_reference (ops : DetailOps D) (ty : DType) (kvs : List (String × Deleg.JVal))
    (k : String) (e : List (String × Deleg.JVal)) (hk : (k, Deleg.JVal.obj e) ∈ kvs)
    (hnoid : lookup fieldPoolId e = none) (hpool : (lookup fieldPool e).isSome)
    (hdet : (lookup fieldCapacities e).isSome ∨ (lookup fieldLabels e).isSome) (r : Delegations D) :
    decode ops ty (.obj kvs) ≠ .ok r := by
  intro h
  obtain ⟨b, b', hb⟩ := List.foldlM_ok_all h _ hk
  cases hp : lookup fieldPool e with
  | none => simp [hp] at hpool
  | some pv =>
    rcases hdet with hd | hd <;> simp [decodeEntry, hnoid, hp, hd] at hb

example : decode detOps .cap (.obj [("a", .obj [("pool", .str "p"), ("capacities", .obj [("core", .int 1)])])])
    = .error .delegation := rfl

/-- on a valid clash-free family `generate_delegations_by_node_id` returns, and its per-node dictionaries hold (as a multiset)
exactly the family's entries -/
theorem generate_ok_of_noClash (ops : DetailOps D) (ty : DType) (P : List (Pool D))
    (hF : Family ops ty P) (hN : NoClash P) :
    ∃ ps R, buildPools ty P = .ok ps ∧ ps.byId = P ∧ generate ops ps = .ok R ∧ RInv ty R ∧
      (flat R).Perm (allEntries ty P) :=
  ⟨_, _, buildPools_family ops ty P hF, rfl, generate_family ops ty P hF hN⟩

/-- when some node needs two entries under one delegation id, `generate` raises (`DelegationException` from
`add_delegations`) rather than producing a dictionary that cannot hold the family -/
theorem generate_rejects_clash (ops : DetailOps D) (ty : DType) (P : List (Pool D))
    (hF : Family ops ty P) (hC : ¬ NoClash P) :
    ∃ ps, buildPools ty P = .ok ps ∧ generate ops ps = .error .delegation :=
  ⟨_, buildPools_family ops ty P hF, by rw [(generate_eq ops ty P hF).1, if_neg hC]⟩

/-- **reading back ANY arrangement of the family's entries reconstructs the family**: `R` is any sequence of
`incorporate_delegation(node, Delegations)` calls - the nodes in any order, the entries of a node in any order and even
spread over several calls, with any single-resource delegations in between (they are ignored) - whose definition /
reference entries are, as a multiset, `allEntries`.  In particular a reference may be read before the definition of its pool. -/
theorem incorporate_with_singles (ops : DetailOps D) (ty : DType) (P : List (Pool D)) (R : NodeDelegs D)
    (hF : Family ops ty P) (hN : NoClash P) (hty : ∀ e ∈ R, e.2.ty = ty)
    (hperm : ((flat R).filter nonSingle).Perm (allEntries ty P)) :
    ∃ Q, incorporateAll (emptyPools ty) R = .ok Q ∧ Q.ty = ty ∧ SamePools P Q.byId := by
  have hsub : ∀ e ∈ flat R, e.2.fmt ≠ .single → e ∈ allEntries ty P := fun e he hf =>
    hperm.mem_iff.mp (List.mem_filter.mpr ⟨he, by simp [nonSingle, hf]⟩)
  obtain ⟨Q, hi, hq⟩ := incorporateAll_spec ty R hty
    (incorporable_with_singles ops ty P (flat R) hF hsub ((nodup_keys_iff hperm).mpr hN))
  exact ⟨_, hi, rfl, samePools_of_qinv ops ty P Q (flat R) hF hq hsub fun e he => (List.mem_filter.mp (hperm.mem_iff.mpr he)).1⟩

theorem incorporate_any_arrangement (ops : DetailOps D) (ty : DType) (P : List (Pool D)) (R : NodeDelegs D)
    (hF : Family ops ty P) (hN : NoClash P) (hty : ∀ e ∈ R, e.2.ty = ty) (hperm : (flat R).Perm (allEntries ty P)) :
    ∃ Q, incorporateAll (emptyPools ty) R = .ok Q ∧ Q.ty = ty ∧ SamePools P Q.byId := by
  apply incorporate_with_singles ops ty P R hF hN hty
  rw [filter_nonSingle hperm.subset]
  exact hperm

theorem incorporate_entries (ops : DetailOps D) (ty : DType) (P : List (Pool D)) (R : NodeDelegs D)
    (hF : Family ops ty P) (hinv : RInv ty R) (hperm : (flat R).Perm (allEntries ty P)) :
    ∃ Q, incorporateAll (emptyPools ty) R = .ok Q ∧ Q.ty = ty ∧ SamePools P Q.byId :=
  incorporate_any_arrangement ops ty P R hF ((nodup_keys_iff hperm).mp hinv.keys) hinv.ty_ hperm

/-- **pools round trip**: for every family of valid pools with distinct ids in which no node needs two entries under one
delegation id, turning the pools into per-node delegations and incorporating those, node by node in dictionary order,
reconstructs the same pools.  (`Pool.for_` is a Python set: any iteration order of it is some list `p.for_`, so the
statement covers every order `generate` can produce.) -/
theorem pools_roundtrip (ops : DetailOps D) (ty : DType) (P : List (Pool D)) (hF : Family ops ty P) (hN : NoClash P) :
    ∃ ps R Q, buildPools ty P = .ok ps ∧ generate ops ps = .ok R ∧
      incorporateAll (emptyPools ty) R = .ok Q ∧ Q.ty = ty ∧ SamePools P Q.byId := by
  obtain ⟨ps, R, hb, _, hg, hinv, hperm⟩ := generate_ok_of_noClash ops ty P hF hN
  obtain ⟨Q, hi, hty, hs⟩ := incorporate_entries ops ty P R hF hinv hperm
  exact ⟨ps, R, Q, hb, hg, hi, hty, hs⟩

/-- **the pools clause at full strength**: `generate_delegations_by_node_id` yields per-node dictionaries holding exactly one
definition per pool on its defining node and one reference on each node it applies to, and incorporating the nodes in ANY
order reconstructs the same pools: same defining node, reference set, delegation id and details (`SamePools`) -/
theorem pools_roundtrip_any_order (ops : DetailOps D) (ty : DType) (P : List (Pool D)) (hF : Family ops ty P) (hN : NoClash P) :
    ∃ ps R, buildPools ty P = .ok ps ∧ generate ops ps = .ok R ∧ RInv ty R ∧ (flat R).Perm (allEntries ty P) ∧
      ∀ R', R'.Perm R → ∃ Q, incorporateAll (emptyPools ty) R' = .ok Q ∧ Q.ty = ty ∧ SamePools P Q.byId := by
  obtain ⟨ps, R, hb, _, hg, hinv, hperm⟩ := generate_ok_of_noClash ops ty P hF hN
  refine ⟨ps, R, hb, hg, hinv, hperm, fun R' hR' => ?_⟩
  exact incorporate_any_arrangement ops ty P R' hF hN (fun e he => hinv.ty_ e (hR'.mem_iff.mp he))
    ((flat_perm hR').trans hperm)

/-- the two-pool family of `delegation_label_test.testPools` -/
def poolsEx : List (Pool Det) := [
  { ty := .lab, pid := "pool1", deleg := some "del1", on_ := some "node1", for_ := ["node2", "node3"], details := some labEx },
  { ty := .lab, pid := "pool2", deleg := some "del2", on_ := some "node2", for_ := ["node1", "node3"], details := some labEx }]

theorem poolsEx_family : Family detOps .lab poolsEx :=
  family_of_checks (by unfold Distinct; decide +kernel) (by decide +kernel)

example : Family detOps .lab poolsEx ∧ NoClash poolsEx := ⟨poolsEx_family, by decide +kernel⟩

/-- three pools sharing nodes, each under its own delegation id (cf. seeded C12-r3-3) -/
def sharedEx : List (Pool Det) := [
  { ty := .lab, pid := "pa", deleg := some "d1", on_ := some "n1", for_ := ["n2", "n3"], details := some labEx },
  { ty := .lab, pid := "pb", deleg := some "d2", on_ := some "n2", for_ := ["n3", "n1"], details := some labEx },
  { ty := .lab, pid := "pc", deleg := some "d3", on_ := some "n1", for_ := ["n3", "n2"], details := some labEx }]

example : Family detOps .lab sharedEx ∧ NoClash sharedEx :=
  ⟨family_of_checks (by unfold Distinct; decide +kernel) (by decide +kernel), by decide +kernel⟩

/-- for the example below: `sharedEx` read back with the reference-only node first (every reference before the definition of
its pool) and the entries of `n1` spread over two `incorporate_delegation` calls -/
def refD (id pool : String) : Delegation Det := { ty := .lab, id := id, fmt := .reference, pool := some pool, details := none }
def dfnD (id pool : String) : Delegation Det := { ty := .lab, id := id, fmt := .definition, pool := some pool, details := some labEx }
example :
    (incorporateAll (emptyPools .lab) [
      ("n3", { ty := .lab, items := [refD "d3" "pc", refD "d1" "pa", refD "d2" "pb"] }),
      ("n1", { ty := .lab, items := [refD "d2" "pb"] }),
      ("n2", { ty := .lab, items := [refD "d3" "pc", dfnD "d2" "pb", refD "d1" "pa"] }),
      ("n1", { ty := .lab, items := [dfnD "d3" "pc", dfnD "d1" "pa"] })]).map (·.byId)
    = .ok [
      { ty := .lab, pid := "pc", deleg := some "d3", on_ := some "n1", for_ := ["n3", "n2"], details := some labEx },
      { ty := .lab, pid := "pa", deleg := some "d1", on_ := some "n1", for_ := ["n3", "n2"], details := some labEx },
      { ty := .lab, pid := "pb", deleg := some "d2", on_ := some "n2", for_ := ["n3", "n1"], details := some labEx }] := rfl

/-- the same two pools under ONE delegation id: node1 would need a definition and a reference under `del1` -/
def clashEx : List (Pool Det) := poolsEx.map (fun p => { p with deleg := some "del1" })

example : Family detOps .lab clashEx ∧ ¬ NoClash clashEx :=
  ⟨family_of_checks (by unfold Distinct; decide +kernel) (by decide +kernel), by decide +kernel⟩

/-! ## Pools through the JSON text of every node (`to_json` / `from_json` between `generate` and `incorporate`)

A pool named `"_"` would be lost here (its definition reads back as a single-resource delegation; the harness reports that as
`C12:pools:pool-named-single-sentinel`); such a pool cannot be constructed (`reserved_name_rejected`), so `PoolOk.name`
excludes nothing. -/

/-- **pools → per-node delegations → text → delegations → pools, the nodes read in any order** -/
theorem pools_roundtrip_text (ops : DetailOps D) (ty : DType) (P : List (Pool D))
    (hF : Family ops ty P) (hN : NoClash P) (hT : ∀ p ∈ P, DetOk ops ty p.details) :
    ∃ ps R, buildPools ty P = .ok ps ∧ generate ops ps = .ok R ∧
      ∀ R', R'.Perm R → recode ops ty R' = .ok R' ∧
        ∃ Q, incorporateAll (emptyPools ty) R' = .ok Q ∧ Q.ty = ty ∧ SamePools P Q.byId := by
  obtain ⟨ps, R, hb, hg, hinv, hperm, hall⟩ := pools_roundtrip_any_order ops ty P hF hN
  exact ⟨ps, R, hb, hg, fun R' hR' => ⟨recode_generated ops ty P R R' hF hT hinv hperm hR', hall R' hR'⟩⟩

example : ∀ p ∈ poolsEx, DetOk detOps .lab p.details := by
  intro p hp
  simp only [poolsEx, List.mem_cons, List.not_mem_nil, or_false] at hp
  rcases hp with rfl | rfl <;> exact det_roundtrip.2

/-- corpus/C12/pool_family_underscore.json: the family with a pool named `"_"` is refused by `add_pool` (and `Pool(...)`)
instead of being lost on the way through the text -/
def famU : List (Pool Det) :=
  [{ ty := .cap, pid := singlePoolName, deleg := some "del1", on_ := some "node1", for_ := ["node2"], details := some capEx }]
example : buildPools .cap famU = .error .pool := rfl

/-! ## Onto the model and back: `annotate_delegations_and_pools` / `get_delegations`

`SubstrateTopology.single_delegation` hands `annotate_delegations_and_pools` the pools and, for every element that has
capacities / labels of its own, a `Delegations` holding one single-resource delegation; the method writes `to_json()` of
every node's `Delegations` as the node's delegations property, `get_delegations` reads a node back with `from_json`. -/

/-- hence `SinglesOk.apart` keeps the elements' own delegations off every node `annotate` would refuse them on
(`annotate_rejects_shared_node`) -/
theorem generate_nodes (ops : DetailOps D) (ty : DType) (P : List (Pool D)) (hF : Family ops ty P) (ps : Pools D)
    (R : NodeDelegs D) (hb : buildPools ty P = .ok ps) (hg : generate ops ps = .ok R) :
    ∀ b ∈ R, ∃ p ∈ P, some b.1 = p.on_ ∨ b.1 ∈ p.for_ := by
  rw [buildPools_family ops ty P hF] at hb
  cases hb
  rw [(generate_eq ops ty P hF).1] at hg
  split at hg <;> cases hg
  exact genOf_node_pool ops ty P hF

/-- what `single_delegation` hands over: per node (each node once, none of them a defining / reference node of a pool) a
`Delegations` of the pools' type that holds single-resource delegations only -/
structure SinglesOk (ty : DType) (P : List (Pool D)) (dels : NodeDelegs D) : Prop where
  ty_ : ∀ e ∈ dels, e.2.ty = ty
  single : ∀ e ∈ dels, ∀ d ∈ e.2.items, d.fmt = .single
  nodes : dels.Pairwise (fun a b => a.1 ≠ b.1)
  apart : ∀ e ∈ dels, ∀ p ∈ P, some e.1 ≠ p.on_ ∧ e.1 ∉ p.for_

/-- **pools and single-resource delegations written onto a model and read back**: `annotate_delegations_and_pools` succeeds,
`get_delegations` returns for every node exactly the `Delegations` it was given - the generated pool entries, or the
element's own single-resource delegation - and incorporating what was read, the nodes in any order, reconstructs the pools -/
theorem annotate_readback (ops : DetailOps D) (ty : DType) (P : List (Pool D)) (dels : NodeDelegs D)
    (hF : Family ops ty P) (hN : NoClash P) (hT : ∀ p ∈ P, DetOk ops ty p.details) (hS : SinglesOk ty P dels)
    (hW : ∀ e ∈ dels, WF ops e.2) :
    ∃ ps R w, buildPools ty P = .ok ps ∧ generate ops ps = .ok R ∧ annotate ops ps dels = .ok (ty, w) ∧
      readAll ops ty w = .ok (R ++ dels) ∧
      ∀ R', R'.Perm (R ++ dels) → ∃ Q, incorporateAll (emptyPools ty) R' = .ok Q ∧ Q.ty = ty ∧ SamePools P Q.byId := by
  obtain ⟨hg, hinv, hperm⟩ := generate_family ops ty P hF hN
  obtain ⟨w, ha, hr⟩ := annotate_builtPools ops ty P dels hF hN hT hS.ty_ hS.nodes hS.apart hW
  exact ⟨_, _, w, buildPools_family ops ty P hF, hg, ha, hr, fun R' hR' => incorporate_with_singles ops ty P R' hF hN
    (fun e he => (List.mem_append.mp (hR'.mem_iff.mp he)).elim (hinv.ty_ e) (hS.ty_ e))
    (pool_entries_merged ty P _ dels R' hperm hS.single hR')⟩

/-- a node cannot carry both: single-resource delegations for a node that has pool entries are refused
(`PropertyGraphQueryException`), nothing is written -/
theorem annotate_rejects_shared_node (ops : DetailOps D) (ps : Pools D) (R dels : NodeDelegs D)
    (hg : generate ops ps = .ok R) (e : String × Delegations D) (he : e ∈ dels) (b : String × Delegations D) (hb : b ∈ R)
    (hbe : b.1 = e.1) : annotate ops ps dels = .error .query := by
  simp only [annotate, hg, mergeSingles_clash R dels e he b hb hbe, bind, Except.bind]

/-- the elements of a topology as `single_delegation` needs them for delegation type `ty` -/
structure ElemsOk (ops : DetailOps D) (ty : DType) (P : List (Pool D)) (elems : List (Elem D)) : Prop where
  nodes : (elems.map (·.node)).Nodup
  own : ∀ e ∈ elems, ∀ x, e.own ty = some x → DetOk ops ty (some x)
  apart : ∀ e ∈ elems, e.stitch = false → (e.own ty).isSome → ∀ p ∈ P, some e.node ≠ p.on_ ∧ e.node ∉ p.for_

/-- **`single_delegation` for one delegation type, written and read back**: every element that is not a stitch node and has
capacities / labels of its own gets exactly one single-resource delegation under the delegation id carrying those details
(`collected`), the pools get their definition / reference entries, and all of it reads back as in `annotate_readback` -/
theorem single_delegation_readback (ops : DetailOps D) (ty : DType) (did : String) (P : List (Pool D)) (elems : List (Elem D))
    (hF : Family ops ty P) (hN : NoClash P) (hT : ∀ p ∈ P, DetOk ops ty p.details) (hE : ElemsOk ops ty P elems) :
    ∃ ps R w, buildPools ty P = .ok ps ∧ generate ops ps = .ok R ∧
      singlesOf ops ty did elems = .ok (elems.filterMap (collected ty did)) ∧
      annotate ops ps (elems.filterMap (collected ty did)) = .ok (ty, w) ∧
      readAll ops ty w = .ok (R ++ elems.filterMap (collected ty did)) ∧
      ∀ R', R'.Perm (R ++ elems.filterMap (collected ty did)) →
        ∃ Q, incorporateAll (emptyPools ty) R' = .ok Q ∧ Q.ty = ty ∧ SamePools P Q.byId := by
  have hk : ∀ e ∈ elems, ∀ x, e.own ty = some x → ops.kindOf x = ty := fun e he x hx => (hE.own e he x hx).1
  have hs := singlesOf_spec ops ty did elems hE.nodes hk
  have hS : SinglesOk ty P (elems.filterMap (collected ty did)) := by
    refine ⟨forall_collected fun _ _ _ _ _ => rfl, forall_collected fun e _ _ x _ d hd => ?_,
      collected_nodes_pairwise ty did elems hE.nodes,
      forall_collected fun e he hst x hx => hE.apart e he hst (by simp [hx])⟩
    rw [List.mem_singleton.mp hd]
  have hW : ∀ p ∈ elems.filterMap (collected ty did), WF ops p.2 := by
    refine forall_collected fun e he _ x hx => ⟨fun d hd => ?_, by simp [singleOf]⟩
    rw [List.mem_singleton.mp hd]
    exact ⟨rfl, rfl, hE.own e he x hx⟩
  obtain ⟨ps, R, w, hb, hg, ha, hr, hall⟩ := annotate_readback ops ty P _ hF hN hT hS hW
  exact ⟨ps, R, w, hb, hg, hs, ha, hr, hall⟩

/-- **both passes of `single_delegation`** (capacities, then labels) succeed and write, each under the property of its own
type, texts that read back as `single_delegation_readback` describes (its incorporation clause is not repeated here) -/
theorem single_delegation_both (ops : DetailOps D) (did : String) (Pc Pl : List (Pool D)) (elems : List (Elem D))
    (hFc : Family ops .cap Pc) (hNc : NoClash Pc) (hTc : ∀ p ∈ Pc, DetOk ops .cap p.details) (hEc : ElemsOk ops .cap Pc elems)
    (hFl : Family ops .lab Pl) (hNl : NoClash Pl) (hTl : ∀ p ∈ Pl, DetOk ops .lab p.details) (hEl : ElemsOk ops .lab Pl elems) :
    ∃ pc pl Rc Rl wc wl, buildPools .cap Pc = .ok pc ∧ buildPools .lab Pl = .ok pl ∧
      generate ops pc = .ok Rc ∧ generate ops pl = .ok Rl ∧
      singleDelegation ops did elems pl pc = .ok [(.cap, wc), (.lab, wl)] ∧
      readAll ops .cap wc = .ok (Rc ++ elems.filterMap (collected .cap did)) ∧
      readAll ops .lab wl = .ok (Rl ++ elems.filterMap (collected .lab did)) := by
  obtain ⟨pc, Rc, wc, hbc, hgc, hsc, hac, hrc, _⟩ := single_delegation_readback ops .cap did Pc elems hFc hNc hTc hEc
  obtain ⟨pl, Rl, wl, hbl, hgl, hsl, hal, hrl, _⟩ := single_delegation_readback ops .lab did Pl elems hFl hNl hTl hEl
  have htc := buildPools_ty hFc.distinct hbc
  have htl := buildPools_ty hFl.distinct hbl
  refine ⟨pc, pl, Rc, Rl, wc, wl, hbc, hbl, hgc, hgl, ?_, hrc, hrl⟩
  simp [singleDelegation, htc, htl, hsc, hac, hsl, hal, bind, Except.bind, pure, Except.pure]

example : ElemsOk detOps .lab poolsEx
    [{ node := "w1", stitch := false, caps := none, labs := some labEx },
     { node := "node1", stitch := true, caps := none, labs := none },
     { node := "w2", stitch := false, caps := some capEx, labs := none }] := by
  refine ⟨by decide, ?_, by decide +kernel⟩
  intro e he x hx
  simp only [List.mem_cons, List.not_mem_nil, or_false] at he
  rcases he with rfl | rfl | rfl <;> simp [Elem.own] at hx
  subst hx; exact det_roundtrip.2

/-- non-vacuity of `annotate_readback`: the two pools of `testPools` and two elements with labels of their own -/
def singlesEx : NodeDelegs Det :=
  [("w1", { ty := .lab, items := [{ ty := .lab, id := "primary", fmt := .single, pool := none, details := some labEx }] }),
   ("w1-nic", { ty := .lab, items := [{ ty := .lab, id := "primary", fmt := .single, pool := none, details := some labEx }] })]

example : ∀ e ∈ singlesEx, WF detOps e.2 := by
  intro e he
  simp only [singlesEx, List.mem_cons, List.not_mem_nil, or_false] at he
  rcases he with rfl | rfl <;> refine ⟨fun d hd => ?_, by simp⟩ <;>
    (simp only [List.mem_singleton] at hd; subst hd; exact ⟨rfl, rfl, det_roundtrip.2⟩)

example : SinglesOk .lab poolsEx singlesEx :=
  ⟨by decide +kernel, by decide +kernel, by decide +kernel, by decide +kernel⟩

/-! ## Real details: `Capacities` / `Labels` as modelled and proved lossless by C03

`cOps valid` is the C03 codec on the regenerated class specifications (`valid` = the label validators, abstract). -/

/-- a delegation set of the property's quantifier, with real details -/
def RealSet (valid : String → CVal → Bool) (ds : Delegations CDet) : Prop :=
  (∀ d ∈ ds.items, d.ty = ds.ty ∧
    match d.fmt with
    | .single => d.pool = none ∧ ∃ x, d.details = some x ∧ RealDetails valid ds.ty x
    | .definition => (match d.pool with | none => False | some p => p ≠ singlePoolName) ∧
        ∃ x, d.details = some x ∧ RealDetails valid ds.ty x
    | .reference => (match d.pool with | none => False | some p => p ≠ singlePoolName) ∧ d.details = none) ∧
  ds.items.Pairwise (fun a b => a.id ≠ b.id)

theorem realSet_wf (valid : String → CVal → Bool) (ds : Delegations CDet) (h : RealSet valid ds) : WF (cOps valid) ds := by
  refine ⟨fun d hd => ?_, h.2⟩
  obtain ⟨hty, hm⟩ := h.1 d hd
  refine ⟨hty, ?_⟩
  cases hf : d.fmt <;> simp only [hf] at hm ⊢
  · exact ⟨hm.1, detOk_of_real hm.2⟩
  · exact hm
  · exact ⟨hm.1, detOk_of_real hm.2⟩

/-- **the codec clause for real details, no hypothesis about the details' own codec** -/
theorem delegations_roundtrip_real (valid : String → CVal → Bool) (ds : Delegations CDet) (h : RealSet valid ds) :
    (encode (cOps valid) ds).bind (decode (cOps valid) ds.ty) = .ok ds :=
  delegations_roundtrip (cOps valid) ds (realSet_wf valid ds h)

/-- **the codec clause over all API histories, for real details** -/
theorem delegations_roundtrip_api_real (valid : String → CVal → Bool) (ty : DType) (ds : Delegations CDet)
    (hr : Reachable ty ds) (hb : ∀ d ∈ ds.items, Built (cOps valid) d)
    (hc : ∀ d ∈ ds.items, (d.fmt ≠ .reference → ∃ x, d.details = some x ∧ RealDetails valid ty x) ∧ (d.fmt = .single → d.pool = none)) :
    (encode (cOps valid) ds).bind (decode (cOps valid) ty) = .ok ds :=
  delegations_roundtrip_api (cOps valid) ty ds hr hb (fun d hd =>
    ⟨fun hf => let ⟨x, hx, hr⟩ := (hc d hd).1 hf; ⟨x, hx, (detOk_iff_survives.mp (detOk_real valid ty x hr)).2⟩, (hc d hd).2⟩)

/-- a family of pools of the property's quantifier, with real details -/
structure RealFamily (valid : String → CVal → Bool) (ty : DType) (P : List (Pool CDet)) : Prop where
  family : Family (cOps valid) ty P
  details : ∀ p ∈ P, ∃ x, p.details = some x ∧ RealDetails valid ty x

theorem RealFamily.detOk {valid : String → CVal → Bool} {ty : DType} {P : List (Pool CDet)} (hF : RealFamily valid ty P) :
    ∀ p ∈ P, DetOk (cOps valid) ty p.details :=
  fun p hp => detOk_of_real (hF.details p hp)

/-- **the pools clause for real details, through the text, any order of nodes, no codec hypothesis** -/
theorem pools_roundtrip_text_real (valid : String → CVal → Bool) (ty : DType) (P : List (Pool CDet))
    (hF : RealFamily valid ty P) (hN : NoClash P) :
    ∃ ps R, buildPools ty P = .ok ps ∧ generate (cOps valid) ps = .ok R ∧ RInv ty R ∧ (flat R).Perm (allEntries ty P) ∧
      ∀ R', R'.Perm R → recode (cOps valid) ty R' = .ok R' ∧
        ∃ Q, incorporateAll (emptyPools ty) R' = .ok Q ∧ Q.ty = ty ∧ SamePools P Q.byId := by
  obtain ⟨ps, R, hb, hg, hinv, hperm, hall⟩ := pools_roundtrip_any_order (cOps valid) ty P hF.family hN
  exact ⟨ps, R, hb, hg, hinv, hperm, fun R' hR' =>
    ⟨recode_generated _ ty P R R' hF.family hF.detOk hinv hperm hR', hall R' hR'⟩⟩

/-- **onto the model and back for real details, no codec hypothesis** -/
theorem annotate_readback_real (valid : String → CVal → Bool) (ty : DType) (P : List (Pool CDet)) (dels : NodeDelegs CDet)
    (hF : RealFamily valid ty P) (hN : NoClash P) (hS : SinglesOk ty P dels) (hW : ∀ e ∈ dels, RealSet valid e.2) :
    ∃ ps R w, buildPools ty P = .ok ps ∧ generate (cOps valid) ps = .ok R ∧ annotate (cOps valid) ps dels = .ok (ty, w) ∧
      readAll (cOps valid) ty w = .ok (R ++ dels) ∧
      ∀ R', R'.Perm (R ++ dels) → ∃ Q, incorporateAll (emptyPools ty) R' = .ok Q ∧ Q.ty = ty ∧ SamePools P Q.byId :=
  annotate_readback (cOps valid) ty P dels hF.family hN hF.detOk hS (fun e he => realSet_wf valid e.2 (hW e he))

/-! non-vacuity of the `_real` theorems: `Capacities(core=2, ram=8)`, `Labels(vlan_range='1-100')` as C03 values -/

def capReal : CDet := ⟨.cap, Codec.setF (Codec.setF (Codec.defaults Gen.Fields.capacities) "core" (.int 2)) "ram" (.int 8)⟩
def labReal : CDet := ⟨.lab, Codec.setF (Codec.defaults Gen.Fields.labels) "vlan_range" (.str "1-100")⟩

theorem capReal_real (valid : String → CVal → Bool) : RealDetails valid .cap capReal := by
  refine ⟨rfl, ?_, ?_⟩
  · exact C03.wellTyped_setF _ _ _
      (C03.wellTyped_setF _ _ _ (real_defaults_wellTyped valid .cap) "core" _ (by decide +kernel) ⟨rfl, rfl⟩)
      "ram" _ (by decide +kernel) ⟨rfl, rfl⟩
  · intro h
    have := congrFun h "core"
    revert this; decide +kernel

theorem labReal_real (valid : String → CVal → Bool) (hv : valid "vlan_range" (.str "1-100") = true) :
    RealDetails valid .lab labReal := by
  refine ⟨rfl, ?_, ?_⟩
  · exact C03.wellTyped_setF _ _ _ (real_defaults_wellTyped valid .lab) "vlan_range" _ (by decide +kernel) ⟨rfl, hv⟩
  · intro h
    have := congrFun h "vlan_range"
    revert this; decide +kernel

example (valid : String → CVal → Bool) : RealSet valid
    { ty := .cap, items := [
      { ty := .cap, id := "del1", fmt := .single, pool := none, details := some capReal },
      { ty := .cap, id := "del2", fmt := .definition, pool := some "pool1", details := some capReal },
      { ty := .cap, id := "del3", fmt := .reference, pool := some "pool1", details := none }] } := by
  refine ⟨?_, by decide +kernel⟩
  intro d hd
  simp only [List.mem_cons, List.not_mem_nil, or_false] at hd
  rcases hd with rfl | rfl | rfl
  · exact ⟨rfl, rfl, capReal, rfl, capReal_real valid⟩
  · exact ⟨rfl, by decide +kernel, capReal, rfl, capReal_real valid⟩
  · exact ⟨rfl, by decide +kernel, rfl⟩

example (valid : String → CVal → Bool) (hv : valid "vlan_range" (.str "1-100") = true) :
    let P : List (Pool CDet) := [
      { ty := .lab, pid := "pool1", deleg := some "del1", on_ := some "node1", for_ := ["node2", "node3"], details := some labReal },
      { ty := .lab, pid := "pool2", deleg := some "del2", on_ := some "node2", for_ := ["node1", "node3"], details := some labReal }]
    RealFamily valid .lab P ∧ NoClash P := by
  intro P
  refine ⟨⟨family_of_checks (by unfold Distinct; decide +kernel) rfl, ?_⟩, by decide +kernel⟩
  intro p hp
  simp only [P, List.mem_cons, List.not_mem_nil, or_false] at hp
  rcases hp with rfl | rfl <;> exact ⟨labReal, rfl, labReal_real valid hv⟩

/-- **an indexing run has no memory**: at ANY state of the container - any history of `add_pool`, setter calls on pools that
already sit in it (re-delegation, completion), replaced objects, earlier runs that returned or raised half-way, whatever index
they left behind - `build_index_by_delegation_id` leaves exactly the index (and raises exactly when) the value-level run
computes from the pools as they are NOW (`view`: what the getters show) -/
theorem hist_index_fresh (s : HPools D) :
    (hIndex s).1.view = (buildIndexS s.view).1 ∧ (hIndex s).2 = (buildIndexS s.view).2 := by
  have h := hIndexGo_view s.deref [] s.byId
  refine ⟨?_, h.2⟩
  -- `deref` reads the heap only, so the new index is viewed through the same objects
  show ({ ty := s.ty, byId := s.byId.map s.deref, index := some (viewIdx s.deref (hIndexGo s.deref [] s.byId).1) } : Pools D) = _
  rw [h.1]
  rfl

/-- **the pools clause after any history**: whenever the pools of the container as they are now are a valid clash-free family,
the next indexing run returns and generate / incorporate reconstruct exactly these pools - the delegation id a pool had at an
earlier run plays no role.  (`RInv` and the permutation are in the conclusion so that `incorporate_any_arrangement` gives every
other order of the nodes.) -/
theorem hist_pools_roundtrip (ops : DetailOps D) (s : HPools D) (hF : Family ops s.ty s.view.byId) (hN : NoClash s.view.byId) :
    ∃ R Q, (hIndex s).2 = none ∧ generate ops (hIndex s).1.view = .ok R ∧ RInv s.ty R ∧
      (flat R).Perm (allEntries s.ty s.view.byId) ∧
      incorporateAll (emptyPools s.ty) R = .ok Q ∧ Q.ty = s.ty ∧ SamePools s.view.byId Q.byId := by
  obtain ⟨h1, h2⟩ := hist_index_fresh s
  have hb : buildIndexS s.view = (builtPools s.ty s.view.byId, none) := buildIndexS_validated s.view hF.all_validated
  obtain ⟨hg, hinv, hperm⟩ := generate_family ops s.ty s.view.byId hF hN
  obtain ⟨Q, hi, hty, hs⟩ := incorporate_entries ops s.ty s.view.byId _ hF hinv hperm
  exact ⟨_, Q, by rw [h2, hb], by rw [h1, hb]; exact hg, hinv, hperm, hi, hty, hs⟩

/-- `hist_pools_roundtrip` at the states histories reach: every sequence of `add_pool` / setter / indexing calls from the
empty container (nothing about the steps is used) -/
theorem hist_pools_roundtrip_any_history (ops : DetailOps D) (ty : DType) (steps : List (HStep D)) :
    let s := hRun (hEmpty ty) steps
    Family ops s.ty s.view.byId → NoClash s.view.byId →
    ∃ R Q, (hIndex s).2 = none ∧ generate ops (hIndex s).1.view = .ok R ∧ RInv s.ty R ∧
      (flat R).Perm (allEntries s.ty s.view.byId) ∧
      incorporateAll (emptyPools s.ty) R = .ok Q ∧ Q.ty = s.ty ∧ SamePools s.view.byId Q.byId :=
  fun hF hN => hist_pools_roundtrip ops _ hF hN

/-- a history that ends in `poolsEx` with a STALE index: pool2 is indexed under `del9`, then re-delegated to `del2` -/
def histEx : HPools Det := hRun (hEmpty .lab) [
  .add { ty := .lab, pid := "pool1", deleg := some "del1", on_ := some "node1", for_ := ["node2", "node3"], details := some labEx },
  .add { ty := .lab, pid := "pool2", deleg := some "del9", on_ := some "node2", for_ := ["node1", "node3"], details := some labEx },
  .index, .mut 1 (mSetDeleg "del2")]

/-- the pools are `poolsEx`, the index left by the earlier run still files object 1 under `del9` (the example after it: an
unfinished pool leaves a partial index behind) -/
example : histEx.view.byId = poolsEx ∧ histEx.index = some [("del1", [0]), ("del9", [1])] ∧
    Family detOps histEx.ty histEx.view.byId ∧ NoClash histEx.view.byId := by
  have h : histEx.view.byId = poolsEx := rfl
  refine ⟨h, rfl, ?_, ?_⟩
  · rw [h]; exact poolsEx_family
  · rw [h]; decide +kernel

example : (hIndex (hRun (hEmpty .lab) [
    .add ({ ty := .lab, pid := "pool1", deleg := some "del1", on_ := some "node1", for_ := ["node2"], details := some labEx } : Pool Det),
    .add { ty := .lab, pid := "pool2", deleg := some "del2", on_ := some "node2", for_ := ["node1"], details := none }])).1.index
      = some [("del1", [0])] ∧
    (hIndex (hRun (hEmpty .lab) [
    .add ({ ty := .lab, pid := "pool1", deleg := some "del1", on_ := some "node1", for_ := ["node2"], details := some labEx } : Pool Det),
    .add { ty := .lab, pid := "pool2", deleg := some "del2", on_ := some "node2", for_ := ["node1"], details := none }])).2 = some .pool := by
  decide +kernel

end FimVerif.C12
