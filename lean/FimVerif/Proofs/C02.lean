import FimVerif.Proofs.Lemmas.C02Check
import FimVerif.Proofs.Lemmas.C02Graph
import FimVerif.Proofs.Lemmas.C02Routes
/-!
# C02 — sliver ↔ graph / dictionary / JSON conversion preserves every settable field

Every sliver, with any combination of its settable properties and any nesting of children, comes back from the model graph /
deep dictionary / JSON form with the same structure and the same value for every settable property; on a model element
`get p (set p v) = v` and `get p (unset p)` is absent.  Proved for every value model (`Codecs V P`) over the generated tables; a
`_partial` theorem carries a guard the code needs, and the `_counterexample` next to it shows the unguarded statement failing on
the code as it is.  The flat and the dictionary round trip stand where they are proved: `props_roundtrip_partial` in `C02Props`,
`dict_roundtrip_partial` in `C02Tree`.
-/
namespace FimVerif.C02
open FimVerif.Sliver FimVerif.Gen.SliverMap

/-- No proof reads this check of the unset table: what the unset theorems need of the table is the second conjunct of `rowsOK`
(`rowsOK_unset`) -/
def unsetOK (T : KindTable) : Bool :=
  T.fromRows.all (fun f => unsetExempt.contains f.key || mapUnset f.key == some f.gprop) &&
  unsetMap.all (fun e => T.fromRows.all (fun f => f.key != e.1 || f.gprop == e.2))

/-- properties a write of another property may rewrite: the always-written flag (known finding
`C02:frame:stitch_node:reset-to-default:by=set`, `frame_stitch_counterexample`) and the fate-sharing image pair -/
def frameExempt : List String := ["stitch_node", "image_ref", "image_type"]

def frameOK (T : KindTable) : Bool :=
  T.fromRows.all (fun f => frameExempt.contains f.key || (!(rowOf T f).always && freshOf T.kind f.key == none))

/-- one statement, so that the kernel evaluates the row lookups the checks have in common (`rowOf`, `mapUnset`, `tableOf`) once -/
theorem generated_ok :
    (tables.all (fun T => tableOK T && rowsOK T && unsetOK T && frameOK T) && elemClasses.all classOK) = true := by
  decide +kernel

theorem table_checks {T : KindTable} (hT : T ∈ tables) :
    tableOK T = true ∧ rowsOK T = true ∧ unsetOK T = true ∧ frameOK T = true := by
  have h := generated_ok
  simp only [Bool.and_eq_true, List.all_eq_true] at h
  obtain ⟨⟨⟨h1, h2⟩, h3⟩, h4⟩ := h.1 T hT
  exact ⟨h1, h2, h3, h4⟩

/-- The generated tables of all five kinds pass the structural check; `T.settable` is the kind's `list_properties()`, so its fifth
conjunct says that every settable name is rebuilt (or is containment). -/
theorem tables_ok : tables.all tableOK = true := List.all_eq_true.mpr fun _ hT => (table_checks hT).1

theorem tableOf_mem (k : Kind) (h : tables.any (·.kind == k) = true) : tableOf k ∈ tables := by
  unfold tableOf
  cases hf : tables.find? (fun t => t.kind == k) with
  | none =>
    obtain ⟨t, ht, hk⟩ := List.any_eq_true.mp h
    exact absurd hk (List.find?_eq_none.mp hf t ht)
  | some t => exact List.mem_of_find?_eq_some hf

theorem tableOK_tableOf (k : Kind) (h : tables.any (·.kind == k) = true) : tableOK (tableOf k) = true :=
  (table_checks (tableOf_mem k h)).1

section
variable {V P : Type}

/-- `restrict` hides nothing settable (containment aside) -/
theorem settable_rebuilt {T : KindTable} (hT : tableOK T = true) (k : String) (hk : k ∈ T.settable)
    (hs : k ∉ structuralKeys) (s : Fields V) : restrict T s k = s k := by
  unfold restrict
  rw [if_pos (((tableFacts hT).settable k hk).resolve_left hs)]

end

def exampleService : Fields Val :=
  (((freshFields.set "name" (some (.str "svc1"))).set "type" (some (.enum "ServiceType" "L2Bridge"))).set
    "site" (some (.str "RENC"))).set "layer" (some (.enum "NSLayer" "L2"))

theorem rowVals_single (s : Fields Val) (k : String) : rowVals s [k] = (s k).map (fun v => [v]) :=
  rowVals_singleton s k

def imageRefFrom : FromRow :=
  (nodeTable.fromRows.find? (fun f => f.key == "image_ref")).getD default

def imageRefOnly : Fields Val :=
  (freshFields.set "name" (some (.str "node1"))).set "image_ref" (some (.str "default_ubuntu_20"))

/--
The unguarded statement is false for the code as it is: a node sliver whose `image_ref` is set while `image_type`
is not comes back with `image_ref = None` (replayed on the implementation by corpus/C02/known_image_ref_without_type.json).
-/
theorem props_roundtrip_counterexample :
    imageRefOnly "image_ref" ≠ none ∧
    ∀ s', fromProps concrete nodeTable (toProps concrete nodeTable imageRefOnly) = .ok s' → s' "image_ref" = none := by
  refine ⟨by simp [imageRefOnly, Fields.set], fun s' h => ?_⟩
  have hT : tableOK nodeTable = true := (table_checks (by simp [tables])).1
  have hf : imageRefFrom ∈ nodeTable.fromRows ∧ imageRefFrom.key = "image_ref" ∧ imageRefFrom.absent = Absent.none ∧
      imageRefFrom.noneOk = true := by decide +kernel
  -- `ImageRef` is written only when both halves are set
  have hp : toProps concrete nodeTable imageRefOnly imageRefFrom.gprop = none := by decide +kernel
  have hread := fromRowsGo_ok concrete _ nodeTable.fromRows Fields.empty s' (tableFacts hT).nodup_k h imageRefFrom hf.1
  rw [readRow_none concrete _ imageRefFrom hp hf.2.2.1, hf.2.1] at hread
  unfold setRow at hread
  rw [hf.2.2.2] at hread
  exact (Except.ok.inj hread).symm

section
variable {V P : Type}

/--
**set then get**: after `set_property(k, v)` the from-row of `k` reads `v` back from the node, whatever the node held
before, for every property written by a single-attribute row (all but `image_ref` / `image_type`) whose value obeys
the codec law; hence `get_property(k)` returns `v` whenever the node is readable at all.
-/
theorem set_get (C : Codecs V P) (T : KindTable) (hT : tableOK T = true) (fresh : Fields V) (p : Props P)
    (r : ToRow) (hr : r ∈ T.toRows) (f : FromRow) (hf : f ∈ T.fromRows) (k : String) (v : V)
    (hk : r.keys = [k]) (hfk : f.key = k) (hg : f.gprop = r.gprop)
    (hlaw : readVal C f (C.enc r.enc [v]) = .ok (some v)) :
    readRow C (setProperty C T fresh p k v) f = .ok (some v) ∧
    (∀ s', fromProps C T (setProperty C T fresh p k v) = .ok s' →
      getProperty C T (setProperty C T fresh p k v) k = .ok (some v)) := by
  have hval := toProps_mem C T (fresh.set k (some v)) r (tableFacts hT).nodup_g hr
  have hv : rowVals (fresh.set k (some v)) r.keys = some [v] := by
    rw [hk, rowVals_singleton]
    simp [Fields.set]
  unfold rowOut at hval
  rw [hv] at hval
  have hp : (setProperty C T fresh p k v) f.gprop = some (C.enc r.enc [v]) := by
    unfold setProperty Props.update
    rw [hg, hval]
  have h1 : readRow C (setProperty C T fresh p k v) f = .ok (some v) := by
    rw [readRow_some C _ f _ hp]; exact hlaw
  exact ⟨h1, fun s' hs' => hfk ▸ (getProperty_attrGet_of_readRow C T (tableFacts hT).nodup_k _ s' hs' f hf _ h1).1⟩

/-- `set_property` touches only the properties the fresh sliver writes: the one of `k` and the always-written ones
(the latter is the `StitchNode := false` rewrite of `frame_stitch_counterexample`). -/
theorem set_frame (C : Codecs V P) (T : KindTable) (fresh : Fields V) (p : Props P) (k : String) (v : V) (g : String)
    (hg : toProps C T (fresh.set k (some v)) g = none) : (setProperty C T fresh p k v) g = p g := by
  unfold setProperty Props.update
  rw [hg]

/--
**unset then get**: a successful `unset_property(k)` removed the graph property the from-row of `k` reads, so that
row reads absent (`None`).
-/
theorem unset_get (C : Codecs V P) (p p' : Props P) (k : String) (f : FromRow)
    (hmap : mapUnset k = some f.gprop) (habs : f.absent = Absent.none) (hn : f.noneOk = true)
    (h : unsetProperty p k = .ok p') : readRow C p' f = .ok none := by
  rw [unsetProperty_ok p p' k f.gprop hmap h, readRow_none C _ f (by simp [Props.erase]) habs]
  simp [setRow, hn]

/-- unsetting an identity property (`NO_UNSET_PROPERTIES`) is rejected -/
theorem unset_identity_rejected (p : Props P) (k g : String) (hmap : mapUnset k = some g) (hid : g ∈ noUnset) :
    unsetProperty p k = .error "query" := by
  unfold unsetProperty
  rw [hmap]
  simp only
  rw [if_pos]
  simpa using hid

theorem unset_frame (p p' : Props P) (k g : String) (h : unsetProperty p k = .ok p') (hg : mapUnset k ≠ some g) :
    p' g = p g := by
  cases hm : mapUnset k with
  | none =>
    rw [unsetProperty_unmapped p k hm] at h
    cases h
    rfl
  | some g' =>
    have hne : g ≠ g' := fun e => hg (by rw [hm, e])
    rw [unsetProperty_ok p p' k g' hm h]
    simp [Props.erase, hne]

end

/-- `_partial`: the full statement has no exemptions; see `unset_counterexample`. -/
theorem unset_table_ok_partial : tables.all unsetOK = true :=
  List.all_eq_true.mpr fun _ hT => (table_checks hT).2.2.1

/-- `unset_property('stitch_node')` is a silent no-op on every kind: the name is not in the table
(corpus/C02/known_elem_image_and_stitch.json replays it on the implementation). -/
theorem unset_counterexample : ∀ p : Props String, unsetProperty p "stitch_node" = .ok p :=
  fun p => unsetProperty_unmapped p _ (by decide +kernel)

example : tableOK serviceTable = true := (table_checks (by simp [tables])).1
example : unsetOK nodeTable = true := (table_checks (by simp [tables])).2.2.1
/-- `set_get`'s hypotheses hold for `site := "RENC"` on a service -/
example : readVal concrete { key := "site", gprop := "Site", dec := Dec.ident, arg := "", absent := Absent.none, norm := Norm.ident, noneOk := true }
    (concrete.enc Enc.ident [Val.str "RENC"]) = .ok (some (Val.str "RENC")) := rfl
theorem mapUnset_site : mapUnset "site" = some "Site" := by decide +kernel

example : mapUnset "site" = some "Site" := mapUnset_site
example : unsetProperty (Props.empty.set "Site" "RENC") "site" = .ok ((Props.empty.set "Site" "RENC").erase "Site") :=
  unsetProperty_present _ _ _ "RENC" mapUnset_site (by decide) (by simp [Props.set])
example : unsetProperty (Props.empty : Props String) "name" = .error "query" :=
  unset_identity_rejected _ "name" "Name" (by decide +kernel) (by decide)

/-! ### every route to a property, every property, every element class

`elemClasses` (regenerated every run from behavioural probes of `fim/user/*.py`: what each python `property` of each
element class reads, what `el.<attr> = v` and `el.<attr> = None` hand to `set_property` / `set_properties` /
`unset_property`, what `set_property(p, None)` does) lists every attribute-style getter/setter pair of every element
class. -/

/-- Every element class routes `set_property(p, None)` to `unset_property(p)`; every attribute *with a setter* hands a value to
`set_property` unchanged (`direct`) or wrapped in the very class its from-row builds (`jsonWrap`), or pairs the two halves of
`ImageRef` (`pair`); and assigning `None` passes `None` on / calls `unset_property` (for `image_type`, which is exempt from
unsetting, the pair route writes nothing).  What else `routeOK` checks records the probes and has no theorem. -/
theorem routes_ok : elemClasses.all classOK = true := by
  have h := generated_ok
  simp only [Bool.and_eq_true] at h
  exact h.2

theorem class_check {E : ElemClass} (hE : E ∈ elemClasses) : classOK E = true := List.all_eq_true.mp routes_ok E hE

theorem rows_ok : tables.all rowsOK = true := List.all_eq_true.mpr fun _ hT => (table_checks hT).2.1

section
variable {V P : Type}

/--
**set then get, by every route**: for every kind table, every element class, every property the table rebuilds (other than
the two halves of the image pair, see the known findings), and every route — `set_property`, `set_properties`, or assignment
to *any* attribute of the class that has a setter and names that property — the node afterwards makes the from-row of the
property read the value back, for every value obeying the codec law of its row; `get_property` returns it whenever the node is
readable at all.  The last conjunct adds nothing to that: `attrGet` is `getProperty` of the attribute's property whatever the
form of the getter; the `.data` view and the cached `name` are modelled in the driver only.
-/
theorem set_get_every_route (C : Codecs V P) (T : KindTable) (hT : T ∈ tables) (E : ElemClass) (hE : E ∈ elemClasses)
    (f : FromRow) (hf : f ∈ T.fromRows) (hp : f.key ∉ pairKeys) (v : V)
    (hlaw : readVal C f (C.enc (rowOf T f).enc [v]) = .ok (some v))
    (route : SetRoute)
    (hroute : match route with
      | .attr r => r ∈ E.routes ∧ r.prop = f.key ∧ r.onValue ≠ OnValue.none
      | _ => True)
    (wn : String → V) (fresh : Fields V) (p : Props P) :
    ∃ p', setVia C T E wn fresh p f.key v route = .ok p' ∧ readRow C p' f = .ok (some v) ∧
      (∀ s', fromProps C T p' = .ok s' → getProperty C T p' f.key = .ok (some v) ∧
        ∀ a ∈ E.routes, a.prop = f.key → attrGet C T p' a = .ok (some v)) := by
  obtain ⟨hTok, hRok, -, -⟩ := table_checks hT
  obtain ⟨hr, hk, hg⟩ := rowsOK_single hRok f hf hp
  refine ⟨setProperty C T fresh p f.key v, setVia_eq C T (class_check hE) wn fresh p hp v route hroute, ?_⟩
  have h1 := (set_get C T hTok fresh p (rowOf T f) hr f hf f.key v hk rfl hg hlaw).1
  exact ⟨h1, fun s' hs' =>
    let ⟨hg, ha⟩ := getProperty_attrGet_of_readRow C T (tableFacts hTok).nodup_k _ s' hs' f hf _ h1
    ⟨hg, fun a _ => ha a⟩⟩

/--
**unset then get, by every route**: for every kind table, every element class, every property the table
rebuilds (other than the exempt `image_type` / `stitch_node`, see `unset_counterexample` and the known findings, and the
identity properties, whose unset is rejected: `unset_identity_rejected`), a successful unset by **any** route —
`unset_property(k)`, `set_property(k, None)`, or `el.<attr> = None` for any attribute of the class that has a setter and
names that property — leaves a node on which the property reads absent.
-/
theorem unset_get_every_route (C : Codecs V P) (T : KindTable) (hT : T ∈ tables) (E : ElemClass) (hE : E ∈ elemClasses)
    (f : FromRow) (hf : f ∈ T.fromRows) (hx : f.key ∉ unsetExempt) (hid : f.gprop ∉ noUnset)
    (route : UnsetRoute)
    (hroute : match route with
      | .attrNone r => r ∈ E.routes ∧ r.prop = f.key ∧ r.onValue ≠ OnValue.none
      | _ => True)
    (wn : String → V) (fresh : Fields V) (p p' : Props P)
    (h : unsetVia C T E wn fresh p f.key route = .ok p') :
    readRow C p' f = .ok none ∧
      (∀ s', fromProps C T p' = .ok s' → getProperty C T p' f.key = .ok none ∧
        ∀ a ∈ E.routes, a.prop = f.key → attrGet C T p' a = .ok none) := by
  obtain ⟨hTok, hRok, -, -⟩ := table_checks hT
  obtain ⟨habs, hn, hmap⟩ := rowsOK_unset hRok f hf hx hid
  rw [unsetVia_eq C T (class_check hE) wn fresh p hx route hroute] at h
  have h1 := unset_get C p p' f.key f hmap habs hn h
  exact ⟨h1, fun s' hs' =>
    let ⟨hg, ha⟩ := getProperty_attrGet_of_readRow C T (tableFacts hTok).nodup_k p' s' hs' f hf none h1
    ⟨hg, fun a _ => ha a⟩⟩

/-- every unset route of an identity property (`name`, `type`) is rejected -/
theorem unset_identity_every_route (C : Codecs V P) (T : KindTable) (E : ElemClass) (hE : E ∈ elemClasses) (k g : String)
    (hmap : mapUnset k = some g) (hid : g ∈ noUnset) (route : UnsetRoute)
    (hroute : match route with
      | .attrNone r => r ∈ E.routes ∧ r.prop = k ∧ r.onValue ≠ OnValue.none
      | _ => True)
    (hx : k ∉ unsetExempt) (wn : String → V) (fresh : Fields V) (p : Props P) :
    unsetVia C T E wn fresh p k route = .error "query" := by
  rw [unsetVia_eq C T (class_check hE) wn fresh p hx route hroute]
  exact unset_identity_rejected p k g hmap hid

end

inductive PropOp (V : Type) where
  | set (route : SetRoute) (v : V)
  | unset (route : UnsetRoute)

section
variable {V P : Type}

def stepOp (C : Codecs V P) (T : KindTable) (E : ElemClass) (wn : String → V) (fresh : Fields V) (k : Key) (p : Props P) :
    PropOp V → Except Err (Props P)
  | .set route v => setVia C T E wn fresh p k v route
  | .unset route => unsetVia C T E wn fresh p k route

/-- an operation that raises ends the history: the model has no partial states -/
def runHistory (C : Codecs V P) (T : KindTable) (E : ElemClass) (wn : String → V) (fresh : Fields V) (k : Key) :
    List (PropOp V) → Props P → Except Err (Props P)
  | [], p => .ok p
  | op :: rest, p =>
    match stepOp C T E wn fresh k p op with
    | .ok p' => runHistory C T E wn fresh k rest p'
    | .error e => .error e

/-- Stated at the types of the four runners' `match` on purpose: for an arbitrary `Except ε σ` the lemma gets a matcher with other
parameters and does not unify with their unfolded equations -/
theorem ok_of_step_ok {α : Type} {x : Except Err (Props P)} {run : Props P → Except Err α} {r : α}
    (h : (match x with | .ok p' => run p' | .error e => .error e) = .ok r) : ∃ q, x = .ok q ∧ run q = .ok r := by
  cases x with
  | error e => cases h
  | ok q => exact ⟨q, rfl, h⟩

theorem runHistory_append (C : Codecs V P) (T : KindTable) (E : ElemClass) (wn : String → V) (fresh : Fields V) (k : Key)
    (ops : List (PropOp V)) (op : PropOp V) (p p' : Props P)
    (h : runHistory C T E wn fresh k (ops ++ [op]) p = .ok p') :
    ∃ q, runHistory C T E wn fresh k ops p = .ok q ∧ stepOp C T E wn fresh k q op = .ok p' := by
  induction ops generalizing p with
  | nil =>
    simp only [List.nil_append, runHistory] at h
    obtain ⟨q, hq, h⟩ := ok_of_step_ok h
    cases h
    exact ⟨p, rfl, hq⟩
  | cons o os ih =>
    simp only [List.cons_append, runHistory] at h ⊢
    obtain ⟨q, hq, h⟩ := ok_of_step_ok h
    rw [hq]
    exact ih q h

/-- an admissible operation on `f.key`: a written value obeys the codec law of the row, and an attribute route is one of the
class's attributes that names this property and has a setter (`onValue ≠ none`) -/
def OpOK (C : Codecs V P) (T : KindTable) (E : ElemClass) (f : FromRow) : PropOp V → Prop
  | .set route v => readVal C f (C.enc (rowOf T f).enc [v]) = .ok (some v) ∧
      (match route with
       | .attr r => r ∈ E.routes ∧ r.prop = f.key ∧ r.onValue ≠ OnValue.none
       | _ => True)
  | .unset route =>
      (match route with
       | .attrNone r => r ∈ E.routes ∧ r.prop = f.key ∧ r.onValue ≠ OnValue.none
       | _ => True)

/-- what the property reads after the operation -/
def PropOp.leaves : PropOp V → Option V
  | .set _ v => some v
  | .unset _ => none

/-- one admissible operation on `f.key`, on any node; the history theorems below add only which step was the last -/
theorem step_decides (C : Codecs V P) (T : KindTable) (hT : T ∈ tables) (E : ElemClass) (hE : E ∈ elemClasses)
    (f : FromRow) (hf : f ∈ T.fromRows) (hp : f.key ∉ pairKeys) (hx : f.key ∉ unsetExempt) (hid : f.gprop ∉ noUnset)
    (wn : String → V) (fresh : Fields V) (op : PropOp V) (hop : OpOK C T E f op) (q p' : Props P)
    (h : stepOp C T E wn fresh f.key q op = .ok p') : readRow C p' f = .ok op.leaves := by
  cases op with
  | set route v =>
    obtain ⟨p2, h1, h2, _⟩ := set_get_every_route C T hT E hE f hf hp v hop.1 route hop.2 wn fresh q
    cases h1.symm.trans h
    exact h2
  | unset route => exact (unset_get_every_route C T hT E hE f hf hx hid route hop wn fresh q p' h).1

/--
**The last operation decides, over all histories**: whatever sequence of writes and unsets — each through any route —
an element's property went through, and whatever the node held at the start, after a history that ran to its end the
property reads the value of the last write, or absent if the last operation was an unset.  (Set `v1`, overwrite with
a falsy `v2`, unset, set again, ...: the per-step theorems hold on *every* node, so they compose.)
-/
theorem history_last_op_decides (C : Codecs V P) (T : KindTable) (hT : T ∈ tables) (E : ElemClass) (hE : E ∈ elemClasses)
    (f : FromRow) (hf : f ∈ T.fromRows) (hp : f.key ∉ pairKeys) (hx : f.key ∉ unsetExempt) (hid : f.gprop ∉ noUnset)
    (wn : String → V) (fresh : Fields V) (ops : List (PropOp V)) (op : PropOp V) (hop : OpOK C T E f op)
    (p p' : Props P) (h : runHistory C T E wn fresh f.key (ops ++ [op]) p = .ok p') :
    readRow C p' f = .ok (match op with | .set _ v => some v | .unset _ => none) := by
  obtain ⟨q, _, hstep⟩ := runHistory_append C T E wn fresh f.key ops op p p' h
  have := step_decides C T hT E hE f hf hp hx hid wn fresh op hop q p' hstep
  -- the `match` of the statement abstracts `hop` and `h` as well (both depend on `op`): it meets `op.leaves` only at a constructor
  cases op <;> exact this

/-! #### several handles of one element

`topo.nodes['n1']`, `node.components['nic1']`, `port.interface_list[0]`, the object an `add_*` call returned: each is
another python object for the same graph node.  The model (and the driver's `runOps`, which the correspondence runs
against histories that alternate between three handles) gives a handle exactly one thing of its own, the name it
caches; every property lives in the one store.  That is how `runHandles` is built (`stepOp` is not told the handle), so
`handles_share_one_store` unfolds the definition; what a cached getter returns after a history is stated by no theorem. -/

/-- what an operation through handle `h` does to the cached names: only an assignment to the cached attribute, and
only in the handle it went through -/
def cacheStep (h : Nat) : PropOp V → (Nat → Option V) → (Nat → Option V)
  | .set (.attr r) v, nm => if r.get == GetForm.cached then (fun i => if i = h then some v else nm i) else nm
  | _, nm => nm

def runHandles (C : Codecs V P) (T : KindTable) (E : ElemClass) (wn : String → V) (fresh : Fields V) (k : Key) :
    List (Nat × PropOp V) → Props P × (Nat → Option V) → Except Err (Props P × (Nat → Option V))
  | [], st => .ok st
  | hop :: rest, st =>
    match stepOp C T E wn fresh k st.1 hop.2 with
    | .ok p' => runHandles C T E wn fresh k rest (p', cacheStep hop.1 hop.2 st.2)
    | .error e => .error e

/-- **Handles share one store**: a history spread over any number of handles leaves the node exactly as the same
operations through a single handle do - which handle wrote is invisible to every reader -/
theorem handles_share_one_store (C : Codecs V P) (T : KindTable) (E : ElemClass) (wn : String → V) (fresh : Fields V) (k : Key)
    (hops : List (Nat × PropOp V)) (st st' : Props P × (Nat → Option V))
    (h : runHandles C T E wn fresh k hops st = .ok st') :
    runHistory C T E wn fresh k (hops.map (·.2)) st.1 = .ok st'.1 := by
  induction hops generalizing st with
  | nil => simp only [runHandles] at h; cases h; rfl
  | cons hop rest ih =>
    simp only [runHandles] at h
    obtain ⟨q, hq, h⟩ := ok_of_step_ok h
    simp only [List.map_cons, runHistory, hq]
    exact ih (q, cacheStep hop.1 hop.2 st.2) h

/-- set→get and unset→get **across handles**: after any history over any handles the store reads the value of the last write, or
absent after an unset, whoever made it.  A read has no handle here; the one getter that does not go to the store, the cached
`name`, is outside the statement (`hid` excludes `name`). -/
theorem history_last_op_decides_any_handle (C : Codecs V P) (T : KindTable) (hT : T ∈ tables) (E : ElemClass)
    (hE : E ∈ elemClasses) (f : FromRow) (hf : f ∈ T.fromRows) (hp : f.key ∉ pairKeys) (hx : f.key ∉ unsetExempt)
    (hid : f.gprop ∉ noUnset) (wn : String → V) (fresh : Fields V) (hops : List (Nat × PropOp V)) (hop : Nat × PropOp V)
    (hok : OpOK C T E f hop.2) (st st' : Props P × (Nat → Option V))
    (h : runHandles C T E wn fresh f.key (hops ++ [hop]) st = .ok st') :
    readRow C st'.1 f = .ok (match hop.2 with | .set _ v => some v | .unset _ => none) := by
  obtain ⟨hn, op⟩ := hop
  have h1 := handles_share_one_store C T E wn fresh f.key (hops ++ [(hn, op)]) st st' h
  rw [List.map_append, List.map_cons, List.map_nil] at h1
  have h2 := history_last_op_decides C T hT E hE f hf hp hx hid wn fresh (hops.map (·.2)) op hok st.1 st'.1 h1
  cases op <;> exact h2

/-! #### several elements

Each element of a model is a graph node of its own: an operation on element `a` goes to `a`'s stored properties and to
nothing else.  The model has no other place where a value could live (no table of decoded objects shared by the
elements that carry an equal text), so a history interleaved over any number of elements - of any classes - falls apart
into the histories of the single elements.  On the implementation this is an oracle fact (`check_alias`: equal values
on several elements, everything a getter hands out changed in place and written back, every other element compared
with what its graph node holds); here it is what the refinement to the model means for several elements. -/

/-- the elements of a model by number: stored properties, and the mapping table / class of each -/
def runElems (C : Codecs V P) (T : Nat → KindTable) (E : Nat → ElemClass) (wn : String → V) (fresh : Fields V) (k : Key) :
    List (Nat × PropOp V) → (Nat → Props P) → Except Err (Nat → Props P)
  | [], s => .ok s
  | hop :: rest, s =>
    match stepOp C (T hop.1) (E hop.1) wn fresh k (s hop.1) hop.2 with
    | .ok p' => runElems C T E wn fresh k rest (fun i => if i = hop.1 then p' else s i)
    | .error e => .error e

/-- **Elements do not share**: after any history interleaved over any elements, element `b` holds exactly what its own
operations - in their order, all others left out - make of what it held before -/
theorem elements_do_not_share (C : Codecs V P) (T : Nat → KindTable) (E : Nat → ElemClass) (wn : String → V) (fresh : Fields V)
    (k : Key) (hops : List (Nat × PropOp V)) (s s' : Nat → Props P) (b : Nat)
    (h : runElems C T E wn fresh k hops s = .ok s') :
    runHistory C (T b) (E b) wn fresh k ((hops.filter (fun hop => hop.1 == b)).map (·.2)) (s b) = .ok (s' b) := by
  induction hops generalizing s with
  | nil => simp only [runElems] at h; cases h; rfl
  | cons hop rest ih =>
    simp only [runElems] at h
    obtain ⟨q, hq, h⟩ := ok_of_step_ok h
    have hi := ih (fun i => if i = hop.1 then q else s i) h
    by_cases hb : hop.1 = b
    · subst hb
      simp only [List.filter_cons, beq_self_eq_true, if_true, List.map_cons, runHistory, hq]
      simpa using hi
    · have hb' : (hop.1 == b) = false := by simpa using hb
      have hb2 : ¬ b = hop.1 := fun e => hb e.symm
      simp only [List.filter_cons, hb', Bool.false_eq_true, if_false]
      simpa [hb2] using hi

theorem filter_elem_nil (b : Nat) (hops : List (Nat × PropOp V)) (h : ∀ hop ∈ hops, hop.1 ≠ b) :
    hops.filter (fun hop => hop.1 == b) = [] :=
  List.filter_eq_nil_iff.mpr fun hop hm => by simpa using h hop hm

/-- an element nobody wrote to reads what it read before, whatever was done to the others (in particular to those that
hold an equal value) -/
theorem untouched_element_unchanged (C : Codecs V P) (T : Nat → KindTable) (E : Nat → ElemClass) (wn : String → V)
    (fresh : Fields V) (k : Key) (hops : List (Nat × PropOp V)) (s s' : Nat → Props P) (b : Nat)
    (hb : ∀ hop ∈ hops, hop.1 ≠ b) (h : runElems C T E wn fresh k hops s = .ok s') : s' b = s b := by
  have h1 := elements_do_not_share C T E wn fresh k hops s s' b h
  rw [filter_elem_nil b hops hb] at h1
  simp only [List.map_nil, runHistory] at h1
  exact (Except.ok.inj h1).symm

/-- ... so on every element the last operation *on that element* decides what it reads, whatever happened to the other
elements in between -/
theorem history_last_op_decides_any_element (C : Codecs V P) (T : Nat → KindTable) (hT : ∀ i, T i ∈ tables)
    (E : Nat → ElemClass) (hE : ∀ i, E i ∈ elemClasses) (b : Nat) (f : FromRow) (hf : f ∈ (T b).fromRows)
    (hp : f.key ∉ pairKeys) (hx : f.key ∉ unsetExempt) (hid : f.gprop ∉ noUnset) (wn : String → V) (fresh : Fields V)
    (hops : List (Nat × PropOp V)) (op : PropOp V) (others : List (Nat × PropOp V)) (ho : ∀ hop ∈ others, hop.1 ≠ b)
    (hok : OpOK C (T b) (E b) f op) (s s' : Nat → Props P)
    (h : runElems C T E wn fresh f.key (hops ++ (b, op) :: others) s = .ok s') :
    readRow C (s' b) f = .ok (match op with | .set _ v => some v | .unset _ => none) := by
  have h1 := elements_do_not_share C T E wn fresh f.key (hops ++ (b, op) :: others) s s' b h
  rw [List.filter_append, List.filter_cons, filter_elem_nil b others ho] at h1
  simp only [beq_self_eq_true, if_true, List.map_append, List.map_cons, List.map_nil] at h1
  have h3 := history_last_op_decides C (T b) (hT b) (E b) (hE b) f hf hp hx hid wn fresh _ op hok (s b) (s' b) h1
  cases op <;> exact h3

end

def siteRoute : AttrRoute := (elemNode.routes.find? (fun r => r.attr == "site")).getD default
def siteFrom : FromRow := (nodeTable.fromRows.find? (fun f => f.key == "site")).getD default
/-- `site` of a node by five of the six routes, the second write a falsy value; the examples below: it runs to its end, and every
operation is admissible -/
def siteHistory : List (PropOp Val) :=
  [.set .setProperty (.str "A"), .set (.attr siteRoute) (.str ""), .unset .setPropertyNone,
   .set .setProperties (.str "B"), .unset (.attrNone siteRoute)]

example : (match runHistory concrete nodeTable elemNode (fun c => Val.jdata c "{}") freshFields "site" siteHistory
    (Props.empty.set "Name" "n1") with | .ok _ => true | .error _ => false) = true := by decide +kernel
example : ∀ op ∈ siteHistory, OpOK concrete nodeTable elemNode siteFrom op := by
  simp only [siteHistory, List.forall_mem_cons, List.not_mem_nil, false_imp_iff, implies_true, and_true, OpOK]
  decide +kernel

/-- non-vacuity of `history_last_op_decides_any_handle`: the same history with its operations alternating between
three handles runs to its end -/
example : (match runHandles concrete nodeTable elemNode (fun c => Val.jdata c "{}") freshFields "site"
    ((List.range siteHistory.length).map (· % 3) |>.zip siteHistory) (Props.empty.set "Name" "n1", fun _ => some (.str "n1"))
    with | .ok _ => true | .error _ => false) = true := by decide +kernel

/-- non-vacuity of `elements_do_not_share` / `history_last_op_decides_any_element`: the same history interleaved over
two elements (every operation first on element 0, then on element 1, both holding a name only) runs to its end -/
example : (match runElems concrete (fun _ => nodeTable) (fun _ => elemNode) (fun c => Val.jdata c "{}") freshFields "site"
    (siteHistory.flatMap (fun op => [(0, op), (1, op)])) (fun _ => Props.empty.set "Name" "n1")
    with | .ok _ => true | .error _ => false) = true := by decide +kernel

/-! non-vacuity of the route theorems: the `user_data` attribute of a `Node` (the JSON-blob setter), with a value
that obeys the codec law, through the attribute route -/

def userDataRoute : AttrRoute :=
  (elemNode.routes.find? (fun r => r.attr == "user_data")).getD default
def userDataFrom : FromRow :=
  (nodeTable.fromRows.find? (fun f => f.key == "user_data")).getD default

example : userDataRoute ∈ elemNode.routes ∧ userDataRoute.prop = userDataFrom.key ∧ userDataRoute.onValue ≠ OnValue.none := by decide +kernel
example : userDataFrom ∈ nodeTable.fromRows ∧ userDataFrom.key ∉ pairKeys ∧ userDataFrom.key ∉ unsetExempt ∧
    userDataFrom.gprop ∉ noUnset := by decide +kernel
example : readVal concrete userDataFrom (concrete.enc (rowOf nodeTable userDataFrom).enc [Val.jdata "UserData" "{\"a\": 1}"]) =
    .ok (some (Val.jdata "UserData" "{\"a\": 1}")) := by decide +kernel
/-- a node that holds user data: assigning `None` to the attribute succeeds (so the hypothesis of
`unset_get_every_route` is satisfiable) -/
example : ∃ p', unsetVia concrete nodeTable elemNode (fun c => Val.jdata c "{}") freshFields
    (Props.empty.set "UserData" "{}") "user_data" (.attrNone userDataRoute) = .ok p' := by
  refine ⟨(Props.empty.set "UserData" "{}").erase "UserData", ?_⟩
  rw [unsetVia_eq _ _ (class_check (by simp [elemClasses])) _ _ _ (by decide) _ (by
    show userDataRoute ∈ elemNode.routes ∧ userDataRoute.prop = "user_data" ∧ _
    decide +kernel)]
  exact unsetProperty_present _ _ _ "{}" (by decide +kernel) (by decide) (by simp [Props.set])

/-- `image_type` is exempt: assigning `None` to the attribute (the pair route with `None`) writes nothing, the stored
type stays readable (known finding `C02:unset_get:image_type:still-set:ctx=image-stored`; replayed on the
implementation by corpus/C02/known_elem_image_pair_stored.json) -/
theorem attr_unset_image_type_counterexample :
    (match attrAssign concrete nodeTable elemNode (fun c => Val.jdata c "{}") freshFields
        ((Props.empty.set "Name" "n1").set "ImageRef" "img,qcow2")
        ((elemNode.routes.find? (fun r => r.attr == "image_type")).getD default) none with
     | .ok p' => p' "ImageRef"
     | .error _ => none) = some "img,qcow2" := by decide +kernel

def exIface (n : String) : Sliver Val :=
  .mk "interface" (some ("id-" ++ n))
    ((freshFields.set "name" (some (.str n))).set "type" (some (.enum "InterfaceType" "TrunkPort"))) []
def exService : Sliver Val :=
  .mk "service" (some "id-s")
    ((((freshFields.set "name" (some (.str "svc1"))).set "type" (some (.enum "ServiceType" "L2Bridge"))).set
      "site" (some (.str "RENC"))).set "labels" (some (.obj "Labels" "{\"vlan\": \"100\"}")))
    [exIface "p1", exIface "p2"]
/-- node ⊃ component ⊃ service ⊃ two interfaces, with the `image_ref`/`image_type` pair set -/
def exNode : Sliver Val :=
  .mk "node" (some "id-n")
    ((((freshFields.set "name" (some (.str "node1"))).set "type" (some (.enum "NodeType" "VM"))).set
      "image_ref" (some (.str "img"))).set "image_type" (some (.str "qcow2")))
    [.mk "component" (some "id-c")
      ((freshFields.set "name" (some (.str "nic1"))).set "type" (some (.enum "ComponentType" "SmartNIC"))) [exService]]

def exSub (n vlan : String) : Sliver Val :=
  .mk "interface" (some ("id-" ++ n))
    (((freshFields.set "name" (some (.str n))).set "type" (some (.enum "InterfaceType" "SubInterface"))).set
      "labels" (some (.obj "Labels" ("{\"vlan\": \"" ++ vlan ++ "\"}")))) []
def exPort : Sliver Val :=
  .mk "interface" (some "id-port")
    ((freshFields.set "name" (some (.str "p0"))).set "type" (some (.enum "InterfaceType" "DedicatedPort")))
    [exSub "p0.100" "100", exSub "p0.200" "200"]
def exPortService : Sliver Val :=
  .mk "service" (some "id-ovs")
    ((freshFields.set "name" (some (.str "ovs1"))).set "type" (some (.enum "ServiceType" "OVS"))) [exPort, exIface "p1"]

/-- one evaluation for both trees (they share the tables and the interface `p1`), after the table checks have been rewritten away
with `tableOK_tableOf` -/
theorem examples_wf : WF concrete exNode ∧ WF concrete exPortService := by
  have h : (wfB concrete exNode && wfB concrete exPortService) = true := by
    simp only [exNode, exService, exIface, exPortService, exPort, exSub, wfB, wfKidsB, tableOK_tableOf "node" (by decide),
      tableOK_tableOf "component" (by decide), tableOK_tableOf "service" (by decide), tableOK_tableOf "interface" (by decide),
      Bool.true_and]
    decide +kernel
  rw [Bool.and_eq_true] at h
  exact ⟨wfB_sound _ _ h.1, wfB_sound _ _ h.2⟩

example : WF concrete exNode := examples_wf.1
example : WF concrete exService := by
  -- a subtree of `exNode`
  have h := examples_wf.1
  simp only [exNode, WF, WFKids] at h
  obtain ⟨-, -, -, -, ⟨-, -, ⟨-, -, -, -, ⟨-, -, hs, -⟩, -⟩, -⟩, -⟩ := h
  exact hs
example : FieldLaw concrete nodeTable exNode.fields ∧ FateShared nodeTable exNode.fields ∧ Required nodeTable exNode.fields := by
  have h := examples_wf.1
  simp only [exNode, WF] at h
  exact ⟨h.2.1, h.2.2.1, h.2.2.2.1⟩

/--
`image_ref + ',' + image_type` split at the last comma gives both parts back for **every** image reference (commas
included) and every image type without a comma — the codec law of the two-attribute row.
-/
theorem image_join_split (a b : String) (hb : ',' ∉ b.toList) :
    concrete.dec Dec.commaRSplit "0" (concrete.enc Enc.commaJoin [Val.str a, Val.str b]) = .ok (some (Val.str a)) ∧
    concrete.dec Dec.commaRSplit "1" (concrete.enc Enc.commaJoin [Val.str a, Val.str b]) = .ok (some (Val.str b)) := by
  have h := rsplitComma_join a b hb
  have he : concrete.enc Enc.commaJoin [Val.str a, Val.str b] = a ++ "," ++ b := rfl
  rw [he]
  unfold concrete
  simp only [h]
  exact ⟨rfl, rfl⟩

/-- an image type containing a comma does not survive (known findings `…:image_type-comma`;
corpus/C02/known_image_type_comma.json) -/
theorem image_type_comma_counterexample :
    concrete.dec Dec.commaRSplit "1" (concrete.enc Enc.commaJoin [Val.str "img", Val.str "qcow2,raw"]) = .ok (some (Val.str "raw")) := by
  decide +kernel

section
variable {V P : Type} [DecidableEq V]

/--
**Model-graph round trip** (`add_network_node_sliver` / `add_network_service_sliver` / `add_interface_sliver` /
`add_network_link_sliver` into an empty graph, then `build_deep_<kind>_sliver`): every well-formed sliver tree with
node ids that are present and pairwise distinct comes back as `gnorm s` — same kind and node id, every rebuilt
property equal, and the children of each element rebuilt recursively and grouped by kind (components before services;
`regroup_perm`: a permutation of the original children — the implementation enumerates neighbours as a set, so
order is not observable).  Below an interface the graph reader attaches children only to a `DedicatedPort` and
builds them flat.
`_partial` only through `WF`'s `FateShared` conjunct (see `props_roundtrip_partial`).
-/
theorem graph_roundtrip_partial (C : Codecs V P) (s : Sliver V) (hk : s.kind ≠ "component") (hs : Shaped s)
    (hw : WF C s) (hnd : (idsOf s).Nodup) : graphRoundtrip (P := P) C s = .ok (gnorm C s) :=
  graph_roundtrip C s hs hw hnd (fun h => absurd h hk)

/-- the children the graph path gives back are the original children, each rebuilt, up to order -/
theorem graph_children_perm (C : Codecs V P) (k : Kind) (nid : Option String) (f : Fields V) (ks : List (Sliver V))
    (hk : k ≠ "interface") (hs : ShapedKids k ks) :
    (gnorm C (.mk k nid f ks)).kids.Perm (ks.map (gnorm C)) := by
  have hk' : (k == "interface") = false := by simpa using hk
  simp only [gnorm, Sliver.kids, hk', Bool.false_eq_true, if_false, gnormKids_eq_map]
  apply regroup_perm
  intro c hc
  obtain ⟨c0, hc0, rfl⟩ := List.mem_map.mp hc
  rw [gnorm_kind]
  exact (containment (shapedKids_mem k ks hs c0 hc0).1).mem

/-- the same for a component, which the harness (and `add_component_sliver`) hangs below an existing node -/
theorem graph_roundtrip_component_partial (C : Codecs V P) (s : Sliver V) (hk : s.kind = "component") (hs : Shaped s)
    (hw : WF C s) (hnd : (idsOf s).Nodup) (hp : "c02-parent" ∉ idsOf s) :
    graphRoundtrip (P := P) C s = .ok (gnorm C s) :=
  graph_roundtrip C s hs hw hnd (fun _ => hp)

/--
**The model graph read from every element** (`Interface.get_sliver()` on what `add_child_interface` returned,
`build_deep_ns_sliver(<id of a component's service>)`, `build_deep_interface_sliver(<sub-interface id>)`, ...): a
well-formed tree is written once; the reader started at *any* of its elements - every kind, every nesting position -
returns that element's subtree (`gnorm` of it: same fields, children up to order), nothing of what lies above or beside
it.  `get_first_neighbor` is undirected, so every inner element has its parent among its neighbours, and below an interface only
the `DedicatedPort` guard keeps it out (`build_built`) - hence `SubsPlain`: the children of an interface are not themselves
`DedicatedPort`s (`add_child_interface` makes `SubInterface`s); `graph_at_nested_dedicated_counterexample` shows the hypothesis
is needed.  `_partial` as `graph_roundtrip_partial`.
-/
theorem graph_roundtrip_every_element_partial (C : Codecs V P) (s : Sliver V) (hk : s.kind ≠ "component") (hs : Shaped s)
    (hw : WF C s) (hnd : (idsOf s).Nodup) (hp : SubsPlain C (elems none s)) :
    graphAt (P := P) C s = .ok ((elems none s).map fun e => (e.2, .ok (gnorm C e.2))) :=
  graph_every_element C s hs hw hnd (fun h => absurd h hk) hp

/-- the same for a component, which hangs below an existing node (`c02-parent`) as `add_component_sliver` requires -/
theorem graph_roundtrip_every_element_component_partial (C : Codecs V P) (s : Sliver V) (hk : s.kind = "component")
    (hs : Shaped s) (hw : WF C s) (hnd : (idsOf s).Nodup) (hpid : "c02-parent" ∉ idsOf s)
    (hp : SubsPlain C (elems none s)) :
    graphAt (P := P) C s = .ok ((elems none s).map fun e => (e.2, .ok (gnorm C e.2))) :=
  graph_every_element C s hs hw hnd (fun _ => hpid) hp

end

example : graphAt (P := String) concrete exPortService =
    .ok ((elems none exPortService).map fun e => (e.2, .ok (gnorm concrete e.2))) :=
  graph_roundtrip_every_element_partial concrete exPortService (by decide)
    (by simp [Shaped, ShapedKids, exPortService, exPort, exSub, exIface, Sliver.kind, slotOf])
    examples_wf.2 (by decide)
    (by
      intro e he q hq
      simp [elems, elemsKids, exPortService, exPort, exSub, exIface] at he
      -- only the two sub-interfaces sit below an interface
      rcases he with rfl | rfl | rfl | rfl | rfl
      · cases hq
      · simp at hq
      · unfold NotDed; decide
      · unfold NotDed; decide
      · simp at hq)
example : ((elems none exPortService).map (·.2.nodeId)) =
    [some "id-ovs", some "id-port", some "id-p0.100", some "id-p0.200", some "id-p1"] := by decide +kernel

def exNested : Sliver Val :=
  .mk "interface" (some "id-outer")
    ((freshFields.set "name" (some (.str "outer"))).set "type" (some (.enum "InterfaceType" "DedicatedPort")))
    [.mk "interface" (some "id-inner")
      ((freshFields.set "name" (some (.str "inner"))).set "type" (some (.enum "InterfaceType" "DedicatedPort"))) []]

/-- `SubsPlain` is needed: a `DedicatedPort` below a `DedicatedPort`, read from the inner one, comes back with its
own parent as a child (the undirected neighbour query; the guard lets a `DedicatedPort` look) -/
theorem graph_at_nested_dedicated_counterexample :
    (match graphWrite (P := String) concrete exNested with
     | .ok g => (buildDeep concrete g 5 "interface" "id-inner").toOption.map (fun r => r.kids.map (·.nodeId))
     | .error _ => none) = some [some "id-outer"] := by decide +kernel

example : graphRoundtrip (P := String) concrete exNode = .ok (gnorm concrete exNode) :=
  graph_roundtrip_partial concrete exNode (by decide)
    (by simp [Shaped, ShapedKids, exNode, exService, exIface, Sliver.kind, slotOf])
    examples_wf.1 (by decide)

/-! #### several properties of one element: a write to one leaves the others

`<Element>.set_property(k, v)` writes the COMPLETE dictionary of a fresh sliver with `k` set, so it rewrites every graph
property the fresh sliver carries besides `k`'s: the always-written rows (`StitchNode`) and every property the sliver
class's `__init__` starts with a value for (`freshDefaults`, probed every run).  `frame_ok` checks on the generated tables
that no property outside `frameExempt` (`stitch_node` and the image pair, for which nothing is claimed) is among them. -/

theorem frame_ok : tables.all frameOK = true := List.all_eq_true.mpr fun _ hT => (table_checks hT).2.2.2

section
variable {V P : Type}

/-- the route condition of `OpOK`, for either kind of operation -/
def RouteFor (E : ElemClass) (k : Key) : PropOp V → Prop
  | .set route _ => (match route with
      | .attr r => r ∈ E.routes ∧ r.prop = k ∧ r.onValue ≠ OnValue.none
      | _ => True)
  | .unset route => (match route with
      | .attrNone r => r ∈ E.routes ∧ r.prop = k ∧ r.onValue ≠ OnValue.none
      | _ => True)

/-- what the frame needs of an operation on another rebuilt property `fk.key` -/
def OtherOK (T : KindTable) (E : ElemClass) (fk : FromRow) (op : PropOp V) : Prop :=
  fk ∈ T.fromRows ∧ fk.key ∉ pairKeys ∧ RouteFor E fk.key op ∧
  (match op with | .unset _ => fk.key ∉ unsetExempt ∧ fk.gprop ∉ noUnset | .set _ _ => True)

/-- **frame, one step**: an operation on property `fk.key` - a write or an unset, through any route - leaves the graph
property of every OTHER property `f.key` as it was; `hfresh` and `hal` are what `frameOK` checks -/
theorem step_leaves_other_property (C : Codecs V P) (T : KindTable) (hT : T ∈ tables) (E : ElemClass) (hE : E ∈ elemClasses)
    (f : FromRow) (hf : f ∈ T.fromRows) (hp : f.key ∉ pairKeys) (wn : String → V) (fresh : Fields V)
    (hfresh : fresh f.key = none) (hal : (rowOf T f).always = false)
    (fk : FromRow) (op : PropOp V) (hok : OtherOK T E fk op) (hne : fk.key ≠ f.key)
    (p p' : Props P) (h : stepOp C T E wn fresh fk.key p op = .ok p') : p' f.gprop = p f.gprop := by
  obtain ⟨hTok, hRok, -, -⟩ := table_checks hT
  have hEok := class_check hE
  obtain ⟨hfk, hpk, hroute, hun⟩ := hok
  obtain ⟨hr, hk, hg⟩ := rowsOK_single hRok f hf hp
  cases op with
  | set route v =>
    simp only [stepOp] at h
    rw [setVia_eq C T hEok wn fresh p hpk v route hroute] at h
    cases h
    rw [hg]
    apply set_frame
    rw [toProps_mem C T _ (rowOf T f) (tableFacts hTok).nodup_g hr]
    unfold rowOut
    have hv : rowVals (fresh.set fk.key (some v)) (rowOf T f).keys = none := by
      rw [hk, rowVals_singleton]
      unfold Fields.set
      rw [if_neg (fun e => hne e.symm), hfresh]
      rfl
    rw [hv, hal]
    rfl
  | unset route =>
    obtain ⟨hx, hid⟩ := hun
    simp only [stepOp] at h
    rw [unsetVia_eq C T hEok wn fresh p hx route hroute] at h
    obtain ⟨_, _, hmap⟩ := rowsOK_unset hRok fk hfk hx hid
    apply unset_frame p p' fk.key f.gprop h
    rw [hmap]
    intro e
    exact gprop_ne_of_key_ne hRok f fk hf hfk hp hpk hne (Option.some.inj e)

/-- `runHistory` with every operation naming the property it works on -/
def runKeys (C : Codecs V P) (T : KindTable) (E : ElemClass) (wn : String → V) (fresh : Fields V) :
    List (FromRow × PropOp V) → Props P → Except Err (Props P)
  | [], p => .ok p
  | kop :: rest, p =>
    match stepOp C T E wn fresh kop.1.key p kop.2 with
    | .ok p' => runKeys C T E wn fresh rest p'
    | .error e => .error e

theorem runKeys_append (C : Codecs V P) (T : KindTable) (E : ElemClass) (wn : String → V) (fresh : Fields V)
    (a b : List (FromRow × PropOp V)) (p p' : Props P) (h : runKeys C T E wn fresh (a ++ b) p = .ok p') :
    ∃ q, runKeys C T E wn fresh a p = .ok q ∧ runKeys C T E wn fresh b q = .ok p' := by
  induction a generalizing p with
  | nil => exact ⟨p, rfl, h⟩
  | cons o os ih =>
    simp only [List.cons_append, runKeys] at h ⊢
    obtain ⟨q, hq, h⟩ := ok_of_step_ok h
    rw [hq]
    exact ih q h

/-- **frame, all histories**: whatever is done to OTHER properties of the element - any number of writes and unsets,
through any routes - the graph property of `f.key` stays as it was -/
theorem other_properties_leave_property (C : Codecs V P) (T : KindTable) (hT : T ∈ tables) (E : ElemClass) (hE : E ∈ elemClasses)
    (f : FromRow) (hf : f ∈ T.fromRows) (hp : f.key ∉ pairKeys) (wn : String → V) (fresh : Fields V)
    (hfresh : fresh f.key = none) (hal : (rowOf T f).always = false)
    (kops : List (FromRow × PropOp V)) (hok : ∀ kop ∈ kops, OtherOK T E kop.1 kop.2 ∧ kop.1.key ≠ f.key)
    (p p' : Props P) (h : runKeys C T E wn fresh kops p = .ok p') : p' f.gprop = p f.gprop := by
  induction kops generalizing p with
  | nil => simp only [runKeys] at h; cases h; rfl
  | cons o os ih =>
    simp only [runKeys] at h
    obtain ⟨q, hq, h⟩ := ok_of_step_ok h
    have h1 := ih (fun kop hm => hok kop (List.mem_cons_of_mem _ hm)) q h
    have ho := hok o List.mem_cons_self
    rw [h1]
    exact step_leaves_other_property C T hT E hE f hf hp wn fresh hfresh hal o.1 o.2 ho.1 ho.2 p q hq

/-- **the last operation ON THAT PROPERTY decides, over all histories over several properties**: set `layer`, then set
`details`, `labels`, `user_data`, unset `details`, ...: `layer` still reads what its own last operation made it -/
theorem history_last_op_on_property_decides (C : Codecs V P) (T : KindTable) (hT : T ∈ tables) (E : ElemClass)
    (hE : E ∈ elemClasses) (f : FromRow) (hf : f ∈ T.fromRows) (hp : f.key ∉ pairKeys) (hx : f.key ∉ unsetExempt)
    (hid : f.gprop ∉ noUnset) (wn : String → V) (fresh : Fields V)
    (hfresh : fresh f.key = none) (hal : (rowOf T f).always = false)
    (before : List (FromRow × PropOp V)) (op : PropOp V) (hop : OpOK C T E f op)
    (after : List (FromRow × PropOp V)) (hok : ∀ kop ∈ after, OtherOK T E kop.1 kop.2 ∧ kop.1.key ≠ f.key)
    (p p' : Props P) (h : runKeys C T E wn fresh (before ++ (f, op) :: after) p = .ok p') :
    readRow C p' f = .ok (match op with | .set _ v => some v | .unset _ => none) := by
  obtain ⟨q, _, h2⟩ := runKeys_append C T E wn fresh before ((f, op) :: after) p p' h
  simp only [runKeys] at h2
  obtain ⟨q2, hq, h2⟩ := ok_of_step_ok h2
  -- the step on `f.key` decides, and the steps after it leave its graph property alone
  have hfr := other_properties_leave_property C T hT E hE f hf hp wn fresh hfresh hal after hok q2 p' h2
  rw [readRow_congr C q2 p' f hfr]
  have := step_decides C T hT E hE f hf hp hx hid wn fresh op hop q q2 hq
  cases op <;> exact this

end

theorem frame_hyps_of_tables (T : KindTable) (hT : T ∈ tables) (f : FromRow) (hf : f ∈ T.fromRows) (hx : f.key ∉ frameExempt) :
    freshOf T.kind f.key = none ∧ (rowOf T f).always = false := by
  have h := List.all_eq_true.mp (table_checks hT).2.2.2 f hf
  simp only [Bool.or_eq_true, List.contains_iff_mem, Bool.and_eq_true, Bool.not_eq_true', beq_iff_eq] at h
  rcases h with h | h
  · exact absurd h hx
  · exact ⟨h.2, h.1⟩

/-- on the driver's model (`concrete`, the probed `freshOf`) the frame holds for every kind, element class and property outside
`frameExempt`, with no hypothesis left on the fresh sliver -/
theorem other_properties_leave_property_repo (T : KindTable) (hT : T ∈ tables) (E : ElemClass) (hE : E ∈ elemClasses)
    (f : FromRow) (hf : f ∈ T.fromRows) (hx : f.key ∉ frameExempt) (wn : String → Val)
    (kops : List (FromRow × PropOp Val)) (hok : ∀ kop ∈ kops, OtherOK T E kop.1 kop.2 ∧ kop.1.key ≠ f.key)
    (p p' : Props String) (h : runKeys concrete T E wn (freshOf T.kind) kops p = .ok p') : p' f.gprop = p f.gprop := by
  obtain ⟨h1, h2⟩ := frame_hyps_of_tables T hT f hf hx
  -- `frameExempt` is `"stitch_node" :: pairKeys`
  have hp : f.key ∉ pairKeys := fun hm => hx (List.mem_cons_of_mem _ hm)
  exact other_properties_leave_property concrete T hT E hE f hf hp wn (freshOf T.kind) h1 h2 kops hok p p' h

/-- the exemption is needed for the code as it is: a node with `StitchNode = "true"` whose `details` is set holds
`StitchNode = "false"` afterwards (known finding `C02:frame:stitch_node:reset-to-default:by=set`, replayed on the
implementation by corpus/C02/known_elem_stitch_reset.json) -/
theorem frame_stitch_counterexample :
    (setProperty concrete nodeTable (freshOf "node") ((Props.empty : Props String).set "StitchNode" "true") "details" (.str "d"))
      "StitchNode" = some "false" := by decide +kernel

/-! non-vacuity of the frame theorems: `layer` of a link set to L1, then `details` written and unset: admissible, runs to its end,
and `layer` still reads L1 -/

def layerFrom : FromRow := (linkTable.fromRows.find? (fun f => f.key == "layer")).getD default
def detailsFrom : FromRow := (linkTable.fromRows.find? (fun f => f.key == "details")).getD default
example : layerFrom ∈ linkTable.fromRows ∧ layerFrom.key ∉ frameExempt ∧ detailsFrom ∈ linkTable.fromRows ∧
    detailsFrom.key ≠ layerFrom.key ∧ detailsFrom.key ∉ pairKeys ∧ detailsFrom.key ∉ unsetExempt ∧ detailsFrom.gprop ∉ noUnset := by decide +kernel
example : (runKeys concrete linkTable elemLink (fun c => Val.jdata c "{}") (freshOf "link")
    [(layerFrom, .set .setProperty (.enum "NSLayer" "L1")), (detailsFrom, .set .setProperties (.str "leased")),
     (detailsFrom, .unset .unsetProperty)] Props.empty).toOption.map (fun p => p "Layer") = some (some "L1") := by decide +kernel

end FimVerif.C02
