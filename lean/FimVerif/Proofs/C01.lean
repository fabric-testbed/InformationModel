import FimVerif.Model.SerialFS
import FimVerif.Proofs.Lemmas.C01Entry
import FimVerif.Proofs.Lemmas.C01Validate
import FimVerif.Proofs.Lemmas.C01Load
import FimVerif.Proofs.Lemmas.C01DStore
import FimVerif.Proofs.Lemmas.C01Equiv
/-!
# C01 — model serialization round trip is lossless and re-importable

Document level (see `Model/GraphML.lean`): all theorems quantify over every store / graph /
document of the model.  Character-level fidelity (escaping, `str`/`int`) is third-party
code and is established only differentially; the claim is therefore *partial*.
-/
namespace FimVerif.C01
open FimVerif.GraphML FimVerif.Serial FimVerif.SerialSpec

variable {κ : Type}

/-- attribute names are unique inside every attribute dict (they are Python dicts) -/
def KeysNodup (G : Graph κ) : Prop :=
  (∀ p ∈ G.nodes, (p.2.map (·.1)).Nodup) ∧ (∀ e ∈ G.edges, (e.attrs.map (·.1)).Nodup)

instance (G : Graph κ) : Decidable (KeysNodup G) := by unfold KeysNodup; exact inferInstance

/-- **GraphML round trip, document level** (`generate_graphml`, `networkx_to_neo4j`, then `read_graphml`): the nodes come back
    with their attribute dicts (names, values *and value types*, in order), the edges as `G.edges()` reports them, iterated
    once more because `read_graphml` converts a MultiGraph (for distinct node keys that changes nothing: `iter_idem`). -/
theorem roundtrip_graphml_doc [DecidableEq κ] (G : Graph κ) (hk : KeysNodup G) (d d' : GDoc κ)
    (h : toGraphML G = .ok d) (h' : toNeo4j d = .ok d') :
    fromGraphML d' = .ok ⟨G.nodes, iterFrom G.edgesIter [] G.keys⟩ := by
  obtain ⟨tbl, halloc, rfl⟩ := toGraphML_ok G d h
  obtain ⟨hcn, hce⟩ := allocKeys_covers G tbl halloc
  obtain ⟨es', ns', hme, hmn, rfl⟩ := toNeo4j_ok _ d' h'
  -- `read_graphml` does not look at the label markup: reading the marked elements is reading the unmarked ones
  have rn : mapE (readNode (docKeys tbl)) ns' = .ok G.nodes := by
    rw [mapE_congr_of_ok _ _ (readNode_markNode (docKeys tbl) _) _ ns' hmn]
    refine mapE_map_ok _ _ _ fun p hp => ?_
    simp only [readNode]
    rw [decodeData_dataOf tbl .node p.2 (hcn p hp) (hk.1 p hp)]
  have re : mapE (readEdge (docKeys tbl)) es' = .ok G.edgesIter := by
    rw [mapE_congr_of_ok _ _ (readEdge_markEdge (docKeys tbl) _) _ es' hme]
    refine mapE_map_ok _ _ _ fun e he => ?_
    simp only [readEdge]
    rw [decodeData_dataOf tbl .edge e.attrs (hce e he) (attrs_iterFrom (fun a => (a.map Prod.fst).Nodup) G.edges hk.2 [] G.keys e he)]
  simp only [fromGraphML, rn, re]
  rfl

example : ∃ (G : Graph Nat) (d d' : GDoc Nat), KeysNodup G ∧ toGraphML G = .ok d ∧ toNeo4j d = .ok d' ∧ G.edges ≠ [] :=
  ⟨⟨[(1, [("GraphID", .str "g"), ("Class", .str "NetworkNode"), ("n", .int 5)]), (2, [("Class", .str "Component"), ("n", .str "5")])],
     [⟨2, 1, [("Class", .str "has")]⟩]⟩, _, _, by decide +kernel, rfl, rfl, by decide +kernel⟩

theorem roundtrip_graphml_iter [DecidableEq κ] (H : Graph κ) (hit : H.edgesIter = H.edges) (hk : KeysNodup H) (d d' : GDoc κ)
    (h : toGraphML H = .ok d) (h' : toNeo4j d = .ok d') : fromGraphML d' = .ok H := by
  rw [roundtrip_graphml_doc H hk d d' h h', hit]
  exact congrArg (fun es => (.ok ⟨H.nodes, es⟩ : Except String (Graph κ))) hit

/-- no attribute is named like a reserved key of the node-link format -/
def NoReserved (G : Graph κ) : Prop :=
  (∀ p ∈ G.nodes, Gen.Serial.jsonIdKey ∉ p.2.map (·.1)) ∧
  (∀ e ∈ G.edges, Gen.Serial.jsonSourceKey ∉ e.attrs.map (·.1) ∧ Gen.Serial.jsonTargetKey ∉ e.attrs.map (·.1))

instance (G : Graph κ) : Decidable (NoReserved G) := by unfold NoReserved; exact inferInstance

/-- **node-link JSON round trip, document level.**  Nodes with their attribute dicts (all value types, including the ones
    GraphML rejects) and the edges `G.edges()` reports come back exactly. -/
theorem roundtrip_json_doc [DecidableEq κ] (G : Graph κ) (hr : NoReserved G) :
    fromJSON (toJSON G) = .ok ⟨G.nodes, G.edgesIter⟩ := by
  have rn : mapE readJNode (toJSON G).nodes = .ok G.nodes := by
    simp only [toJSON]
    apply mapE_map_ok
    intro p hp
    exact readJNode_toJSON p.1 p.2 (hr.1 p hp)
  have re : mapE readJEdge (toJSON G).edges = .ok G.edgesIter := by
    simp only [toJSON]
    apply mapE_map_ok
    intro e he
    have := attrs_iterFrom (fun a => Gen.Serial.jsonSourceKey ∉ a.map Prod.fst ∧ Gen.Serial.jsonTargetKey ∉ a.map Prod.fst) G.edges hr.2
      [] G.keys e he
    exact readJEdge_toJSON e this.1 this.2
  unfold fromJSON
  rw [rn, re]
  simp [toJSON]

example : NoReserved (⟨[(1, [("Class", .str "NetworkNode")]), (2, [("Class", .str "Component")])],
    [⟨2, 1, [("Class", .str "has")]⟩]⟩ : Graph Nat) := by decide +kernel

/-- the full statement (no `NoReserved` hypothesis) is false for the code as it is: a node
    property named `id` is overwritten by the node key and lost (known finding
    `C01:json:property-named-id`, replayed by `corpus/C01/prop_named_id.json`) -/
theorem roundtrip_json_counterexample :
    ∃ G : Graph Nat, fromJSON (toJSON G) ≠ .ok ⟨G.nodes, G.edgesIter⟩ :=
  ⟨⟨[(1, [("NodeID", .str "a"), ("id", .str "user-value")])], []⟩, by
    intro h
    have h2 : fromJSON (toJSON (⟨[(1, [("NodeID", .str "a"), ("id", .str "user-value")])], []⟩ : Graph Nat))
        = .ok ⟨[(1, [("NodeID", .str "a")])], []⟩ := by rfl
    rw [h2] at h
    simp [Graph.edgesIter] at h⟩

/-- the guard of the JSON theorems, spelled with the reserved keys observed on the code -/
theorem noReserved_iff (G : Graph κ) :
    NoReserved G ↔ (∀ p ∈ G.nodes, ∀ r ∈ FimVerif.Gen.Serial.jsonNodeReserved, r ∉ p.2.map (·.1)) ∧
      (∀ e ∈ G.edges, ∀ r ∈ FimVerif.Gen.Serial.jsonEdgeReserved, r ∉ e.attrs.map (·.1)) := by
  have hn : FimVerif.Gen.Serial.jsonNodeReserved = [FimVerif.Gen.Serial.jsonIdKey] := by decide +kernel
  have he : FimVerif.Gen.Serial.jsonEdgeReserved = [FimVerif.Gen.Serial.jsonSourceKey, FimVerif.Gen.Serial.jsonTargetKey] := by decide +kernel
  rw [hn, he]
  simp only [NoReserved, List.mem_cons, List.not_mem_nil, or_false, forall_eq_or_imp, forall_eq]

/-- the model spells these names of the code literally and no model function takes the constants: when the source changes
    one of them the build stops here, the model does not follow -/
theorem serial_names_tie :
    FimVerif.Gen.Serial.graphId = "GraphID" ∧ FimVerif.Gen.Serial.nodeId = "NodeID" ∧ FimVerif.Gen.Serial.propClass = "Class" ∧
    FimVerif.Gen.Serial.nodeLabelAttr = "labels" ∧ FimVerif.Gen.Serial.edgeLabelAttr = "label" ∧
    FimVerif.Gen.Serial.edgeLabelPrefix = "" ∧ FimVerif.Gen.Serial.readFormatsJsonFirst = true := by decide +kernel

theorem labels_markup_node (ck : Option Nat) (n n' : GNode κ) (h : markNode ck n = .ok n') (hn : n.labels = none) :
    ∃ d ∈ n.data, some d.key = ck ∧ n'.labels = some (Gen.Serial.nodeLabelPrefix ++ d.val.pyStr) := by
  obtain ⟨d, hd, hk, _, rfl⟩ := markNode_labels ck n n' h hn
  exact ⟨d, hd, hk, rfl⟩

/-- **Label markup** (`networkx_to_neo4j` on what `generate_graphml` writes): every node element gets
    `labels = ":GraphNode:" ++ text`, every edge element `label = text`, `text` the non-empty text of the element's own data
    under a `<key attr.name="Class">` (`classKey_spec`). -/
theorem labels_markup (d d' : GDoc κ) (h : toNeo4j d = .ok d')
    (hn : ∀ n ∈ d.nodes, n.labels = none) (he : ∀ e ∈ d.edges, e.label = none) :
    (∀ n' ∈ d'.nodes, ∃ i x, classKey d.keys .node = some i ∧ x ∈ n'.data ∧ x.key = i ∧ x.val.pyStr ≠ "" ∧
        n'.labels = some (Gen.Serial.nodeLabelPrefix ++ x.val.pyStr)) ∧
    (∀ e' ∈ d'.edges, ∃ i x, classKey d.keys .edge = some i ∧ x ∈ e'.data ∧ x.key = i ∧ x.val.pyStr ≠ "" ∧
        e'.label = some x.val.pyStr) := by
  obtain ⟨es', ns', hme, hmn, rfl⟩ := toNeo4j_ok d d' h
  constructor
  · intro n' hn'
    obtain ⟨n, hnm, hmk⟩ := mapE_mem _ _ _ hmn n' hn'
    obtain ⟨x, hx, hk, hne, rfl⟩ := markNode_labels _ n n' hmk (hn n hnm)
    exact ⟨x.key, x, hk.symm, hx, rfl, hne, rfl⟩
  · intro e' he'
    obtain ⟨e, hem, hmk⟩ := mapE_mem _ _ _ hme e' he'
    obtain ⟨x, hx, hk, hne, rfl⟩ := markEdge_label _ e e' hmk (he e hem)
    exact ⟨x.key, x, hk.symm, hx, rfl, hne, rfl⟩

/-- every node carries a non-empty string `NodeID` (what the library's own models satisfy) -/
def StrNodeIds {κ : Type} (G : Graph κ) : Prop :=
  ∀ p ∈ G.nodes, ∃ t, p.2.get? "NodeID" = some (.str t) ∧ t ≠ ""

theorem forE_keepsNodeId {κ : Type} (G : Graph κ) (h : StrNodeIds G) :
    forE keepsNodeId G.nodes = .ok () := by
  rw [forE_ok_iff]
  intro p hp
  obtain ⟨t, ht, hne⟩ := h p hp
  have : (t == "") = false := by simpa using hne
  simp [keepsNodeId, needsNodeId, ht, this]

/-- **`enumerate_graph_nodes` / `enumerate_graph_nodes_to_string` / `GraphML.nx_write_graphml` reproduce the library's own
    GraphML**: for a graph in iteration order (`hit`: what `extract_graph` returns), re-writing the emitted document through
    `read_graphml` + `generate_graphml` gives the bare document `d` again, and with the label markup (`nx_write_graphml`) the
    very document `d'` that `serialize_graph` emitted -/
theorem enumerate_fixpoint (H : Graph Nat) (hit : H.edgesIter = H.edges) (hk : KeysNodup H) (hid : StrNodeIds H)
    (d d' : GDoc Nat) (h : toGraphML H = .ok d) (h' : toNeo4j d = .ok d') :
    enumerateDoc d' true = .ok d' ∧ enumerateDoc d' false = .ok d := by
  unfold enumerateDoc
  simp only [roundtrip_graphml_iter H hit hk d d' h h', forE_keepsNodeId H hid, h, if_true, h']
  exact ⟨trivial, by simp⟩

example : ∃ (H : Graph Nat) (d d' : GDoc Nat), H.edgesIter = H.edges ∧ KeysNodup H ∧ StrNodeIds H ∧ H.edges ≠ [] ∧
    toGraphML H = .ok d ∧ toNeo4j d = .ok d' :=
  ⟨⟨[(1, [("GraphID", .str "g"), ("Class", .str "NetworkNode"), ("NodeID", .str "a"), ("n", .int 5)]),
      (2, [("GraphID", .str "g"), ("Class", .str "Component"), ("NodeID", .str "b")])],
     [⟨1, 2, [("Class", .str "has")]⟩]⟩, _, _, by decide +kernel, by decide +kernel,
   by
     intro p hp
     simp only [List.mem_cons, List.not_mem_nil, or_false] at hp
     rcases hp with rfl | rfl
     · exact ⟨"a", rfl, by decide +kernel⟩
     · exact ⟨"b", rfl, by decide +kernel⟩,
   by decide +kernel, rfl, rfl⟩

/-- `serialize_graph` of an extracted graph as `serialize` reports it -/
def serializeG (G : Graph Nat) (f : Fmt) : Except String (Option (Doc Nat)) := (serializeGraph G f).map some

theorem serializeG_ok (G : Graph Nat) (f : Fmt) (doc : Doc Nat) : serializeG G f = .ok (some doc) ↔ serializeGraph G f = .ok doc := by
  unfold serializeG
  cases serializeGraph G f <;> simp [Except.map]

theorem serialize_eq_serializeG {s : Store} {g : Val} {G : Graph Nat} (h : s.extract g = some G) (f : Fmt) :
    serialize s g f = serializeG G f := by
  unfold serialize serializeG serializeGraph
  rw [h]
  cases f with
  | json => rfl
  | graphml =>
    simp only
    cases toGraphML G with
    | error e => rfl
    | ok d =>
      simp only
      cases toNeo4j d <;> rfl

theorem serializeGraph_ok (H : Graph Nat) (f : Fmt) (doc : Doc Nat) (h : serializeGraph H f = .ok doc) :
    (f = .json ∧ doc = .json (toJSON H)) ∨
    ∃ d d', f = .graphml ∧ toGraphML H = .ok d ∧ toNeo4j d = .ok d' ∧ doc = .graphml d' := by
  revert h
  fun_cases serializeGraph H f with
  | case3 d h1 d' h2 => intro h; cases h; exact Or.inr ⟨d, d', rfl, h1, h2, rfl⟩
  | case4 => intro h; cases h; exact Or.inl ⟨rfl, rfl⟩
  | _ => intro h; cases h

theorem readDoc_serializeGraph (H : Graph Nat) (hit : H.edgesIter = H.edges)
    (f : Fmt) (hk : f = .graphml → KeysNodup H) (hr : f = .json → NoReserved H)
    (doc : Doc Nat) (hser : serializeGraph H f = .ok doc) : readDoc doc = some H := by
  rcases serializeGraph_ok H f doc hser with ⟨rfl, rfl⟩ | ⟨d, d', rfl, h1, h2, rfl⟩
  · simp only [readDoc, roundtrip_json_doc H (hr rfl), hit]
    rfl
  · simp only [readDoc, roundtrip_graphml_iter H hit (hk rfl) d d' h1 h2]
    rfl

/-- the document with the internal node numbering renamed by `fn` and the node data rewritten by `hd` (GraphML) / `hv` (JSON);
    key table, element order, label markup and edge data are kept -/
def relabelDoc (fn : Nat → Nat) (hd : List GData → List GData) (hv : String → Val → Val) : Doc Nat → Doc Nat
  | .graphml d => .graphml (relabelGDoc fn hd d)
  | .json d => .json (relabelJDoc fn hv d)

/-- `serialize_graph` commutes with a copy that renames node keys and rewrites node dicts, provided the rewriting keeps every
    `(name, type)` (`hs`: both graphs allocate the same key table) and the `Class` text the markup reads (`hdata`). -/
theorem serializeG_copy (G H : Graph Nat) (fn : Nat → Nat) (h : Attrs → Attrs) (hd : List GData → List GData)
    (hv : String → Val → Val)
    (hn : H.nodes = G.nodes.map fun p => (fn p.1, h p.2))
    (he : H.edgesIter = G.edgesIter.map fun e => ⟨fn e.a, fn e.b, e.attrs⟩)
    (hs : ∀ p ∈ G.nodes, specsOf .node (h p.2) = specsOf .node p.2)
    (ho : ∀ p ∈ G.nodes, attrsObj (κ := Nat) (h p.2) = relabelJObj fn hv (attrsObj (κ := Nat) p.2))
    (hdata : ∀ tbl, allocKeys G.allSpecs = some tbl →
      (∀ p ∈ G.nodes, dataOf tbl .node (h p.2) = hd (dataOf tbl .node p.2)) ∧
      ∀ data, classText (classKey (docKeys tbl) .node) (hd data) = classText (classKey (docKeys tbl) .node) data)
    (f : Fmt) (doc : Doc Nat) (hser : serializeG G f = .ok (some doc)) :
    serializeG H f = .ok (some (relabelDoc fn hd hv doc)) := by
  rw [serializeG_ok] at hser ⊢
  rcases serializeGraph_ok G f doc hser with ⟨rfl, rfl⟩ | ⟨d, d', rfl, h1, h2, rfl⟩
  · simp only [serializeGraph, relabelDoc, toJSON_copy G H fn h hv hn he ho]
  · obtain ⟨tbl, ht, hdeq⟩ := toGraphML_ok G d h1
    have hH : toGraphML H = .ok (relabelGDoc fn hd d) := by
      rw [toGraphML_copy G H fn h hd hn he hs fun tbl ht => (hdata tbl ht).1, h1]; rfl
    have hk : d.keys = docKeys tbl := by rw [hdeq]
    have hN := toNeo4j_relabel fn hd d (by rw [hk]; exact (hdata tbl ht).2)
    simp only [serializeGraph, hH, hN, h2, Except.map, relabelDoc]

/-- the GraphML key id under which the nodes' `GraphID` is written (`0` stands for "no key table": then nothing was serialized, and
    every theorem that mentions it assumes a serialization) -/
def gidKeyOf (G : Graph Nat) (ty : KTy) : Nat :=
  match allocKeys G.allSpecs with
  | some tbl => tbl.idxOf ⟨"GraphID", ty, .node⟩
  | none => 0

theorem serializeG_stampedCopy (G : Graph Nat) (hw : GraphWF G) (hne : G.nodes ≠ []) (hkn : KeysNodup G) (g g' : Val)
    (hgid : ∀ p ∈ G.nodes, p.2.get? "GraphID" = some g) (ty : KTy) (hty : xmlType g = some ty) (hty' : xmlType g' = some ty)
    (start : Nat) (f : Fmt) (doc : Doc Nat) (h : serializeG G f = .ok (some doc)) :
    serializeG (stampedCopy G start g') f =
      .ok (some (relabelDoc (fun k => start + G.keys.idxOf k) (stampData (gidKeyOf G ty) g') (stampV g') doc)) := by
  apply serializeG_copy G (stampedCopy G start g') (fun k => start + G.keys.idxOf k)
    (fun a => a.set "GraphID" g') _ _ rfl _ _ _ _ f doc h
  · exact copyWith_iter G hw start fun a => a.set "GraphID" g'
  · intro p hp
    exact specsOf_set .node "GraphID" g g' ty hty hty' p.2 (hgid p hp) (hkn.1 p hp)
  · intro p hp
    exact attrsObj_stamp _ g g' p.2 (hgid p hp) (hkn.1 p hp)
  · intro tbl ht
    have hin := (allocKeys_covers G tbl ht).1
    have hgk : gidKeyOf G ty = tbl.idxOf ⟨"GraphID", ty, .node⟩ := by simp [gidKeyOf, ht]
    rw [hgk]
    refine ⟨fun p hp => dataOf_stamp tbl .node "GraphID" g g' ty hty hty' p.2 (hgid p hp) (hkn.1 p hp) (hin p hp), fun data => ?_⟩
    obtain ⟨p0, hp0⟩ := List.exists_mem_of_ne_nil _ hne
    exact classText_stamp _ _ g' (classKey_ne_idxOf tbl .node _ ((hin p0 hp0).mem_of_get (hgid p0 hp0) hty) (by decide : "GraphID" ≠ "Class")) data

theorem serializeG_directCopy (G : Graph Nat) (hw : GraphWF G) (start : Nat) (f : Fmt) (doc : Doc Nat)
    (h : serializeG G f = .ok (some doc)) :
    serializeG (directCopy G start) f = .ok (some (relabelDoc (fun k => start + G.keys.idxOf k) id (fun _ v => v) doc)) :=
  serializeG_copy G (directCopy G start) (fun k => start + G.keys.idxOf k) id id (fun _ v => v) rfl (copyWith_iter G hw start id)
    (fun _ _ => rfl) (fun p _ => attrsObj_relabel _ p.2) (fun _ _ => ⟨fun _ _ => rfl, fun _ => rfl⟩) f doc h

/-- **`add_graph` stores a faithful copy.**  `extract_graph g` afterwards is `G` with node `k` renamed to
    `start_id + position(k)` and `GraphID := g` stamped, all other attributes (order included) and all edges with their
    attributes unchanged, whether or not a graph `g` existed before. -/
theorem addGraph_extract [DecidableEq κ] (s : Store) (hs : StoreInv s) (g : Val) (G : Graph κ) (hw : GraphWF G)
    (hid : HasNodeIds G) (hne : G.nodes ≠ []) :
    (s.addGraph g G).1 = .ok () ∧ (s.addGraph g G).2.extract g = some (stampedCopy G s.nextId g) := by
  rw [addGraph_eq, if_pos hid]
  -- `stampedCopy G n g` is `copyWith G n (·.set "GraphID" g)` and `directCopy G n` is `copyWith G n id`, both by `rfl`
  exact ⟨rfl, extract_stored s hs g G hw hne _ (fun p _ => Attrs.get_set p.2 "GraphID" g)⟩

/-- **`add_graph_direct` stores a faithful copy** of a graph whose nodes all carry `GraphID = g`. -/
theorem addGraphDirect_extract [DecidableEq κ] (s : Store) (hs : StoreInv s) (g : Val) (G : Graph κ) (hw : GraphWF G)
    (hg : ∀ p ∈ G.nodes, p.2.get? "GraphID" = some g) (hne : G.nodes ≠ []) :
    (s.addGraphDirect g G).extract g = some (directCopy G s.nextId) :=
  extract_stored s hs g G hw hne id hg

/-- a document whose nodes carry different GraphIDs is rejected by `get_graph_id`, hence by
    both direct entry points, and the store is left untouched -/
theorem mixed_graph_ids_rejected [DecidableEq κ] (s : Store) (d : Doc κ) (G : Graph κ) (hr : readDoc d = some G)
    (p q : κ × Attrs) (hp : p ∈ G.nodes) (hq : q ∈ G.nodes)
    (hne : p.2.get? "GraphID" ≠ q.2.get? "GraphID") :
    getGraphId d = .error "import" ∧ importDirect s d = (.error "import", s) := by
  have h1 : getGraphId d = .error "import" := by
    cases hg : getGraphId d with
    | ok g =>
      obtain ⟨G', hr', hall⟩ := getGraphId_ok d g hg
      cases hr.symm.trans hr'
      exact absurd ((hall p hp).trans (hall q hq).symm) hne
    | error e => rw [getGraphId_error d e hg]
  exact ⟨h1, by unfold importDirect; rw [h1]⟩

example : ∃ (d : Doc Nat) (G : Graph Nat) (p q : Nat × Attrs), readDoc d = some G ∧ p ∈ G.nodes ∧ q ∈ G.nodes ∧
    p.2.get? "GraphID" ≠ q.2.get? "GraphID" :=
  ⟨.json ⟨false, false, [[("GraphID", .v (.str "a")), ("id", .k 1)], [("GraphID", .v (.str "b")), ("id", .k 2)]], []⟩,
   ⟨[(1, [("GraphID", .str "a")]), (2, [("GraphID", .str "b")])], []⟩,
   (1, [("GraphID", .str "a")]), (2, [("GraphID", .str "b")]), by decide +kernel, by decide +kernel, by decide +kernel, by decide +kernel⟩

theorem readDoc_serialize (s : Store) (hs : StoreInv s) (g : Val) (G0 : Graph Nat) (hG : s.extract g = some G0)
    (f : Fmt) (hk : f = .graphml → KeysNodup G0) (hr : f = .json → NoReserved G0)
    (doc : Doc Nat) (hser : serialize s g f = .ok (some doc)) : readDoc doc = some G0 := by
  obtain ⟨_, _, hit, _, _⟩ := extract_spec s hs g G0 hG
  rw [serialize_eq_serializeG hG, serializeG_ok] at hser
  exact readDoc_serializeGraph G0 hit f hk hr doc hser

/-- **Round trip through `import_graph_from_string` / `import_graph_from_file`** (both formats, any target id `g'`, equal to
    `g` or not, occupied or not): the graph stored under `g'` is the original with node `k` renamed to
    `start_id + position(k)` and `GraphID := g'`; every other attribute (name, value, value type, order) and every edge with
    its attributes is unchanged. -/
theorem roundtrip_import_string (s : Store) (hs : StoreInv s) (g g' : Val) (G0 : Graph Nat)
    (hG : s.extract g = some G0) (hid : HasNodeIds G0)
    (f : Fmt) (hk : f = .graphml → KeysNodup G0) (hr : f = .json → NoReserved G0)
    (doc : Doc Nat) (hser : serialize s g f = .ok (some doc)) :
    (importString s doc g').1 = .ok g' ∧
    (importString s doc g').2.extract g' = some (stampedCopy G0 s.nextId g') := by
  have hread := readDoc_serialize s hs g G0 hG f hk hr doc hser
  obtain ⟨hne, hw, _, _, _⟩ := extract_spec s hs g G0 hG
  obtain ⟨h1, h2⟩ := addGraph_extract s hs g' G0 hw hid hne
  rw [importString_eq_via, importVia_of_read hread hne, h1]
  exact ⟨rfl, h2⟩

/-- **Round trip through `import_graph_from_string_direct` / `import_graph_from_file_direct`**: the graph id found in the
    document is `g`, and the graph stored under it (replacing the original) is the original with node `k` renamed to
    `start_id + position(k)`, all attributes and edges unchanged. -/
theorem roundtrip_import_direct (s : Store) (hs : StoreInv s) (g : Val) (G0 : Graph Nat)
    (hG : s.extract g = some G0)
    (f : Fmt) (hk : f = .graphml → KeysNodup G0) (hr : f = .json → NoReserved G0)
    (doc : Doc Nat) (hser : serialize s g f = .ok (some doc)) :
    (importDirect s doc).1 = .ok g ∧
    (importDirect s doc).2.extract g = some (directCopy G0 s.nextId) := by
  have hread := readDoc_serialize s hs g G0 hG f hk hr doc hser
  obtain ⟨hne, hw, _, hg, _⟩ := extract_spec s hs g G0 hG
  rw [importDirect_eq_via, directVia_of_read hread hne hg]
  exact ⟨rfl, addGraphDirect_extract s hs g G0 hw hg hne⟩

example : ∃ (s : Store) (G0 : Graph Nat) (doc : Doc Nat), StoreInv s ∧ s.extract (.str "g") = some G0 ∧ HasNodeIds G0 ∧
    KeysNodup G0 ∧ NoReserved G0 ∧ serialize s (.str "g") .graphml = .ok (some doc) ∧ G0.edges ≠ [] :=
  ⟨⟨[⟨1, [("GraphID", .str "g"), ("Class", .str "NetworkNode"), ("NodeID", .str "a"), ("n", .int 5)]⟩,
      ⟨2, [("GraphID", .str "h"), ("Class", .str "NetworkNode"), ("NodeID", .str "a")]⟩,
      ⟨3, [("GraphID", .str "g"), ("Class", .str "Component"), ("NodeID", .str "b"), ("n", .str "5")]⟩],
     [⟨3, 1, [("Class", .str "has")]⟩], 4⟩, _, _, by decide +kernel, rfl, by decide +kernel, by decide +kernel, by decide +kernel, rfl, by decide +kernel⟩

/-- **Re-serialization is stable (reassigning entry points).**  Serialising the imported copy gives the
    *same document* as serialising the original — same key table, same element order, same label
    markup, same data and typing — up to exactly two things the code does not preserve: the
    internal node numbering (node id / source / target are renamed by the injective
    `k ↦ start_id + position(k)`) and the text of the nodes' `GraphID` (the new graph id `g'`,
    which must be of the same value type as the old one, e.g. both strings). -/
theorem reserialize_stable_string (s : Store) (hs : StoreInv s) (g g' : Val) (G0 : Graph Nat)
    (hG : s.extract g = some G0) (hid : HasNodeIds G0) (hkn : KeysNodup G0)
    (ty : KTy) (hty : xmlType g = some ty) (hty' : xmlType g' = some ty)
    (f : Fmt) (hr : f = .json → NoReserved G0)
    (doc : Doc Nat) (hser : serialize s g f = .ok (some doc)) (f' : Fmt)
    (doc' : Doc Nat) (hser' : serialize s g f' = .ok (some doc')) :
    serialize (importString s doc g').2 g' f' =
      .ok (some (relabelDoc (fun k => s.nextId + G0.keys.idxOf k) (stampData (gidKeyOf G0 ty) g') (stampV g') doc')) := by
  obtain ⟨_, h2⟩ := roundtrip_import_string s hs g g' G0 hG hid f (fun _ => hkn) hr doc hser
  obtain ⟨hne, hw, _, hgid, _⟩ := extract_spec s hs g G0 hG
  rw [serialize_eq_serializeG h2]
  rw [serialize_eq_serializeG hG] at hser'
  exact serializeG_stampedCopy G0 hw hne hkn g g' hgid ty hty hty' s.nextId f' doc' hser'

/-- **Re-serialization is stable (direct entry points).**  Serialising the directly imported copy gives
    the same document as serialising the original up to the internal node numbering only. -/
theorem reserialize_stable_direct (s : Store) (hs : StoreInv s) (g : Val) (G0 : Graph Nat)
    (hG : s.extract g = some G0)
    (f : Fmt) (hk : f = .graphml → KeysNodup G0) (hr : f = .json → NoReserved G0)
    (doc : Doc Nat) (hser : serialize s g f = .ok (some doc)) (f' : Fmt)
    (doc' : Doc Nat) (hser' : serialize s g f' = .ok (some doc')) :
    serialize (importDirect s doc).2 g f' =
      .ok (some (relabelDoc (fun k => s.nextId + G0.keys.idxOf k) id (fun _ v => v) doc')) := by
  obtain ⟨_, h2⟩ := roundtrip_import_direct s hs g G0 hG f hk hr doc hser
  obtain ⟨_, hw, _, _, _⟩ := extract_spec s hs g G0 hG
  rw [serialize_eq_serializeG h2]
  rw [serialize_eq_serializeG hG] at hser'
  exact serializeG_directCopy G0 hw s.nextId f' doc' hser'

/-- **An import touches no other graph (reassigning entry points).**  Whatever document is imported under `g'` —
    valid or not, whether the call succeeds or raises (an import lacking `NodeID` raises after
    the old graph `g'` was deleted) — every other graph of the store is extracted unchanged. -/
theorem import_frame_string [DecidableEq κ] (s : Store) (hs : StoreInv s) (d : Doc κ) (g' g'' : Val) (hne : g'' ≠ g') :
    (importString s d g').2.extract g'' = s.extract g'' := by
  rw [importString_eq_via]
  exact importVia_state (fun s' : Store => s'.extract g'' = s.extract g'') rfl (fun G _ => extract_addGraph_other s hs g'' g' hne G)

/-- **An import touches no other graph (direct entry points).**  A direct import fails leaving the store as it was, or
    replaces the graph whose id the document carries; every other graph is extracted unchanged. -/
theorem import_frame_direct [DecidableEq κ] (s : Store) (hs : StoreInv s) (d : Doc κ) (g'' : Val)
    (hne : ∀ g, (importDirect s d).1 = .ok g → g'' ≠ g) :
    (importDirect s d).2.extract g'' = s.extract g'' := by
  rw [importDirect_eq_via] at hne ⊢
  exact directVia_state (fun s' => s'.extract g'' = s.extract g'') rfl fun g G _ hall h =>
    extract_stored_other s hs g'' g (hne g h) G id hall

/-- **Frame theorem for `serialize_graph`.**  The text of graph `g` (either format, including every error) is a
    function of the nodes stamped with `g` and of the edges among them only: two stores that agree on these - whatever
    other graphs they hold, whatever edges lead from `g` into those graphs or join them, whatever `start_id` is -
    serialize `g` to the same document. -/
theorem serialize_frame (s s' : Store) (g : Val) (f : Fmt) (hn : s'.graphNodes g = s.graphNodes g)
    (he : ownEdges s' g = ownEdges s g) : serialize s' g f = serialize s g f := by
  unfold serialize
  rw [extract_congr s s' g hn he]

/-- nodes of other graphs and edges with an end outside `g` do not change the document `serialize_graph` emits for `g` -/
theorem serialize_ignores_foreign (s : Store) (g : Val) (f : Fmt) (ns : List SNode) (es : List (Edge Nat)) (k : Nat)
    (hns : ∀ n ∈ ns, Store.inGraph g n = false)
    (hes : ∀ e ∈ es, e.a ∉ (s.graphNodes g).map (·.iid) ∨ e.b ∉ (s.graphNodes g).map (·.iid)) :
    serialize ⟨s.nodes ++ ns, s.edges ++ es, k⟩ g f = serialize s g f := by
  unfold serialize
  rw [extract_append_other s g ns es (fun n hn h => Bool.false_ne_true ((hns n hn).symm.trans (inGraph_iff.2 h))) hes k]

/-- two graphs in one store after `A.merge_nodes('port-1', B)`: the edge 3-2 leads from B's switch to
    A's port; A's document is the one of the store that holds A alone -/
def exMerged : Store :=
  ⟨[⟨1, [("GraphID", .str "A"), ("NodeID", .str "sw-A"), ("Class", .str "NetworkNode"), ("UserData", .str "7")]⟩,
    ⟨2, [("GraphID", .str "A"), ("NodeID", .str "port-1"), ("Class", .str "ConnectionPoint"), ("Tags", .str "\"x\"")]⟩,
    ⟨3, [("GraphID", .str "B"), ("NodeID", .str "sw-B"), ("Class", .str "NetworkNode")]⟩],
   [⟨1, 2, [("Class", .str "connects")]⟩, ⟨3, 2, [("Class", .str "connects")]⟩], 5⟩

def exAlone : Store := ⟨exMerged.nodes.take 2, exMerged.edges.take 1, 3⟩

example : exMerged.invB = true ∧ ownEdges exMerged (.str "A") = ownEdges exAlone (.str "A") ∧
    exMerged.graphNodes (.str "A") = exAlone.graphNodes (.str "A") ∧ exMerged.edges ≠ exAlone.edges := by decide +kernel

example (f : Fmt) : serialize exMerged (.str "A") f = serialize exAlone (.str "A") f :=
  serialize_frame exAlone exMerged (.str "A") f (by decide +kernel) (by decide +kernel)

/-- for the examples that `decide` what an import returns -/
instance {ε α : Type} [DecidableEq ε] [DecidableEq α] : DecidableEq (Except ε α) := fun a b =>
  match a, b with
  | .ok x, .ok y => if h : x = y then isTrue (by rw [h]) else isFalse (fun e => h (by cases e; rfl))
  | .error x, .error y => if h : x = y then isTrue (by rw [h]) else isFalse (fun e => h (by cases e; rfl))
  | .ok _, .error _ => isFalse (fun e => by cases e)
  | .error _, .ok _ => isFalse (fun e => by cases e)

/-- the translator's probe: refused imports under free ids leave the store alone (`refused_import_free_id` proves it of the model;
    no model function takes this flag) -/
theorem refused_import_tie : FimVerif.Gen.Serial.refusedImportLeavesStore = true := by decide +kernel

/-- **a refused import leaves nothing behind**: a reassigning import (string or file) that ends in an error leaves the store as
    it was or without the graph of the requested id, never with a node of the refused text -/
theorem refused_import_leaves_nothing [DecidableEq κ] (s : Store) (d : Doc κ) (g : Val) (e : String)
    (h : (importString s d g).1 = .error e) :
    ((importString s d g).2 = s ∨ (importString s d g).2 = s.delGraph g) ∧ (importString s d g).2.nextId = s.nextId := by
  rw [importString_eq_via] at h ⊢
  refine importVia_refused (fun s' => (s' = s ∨ s' = s.delGraph g) ∧ s'.nextId = s.nextId) ⟨Or.inl rfl, rfl⟩ ?_ h
  intro G e' ha
  rw [addGraph_error_store s g G e' ha]
  exact ⟨Or.inr rfl, rfl⟩

/-- under an id nobody holds, every later call is what it would have been without the refused one -/
theorem refused_import_free_id [DecidableEq κ] (s : Store) (d : Doc κ) (g : Val) (e : String)
    (hfree : s.graphNodes g = []) (h : (importString s d g).1 = .error e) : (importString s d g).2 = s := by
  rcases (refused_import_leaves_nothing s d g e h).1 with h1 | h1
  · exact h1
  · rw [h1, delGraph_free s g hfree]

/-- the id-keeping entry points refuse before they touch the store -/
theorem refused_direct_import_unchanged [DecidableEq κ] (s : Store) (d : Doc κ) (e : String)
    (h : (importDirect s d).1 = .error e) : (importDirect s d).2 = s := by
  rw [importDirect_eq_via] at h ⊢
  exact directVia_state (· = s) rfl fun g _ _ _ h' => nomatch h.symm.trans h'

/-- a text the importer refuses after a complete node: the second node has no NodeID; every node carries a property no model has -/
def exRefusedDoc : Doc Nat :=
  .json { directed := false, multigraph := false,
          nodes := [[("NodeID", .v (.str "w1")), ("Class", .v (.str "NetworkNode")), ("GraphID", .v (.str "x")), ("Residue", .v (.str "left")), ("id", .k 0)],
                    [("Class", .v (.str "Component")), ("GraphID", .v (.str "x")), ("Residue", .v (.str "left")), ("id", .k 1)]],
          edges := [[("Class", .v (.str "has")), ("source", .k 0), ("target", .k 1)]] }

example : (importString exMerged exRefusedDoc (.str "draft")).1 = .error "import" ∧ exMerged.graphNodes (.str "draft") = [] ∧
    (importString exMerged exRefusedDoc (.str "draft")).2 = exMerged := by decide +kernel

example : (importString exMerged exRefusedDoc (.str "A")).1 = .error "import" ∧
    (importString exMerged exRefusedDoc (.str "A")).2 = exMerged.delGraph (.str "A") ∧ exMerged.delGraph (.str "A") ≠ exMerged := by
  decide +kernel

def exMixedDoc : Doc Nat :=
  .json { directed := false, multigraph := false,
          nodes := [[("NodeID", .v (.str "w1")), ("GraphID", .v (.str "x")), ("id", .k 0)],
                    [("NodeID", .v (.str "w2")), ("GraphID", .v (.str "y")), ("id", .k 1)]],
          edges := [] }

example : (importDirect exMerged exMixedDoc).1 = .error "import" := by decide +kernel

/-- a text is *simple* when the graph the readers make of it has distinct node keys and edges between declared nodes
    (the domain on which the reader models are exact; every text the library serializes is simple: `serialize_docWF`) -/
def DocWF {κ : Type} [DecidableEq κ] (d : Doc κ) : Prop := ∀ G, readDoc d = some G → GraphWF G

theorem docWF_of_read {κ : Type} [DecidableEq κ] {d : Doc κ} {G : Graph κ} (hr : readDoc d = some G) (hw : GraphWF G) : DocWF d :=
  fun _ h => Option.some.inj (hr.symm.trans h) ▸ hw

theorem storeInv_importString {κ : Type} [DecidableEq κ] (s : Store) (hs : StoreInv s) (d : Doc κ) (hd : DocWF d) (g : Val) :
    StoreInv (importString s d g).2 := by
  rw [importString_eq_via]
  exact importVia_state StoreInv hs (fun G hr => storeInv_addGraph s hs g G (hd G hr))

theorem storeInv_importDirect {κ : Type} [DecidableEq κ] (s : Store) (hs : StoreInv s) (d : Doc κ) (hd : DocWF d) :
    StoreInv (importDirect s d).2 := by
  rw [importDirect_eq_via]
  exact directVia_state StoreInv hs fun g G hr _ _ => storeInv_addGraphDirect s hs g G (hd G hr)

theorem storeInv_clone (s : Store) (hs : StoreInv s) (g g' : Val) : StoreInv (cloneGraph s g g').2 := by
  unfold cloneGraph
  cases hG : s.extract g with
  | none => exact hs
  | some G =>
    obtain ⟨_, hw, _, _, _⟩ := extract_spec s hs g G hG
    exact storeInv_addGraph s hs g' _ (copyGraph_wf G hw)

theorem serialize_docWF (s : Store) (hs : StoreInv s) (g : Val) (G0 : Graph Nat) (hG : s.extract g = some G0)
    (f : Fmt) (hk : f = .graphml → KeysNodup G0) (hr : f = .json → NoReserved G0)
    (doc : Doc Nat) (hser : serialize s g f = .ok (some doc)) : DocWF doc :=
  docWF_of_read (readDoc_serialize s hs g G0 hG f hk hr doc hser) (extract_spec s hs g G0 hG).2.1

/-- **`validates_after_import`.**  If `validate_graph()` passes for the stored graph `g`, then after serialising `g` (either
    format) and importing the text under any id `g'` through `import_graph_from_string` / `_file`, it passes for the
    imported graph.  `names` is any list of JSON property names not containing `GraphID`; `jsonOk` any parser verdict. -/
theorem validates_after_import (names : List String) (jsonOk : String → Bool) (hnames : "GraphID" ∉ names)
    (s : Store) (hs : StoreInv s) (g g' : Val) (G0 : Graph Nat)
    (hG : s.extract g = some G0) (hid : HasNodeIds G0)
    (f : Fmt) (hk : f = .graphml → KeysNodup G0) (hr : f = .json → NoReserved G0)
    (doc : Doc Nat) (hser : serialize s g f = .ok (some doc))
    (hv : validate names jsonOk s g = .ok ()) :
    validate names jsonOk (importString s doc g').2 g' = .ok () := by
  have hread := readDoc_serialize s hs g G0 hG f hk hr doc hser
  obtain ⟨hne, _, _, _, _⟩ := extract_spec s hs g G0 hG
  rw [importString_eq_via, importVia_of_read hread hne, addGraph_eq, if_pos hid]
  exact validate_stored names jsonOk hnames s g g' G0 hG (fun a => a.set "GraphID" g')
    (fun a k hk => Attrs.get_set_ne a "GraphID" k g' hk) (fun p _ => Attrs.get_set p.2 "GraphID" g') hv

example : ∃ (s : Store) (names : List String), "GraphID" ∉ names ∧ names ≠ [] ∧ StoreInv s ∧
    validate names (fun t => t == "{\"core\": 4}") s (.str "g") = .ok () :=
  ⟨⟨[⟨1, [("GraphID", .str "g"), ("Class", .str "NetworkNode"), ("NodeID", .str "a"), ("Capacities", .str "{\"core\": 4}")]⟩,
      ⟨2, [("GraphID", .str "g"), ("Class", .str "Component"), ("NodeID", .str "b"), ("Labels", .str "")]⟩],
     [⟨2, 1, [("Class", .str "has")]⟩], 3⟩, ["Labels", "Capacities"], by decide +kernel, by decide +kernel, by decide +kernel, rfl⟩

theorem graphId_not_json_property : "GraphID" ∉ FimVerif.Gen.Serial.jsonPropertyNames := by decide +kernel

/-- **`validates_after_import` for the JSON property names the repo declares** (`JSON_PROPERTY_NAMES`, regenerated on
    every run; the driver validates with the same list) -/
theorem validates_after_import_repo (jsonOk : String → Bool)
    (s : Store) (hs : StoreInv s) (g g' : Val) (G0 : Graph Nat)
    (hG : s.extract g = some G0) (hid : HasNodeIds G0)
    (f : Fmt) (hk : f = .graphml → KeysNodup G0) (hr : f = .json → NoReserved G0)
    (doc : Doc Nat) (hser : serialize s g f = .ok (some doc))
    (hv : validate FimVerif.Gen.Serial.jsonPropertyNames jsonOk s g = .ok ()) :
    validate FimVerif.Gen.Serial.jsonPropertyNames jsonOk (importString s doc g').2 g' = .ok () :=
  validates_after_import _ jsonOk graphId_not_json_property s hs g g' G0 hG hid f hk hr doc hser hv

/-- **`validates_after_import`, direct entry points** (what `Topology.load` and the constructors use): if
    `validate_graph()` passes for the stored graph `g`, it passes again after `g` was serialized and imported back under
    its own id (replacing the original) -/
theorem validates_after_import_direct (names : List String) (jsonOk : String → Bool) (hnames : "GraphID" ∉ names)
    (s : Store) (hs : StoreInv s) (g : Val) (G0 : Graph Nat) (hG : s.extract g = some G0)
    (f : Fmt) (hk : f = .graphml → KeysNodup G0) (hr : f = .json → NoReserved G0)
    (doc : Doc Nat) (hser : serialize s g f = .ok (some doc))
    (hv : validate names jsonOk s g = .ok ()) :
    validate names jsonOk (importDirect s doc).2 g = .ok () := by
  have hread := readDoc_serialize s hs g G0 hG f hk hr doc hser
  obtain ⟨hne, _, _, hgid, _⟩ := extract_spec s hs g G0 hG
  rw [importDirect_eq_via, directVia_of_read hread hne hgid, addGraphDirect_eq]
  exact validate_stored names jsonOk hnames s g g G0 hG id (fun _ _ _ => rfl) hgid hv

/-- a JSON-validated property as the setters leave it: absent, or a text that is empty, `"None"`, or accepted by
    `json.loads` - *any* JSON value, scalars included (`UserData(7).json = "7"`, `Tags.to_json()`, …) -/
def SetterValue (jsonOk : String → Bool) : Option Val → Prop
  | none => True
  | some (.str t) => t = "" ∨ t = "None" ∨ jsonOk t = true
  | some _ => False

def SetterProduced (names : List String) (jsonOk : String → Bool) (a : Attrs) : Prop :=
  ∀ name ∈ names, SetterValue jsonOk (a.get? name)

theorem checkJsonProp_setter (jsonOk : String → Bool) (a : Attrs) (name : String) (h : SetterValue jsonOk (a.get? name)) :
    checkJsonProp jsonOk a name = .ok () := by
  unfold checkJsonProp
  by_cases hc : name = "Class"
  · simp only [hc, if_true]
  · simp only [hc, if_false]
    cases hv : a.get? name with
    | none => rfl
    | some v =>
      rw [hv] at h
      cases v with
      | str t =>
        simp only [SetterValue] at h
        rcases h with h | h | h
        · simp [h]
        · simp [h]
        · by_cases h1 : t = "" ∨ t = "None"
          · simp [h1]
          · simp [h1, h]
      | _ => exact absurd h (by simp [SetterValue])

instance (jsonOk : String → Bool) (o : Option Val) : Decidable (SetterValue jsonOk o) := by
  cases o with
  | none => exact isTrue trivial
  | some v => cases v <;> simp only [SetterValue] <;> infer_instance

instance (names : List String) (jsonOk : String → Bool) (a : Attrs) : Decidable (SetterProduced names jsonOk a) := by
  unfold SetterProduced
  infer_instance

/-- **`validate_graph()` accepts every model the setters can produce** (`SetterValue`: JSON text of any shape, empty or
    "None").  `jsonOk` is the verdict of `json.loads`, passed in by the harness for every text in the store. -/
theorem validate_setter_produced (names : List String) (jsonOk : String → Bool) (s : Store) (g : Val)
    (hne : s.graphNodes g ≠ [])
    (hnid : ∀ n ∈ s.graphNodes g, n.attrs.get? "NodeID" ≠ none)
    (huniq : ((s.graphNodes g).map fun n => n.attrs.get? "NodeID").Nodup)
    (hcn : ∀ n ∈ s.nodes, hasClass n.attrs = true) (hce : ∀ e ∈ s.edges, hasClass e.attrs = true)
    (hset : ∀ n ∈ s.graphNodes g, SetterProduced names jsonOk n.attrs) :
    validate names jsonOk s g = .ok () := by
  rw [validate_ok_iff]
  refine ⟨⟨fun h => hne (List.map_eq_nil_iff.1 h), List.forall_mem_map.2 fun n hn => ?_⟩, hcn, hce⟩
  cases hv : n.attrs.get? "NodeID" with
  | none => exact absurd hv (hnid n hn)
  | some nid =>
    refine ⟨nid, rfl, n.attrs, ?_, ?_, fun name hname => checkJsonProp_setter jsonOk n.attrs name (hset n hn name hname)⟩
    · rw [← hv]
      exact List.filter_eq_singleton_of_nodup_map (fun a : Attrs => a.get? "NodeID") (by rw [List.map_map]; exact huniq)
        (List.mem_map_of_mem hn)
    · have hc := hcn n (List.mem_filter.mp hn).1
      unfold hasClass at hc
      cases hcl : n.attrs.get? "Class" with
      | none => rw [hcl] at hc; cases hc
      | some v => rfl

/-- … and after serialising such a model (either format) and importing the text under any id, validation passes:
    "everything the library serializes passes the library's own graph validation after import", for the names the
    repository validates (`Gen.Serial.jsonPropertyNames`) -/
theorem validates_after_import_setter (jsonOk : String → Bool) (s : Store) (hs : StoreInv s) (g g' : Val) (G0 : Graph Nat)
    (hG : s.extract g = some G0) (hid : HasNodeIds G0)
    (f : Fmt) (hk : f = .graphml → KeysNodup G0) (hr : f = .json → NoReserved G0)
    (doc : Doc Nat) (hser : serialize s g f = .ok (some doc))
    (huniq : ((s.graphNodes g).map fun n => n.attrs.get? "NodeID").Nodup)
    (hnid : ∀ n ∈ s.graphNodes g, n.attrs.get? "NodeID" ≠ none)
    (hcn : ∀ n ∈ s.nodes, hasClass n.attrs = true) (hce : ∀ e ∈ s.edges, hasClass e.attrs = true)
    (hset : ∀ n ∈ s.graphNodes g, SetterProduced FimVerif.Gen.Serial.jsonPropertyNames jsonOk n.attrs) :
    validate FimVerif.Gen.Serial.jsonPropertyNames jsonOk (importString s doc g').2 g' = .ok () := by
  exact validates_after_import _ jsonOk graphId_not_json_property s hs g g' G0 hG hid f hk hr doc hser
    (validate_setter_produced _ jsonOk s g (extract_eq_some s g G0 hG).1 hnid huniq hcn hce hset)

/-- `exMerged` carries `UserData = "7"` (a bare number) and `Tags = "\"x\""` (a bare string) -/
example : exMerged.graphNodes (.str "A") ≠ [] ∧
    ((exMerged.graphNodes (.str "A")).map fun n => n.attrs.get? "NodeID").Nodup ∧
    (∀ n ∈ exMerged.nodes, hasClass n.attrs = true) ∧ (∀ e ∈ exMerged.edges, hasClass e.attrs = true) := by decide +kernel

example : ∀ n ∈ exMerged.graphNodes (.str "A"),
    SetterProduced FimVerif.Gen.Serial.jsonPropertyNames (fun t => t == "7" || t == "\"x\"") n.attrs := by decide +kernel

example : validate FimVerif.Gen.Serial.jsonPropertyNames (fun t => t == "7" || t == "\"x\"") exMerged (.str "A") = .ok () := by decide +kernel

/-- **disjoint store, `add_graph_direct`**: the copy is numbered from 1 -/
theorem dAddGraphDirect_extract [DecidableEq κ] (s : DStore) (g : Val) (G : Graph κ) (hw : GraphWF G) :
    ((s.addGraphDirect g G).extract g).1 = directCopy G 1 := by
  rw [dAddGraphDirect_eq, dextract_dStored]
  exact copyGraph_copyWith G hw 1 id

/-- **disjoint store, `add_graph`** under an id that holds no (non-empty) graph: the stamped copy, numbered from 1 -/
theorem dAddGraph_extract [DecidableEq κ] (s : DStore) (g : Val) (G : Graph κ) (hw : GraphWF G) (hid : HasNodeIds G)
    (hfree : ∀ old, s.graphs.lookup g = some old → old.nodes.isEmpty = true) :
    (s.addGraph g G).1 = .ok () ∧ ((s.addGraph g G).2.extract g).1 = stampedCopy G 1 g := by
  rw [dAddGraph_eq, not_dHeld_of_free hfree, if_neg Bool.false_ne_true, if_pos hid]
  refine ⟨rfl, ?_⟩
  rw [dextract_dStored, copyGraph_copyWith G hw, copyGraph_copyWith G hw]
  rfl

theorem copyGraph_keys (G : Graph Nat) : (DStore.copyGraph G).keys = G.keys := rfl

/-- **disjoint store: reading a model's own serialization gives the stored graph back** (as `extract_graph`
    returns it); the store itself is not changed by serializing a graph that is present -/
theorem dreadDoc_serialize (s : DStore) (g : Val) (G : Graph Nat) (hl : s.graphs.lookup g = some G) (hw : GraphWF G)
    (f : Fmt) (hk : f = .graphml → KeysNodup (DStore.copyGraph G)) (hr : f = .json → NoReserved (DStore.copyGraph G))
    (doc : Doc Nat) (hser : (dSerialize s g f).1 = .ok doc) :
    (dSerialize s g f).2 = s ∧ readDoc doc = some (DStore.copyGraph G) := by
  unfold dSerialize at hser ⊢
  rw [dextract_of_lookup hl] at hser ⊢
  simp only at hser ⊢
  exact ⟨trivial, readDoc_serializeGraph (DStore.copyGraph G) (iter_idem G.edges G.keys hw.1) f hk hr doc hser⟩

theorem dStore_hne {G : Graph Nat} (hne : G.nodes ≠ []) : (DStore.copyGraph G).nodes ≠ [] := hne

/-- **disjoint store, round trip through the direct entry points** (`import_graph_from_string_direct` /
    `_file_direct`, what `Topology.load` uses): the id found in the text is `g`, and the graph held under `g` afterwards
    (replacing the old one) is the serialized one with node `k` renamed to `1 + position(k)` -/
theorem droundtrip_import_direct (s : DStore) (g : Val) (G : Graph Nat) (hl : s.graphs.lookup g = some G)
    (hok : DGraphOk g G) (hne : G.nodes ≠ [])
    (f : Fmt) (hk : f = .graphml → KeysNodup (DStore.copyGraph G)) (hr : f = .json → NoReserved (DStore.copyGraph G))
    (doc : Doc Nat) (hser : (dSerialize s g f).1 = .ok doc) :
    (dImportDirect s doc).1 = .ok g ∧ ((dImportDirect s doc).2.extract g).1 = directCopy (DStore.copyGraph G) 1 := by
  obtain ⟨_, hread⟩ := dreadDoc_serialize s g G hl hok.1 f hk hr doc hser
  rw [dImportDirect_eq_via, directVia_of_read hread hne hok.2]
  exact ⟨rfl, dAddGraphDirect_extract s g (DStore.copyGraph G) (copyGraph_wf G hok.1)⟩

/-- **disjoint store, round trip through `import_graph_from_string` / `_file`** under an id `g'` that holds no
    (non-empty) graph: stamped copy numbered from 1 -/
theorem droundtrip_import_string (s : DStore) (g g' : Val) (G : Graph Nat) (hl : s.graphs.lookup g = some G)
    (hw : GraphWF G) (hid : HasNodeIds G) (hne : G.nodes ≠ [])
    (hfree : ∀ old, s.graphs.lookup g' = some old → old.nodes.isEmpty = true)
    (f : Fmt) (hk : f = .graphml → KeysNodup (DStore.copyGraph G)) (hr : f = .json → NoReserved (DStore.copyGraph G))
    (doc : Doc Nat) (hser : (dSerialize s g f).1 = .ok doc) :
    (dImportString s doc g').1 = .ok g' ∧
    ((dImportString s doc g').2.extract g').1 = stampedCopy (DStore.copyGraph G) 1 g' := by
  obtain ⟨_, hread⟩ := dreadDoc_serialize s g G hl hw f hk hr doc hser
  obtain ⟨h1, h2⟩ := dAddGraph_extract s g' (DStore.copyGraph G) (copyGraph_wf G hw) hid hfree
  rw [dImportString_eq_via, importVia_of_read hread hne, h1]
  exact ⟨rfl, h2⟩

/-- a disjoint store holding a two-node, one-edge graph under `g` (and an edited graph under `h`) -/
def exDStore : DStore :=
  ⟨[(.str "g", ⟨[(1, [("GraphID", .str "g"), ("Class", .str "NetworkNode"), ("NodeID", .str "a"), ("n", .int 5)]),
                 (2, [("GraphID", .str "g"), ("Class", .str "Component"), ("NodeID", .str "b"), ("n", .str "5")])],
                [⟨2, 1, [("Class", .str "has")]⟩]⟩),
    (.str "h", ⟨[(1, [("GraphID", .str "h"), ("Class", .str "NetworkNode"), ("NodeID", .str "edited")])], []⟩)],
   [(.str "g", 3), (.str "h", 2)]⟩

example : ∃ (G : Graph Nat) (doc : Doc Nat), exDStore.graphs.lookup (.str "g") = some G ∧ DGraphOk (.str "g") G ∧ HasNodeIds G ∧
    G.nodes ≠ [] ∧ G.edges ≠ [] ∧ KeysNodup (DStore.copyGraph G) ∧ NoReserved (DStore.copyGraph G) ∧
    (dSerialize exDStore (.str "g") .graphml).1 = .ok doc ∧
    (∀ old, exDStore.graphs.lookup (.str "fresh") = some old → old.nodes.isEmpty = true) :=
  ⟨_, _, rfl, by decide +kernel, by decide +kernel, by decide +kernel, by decide +kernel, by decide +kernel, by decide +kernel, rfl, by intro old h; cases h⟩

/-- **the disjoint store skips an import under an id that is still held** (`add_graph`: "Attempting to insert a graph
    with the same GraphID, skipping"): the call reports success and the store is exactly as before -/
theorem dimport_string_present {κ : Type} [DecidableEq κ] (s : DStore) (d : Doc κ) (G : Graph κ) (hr : readDoc d = some G)
    (hne : G.nodes ≠ []) (g' : Val) (old : Graph Nat) (hl : s.graphs.lookup g' = some old) (hold : old.nodes ≠ []) :
    dImportString s d g' = (.ok g', s) := by
  rw [dImportString_eq_via, importVia_of_read hr hne, dAddGraph_eq, dHeld_of_lookup hl hold]
  rfl

example : ∃ (old : Graph Nat) (d : Doc Nat) (G : Graph Nat), exDStore.graphs.lookup (.str "h") = some old ∧ old.nodes ≠ [] ∧
    readDoc d = some G ∧ G.nodes ≠ [] :=
  ⟨_, .json ⟨false, false, [[("NodeID", .v (.str "a")), ("id", .k 1)]], []⟩, _, rfl, by decide +kernel, rfl, by decide +kernel⟩

/-- the full statement for the reassigning entry points on the disjoint store (no `hfree`) is false for the code as
    it is: importing a saved text under an id that still holds an (edited) model leaves the edited model in place
    (known finding `C01:disjoint:add_graph:keeps-edited-model-instead-of-saved-text`, `corpus/C01/save_edit_reload.json`) -/
theorem droundtrip_import_string_counterexample :
    ∃ (s : DStore) (g g' : Val) (G : Graph Nat) (doc : Doc Nat), s.graphs.lookup g = some G ∧ GraphWF G ∧ HasNodeIds G ∧
      (dSerialize s g .json).1 = .ok doc ∧
      ((dImportString s doc g').2.extract g').1 ≠ stampedCopy (DStore.copyGraph G) 1 g' :=
  ⟨⟨[(.str "g", ⟨[(1, [("GraphID", .str "g"), ("NodeID", .str "a"), ("Class", .str "NetworkNode")])], []⟩),
      (.str "h", ⟨[(1, [("GraphID", .str "h"), ("NodeID", .str "edited"), ("Class", .str "NetworkNode")])], []⟩)], []⟩,
   .str "g", .str "h", _, _, rfl, by decide +kernel, by decide +kernel, rfl, by decide +kernel⟩

/-- **An import touches no other graph, disjoint store (reassigning entry points)**: whatever text is imported under `g'`, every other
    entry of the store is the same graph object as before -/
theorem dimport_frame_string {κ : Type} [DecidableEq κ] (s : DStore) (d : Doc κ) (g' g'' : Val) (hne : g'' ≠ g') :
    (dImportString s d g').2.graphs.lookup g'' = s.graphs.lookup g'' := by
  rw [dImportString_eq_via]
  exact importVia_state (fun s' : DStore => s'.graphs.lookup g'' = s.graphs.lookup g'') rfl (fun G _ => dAddGraph_lookup_ne s g'' g' hne G)

/-- **An import touches no other graph, disjoint store (direct entry points)**: every entry other than the one under the id the
    text carries is the same graph object as before -/
theorem dimport_frame_direct {κ : Type} [DecidableEq κ] (s : DStore) (d : Doc κ) (g'' : Val)
    (hne : ∀ g, (dImportDirect s d).1 = .ok g → g'' ≠ g) :
    (dImportDirect s d).2.graphs.lookup g'' = s.graphs.lookup g'' := by
  rw [dImportDirect_eq_via] at hne ⊢
  exact directVia_state (fun s' => s'.graphs.lookup g'' = s.graphs.lookup g'') rfl fun g _ _ _ h =>
    DStore.lookup_put_ne _ _ _ _ (hne g h)

/-- the disjoint store: a refused reassigning import (string or file) leaves the store as it was -/
theorem drefused_import_unchanged [DecidableEq κ] (s : DStore) (d : Doc κ) (g : Val) (e : String)
    (h : (dImportString s d g).1 = .error e) : (dImportString s d g).2 = s := by
  rw [dImportString_eq_via] at h ⊢
  exact importVia_refused (fun s' => s' = s) rfl (dAddGraph_error_store s g) h

example : (dImportString exDStore exRefusedDoc (.str "draft")).1 = .error "import" := by decide +kernel

theorem dStoreInv_importString {κ : Type} [DecidableEq κ] (s : DStore) (hs : DStoreInv s) (d : Doc κ) (hd : DocWF d) (g : Val) :
    DStoreInv (dImportString s d g).2 := by
  rw [dImportString_eq_via]
  exact importVia_state DStoreInv hs (fun G hr => dStoreInv_addGraph s hs g G (hd G hr))

theorem dStoreInv_importDirect {κ : Type} [DecidableEq κ] (s : DStore) (hs : DStoreInv s) (d : Doc κ) (hd : DocWF d) :
    DStoreInv (dImportDirect s d).2 := by
  rw [dImportDirect_eq_via]
  exact directVia_state DStoreInv hs fun g G hr hall _ => dStoreInv_addGraphDirect s hs g G (hd G hr) hall

theorem dserialize_docWF (s : DStore) (g : Val) (G : Graph Nat) (hl : s.graphs.lookup g = some G) (hw : GraphWF G)
    (f : Fmt) (hk : f = .graphml → KeysNodup (DStore.copyGraph G)) (hr : f = .json → NoReserved (DStore.copyGraph G))
    (doc : Doc Nat) (hser : (dSerialize s g f).1 = .ok doc) : DocWF doc :=
  docWF_of_read (dreadDoc_serialize s g G hl hw f hk hr doc hser).2 (copyGraph_wf G hw)

theorem dSerialize_fst (s : DStore) (g : Val) (f : Fmt) : (dSerialize s g f).1 = serializeGraph (s.extract g).1 f := by
  unfold dSerialize
  rcases s.extract g with ⟨G, s'⟩
  rfl

/-- **Re-serialization is stable, disjoint store (direct entry points / `Topology.load`)**: serializing the re-imported copy
    gives the same document as serializing the original up to the internal node numbering only -/
theorem dreserialize_stable_direct (s : DStore) (g : Val) (G : Graph Nat) (hl : s.graphs.lookup g = some G)
    (hok : DGraphOk g G) (hne : G.nodes ≠ [])
    (f : Fmt) (hk : f = .graphml → KeysNodup (DStore.copyGraph G)) (hr : f = .json → NoReserved (DStore.copyGraph G))
    (doc : Doc Nat) (hser : (dSerialize s g f).1 = .ok doc) (f' : Fmt)
    (doc' : Doc Nat) (hser' : (dSerialize s g f').1 = .ok doc') :
    (dSerialize (dImportDirect s doc).2 g f').1 =
      .ok (relabelDoc (fun k => 1 + (DStore.copyGraph G).keys.idxOf k) id (fun _ v => v) doc') := by
  obtain ⟨_, h2⟩ := droundtrip_import_direct s g G hl hok hne f hk hr doc hser
  rw [dSerialize_fst, dextract_of_lookup hl] at hser'
  rw [dSerialize_fst, h2]
  have hw := copyGraph_wf G hok.1
  rw [← serializeG_ok] at hser' ⊢
  exact serializeG_directCopy (DStore.copyGraph G) hw 1 f' doc' hser'

/-- **validation after a round trip on the disjoint store (direct entry points / `Topology.load`)**: if `validate_graph()`
    passes for the held model, it passes for the model found after serializing and loading it back -/
theorem dvalidates_after_import_direct (names : List String) (jsonOk : String → Bool)
    (s : DStore) (g : Val) (G : Graph Nat) (hl : s.graphs.lookup g = some G)
    (hok : DGraphOk g G) (hne : G.nodes ≠ [])
    (f : Fmt) (hk : f = .graphml → KeysNodup (DStore.copyGraph G)) (hr : f = .json → NoReserved (DStore.copyGraph G))
    (doc : Doc Nat) (hser : (dSerialize s g f).1 = .ok doc)
    (hv : (dValidate names jsonOk s g).1 = .ok ()) :
    (dValidate names jsonOk (dImportDirect s doc).2 g).1 = .ok () := by
  have hv0 : validate names jsonOk (storeOfGraph G) g = .ok () := by
    unfold dValidate at hv; rw [hl] at hv; exact hv
  suffices h : ∃ G', (dImportDirect s doc).2.graphs.lookup g = some G' ∧ validate names jsonOk (storeOfGraph G') g = .ok () by
    obtain ⟨G', h1, h2⟩ := h
    unfold dValidate; rw [h1]; exact h2
  obtain ⟨_, hread⟩ := dreadDoc_serialize s g G hl hok.1 f hk hr doc hser
  rw [dImportDirect_eq_via, directVia_of_read hread hne hok.2, dAddGraphDirect_eq]
  refine ⟨_, DStore.lookup_put _ g _, ?_⟩
  -- `storeOfGraph` (`nextId := 0`) does not satisfy `StoreInv`, and the two stores are not related by `stored`: instead of
  -- `validate_stored` this compares the dicts `validate` reads (`validate_attrs`): the same node dicts in the same order, and every
  -- edge dict is one of `G`'s
  have hnodes : (storeOfGraph (copyWith (DStore.copyGraph G) 1 id)).nodes.map (·.attrs) = (storeOfGraph G).nodes.map (·.attrs) := by
    simp [storeOfGraph, copyWith, DStore.copyGraph, List.map_map, Function.comp_def]
  rw [validate_attrs, validateA_ok_iff] at hv0 ⊢
  rw [hnodes]
  refine ⟨hv0.1, hv0.2.1, List.forall_mem_map.2 fun e he => ?_⟩
  obtain ⟨e0, he0, rfl⟩ := List.mem_map.mp he
  refine attrs_iterFrom (fun a => hasClass a = true) _ (fun e1 he1 => ?_) _ _ e0 he0
  exact attrs_iterFrom (fun a => hasClass a = true) G.edges (List.forall_mem_map.1 hv0.2.2) _ _ e1 he1

example : (dValidate FimVerif.Gen.Serial.jsonPropertyNames (fun _ => true) exDStore (.str "g")).1 = .ok () := by decide +kernel

/-! `Topology.load` is interpreted from the plan `gen/serial.py` reads out of `Topology.load` / `AdvertizedTopology.load` on every
run (`Gen.Serial.topologyLoad`, `advertizedLoad`). The theorems are proved for *every* plan that passes the decidable
check `SafePlan`; `repo_plans_safe` (by `decide` on the generated values) is where they meet the code. -/

/-- **Loading a model's own serialization (shared store), under every safe load plan** — in particular the two plans read
    from the repo (`repo_plans_safe`) — into the Topology object that holds the model, into another object holding the same
    graph id, or into any other topology (`held` is arbitrary): the call succeeds, the topology holds `g`, and the
    graph found under `g` is the serialized one up to the internal numbering -/
theorem load_own_serialization (s : Store) (hs : StoreInv s) (g held newId : Val) (G0 : Graph Nat)
    (hG : s.extract g = some G0) (f : Fmt) (hk : f = .graphml → KeysNodup G0) (hr : f = .json → NoReserved G0)
    (doc : Doc Nat) (hser : serialize s g f = .ok (some doc))
    (sp : LoadSpec) (hsafe : SafePlan sp = true) (shape : Shape) (hshape : shape = .file ∨ shape = .string) :
    ∃ s', load sharedOps sp s held shape doc newId = (.ok g, s', g) ∧
      s'.extract g = some (directCopy G0 s.nextId) ∧ StoreInv s' := by
  obtain ⟨h1, h2⟩ := roundtrip_import_direct s hs g G0 hG f hk hr doc hser
  obtain ⟨s', hl, hP⟩ := load_direct_ok sharedOps hsafe hshape held newId
    (fun s' => StoreInv s' ∧ s'.extract g = some (directCopy G0 s.nextId)) h1
    ⟨storeInv_importDirect s hs doc (serialize_docWF s hs g G0 hG f hk hr doc hser), h2⟩
    (fun s' hp hne => ⟨storeInv_delGraph s' hp.1 held, (extract_delGraph_other s' hp.1 g held hne).trans hp.2⟩)
  exact ⟨s', hl, hP.2, hP.1⟩

/-- **`load(graph_string, new_graph_id)`** under a safe plan that routes it to `import_graph_from_string` -/
theorem load_new_id (s : Store) (hs : StoreInv s) (g held newId : Val) (G0 : Graph Nat)
    (hG : s.extract g = some G0) (hid : HasNodeIds G0) (f : Fmt) (hk : f = .graphml → KeysNodup G0) (hr : f = .json → NoReserved G0)
    (doc : Doc Nat) (hser : serialize s g f = .ok (some doc))
    (sp : LoadSpec) (hsafe : SafePlan sp = true) (hnew : sp.onStringNewId = some .string) :
    ∃ s', load sharedOps sp s held .stringNewId doc newId = (.ok newId, s', newId) ∧
      s'.extract newId = some (stampedCopy G0 s.nextId newId) ∧ StoreInv s' := by
  obtain ⟨h1, h2⟩ := roundtrip_import_string s hs g newId G0 hG hid f hk hr doc hser
  obtain ⟨s', hl, hP⟩ := load_string_ok sharedOps hsafe hnew held
    (fun s' => StoreInv s' ∧ s'.extract newId = some (stampedCopy G0 s.nextId newId)) h1
    ⟨storeInv_importString s hs doc (serialize_docWF s hs g G0 hG f hk hr doc hser) newId, h2⟩
    (fun s' hp hne => ⟨storeInv_delGraph s' hp.1 held, (extract_delGraph_other s' hp.1 newId held hne).trans hp.2⟩)
  exact ⟨s', hl, hP.2, hP.1⟩

example : SafePlan FimVerif.Gen.Serial.topologyLoad = true ∧ FimVerif.Gen.Serial.topologyLoad.onStringNewId = some .string := ⟨by decide +kernel, rfl⟩

/-- **`load` touches no third graph (shared store), under every safe plan**: whatever simple text is loaded into a
    topology — the call succeeding or raising — every graph other than the one the topology held before and the one it
    holds / was asked to create afterwards is extracted unchanged -/
theorem load_frame (s : Store) (hs : StoreInv s) (held newId g'' : Val) (d : Doc Nat) (hd : DocWF d)
    (sp : LoadSpec) (hsafe : SafePlan sp = true) (shape : Shape)
    (hne : ∀ g, (load sharedOps sp s held shape d newId).1 = .ok g → g'' ≠ g)
    (hnew : shape = .stringNewId → g'' ≠ newId) (hheld : g'' ≠ held) :
    (load sharedOps sp s held shape d newId).2.1.extract g'' = s.extract g'' := by
  exact load_frame_of sharedOps StoreInv (fun s' => s'.extract g'') d g''
    (fun s hs hr => ⟨storeInv_importDirect s hs d hd, import_frame_direct s hs d g'' hr⟩)
    (fun s g hs hne => ⟨storeInv_importString s hs d hd g, import_frame_string s hs d g g'' hne⟩)
    (fun s g hs hne => ⟨storeInv_delGraph s hs g, extract_delGraph_other s hs g'' g hne⟩)
    sp hsafe shape s hs held newId hne hnew hheld

/-- validation still passes after `Topology.load` of a model's own serialization (any safe plan, file or string) -/
theorem load_validates (jsonOk : String → Bool) (s : Store) (hs : StoreInv s) (g held newId : Val) (G0 : Graph Nat)
    (hG : s.extract g = some G0) (f : Fmt) (hk : f = .graphml → KeysNodup G0) (hr : f = .json → NoReserved G0)
    (doc : Doc Nat) (hser : serialize s g f = .ok (some doc))
    (sp : LoadSpec) (hsafe : SafePlan sp = true) (shape : Shape) (hshape : shape = .file ∨ shape = .string)
    (hv : validate FimVerif.Gen.Serial.jsonPropertyNames jsonOk s g = .ok ()) :
    validate FimVerif.Gen.Serial.jsonPropertyNames jsonOk (load sharedOps sp s held shape doc newId).2.1 g = .ok () := by
  obtain ⟨h1, _⟩ := roundtrip_import_direct s hs g G0 hG f hk hr doc hser
  obtain ⟨s', hl, hP⟩ := load_direct_ok sharedOps hsafe hshape held newId
    (fun s' => validate FimVerif.Gen.Serial.jsonPropertyNames jsonOk s' g = .ok ()) h1
    (validates_after_import_direct _ jsonOk graphId_not_json_property s hs g G0 hG f hk hr doc hser hv)
    (fun s' hp hne => validate_delGraph_other _ jsonOk s' g held hne hp)
  rw [hl]
  exact hP

theorem storeInv_load (s : Store) (hs : StoreInv s) (d : Doc Nat) (hd : DocWF d)
    (sp : LoadSpec) (hsafe : SafePlan sp = true) (held newId : Val) (shape : Shape) :
    StoreInv (load sharedOps sp s held shape d newId).2.1 :=
  load_invariant sharedOps StoreInv d (fun s hs => storeInv_importDirect s hs d hd)
    (fun s g hs => storeInv_importString s hs d hd g) (fun s g hs => storeInv_delGraph s hs g) sp hsafe s hs held newId shape

/-- **Loading a model's own serialization (disjoint store), under every safe load plan**, into the same Topology object
    or any other (`held` is arbitrary): the topology ends up holding `g` and the graph found there is the serialized one -/
theorem dload_own_serialization (s : DStore) (g held newId : Val) (G : Graph Nat) (hl : s.graphs.lookup g = some G)
    (hok : DGraphOk g G) (hne : G.nodes ≠ [])
    (f : Fmt) (hk : f = .graphml → KeysNodup (DStore.copyGraph G)) (hr : f = .json → NoReserved (DStore.copyGraph G))
    (doc : Doc Nat) (hser : (dSerialize s g f).1 = .ok doc)
    (sp : LoadSpec) (hsafe : SafePlan sp = true) (shape : Shape) (hshape : shape = .file ∨ shape = .string) :
    ∃ s', load disjointOps sp s held shape doc newId = (.ok g, s', g) ∧
      (s'.extract g).1 = directCopy (DStore.copyGraph G) 1 := by
  obtain ⟨h1, h2⟩ := droundtrip_import_direct s g G hl hok hne f hk hr doc hser
  exact load_direct_ok disjointOps hsafe hshape held newId
    (fun s' => (s'.extract g).1 = directCopy (DStore.copyGraph G) 1) h1 h2
    (fun s' hp hne' => (dextract_delGraph_other s' g held hne').trans hp)

theorem dload_new_id (s : DStore) (g held newId : Val) (G : Graph Nat) (hl : s.graphs.lookup g = some G)
    (hw : GraphWF G) (hid : HasNodeIds G) (hne : G.nodes ≠ [])
    (hfree : ∀ old, s.graphs.lookup newId = some old → old.nodes.isEmpty = true)
    (f : Fmt) (hk : f = .graphml → KeysNodup (DStore.copyGraph G)) (hr : f = .json → NoReserved (DStore.copyGraph G))
    (doc : Doc Nat) (hser : (dSerialize s g f).1 = .ok doc)
    (sp : LoadSpec) (hsafe : SafePlan sp = true) (hnew : sp.onStringNewId = some .string) :
    ∃ s', load disjointOps sp s held .stringNewId doc newId = (.ok newId, s', newId) ∧
      (s'.extract newId).1 = stampedCopy (DStore.copyGraph G) 1 newId := by
  obtain ⟨h1, h2⟩ := droundtrip_import_string s g newId G hl hw hid hne hfree f hk hr doc hser
  exact load_string_ok disjointOps hsafe hnew held
    (fun s' => (s'.extract newId).1 = stampedCopy (DStore.copyGraph G) 1 newId) h1 h2
    (fun s' hp hne' => (dextract_delGraph_other s' newId held hne').trans hp)

/-- **`load` touches no third graph (disjoint store), under every safe plan**, whatever text is loaded -/
theorem dload_frame {κ : Type} [DecidableEq κ] (s : DStore) (held newId g'' : Val) (d : Doc κ)
    (sp : LoadSpec) (hsafe : SafePlan sp = true) (shape : Shape)
    (hne : ∀ g, (load disjointOps sp s held shape d newId).1 = .ok g → g'' ≠ g)
    (hnew : shape = .stringNewId → g'' ≠ newId) (hheld : g'' ≠ held) :
    (load disjointOps sp s held shape d newId).2.1.graphs.lookup g'' = s.graphs.lookup g'' := by
  exact load_frame_of disjointOps (fun _ => True) (fun s' => s'.graphs.lookup g'') d g''
    (fun s _ hr => ⟨trivial, dimport_frame_direct s d g'' hr⟩)
    (fun s g _ hne => ⟨trivial, dimport_frame_string s d g g'' hne⟩)
    (fun s g _ hne => ⟨trivial, dDelGraph_lookup_ne s g'' g hne⟩)
    sp hsafe shape s trivial held newId hne hnew hheld

theorem dStoreInv_load (s : DStore) (hs : DStoreInv s) (d : Doc Nat) (hd : DocWF d)
    (sp : LoadSpec) (hsafe : SafePlan sp = true) (held newId : Val) (shape : Shape) :
    DStoreInv (load disjointOps sp s held shape d newId).2.1 :=
  load_invariant disjointOps DStoreInv d (fun s hs => dStoreInv_importDirect s hs d hd)
    (fun s g hs => dStoreInv_importString s hs d hd g) (fun s g hs => dStoreInv_delGraph s hs g) sp hsafe s hs held newId shape

/-- the calls of a session on the shared store that C01 speaks about; `edit` stands for any other library call
    (add / update / delete of nodes and links) -/
inductive SessOp
  | importString (d : Doc Nat) (g : Val)
  | importDirect (d : Doc Nat)
  | load (sp : LoadSpec) (held : Val) (shape : Shape) (d : Doc Nat) (newId : Val)
  | delete (g : Val)
  | clone (g newId : Val)
  | edit (f : Store → Store)

def SessOp.Ok : SessOp → Prop
  | .importString d _ => DocWF d
  | .importDirect d => DocWF d
  | .load sp _ _ d _ => SafePlan sp = true ∧ DocWF d
  | .delete _ => True
  | .clone _ _ => True
  | .edit f => ∀ s, StoreInv s → StoreInv (f s)

def SessOp.apply (s : Store) : SessOp → Store
  | .importString d g => (GraphML.importString s d g).2
  | .importDirect d => (GraphML.importDirect s d).2
  | .load sp held shape d newId => (Serial.load sharedOps sp s held shape d newId).2.1
  | .delete g => s.delGraph g
  | .clone g newId => (cloneGraph s g newId).2
  | .edit f => f s

theorem storeInv_step (s : Store) (hs : StoreInv s) (op : SessOp) (hop : op.Ok) : StoreInv (op.apply s) := by
  cases op with
  | importString d g => exact storeInv_importString s hs d hop g
  | importDirect d => exact storeInv_importDirect s hs d hop
  | load sp held shape d newId => exact storeInv_load s hs d hop.2 sp hop.1 held newId shape
  | delete g => exact storeInv_delGraph s hs g
  | clone g newId => exact storeInv_clone s hs g newId
  | edit f => exact hop s hs

/-- **the store invariant holds after every session**; that the library's own node and link edits keep it is assumed
    (`SessOp.Ok`), not proved -/
theorem session_invariant : ∀ (ops : List SessOp) (s : Store), StoreInv s → (∀ op ∈ ops, op.Ok) →
    StoreInv (ops.foldl SessOp.apply s) :=
  fun _ _ hs hok => List.foldl_invariant StoreInv hs fun s hs op hop => storeInv_step s hs op (hok op hop)

/-- **round trip at any point of any session**: starting from the empty store, after any sequence of imports, loads
    (under safe plans), clones, deletions and invariant-preserving edits, a held model serialized and loaded back — into
    the topology that holds it or any other (`held` arbitrary) — is found again under its id, equal to the serialized one
    up to the internal numbering, and the invariant still holds (so the statement applies again to the next save / load) -/
theorem roundtrip_after_session (ops : List SessOp) (hok : ∀ op ∈ ops, op.Ok) (g held newId : Val) (G0 : Graph Nat)
    (hG : (ops.foldl SessOp.apply Store.empty).extract g = some G0)
    (f : Fmt) (hk : f = .graphml → KeysNodup G0) (hr : f = .json → NoReserved G0)
    (doc : Doc Nat) (hser : serialize (ops.foldl SessOp.apply Store.empty) g f = .ok (some doc))
    (sp : LoadSpec) (hsafe : SafePlan sp = true) (shape : Shape) (hshape : shape = .file ∨ shape = .string) :
    ∃ s', load sharedOps sp (ops.foldl SessOp.apply Store.empty) held shape doc newId = (.ok g, s', g) ∧
      s'.extract g = some (directCopy G0 (ops.foldl SessOp.apply Store.empty).nextId) ∧ StoreInv s' :=
  load_own_serialization _ (session_invariant ops Store.empty storeInv_empty hok) g held newId G0 hG f hk hr doc hser sp hsafe
    shape hshape

def exDoc : Doc Nat :=
  .json ⟨false, false, [[("GraphID", .v (.str "g")), ("NodeID", .v (.str "a")), ("id", .k 7)],
                        [("GraphID", .v (.str "g")), ("NodeID", .v (.str "b")), ("id", .k 9)]],
         [[("Class", .v (.str "has")), ("source", .k 7), ("target", .k 9)]]⟩

theorem exDoc_wf : DocWF exDoc :=
  docWF_of_read (G := ⟨[(7, [("GraphID", .str "g"), ("NodeID", .str "a")]), (9, [("GraphID", .str "g"), ("NodeID", .str "b")])],
    [⟨7, 9, [("Class", .str "has")]⟩]⟩) rfl (by decide +kernel)

example : ∃ ops : List SessOp, ops.length = 5 ∧ ∀ op ∈ ops, op.Ok :=
  ⟨[.importDirect exDoc, .clone (.str "g") (.str "c"), .load FimVerif.Gen.Serial.topologyLoad (.str "c") .string exDoc (.str ""),
    .delete (.str "c"), .edit id], rfl, by
    intro op hop
    simp only [List.mem_cons, List.not_mem_nil, or_false] at hop
    rcases hop with rfl | rfl | rfl | rfl | rfl
    · exact exDoc_wf
    · trivial
    · exact ⟨by decide +kernel, exDoc_wf⟩
    · trivial
    · exact fun _ h => h⟩

inductive DSessOp
  | importString (d : Doc Nat) (g : Val)
  | importDirect (d : Doc Nat)
  | load (sp : LoadSpec) (held : Val) (shape : Shape) (d : Doc Nat) (newId : Val)
  | delete (g : Val)
  | edit (f : DStore → DStore)

def DSessOp.Ok : DSessOp → Prop
  | .importString d _ => DocWF d
  | .importDirect d => DocWF d
  | .load sp _ _ d _ => SafePlan sp = true ∧ DocWF d
  | .delete _ => True
  | .edit f => ∀ s, DStoreInv s → DStoreInv (f s)

def DSessOp.apply (s : DStore) : DSessOp → DStore
  | .importString d g => (GraphML.dImportString s d g).2
  | .importDirect d => (GraphML.dImportDirect s d).2
  | .load sp held shape d newId => (Serial.load disjointOps sp s held shape d newId).2.1
  | .delete g => dDelGraph s g
  | .edit f => f s

theorem dStoreInv_step (s : DStore) (hs : DStoreInv s) (op : DSessOp) (hop : op.Ok) : DStoreInv (op.apply s) := by
  cases op with
  | importString d g => exact dStoreInv_importString s hs d hop g
  | importDirect d => exact dStoreInv_importDirect s hs d hop
  | load sp held shape d newId => exact dStoreInv_load s hs d hop.2 sp hop.1 held newId shape
  | delete g => exact dStoreInv_delGraph s hs g
  | edit f => exact hop s hs

theorem dsession_invariant : ∀ (ops : List DSessOp) (s : DStore), DStoreInv s → (∀ op ∈ ops, op.Ok) →
    DStoreInv (ops.foldl DSessOp.apply s) :=
  fun _ _ hs hok => List.foldl_invariant DStoreInv hs fun s hs op hop => dStoreInv_step s hs op (hok op hop)

/-- **round trip at any point of any session on the disjoint store**: after any sequence of imports, loads (safe plans),
    deletions and invariant-preserving edits from the empty store, a held non-empty model serialized and loaded back into
    the topology that holds it or any other is found again under its id, equal to the serialized one -/
theorem droundtrip_after_session (ops : List DSessOp) (hok : ∀ op ∈ ops, op.Ok) (g held newId : Val) (G : Graph Nat)
    (hl : (ops.foldl DSessOp.apply DStore.empty).graphs.lookup g = some G) (hne : G.nodes ≠ [])
    (f : Fmt) (hk : f = .graphml → KeysNodup (DStore.copyGraph G)) (hr : f = .json → NoReserved (DStore.copyGraph G))
    (doc : Doc Nat) (hser : (dSerialize (ops.foldl DSessOp.apply DStore.empty) g f).1 = .ok doc)
    (sp : LoadSpec) (hsafe : SafePlan sp = true) (shape : Shape) (hshape : shape = .file ∨ shape = .string) :
    ∃ s', load disjointOps sp (ops.foldl DSessOp.apply DStore.empty) held shape doc newId = (.ok g, s', g) ∧
      (s'.extract g).1 = directCopy (DStore.copyGraph G) 1 :=
  dload_own_serialization _ g held newId G hl (dsession_invariant ops DStore.empty dStoreInv_empty hok g G hl) hne f hk hr doc hser
    sp hsafe shape hshape

example : ∃ ops : List DSessOp, ops.length = 4 ∧ ∀ op ∈ ops, op.Ok :=
  ⟨[.importDirect exDoc, .load FimVerif.Gen.Serial.topologyLoad (.str "x") .file exDoc (.str ""), .delete (.str "g"), .edit id], rfl, by
    intro op hop
    simp only [List.mem_cons, List.not_mem_nil, or_false] at hop
    rcases hop with rfl | rfl | rfl | rfl
    · exact exDoc_wf
    · exact ⟨by decide +kernel, exDoc_wf⟩
    · trivial
    · exact fun _ h => h⟩

theorem fs_read_write {κ : Type} (fs : FS κ) (p : String) (d : Doc κ) : (fs.write p d).read p = some d := by
  simp [FS.write, FS.read]

theorem fs_read_write_other {κ : Type} (fs : FS κ) (p q : String) (d : Doc κ) (h : q ≠ p) : (fs.write p d).read q = fs.read q := by
  have : (q == p) = false := by simpa using h
  simp [FS.write, FS.read, List.lookup, this]

/-- the tie: the translator's probe of `get_graph_id(graph_file=…)` finds that it reads the file on every call -/
theorem graphId_follows_file_tie : FimVerif.Gen.Serial.graphIdFollowsFile = true := by decide +kernel

/-- **a file is read as what was written to it last**: the id-keeping file import of a path equals the id-keeping string
    import of the last text written there, whatever the file system held and whatever the id helper answered before (`memo`) -/
theorem file_direct_reads_last_write [DecidableEq κ] (s : Store) (fs : FS κ) (memo : IdMemo) (p : String) (d : Doc κ) :
    (importFileDirect FimVerif.Gen.Serial.graphIdFollowsFile s (fs.write p d) memo p).1 = importDirect s d := by
  rw [graphId_follows_file_tie]
  unfold importFileDirect graphIdOfFile importDirect
  simp only [fs_read_write, if_true, Option.bind_some]
  cases hg : getGraphId d with
  | error e => rfl
  | ok g =>
    obtain ⟨G, hG, _⟩ := getGraphId_ok d g hg
    simp [hG]

theorem dfile_direct_reads_last_write [DecidableEq κ] (s : DStore) (fs : FS κ) (memo : IdMemo) (p : String) (d : Doc κ) :
    (dImportFileDirect FimVerif.Gen.Serial.graphIdFollowsFile s (fs.write p d) memo p).1 = dImportDirect s d := by
  rw [graphId_follows_file_tie]
  unfold dImportFileDirect graphIdOfFile dImportDirect
  simp only [fs_read_write, if_true, Option.bind_some]
  cases hg : getGraphId d with
  | error e => rfl
  | ok g =>
    obtain ⟨G, hG, _⟩ := getGraphId_ok d g hg
    simp [hG]

/-- … and the memo is left as it was, so the statement holds again after any number of such calls -/
theorem file_direct_keeps_memo [DecidableEq κ] (s : Store) (fs : FS κ) (memo : IdMemo) (p : String) :
    (importFileDirect FimVerif.Gen.Serial.graphIdFollowsFile s fs memo p).2 = memo := by
  rw [graphId_follows_file_tie]
  unfold importFileDirect graphIdOfFile
  simp only [if_true]
  cases hf : fs.read p with
  | none => rfl
  | some d =>
    cases hg : getGraphId d with
    | error e => simp [hg]
    | ok g =>
      simp only [hg, Option.bind_some]
      cases readDoc d <;> rfl

/-- the reassigning file import never asks the helper: the last text written, whatever was asked before -/
theorem file_reads_last_write [DecidableEq κ] (s : Store) (fs : FS κ) (p : String) (d : Doc κ) (g : Val) :
    importFile s (fs.write p d) p g = importString s d g := by
  simp [importFile, fs_read_write]

/-- what the flag protects: with an id helper that remembers its answer per file name (`follows = false`) a path that was
    asked about while it held a model of graph `g0` is imported under `g0` after it has been rewritten with a model of
    another graph `g` - the second load of a re-used file name does not give the model that was saved -/
theorem file_direct_memo_counterexample [DecidableEq κ] (s : Store) (fs : FS κ) (memo : IdMemo) (p : String) (d : Doc κ) (g g0 : Val)
    (hd : getGraphId d = .ok g) (hne : g0 ≠ g) :
    (importFileDirect false s (fs.write p d) ((p, g0) :: memo) p).1.1 = .ok g0 ∧
    (importFileDirect false s (fs.write p d) ((p, g0) :: memo) p).1.1 ≠ (importDirect s d).1 := by
  obtain ⟨G, hG, _⟩ := getGraphId_ok d g hd
  have h1 : (importFileDirect false s (fs.write p d) ((p, g0) :: memo) p).1.1 = .ok g0 := by
    simp [importFileDirect, graphIdOfFile, fs_read_write, List.lookup, hG]
  refine ⟨h1, ?_⟩
  rw [h1]
  simp [importDirect, hd, hG]
  exact hne

def exOneNodeDoc : Doc Nat :=
  .json { directed := false, multigraph := false,
          nodes := [[("NodeID", .v (.str "w1")), ("GraphID", .v (.str "x")), ("id", .k 0)]], edges := [] }

example : getGraphId exOneNodeDoc = .ok (.str "x") ∧ (Val.str "A") ≠ .str "x" := by decide +kernel

end FimVerif.C01
