import FimVerif.Proofs.Lemmas.C20Lock
import FimVerif.Proofs.Lemmas.C20Fine
import FimVerif.Proofs.Lemmas.C20Ledger
import FimVerif.Generated.LockCfg
import FimVerif.Model.ImportEntry
/-!
# C20 — store lock discipline and identifier allocation under concurrent use

Full statement (properties.jsonl): every store operation leaves the lock released exactly once on every
path; under any interleaving of threads importing graphs / creating nodes no node is lost, no internal id is
handed out twice, each graph ends up with exactly the nodes added to it.  Both halves are proved on the models.  Part A, up to the
heading of Part B: all paths of every method skeleton of `Generated/LockCfg.lean` (regenerated from the Python source on every
run) — any branch, any number of loop iterations, an exception at any statement not on the translator's short no-raise
whitelist; the obligations over the skeletons are closed by `decide` on the verified interpreter.  Part B: all thread counts, all
accepted programs, all schedules, with thread switches between source lines and — through the expansion of every
micro-instruction into atoms, `Lemmas/C20Fine.lean` — between single dictionary / attribute operations.  What stays outside is
named in `TRUSTED_BASE` of harness/props/c20.py (the GIL making one atom atomic, the no-raise whitelist, symbol instantiation for the
discipline monitor).

The skeletons of `Generated/LockCfg.lean` are symbolic: one graph (index 1), id spaces 0 and 1, sizes 1, `symK` and `symK + 1`.
Part A holds of every instance `instStmt g k` as well (`balanced_inst`: the lock monitor does not see the parameters).  In Part B
the discipline obligation `disciplined` is decided for the symbolic skeletons only, so `StoreProg` and `store_threads_safe*` speak
of paths of these; a concrete call (another graph, another size) enters through the hypothesis `accepts p = true` of the
theorems of `section Schedules` and of `each_graph_exact_with_deletes`, which the harness evaluates on every concrete program it
observes.
-/
namespace FimVerif.C20
open FimVerif.Lock FimVerif.Gen FimVerif.Sched

/-- soundness of `balanced`: on every path of an accepted method the lock ends released and was released exactly once, with no
lock error on the way (`lockRun` is `none` as soon as the lock is released while free or acquired by the thread that holds it) -/
theorem balanced_sound (p : Stmt) (h : balanced p = true) {tr : List Micro} {o : Out} (he : Exec p tr o) :
    lockRun tr = some (false, 1) := by
  have h1 : runQ (lockStep 2) (capSt 2 (some (false, 0))) tr = some (false, 1) :=
    beq_iff_eq.1 (allExits_sound (lockStep 2) _ (some (false, 0)) p h he)
  rw [run_cap] at h1
  -- a saturated count of 1 is an exact count of 1
  unfold lockRun
  match runQ lockStepC (some (false, 0)) tr, h1 with
  | some (b, n), h1 =>
    simp only [capSt, Option.some.injEq, Prod.mk.injEq] at h1
    obtain ⟨rfl, h2⟩ := h1
    obtain rfl : n = 1 := by omega
    rfl

theorem released_exactly_once {tr : List Micro} (h : lockRun tr = some (false, 1)) :
    tr.count .rel = 1 ∧ tr.count .acq = 1 := by
  have := run_counts tr false 0 false 1 h
  simp at this; omega

/-- never released while not held: the trace up to any release is free of lock errors and leaves the lock held -/
theorem never_released_unheld {tr : List Micro} (h : lockRun tr = some (false, 1))
    (pre post : List Micro) (e : tr = pre ++ .rel :: post) : ∃ n, lockRun pre = some (true, n) := by
  subst e
  unfold lockRun at h ⊢
  rw [runQ_append, runQ_cons] at h
  generalize runQ lockStepC (some (false, 0)) pre = r at h ⊢
  match r with
  | none | some (false, _) => exact nomatch (runQ_lockStepC_none post).symm.trans h
  | some (true, n) => exact ⟨n, rfl⟩

theorem methods_balanced : (LockCfg.locking.all fun m => balanced m.2) = true := by decide +kernel

/-- the interpreter's obligation `lockNeutral` (from "free" and from "held" every exit is in the state it started from) holds of
the methods and helpers that do not mention the lock; the obligation has no soundness lemma of its own (it would be
`allExits_sound` at the two start states) -/
theorem others_lock_neutral : ((LockCfg.lockfree ++ LockCfg.helpers).all fun m => lockNeutral m.2) = true := by decide +kernel

/-- for every locking method of either store and every path through it, the lock is released exactly once, never while free
(`lockRun tr ≠ none`; `never_released_unheld` spells it out), and ends released -/
theorem store_methods_release_exactly_once :
    ∀ m ∈ LockCfg.locking, ∀ tr o, Exec m.2 tr o →
      lockRun tr = some (false, 1) ∧ tr.count .rel = 1 ∧ tr.count .acq = 1 := by
  intro m hm tr o he
  have h1 := balanced_sound m.2 (List.all_eq_true.mp methods_balanced m hm) he
  exact ⟨h1, released_exactly_once h1⟩

/-- the same for a concrete call: a call on graph `g` importing `k` nodes runs the skeleton with its symbolic counters, graph and
sizes replaced (`instStmt`, what the correspondence replays), and the lock monitor does not see the parameters -/
theorem store_methods_release_exactly_once_inst :
    ∀ m ∈ LockCfg.locking, ∀ g k tr o, Exec (instStmt g k m.2) tr o →
      lockRun tr = some (false, 1) ∧ tr.count .rel = 1 ∧ tr.count .acq = 1 := by
  intro m hm g k tr o he
  have h1 := balanced_sound _ ((balanced_inst g k m.2).trans (List.all_eq_true.mp methods_balanced m hm)) he
  exact ⟨h1, released_exactly_once h1⟩

/-- non-vacuity: the path of `del_all_graphs` on which nothing raises -/
example : Exec (instStmt 3 2 LockCfg.shared_del_all_graphs) [.acq, .delAll, .rel] .norm :=
  .seqNorm (.primOk _ _) (.seqNorm (.primOk _ _) (.primOk _ _))

/-- rejected: a raising statement between acquire and release without `finally`; a release on an early return that the
`finally` repeats -/
example : balanced (.seq .acquire (.seq (.prim .rdg true) .release)) = false := by decide +kernel
example : balanced (.seq .acquire (.seq (.prim .rdg false) .release)) = true := by decide +kernel
example : balanced (.seq .acquire (.tryFinally (.ite (.seq .release .ret) .skip) .release)) = false := by decide +kernel
example : Exec (.seq .acquire (.tryFinally (.ite (.seq .release .ret) .skip) .release)) [.acq, .rel, .rel] .ret :=
  .seqNorm (.primOk _ _) (.finNorm (.iteL (.seqNorm (.primOk _ _) .ret)) (.primOk _ _))

example : lockRun [.acq, .rel, .rel] = none := by decide +kernel

/-! ## Part B — allocation discipline of every method, and all interleavings -/

/-- soundness of `disciplined`: every path of an accepted method is accepted by the discipline monitor (shared state is written
only with the lock held, using the allocation idioms) -/
theorem disciplined_sound (p : Stmt) (h : disciplined p = true) {tr : List Micro} {o : Out} (he : Exec p tr o) :
    accepts tr = true := by
  simpa [accepts] using allExits_sound discStep _ .out p h he

theorem accepts_append {a b : List Micro} (ha : accepts a = true) (hb : accepts b = true) : accepts (a ++ b) = true := by
  simp only [accepts, beq_iff_eq] at *
  rw [runQ_append, ha, hb]

theorem methods_disciplined : ((LockCfg.locking ++ LockCfg.lockfree ++ LockCfg.shellCtor).all fun m => disciplined m.2) = true := by decide +kernel

theorem helpers_disciplined : (LockCfg.helpers.all fun m => disciplinedHelper m.2) = true := by decide +kernel

theorem store_method_paths_accepted :
    ∀ m ∈ LockCfg.locking ++ LockCfg.lockfree ++ LockCfg.shellCtor, ∀ tr o, Exec m.2 tr o → accepts tr = true := by
  intro m hm tr o he
  exact disciplined_sound m.2 (List.all_eq_true.mp methods_disciplined m hm) he

/-- a thread that only constructs importers / graph objects (the shells' singleton creation guard) and calls
public store methods: its program is a concatenation of paths of the generated skeletons, as they are generated (symbolic graph,
id spaces and sizes; not `instStmt` of them) -/
inductive StoreProg : List Micro → Prop where
  | done : StoreProg []
  | call {m tr o p} : m ∈ LockCfg.locking ++ LockCfg.lockfree ++ LockCfg.shellCtor → Exec m.2 tr o → StoreProg p → StoreProg (tr ++ p)

theorem storeProg_accepts {p : List Micro} (h : StoreProg p) : accepts p = true := by
  induction h with
  | done => rfl
  | call hm he _ ih => exact accepts_append (store_method_paths_accepted _ hm _ _ he) ih

section Schedules
variable (progs : List (List Micro)) (hacc : ∀ p ∈ progs, accepts p = true) (sched : List Nat)
include hacc

/-- under every schedule, at most one thread is inside a locked region, and it is the
thread recorded as the holder of the lock -/
theorem mutual_exclusion (t u : Nat)
    (ht : inside ((run sched (init progs)).thr t).prog = true) (hu : inside ((run sched (init progs)).thr u).prog = true) :
    t = u ∧ (run sched (init progs)).lock = some t := by
  obtain ⟨q, h⟩ := reachable_inv hacc sched
  exact ⟨Option.some.inj ((h.holder ht).symm.trans (h.holder hu)), h.holder ht⟩

/-- no two live nodes share an internal identifier (per id space) — at every moment, not only at the end -/
theorem unique_ids : ((run sched (init progs)).sh.nodes.map Node.key).Nodup := by
  obtain ⟨qs, h⟩ := reachable_inv hacc sched
  exact h.nodup

/-- the dictionary the real store keeps (`dictView`: a later insertion under the same key
replaces the earlier node) contains every node that was inserted and not deleted -/
theorem no_node_lost : dictView (run sched (init progs)).sh.nodes = (run sched (init progs)).sh.nodes := by
  obtain ⟨qs, h⟩ := reachable_inv hacc sched
  exact dictView_eq_of_nodup _ h.nodup

/-- the store object and its lock object are never swapped for fresh ones — neither by a shell's
creation guard (`ctor`) nor by a method re-running `__init__` / assigning `self.lock` (`reinit`); the shared state of the step
relation keeps its identity (`gen`) under every schedule -/
theorem store_never_replaced : (run sched (init progs)).sh.gen = 0 := by
  rw [run_fold (·.gen) (fun n _ => n) _ effectT_gen sched (init progs)
    (init_forall nofun fun p hp => accepted_keeps_store p .out (beq_iff_eq.mp (hacc p hp)))]
  generalize trace sched (init progs) = tr
  induction tr with
  | nil => rfl
  | cons _ _ ih => exact ih

theorem no_release_error : (run sched (init progs)).relErr = false := by
  obtain ⟨qs, h⟩ := reachable_inv hacc sched
  exact h.noErr

theorem lock_free_at_end (hf : finished (run sched (init progs))) : (run sched (init progs)).lock = none := by
  obtain ⟨qs, h⟩ := reachable_inv hacc sched
  exact h.lock_free hf

/-- as long as some thread has work left, some thread can take a step (a lock that is held
is always released by its holder) -/
theorem no_deadlock (hnf : ¬ finished (run sched (init progs))) : ∃ t, (step t (run sched (init progs))).isSome = true := by
  obtain ⟨qs, h⟩ := reachable_inv hacc sched
  exact h.progress hnf

/-- when all threads have finished and no program deletes, every graph owns in the store's
dictionary exactly as many nodes as were inserted into it by all threads together -/
theorem each_graph_exact (hnd : ∀ p ∈ progs, ∀ m ∈ p, isDelete m = false)
    (hf : finished (run sched (init progs))) (g : Nat) :
    ((dictView (run sched (init progs)).sh.nodes).filter fun n => n.owner == g).length = (progs.map (addsOf g)).sum := by
  rw [no_node_lost progs hacc sched]
  -- the count is the number of insertions executed; with every thread finished these are the insertions of the programs
  have h1 := run_fold (fun sh => cnt g sh.nodes) (fun k m => addsOf g [m] + k) (isDelete · = false) (effectT_cnt g) sched
    (init progs) (init_forall (P := fun p => ∀ m ∈ p, isDelete m = false) nofun hnd)
  have h2 := trace_total g progs.length sched (init progs) (cnt g (init progs).sh.nodes)
    fun t ht => by simp [Sched.init, ht]
  rw [← h1, total_finished hf, total_init] at h2
  exact h2.trans (Nat.zero_add _)

end Schedules

/-- an accepted program expanded into atoms (`Fine`) is accepted too — so every theorem of `section Schedules` holds with a
thread switch possible between any two atoms, not only between source lines -/
theorem atoms_accepted {p p' : List Micro} (hf : Fine p p') (h : accepts p = true) : accepts p' = true := by
  simp only [accepts, beq_iff_eq] at h ⊢
  rw [fine_runQ hf .out (by rw [h]; simp), h]

/-- the tie between the two models: any number of threads, each running any sequence of paths of the generated (symbolic)
skeletons expanded into atoms in any way, under any schedule of the atoms: no identifier twice, no node lost, no lock error, one
store and one lock object, at most one thread inside a locked region, the lock free when all have finished -/
theorem store_threads_safe_atomwise (progs : List (List Micro)) (h : ∀ p' ∈ progs, ∃ p, StoreProg p ∧ Fine p p') (sched : List Nat) :
    ((run sched (init progs)).sh.nodes.map Node.key).Nodup ∧
    dictView (run sched (init progs)).sh.nodes = (run sched (init progs)).sh.nodes ∧
    (run sched (init progs)).relErr = false ∧
    (run sched (init progs)).sh.gen = 0 ∧
    (∀ t u, inside ((run sched (init progs)).thr t).prog = true → inside ((run sched (init progs)).thr u).prog = true → t = u) ∧
    (finished (run sched (init progs)) → (run sched (init progs)).lock = none) :=
  have hacc : ∀ p ∈ progs, accepts p = true := fun p' hp => by
    obtain ⟨p, hp1, hp2⟩ := h p' hp
    exact atoms_accepted hp2 (storeProg_accepts hp1)
  ⟨unique_ids progs hacc sched, no_node_lost progs hacc sched, no_release_error progs hacc sched,
   store_never_replaced progs hacc sched, fun t u ht hu => (mutual_exclusion progs hacc sched t u ht hu).1,
   lock_free_at_end progs hacc sched⟩

/-- the line-level case (every micro-instruction its own expansion): threads that only call public methods of the stores -/
theorem store_threads_safe (progs : List (List Micro)) (h : ∀ p ∈ progs, StoreProg p) (sched : List Nat) :
    ((run sched (init progs)).sh.nodes.map Node.key).Nodup ∧
    dictView (run sched (init progs)).sh.nodes = (run sched (init progs)).sh.nodes ∧
    (run sched (init progs)).relErr = false ∧
    (run sched (init progs)).sh.gen = 0 ∧
    (finished (run sched (init progs)) → (run sched (init progs)).lock = none) :=
  have ⟨h1, h2, h3, h4, _, h6⟩ := store_threads_safe_atomwise progs (fun p hp => ⟨p, h p hp, fine_refl p⟩) sched
  ⟨h1, h2, h3, h4, h6⟩

/-- non-vacuity: the import path of the shared store, expanded: the increment is split, the two nodes are inserted one by one -/
example : Fine [.acq, .rdg, .read 0, .bump 0 2, .add 0 1 2, .rdg, .rel]
    [.acq, .rdg, .read 0, .ld 0, .st 0 2, .ins 0 1 0, .ins 0 1 1, .rdg, .rel] :=
  .cons (.same _) (.cons (.same _) (.cons (.same _) (.cons (.bump 0 2) (.cons (.add 0 1 2 (by decide)) (.cons (.same _) (.cons (.same _) .nil))))))

example : accepts [.acq, .rdg, .read 0, .ld 0, .st 0 2, .ins 0 1 0, .ins 0 1 1, .rdg, .rel] = true := by decide +kernel

/-- what the atoms show that the line-level model cannot: an increment that is not protected by the lock loses an update even
though every single step is atomic (thread 0 loads, thread 1 loads, both store the same value) -/
theorem split_increment_counterexample :
    let progs : List (List Micro) := [[.ld 0, .st 0 1], [.ld 0, .st 0 1]]
    (run [0, 1, 0, 1] (init progs)).sh.ctr 0 = 2 ∧ (run [0, 0, 1, 1] (init progs)).sh.ctr 0 = 3 ∧ (progs.all accepts) = false := by
  decide +kernel

/-- with deletions (all but the atom `rmOne`, `hrm`: imports, node creation, line-level `del_graph`, `del_all_graphs`, rebuilds,
in any mix), at every moment: the store's dictionary holds, for every id space `c` and graph `g`, exactly as many nodes as were
inserted for `(c, g)` since the last executed deletion that covered them (`ledger`) — no insertion was swallowed by another, no
deleted node survived, no node of another graph was taken along -/
theorem each_graph_exact_with_deletes (progs : List (List Micro)) (hacc : ∀ p ∈ progs, accepts p = true)
    (hrm : ∀ p ∈ progs, ∀ m ∈ p, noRm m = true) (sched : List Nat) (c g : Nat) :
    cntCG c g (dictView (run sched (init progs)).sh.nodes) = ledger c g (trace sched (init progs)) := by
  rw [no_node_lost progs hacc sched]
  exact run_fold (fun sh => cntCG c g sh.nodes) (ledgerStep c g) (noRm · = true) (effectT_ledger c g) sched (init progs)
    (init_forall (P := fun p => ∀ m ∈ p, noRm m = true) nofun hrm)

/-- a deletion that covers `(c, g)` starts the count over: whatever was imported before `del_all_graphs` / `del_graph g` /
a rebuild of id space `c` in the order of execution does not count -/
theorem ledger_after_delete (c g : Nat) (a b : List Micro) :
    ledger c g (a ++ .delAll :: b) = ledger c g b ∧ ledger c g (a ++ .del g :: b) = ledger c g b ∧
    ledger c g (a ++ .delSpace c :: b) = ledger c g b :=
  ⟨ledger_append_reset c g a b _ (fun _ => rfl), ledger_append_reset c g a b _ (fun _ => by simp [ledgerStep]),
   ledger_append_reset c g a b _ (fun _ => by simp [ledgerStep])⟩

/-- non-vacuity: `del_all_graphs` of thread 1 lands between the import of graph 1 and the node creation of thread 0 -/
example :
    let progs : List (List Micro) := [[.acq, .read 0, .bump 0 2, .add 0 1 2, .rel, .acq, .read 0, .add 0 1 1, .bump 0 1, .rel],
                                      [.acq, .delAll, .rel]]
    let sched := [0, 0, 0, 0, 0, 1, 1, 1, 0, 0, 0, 0, 0]
    (progs.all accepts) = true ∧ (progs.all fun p => p.all noRm) = true ∧
    ledger 0 1 (trace sched (init progs)) = 1 ∧ (run sched (init progs)).sh.nodes.length = 1 := by
  decide +kernel

/-- the creation guard of each shell can only fire when there is no store yet: it tests `is None`, or the store
class cannot be falsy (no `__len__` / `__bool__`) -/
theorem singleton_guard_stable : (LockCfg.singletons.all fun s => s.2.1 || !s.2.2) = true := by decide +kernel

/-- a truthiness guard on a store class that defines `__len__`: while thread 0 is inside its first import (store
still empty) thread 1 constructs an importer, which replaces the store (fresh counters, fresh lock object) -/
theorem weak_guard_counterexample :
    let progs : List (List Micro) := [[.ctor true, .acq, .rdg, .read 0, .bump 0 2, .add 0 1 2, .rel], [.ctor true, .acq, .rdg, .rel]]
    let s := run [0, 0, 0, 0, 1] (init progs)
    s.sh.gen = 2 ∧ (progs.all accepts) = false ∧ accepts [.ctor false, .acq, .rdg, .rel] = true := by
  decide +kernel

/-- `with self.lock: self.__init__(...)` (a "reset" of the store from inside one of its methods) installs a new lock object
while the old one is held: thread 1 takes the new lock while thread 0 is still inside its locked region, and the release of
thread 0 then frees the lock thread 1 holds -/
theorem reinit_counterexample :
    let progs : List (List Micro) := [[.acq, .reinit, .rdg, .rel], [.acq, .read 0, .bump 0 1, .add 0 1 1, .rel]]
    let s := run [0, 0, 1] (init progs)
    let s' := run [0, 0, 1, 0, 0] (init progs)
    s.sh.gen = 1 ∧ s.lock = some 1 ∧ inside (s.thr 0).prog = true ∧ inside (s.thr 1).prog = true ∧
    s'.lock = none ∧ inside (s'.thr 1).prog = true ∧ (progs.all accepts) = false := by
  decide +kernel

example : accepts [.acq, .read 0, .add 0 1 1, .bump 0 1, .rel, .acq, .rdg, .delSpace 3, .addFrom 3 3 1 2, .setCtr 3 3, .rel] = true := by decide +kernel

/-- allocation outside the lock (what "move the increment out of the locked region" gives): two threads read the
same counter value, the second insertion replaces the first node — an identifier handed out twice, a node lost -/
theorem unlocked_alloc_counterexample :
    let progs : List (List Micro) := [[.read 0, .add 0 1 1, .bump 0 1], [.read 0, .add 0 2 1, .bump 0 1]]
    let s := run [0, 1, 0, 1, 0, 1] (init progs)
    finished' 2 s = true ∧ ¬ (s.sh.nodes.map Node.key).Nodup ∧ (dictView s.sh.nodes).length = 1 ∧ s.sh.nodes.length = 2 ∧
    (progs.all accepts) = false := by
  decide +kernel

/-- a release inside `try` and again in `finally` (known finding `C20:disjoint.add_graph:release-of-unlocked-lock`): thread 0
releases twice; its second release frees the lock thread 1 has just taken, thread 2 enters as well, and both allocate the same id -/
theorem double_release_counterexample :
    let alloc (g : Nat) : List Micro := [.acq, .read 7, .bump 7 1, .add 7 g 1, .rel]
    let progs : List (List Micro) := [[.acq, .rdg, .rel, .rel], alloc 1, alloc 2]
    let s := run [0, 0, 0, 1, 0, 2, 1, 2, 1, 2, 1, 2, 1, 2] (init progs)
    finished' 3 s = true ∧ ¬ (s.sh.nodes.map Node.key).Nodup ∧ s.relErr = true ∧
    lockRun (progs.getD 0 []) = none := by
  decide +kernel

/-- what `gen/importids.py` observes on both in-memory importers: `import_graph_from_string` / `import_graph_from_file` called
twice without a graph id come back as two graphs with ids of their own — non-empty, different from each other and from an id in
use — each holding its own document's nodes; called with a graph id they file the document under that id.  These are the rows
the lowering of importer calls to graph indices of the interleaving model assumes (`ImportEntry.modelIdless`,
`ImportEntry.modelNamed`). -/
theorem idless_imports_get_fresh_ids :
    Gen.ImportIds.idlessFresh = ImportEntry.modelIdless ∧ Gen.ImportIds.namedTarget = ImportEntry.modelNamed := by decide +kernel

/-- under `ImportEntry.Fresh` the imports that name no graph id have pairwise different targets, different from every
caller-chosen id in use, whatever the documents are.  The step from a target to the graph index of `Micro.add` is the harness's
lowering, not a theorem here -/
theorem idless_imports_are_graphs_of_their_own {generated inUse : List String} (h : ImportEntry.Fresh generated inUse) :
    (∀ (i j : Nat) (hi : i < generated.length) (hj : j < generated.length), i ≠ j → ∀ di dj : String,
      ImportEntry.target .idless di generated[i] ≠ ImportEntry.target .idless dj generated[j]) ∧
    (∀ (i : Nat) (hi : i < generated.length) (g : String), g ∈ inUse → ∀ d d' f : String,
      ImportEntry.target .idless d generated[i] ≠ ImportEntry.target (.named g) d' f) :=
  ⟨fun _ _ hi hj hij di dj => ImportEntry.idless_targets_distinct h hi hj hij di dj,
   fun _ hi g hg d d' f => ImportEntry.idless_target_not_named h hi g hg d d' f⟩

example : ImportEntry.Fresh ["6f1c", "a2d0"] ["graph-1", "graph-2"] := by decide +kernel

end FimVerif.C20
