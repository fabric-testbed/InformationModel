import FimVerif.Proofs.Lemmas.C16Misc
import FimVerif.Proofs.Lemmas.C16Domain
import FimVerif.Proofs.Lemmas.C16Entry
import FimVerif.Proofs.Lemmas.C03Parse
/-!
C16 - label, tag, name and data validation holds on every construction path.

The lemma modules take the anchoring of each call site as a hypothesis; `anchors_full` discharges them here, once.  The statements about
entry points, stores and writers are closed-world facts decided on the generated tables.
-/
namespace FimVerif.C16
open FimVerif.Regex FimVerif.V16 FimVerif.Gen.Validators FimVerif.Gen.EntryPoints

/-- The derivative matcher decides the denotational language - all regexes, all strings, no bound. -/
theorem matches_iff (r : Re) (s : List Char) : r.matches s = true ↔ r.L s := Regex.matches_iff r s

/-- `re.fullmatch(R, s)` accepts exactly L(R). -/
theorem accepts_full_iff (r : Re) (s : List Char) : accepts .full r s = true ↔ r.L s := accepts_full

/-- `re.match('^'+R+'$', s)` accepts L(R) and every word of L(R) followed by one "\n". -/
theorem accepts_dollar_iff (r : Re) (s : List Char) :
    accepts .pyDollar r s = true ↔ r.L s ∨ ∃ w, s = w ++ ['\n'] ∧ r.L w := by
  simp only [accepts, Bool.or_eq_true, Bool.and_eq_true, matches_iff, endsNl, beq_iff_eq, List.getLast?_eq_some_iff]
  constructor
  · rintro (h | ⟨⟨w, rfl⟩, h⟩)
    · exact Or.inl h
    · exact Or.inr ⟨w, rfl, by simpa using h⟩
  · rintro (h | ⟨w, rfl, hw⟩)
    · exact Or.inl h
    · exact Or.inr ⟨⟨w, rfl⟩, by simpa using hw⟩

theorem dollar_admits_trailing_newline (r : Re) (w : List Char) (h : r.L w) : accepts .pyDollar r (w ++ ['\n']) = true :=
  (accepts_dollar_iff r _).mpr (Or.inr ⟨w, rfl, h⟩)

/-! The call sites as they are in the source: read by the translator from the AST of `Labels._set_fields` (list and
scalar site), `Tags._check` and `BaseSliver.set_name`. With `re.match(... '$')` these would be `.pyDollar`, the proof
below fails (`rfl`), the build breaks and the corpus cases `"12\n"` etc. are the concrete failing
inputs. -/
theorem anchors_full :
    labelAnchorList = .full ∧ labelAnchorScalar = .full ∧ tagAnchor = .full ∧ nameAnchor = .full :=
  ⟨rfl, rfl, rfl, rfl⟩

/-- every range-checked label field also has a format (regex) - so `int()` only ever sees what the regex let through -/
theorem range_fields_have_regex : ∀ kc ∈ labelRange, (labelRegex.lookup kc.1).isSome = true := by
  decide +kernel

/-- No value outside its documented domain can be stored, whichever way it arrives: constructor, bulk setter,
copy-with-changes (`update`), `from_json`, model-element `update_labels` + read-back; scalar or list form;
any number of keyword arguments. -/
theorem accept_sound (p : Path) (base : LObj) (kw : List (String × Val)) (o' : LObj)
    (hb : Valid base) (h : enter p base kw = .ok o') : Valid o' := by
  have hl := anchors_full.1
  have hs := anchors_full.2.1
  cases p with
  | ctor | json => exact setFields_sound hl hs h valid_default
  | setf | update => exact setFields_sound hl hs h hb
  | elem =>
    simp only [enter] at h
    split at h
    · cases h
    · split at h
      · cases h
      · cases h; exact valid_default
      · rename_i hr; cases h; exact readBack_valid hl hs hr

theorem stored_scalar_in_domain (p : Path) (base : LObj) (kw : List (String × Val)) (o' : LObj)
    (hb : Valid base) (h : enter p base kw = .ok o') (k : String) (s : List Char) (hm : (k, Val.str s) ∈ o') :
    (∀ r, labelRegex.lookup k = some r → r.L s) ∧ (∀ cs, labelRange.lookup k = some cs → evalRange s cs = .ok true) :=
  accept_sound p base kw o' hb h (k, .str s) hm

/-- spelled out for a list: the format is not bypassed for list elements -/
theorem stored_list_in_domain (p : Path) (base : LObj) (kw : List (String × Val)) (o' : LObj)
    (hb : Valid base) (h : enter p base kw = .ok o') (k : String) (xs : List Item) (hm : (k, Val.list xs) ∈ o')
    (r : Re) (hr : labelRegex.lookup k = some r) : ∀ i ∈ xs, ∃ s, i = .str s ∧ r.L s := fun i hi =>
  let ⟨s, hs, hd⟩ := ItemOk.str (accept_sound p base kw o' hb h (k, .list xs) hm i hi)
  ⟨s, hs, hd.1 r hr⟩

/-- In every field - also the free-form ones without a format - a stored list holds strings only
(`all(isinstance(i, str) for i in v)`). -/
theorem stored_list_all_strings (p : Path) (base : LObj) (kw : List (String × Val)) (o' : LObj)
    (hb : Valid base) (h : enter p base kw = .ok o') (k : String) (xs : List Item) (hm : (k, Val.list xs) ∈ o') :
    ∀ i ∈ xs, ∃ s, i = .str s := fun i hi =>
  let ⟨s, hs, _⟩ := ItemOk.str (accept_sound p base kw o' hb h (k, .list xs) hm i hi)
  ⟨s, hs⟩

example : enter .ctor defaultObj [("vlan", .list [.str ['1'], .str ['4','0','9','6']])] =
    .ok (setKey "vlan" (.list [.str ['1'], .str ['4','0','9','6']]) defaultObj) := by rfl
example : enter .ctor defaultObj [("vlan", .str ['1','2','\n'])] = .error "label" := by rfl
example : enter .update defaultObj [("mac", .list [.str ['0','0',':','1','1',':','2','2',':','3','3',':','4','4',':','5','5','\n']])]
    = .error "label" := by rfl
example : enter .json defaultObj [("numa", .str [' ', '3', ' '])] = .error "label" := by rfl

/-- the general form: several fields at once, scalar and list values mixed, each stored as given, in order -/
theorem accept_complete_all (p : Path) (hp : p ≠ .elem) (base : LObj) (kw : List (String × Val))
    (h : ∀ kv ∈ kw, labelFields.contains kv.1 = true ∧ ValOk kv.1 kv.2 ∧ kv.2 ≠ .none) :
    enter p base kw = .ok (kw.foldl (fun o kv => if labelFields.contains kv.1 then setKey kv.1 kv.2 o else o)
      (if p = .ctor ∨ p = .json then defaultObj else base)) := by
  have h1 (fg : Bool) (o : LObj) := setFields_complete fg anchors_full.1 anchors_full.2.1 kw o
    (fun kv hkv => (h kv hkv).2) (Or.inr fun kv hkv => (h kv hkv).1)
  cases p with
  | elem => exact absurd rfl hp
  | ctor => exact h1 false defaultObj
  | setf | update => exact h1 false base
  | json => simpa [enter, jsonKeys_eq_self fun kv hkv => (h kv hkv).1] using h1 true defaultObj

/-- any strict call (constructor / bulk setter / `update`) with several in-domain fields at once is accepted -/
theorem accept_complete_many (p : Path) (hp : p = .ctor ∨ p = .setf ∨ p = .update) (base : LObj) (kw : List (String × Val))
    (h : ∀ kv ∈ kw, labelFields.contains kv.1 = true ∧ ValOk kv.1 kv.2 ∧ kv.2 ≠ .none) : ∃ o', enter p base kw = .ok o' :=
  ⟨_, accept_complete_all p (by rcases hp with rfl | rfl | rfl <;> nofun) base kw h⟩

/-- Every value inside the documented domain is accepted and stored as given, on the constructor, the bulk setter,
`update` and `from_json`, in scalar and in list form. -/
theorem accept_complete (p : Path) (hp : p ≠ .elem) (base : LObj) (k : String) (v : Val)
    (hk : labelFields.contains k = true) (hv : ValOk k v) (hn : v ≠ .none) :
    enter p base [(k, v)] = .ok (setKey k v (if p = .ctor ∨ p = .json then defaultObj else base)) := by
  have := accept_complete_all p hp base [(k, v)] fun kv h => by rw [List.mem_singleton.mp h]; exact ⟨hk, hv, hn⟩
  rwa [List.foldl_cons, List.foldl_nil, if_pos hk] at this

/-- … and on the model-element path it is not rejected either. -/
theorem accept_complete_elem (base : LObj) (hb : Valid base) (k : String) (v : Val)
    (hk : labelFields.contains k = true) (hv : ValOk k v) (hn : v ≠ .none) :
    ∃ o', enter .elem base [(k, v)] = .ok o' := by
  have hset : setFields false base [(k, v)] = .ok (setKey k v base) := accept_complete .setf nofun base k v hk hv hn
  obtain ⟨r, hr⟩ := readBack_total anchors_full.1 anchors_full.2.1 (valid_setKey hb hv)
  simp only [enter, hset, hr]
  cases r <;> exact ⟨_, rfl⟩

example : ValOk "vlan_range" (.str ['1','-','4','0','9','6']) := by
  refine ⟨fun r hr => ?_, fun cs hc => ?_⟩
  · have : r = re_vlan_range := by simp [labelRegex, List.lookup] at hr; exact hr.symm
    subst this; exact (matches_iff _ _).mp (by decide)
  · have : cs = [⟨.lit 0, .le, .ofPart '-' 0⟩, ⟨.ofPart '-' 0, .le, .lit 4096⟩, ⟨.lit 0, .le, .ofPart '-' 1⟩,
        ⟨.ofPart '-' 1, .le, .lit 4096⟩, ⟨.ofPart '-' 0, .le, .ofPart '-' 1⟩] := by
      simp [labelRange, List.lookup] at hc; exact hc.symm
    subst this; rfl

/-- a value that is neither None, a str nor a list (int, bytes, dict, …) is never stored, whatever the key -/
theorem wrong_type_rejected (fg : Bool) (o : LObj) (k : String) : setField fg o k .other = .error "assertion" := rfl

/-- a key that is not a label field (`k in self.__dict__`: an instance field, not any attribute of the class) is rejected by the
strict paths (`from_json` skips it: the third example below) -/
theorem unknown_field_rejected (o : LObj) (k : String) (v : Val) (hk : labelFields.contains k = false) :
    ∃ e, setField false o k v = .error e := by
  cases h : setField false o k v with
  | error e => exact ⟨e, rfl⟩
  | ok o' =>
    obtain ⟨_, _, _, ⟨hk', _⟩ | ⟨_, hf, _⟩⟩ := setField_ok_iff.mp h
    · rw [hk] at hk'; cases hk'
    · cases hf

/-- the fields of a Labels object are the ones its constructor created: no call, strict or forgiving, adds a key -/
theorem keys_invariant (fg : Bool) : ∀ (kw : List (String × Val)) (o o' : LObj), setFields fg o kw = .ok o' →
    o'.map (·.1) = o.map (·.1) := by
  intro kw o o' h
  refine setFields_preserves (P := fun x => x.map (·.1) = o.map (·.1)) (fun h1 hp => ?_) h rfl
  obtain ⟨_, _, _, ⟨_, _, _, rfl⟩ | ⟨_, _, rfl⟩⟩ := setField_ok_iff.mp h1
  · rw [keys_setKey, hp]
  · exact hp

example : enter .ctor defaultObj [("local_name", .list [.str ['a'], .other])] = .error "assertion" := by rfl
example : enter .ctor defaultObj [("to_json", .str ['x'])] = .error "label" := by rfl
example : enter .json defaultObj [("VALIDATORS", .str ['x']), ("vlan", .str ['7'])] = .ok (setKey "vlan" (.str ['7']) defaultObj) := by rfl

/-- Whatever was accepted on any path is not rejected when it goes through `to_json`/`from_json` again
(the validators are deterministic and `from_json` applies the same ones). -/
theorem reencode_accepted (p : Path) (base : LObj) (kw : List (String × Val)) (o' : LObj)
    (hb : Valid base) (h : enter p base kw = .ok o') : ∃ r, readBack o' = .ok r :=
  readBack_total anchors_full.1 anchors_full.2.1 (accept_sound p base kw o' hb h)

theorem label_regexes_avoid_newline : ∀ kr ∈ labelRegex, Re.avoids '\n' kr.2 = true := by decide +kernel

/-- A stored scalar label of a field with a format never contains "\n", which anchoring with `$` admits at the end (`dollar_admits_trailing_newline`). -/
theorem stored_label_no_newline (p : Path) (base : LObj) (kw : List (String × Val)) (o' : LObj)
    (hb : Valid base) (h : enter p base kw = .ok o') (k : String) (s : List Char) (hm : (k, Val.str s) ∈ o')
    (r : Re) (hr : labelRegex.lookup k = some r) : '\n' ∉ s := by
  have hL := (stored_scalar_in_domain p base kw o' hb h k s hm).1 r hr
  exact avoids_sound '\n' r (label_regexes_avoid_newline (k, r) (List.mem_of_lookup_eq_some hr)) s hL

/-- Every stored tag is in the language of TAG_PATTERN, whether given as arguments, lists/tuples or through from_json. -/
theorem tags_sound (args : List TArg) (l : List (List Char)) (h : tagsCtor args = .ok l) : ∀ t ∈ l, tagRe.L t :=
  tagsCtor_ok anchors_full.2.2.1 h

theorem tags_complete (l : List (List Char)) (h : ∀ t ∈ l, tagRe.L t) : tagsCtor [.many (l.map Item.str)] = .ok l := by
  simp only [tagsCtor, tagItems_of anchors_full.2.2.1 l h, pure_eq, List.append_nil]

theorem tag_no_newline (args : List TArg) (l : List (List Char)) (h : tagsCtor args = .ok l) : ∀ t ∈ l, '\n' ∉ t :=
  fun t ht => avoids_sound '\n' tagRe (by decide) t (tags_sound args l h t ht)

example : tagsCtor [.one (.str ['a','b','c','\n'])] = .error "tag" := by rfl
example : tagsCtor [.one (.str ['b','l','u','e']), .many [.str ['s','o']]] = .ok [['b','l','u','e'], ['s','o']] := by rfl

/-- `set_name` stores exactly the strings of the class's NAME_REGEX. -/
theorem name_accept_iff (cls : String) (r : Re) (hr : nameRe.lookup cls = some r) (s : List Char) :
    setName cls (.str s) = .ok s ↔ r.L s :=
  ⟨setName_L anchors_full.2.2.2 hr, setName_of_L anchors_full.2.2.2 hr⟩

theorem name_stored_is_input (cls : String) (v : Val) (s : List Char) (h : setName cls v = .ok s) : v = .str s :=
  (setName_ok_iff.mp h).1

theorem name_regexes_avoid_newline : ∀ kr ∈ nameRe, Re.avoids '\n' kr.2 = true := by decide +kernel

example : setName "NodeSliver" (.str ['a','b','\n']) = .error "value" := by rfl
example : setName "ComponentSliver" (.str ['a',' ','b']) = .ok ['a',' ','b'] := by rfl

/-- a boot script is stored iff it is strictly shorter than BOOST_SCRIPT_SIZE -/
theorem boot_accept_iff (s : List Char) : setBoot (.str s) = .ok (some s) ↔ s.length < bootScriptSize := by
  simp [setBoot, bootOk, throw_eq, pure_eq]

/-- a JSON text is stored iff it is at most MAX_SIZE long and parses; an object iff it can be dumped and the dump is
at most MAX_SIZE long (so what is stored never exceeds the limit) -/
theorem json_accept_iff (cls : String) (m : Nat) (hm : jsonMax.lookup cls = some m) (len : Nat) (valid : Bool) :
    (jsonStr cls len valid = .ok () ↔ len ≤ m ∧ valid = true) ∧ (jsonObj cls valid len = .ok () ↔ len ≤ m ∧ valid = true) := by
  simp [jsonStr, jsonObj, hm, jsonTooLong, throw_eq, pure_eq, ite_error_ok_iff, and_comm]

/-- `json.loads` is the parser model `JParse.parse` -/
theorem blob_text_accept_iff (cls : String) (m : Nat) (hm : jsonMax.lookup cls = some m) (text : String) :
    jsonText cls text = .ok () ↔ text.length ≤ m ∧ ∃ j, JParse.parse text = some j := by
  unfold jsonText
  rw [(json_accept_iff cls m hm text.length (JParse.parse text).isSome).1, Option.isSome_iff_exists]

theorem blob_value_accept_iff (cls : String) (m : Nat) (hm : jsonMax.lookup cls = some m) (j : JVal) (hj : j ≠ .null) (t : String) :
    jsonValue cls j = .ok t ↔ (JVal.render j).length ≤ m ∧ t = JVal.render j := by
  have hgen : jsonValue cls j = (if jsonTooLong (JVal.render j).length m then throw "jsondata" else pure (JVal.render j)) := by
    unfold jsonValue; rw [hm]; cases j <;> first | rfl | exact absurd rfl hj
  simp [hgen, jsonTooLong, throw_eq, pure_eq, ite_error_ok_iff, @eq_comm _ t]

/-- `JSONData(None)` stores the empty object -/
theorem blob_none_is_empty_object (cls : String) (m : Nat) (hm : jsonMax.lookup cls = some m) :
    jsonValue cls .null = .ok (JVal.render (.obj [])) := by
  unfold jsonValue; rw [hm]; rfl

/-- Whatever the object path accepted and stored is accepted again when it arrives as text (decoding a stored blob, a
serialized topology): for every JSON value with distinct keys in its objects and floats that are number lexemes (`plain`), of any size and depth.
`json.loads(json.dumps(j)) == j` is C03's `parse_render`. -/
theorem blob_value_reencodes (cls : String) (j : JVal) (hj : j ≠ .null) (hp : JParse.plain j = true) (t : String)
    (h : jsonValue cls j = .ok t) : jsonText cls t = .ok () ∧ JParse.parse t = some j := by
  cases hm : jsonMax.lookup cls with
  | none => simp [jsonValue, hm, throw_eq] at h
  | some m =>
    obtain ⟨hlen, rfl⟩ := (blob_value_accept_iff cls m hm j hj t).mp h
    exact ⟨(blob_text_accept_iff cls m hm _).mpr ⟨hlen, j, JParse.parse_render j hp⟩, JParse.parse_render j hp⟩

example : JParse.plain (.obj [("a", .arr [.int 1, .null, .str "x"]), ("b", .bool true)]) = true := by decide

/-! The documented domains in plain terms. These tie `InDomain` / `Re.L` of the *generated* regexes and ranges to readable
statements; if a pattern, a repetition bound or a range constant changes in the source they stop type-checking. -/

/-- `int()` of a non-empty string of (Unicode) decimal digits within CPython's digit limit is its positional value. -/
theorem int_of_digits (s : List Char) (hne : s ≠ []) (h : ∀ c ∈ s, isDigit c = true) (hlen : s.length ≤ intMaxStrDigits) :
    pyInt s = some (Int.ofNat (decVal s)) := pyInt_digits s hne h hlen

theorem range_holds_iff (s : List Char) (cs : List Cmp) :
    evalRange s cs = .ok true ↔ ∀ c ∈ cs, ∃ a b, evalInt s c.l = .ok a ∧ evalInt s c.r = .ok b ∧ cmpOp c.op a b = true :=
  evalRange_true_iff s cs

theorem vlan_domain (s : List Char) :
    InDomain "vlan" s ↔ 1 ≤ s.length ∧ s.length ≤ 4 ∧ (∀ c ∈ s, isDigit c = true) ∧ decVal s ≤ 4096 := by
  have hr : labelRegex.lookup "vlan" = some re_vlan := by simp [labelRegex, List.lookup]
  have hc : labelRange.lookup "vlan" = some [⟨.lit 0, .le, .ofStr⟩, ⟨.ofStr, .le, .lit 4096⟩] := by simp [labelRange]
  have hL : re_vlan.L s ↔ 1 ≤ s.length ∧ s.length ≤ 4 ∧ ∀ c ∈ s, isDigit c = true := L_rep_chr _ 1 4 s
  rw [digits_domain hr hc fun h => ?_, hL]
  · simp [cmpOp, and_assoc]; omega
  · obtain ⟨h1, h2, h3⟩ := hL.mp h
    exact ⟨h1, h3, Nat.le_trans h2 (by decide)⟩

example : InDomain "vlan" ['4','0','9','6'] := (vlan_domain _).mpr ⟨by decide, by decide, by decide, by decide⟩
example : ¬ InDomain "vlan" ['4','0','9','7'] := fun h => absurd ((vlan_domain _).mp h).2.2.2 (by decide)

/-- Tags: 1 to 255 word characters or '-'. -/
theorem tag_domain (t : List Char) :
    tagRe.L t ↔ 1 ≤ t.length ∧ t.length ≤ 255 ∧ ∀ c ∈ t, (isWord c || c.toNat == 45) = true :=
  L_rep_chr _ 1 255 t

/-- Node names: 2 to 255 word characters, '-' or '.'. -/
theorem node_name_domain (s : List Char) :
    nameRe_NodeSliver.L s ↔ 2 ≤ s.length ∧ s.length ≤ 255 ∧ ∀ c ∈ s, (isWord c || c.toNat == 45 || c.toNat == 46) = true :=
  L_rep_chr _ 2 255 s

/-- ASN: at least one decimal digit, value between 1 and 2^32 - 1 (for strings below CPython's int() digit limit). -/
theorem asn_domain (s : List Char) (hlen : s.length ≤ intMaxStrDigits) :
    InDomain "asn" s ↔ 1 ≤ s.length ∧ (∀ c ∈ s, isDigit c = true) ∧ 0 < decVal s ∧ decVal s < 4294967296 := by
  have hr : labelRegex.lookup "asn" = some re_asn := by simp [labelRegex, List.lookup]
  have hc : labelRange.lookup "asn" = some [⟨.lit 0, .lt, .ofStr⟩, ⟨.ofStr, .lt, .lit 4294967296⟩] := by simp [labelRange, List.lookup]
  have hL : re_asn.L s ↔ 1 ≤ s.length ∧ ∀ c ∈ s, isDigit c = true := L_plus_chr _ s
  rw [digits_domain hr hc fun h => ?_, hL]
  · simp [cmpOp, and_assoc]; omega
  · obtain ⟨h1, h3⟩ := hL.mp h
    exact ⟨h1, h3, hlen⟩

/-! Every entry point reaches the validator. The tables are regenerated from the source on every run (gen/entrypoints.py):
`stores` is the closed-world list of statements that write a validated value (sliver field, Labels field, tag list, JSON
text, element name, graph property), each with the check that dominates it; `entryPoints` the public functions that take
such a value, with the guarded writers their value reaches in the (selector- and receiver-sensitive) call graph. -/

/-- No statement of fim/user, fim/slivers or the decode functions stores a name, labels value, tag, boot script or JSON blob
without a recognised validating guard in front of it. (`self._name = new_name` in rename(), `ret.tags = d` in Tags.from_json,
`sliver.resource_name = ..`, a `setattr` in set_properties … would each be a row with the guard "unguarded", which `acceptedGuards` does not hold.) -/
theorem every_store_guarded : ∀ s ∈ stores, acceptedGuards.contains s.guard = true := by decide +kernel

/-- Every public function that takes a name / labels / tags / boot script / JSON blob / property dictionary reaches, for each
such parameter, the guarded writer of that domain (all of them for `**kwargs` and decoded dictionaries), reaches no unguarded
store, and everything it reaches that stores is a guarded writer. -/
theorem every_entry_point_validated : ∀ e ∈ entryPoints, entryOk e = true := by decide +kernel

/-- … and has a behavioural probe in the harness (or is the abstract constructor). -/
theorem every_entry_point_probed : ∀ e ∈ entryPoints, (e.probed || e.fn == "ModelElement.__init__") = true := by decide +kernel

/-- Every method of fim.user that writes Name / Labels / Tags / boot script / a JSON blob straight into the graph (instead of
through a sliver's setters) first hands the same value to the validating property setter. The list is read from the AST
of fim/user/*.py on every run; a writer that skips the setter (e.g. `self._name = new_name` in `rename`) makes this fail. -/
theorem raw_writers_guarded : ∀ w ∈ rawWriters, w.2.2 ≠ "unguarded" := by decide +kernel

/-- Every name the library composes itself from caller input (`<node>-<component>-l2ovs`, `<component>-<port>`,
`<node>-<interface>` ServicePorts and their `-link`, `<svc>-<svc>` peerings, `<name>-ns`, `<name>-int`, `p<i>`) is handed to
`set_name` of a sliver class or to the name parameter of an entry point of the table - never assigned to a sliver field. -/
theorem every_composed_name_validated : ∀ c ∈ composedNames, c.2.2.2 = true := by decide +kernel

/-- The order of the checks in one iteration of `Labels._set_fields`, read from the AST, is the order `V16.setField`
implements: not None; a str or a list of str; the key is an instance field; regex; range; assignment; an unknown key is
skipped by from_json and raises otherwise. (A reordering, a dropped or a new statement changes the generated list.) -/
theorem set_fields_skeleton :
    setFieldsSkeleton = ["assert:not-none", "assert:str-or-list-of-str", "field:instance-dict", "regex", "range", "store",
                         "unknown:forgiving-skips,strict-raises"] := by rfl

/-- the writers whose control flow Model/Validate16.lean mirrors are among the guarded ones -/
theorem modelled_writers_guarded : ∀ w ∈ modelledWriters, guardedWriters.contains w = true := by decide +kernel

/-- Whatever sequence of name rewrites (any entry point, any values, accepted or rejected) is applied to an element whose
stored name is in its class's pattern, the stored name stays in the pattern. -/
theorem elem_name_invariant (e : Elem) (r : Re) (hr : nameRe.lookup e.cls = some r) (h0 : r.L e.name)
    (ops : List (NameEntry × Val)) : r.L (runElem e ops).name :=
  (List.foldl_invariant (fun e' => e'.cls = e.cls ∧ r.L e'.name) ⟨rfl, h0⟩ fun e' h op _ =>
    stepElem_inv anchors_full.2.2.2 hr e' op h).2

theorem elem_step_exact (e : Elem) (op : NameEntry × Val) :
    (∀ x, setName e.cls op.2 = .error x → stepElem e op = e) ∧
    (∀ s, setName e.cls op.2 = .ok s → (stepElem e op).name = s ∧ op.2 = .str s) := by
  constructor
  · intro x hx; simp [stepElem, hx]
  · intro s hs
    refine ⟨?_, name_stored_is_input e.cls op.2 s hs⟩
    unfold stepElem; rw [hs]; cases op.1 <;> rfl

/-- Through rename() and the `name` property the element object never answers with a name the graph did not accept
(rename() validates first and updates the cached name afterwards). -/
theorem elem_handle_follows_store (e : Elem) (h : e.handle = e.name) (ops : List (NameEntry × Val))
    (hops : ∀ op ∈ ops, op.1 = .rename ∨ op.1 = .assign) : (runElem e ops).handle = (runElem e ops).name := by
  refine List.foldl_invariant (fun e' : Elem => e'.handle = e'.name) h fun e' h' op hop => ?_
  unfold stepElem
  cases setName e'.cls op.2 with
  | error x => exact h'
  | ok s => rcases hops op hop with h1 | h1 <;> simp [h1]

example : (runElem ⟨"NodeSliver", ['n','1'], ['n','1']⟩ [(.rename, .str ['a',' ','b']), (.assign, .str ['o','k']), (.setProperty, .str ['x'])]).name
    = ['o','k'] := by rfl

/-! Names derived from a name parameter (the known finding, stated exactly).
`Node.add_component` for a catalogue model with interfaces also names a network service `<node>-<name>-l2ovs` / `-l2p4`
and interfaces `<name>-<port>`; `Topology.add_facility` a service `<name>-ns` and an interface `<name>-int`;
`Topology.add_switch` a service `<name>-ns`. The idioms and suffixes are read from the source (table `derived`). -/

/-- Exactly when such an entry point accepts a name: its own pattern and every derived name's pattern. -/
theorem create_accept_iff (own kind variant : String) (parent s : List Char) (r : Re) (hr : nameRe.lookup own = some r)
    (hd : ∀ d ∈ derivedFor kind variant, (nameRe.lookup d.cls).isSome = true) :
    createNamed own kind variant parent (.str s) = .ok s ↔
      r.L s ∧ ∀ d ∈ derivedFor kind variant, ∀ rd, nameRe.lookup d.cls = some rd → rd.L (derivedName parent s d) := by
  rw [createNamed_ok_iff anchors_full.2.2.2]
  refine and_congr (by simp [hr]) (forall₂_congr fun d hd' => ?_)
  obtain ⟨rd, hrd⟩ := Option.isSome_iff_exists.mp (hd d hd')
  simp [hrd]

theorem derived_classes_known : ∀ d ∈ derived, (nameRe.lookup d.cls).isSome = true := by decide +kernel

/-- The service name derived from a valid node name `p` and a valid component name `n` is a valid service name iff `n` has
no space and the whole thing fits in 255 characters - for every suffix made of service-name characters. -/
theorem derived_service_name_iff (p n suf : List Char) (hp : nameRe_NodeSliver.L p) (hn : nameRe_ComponentSliver.L n)
    (hs : ∀ c ∈ suf, nsCh c = true) :
    nameRe_NetworkServiceSliver.L (p ++ ['-'] ++ n ++ suf) ↔ ' ' ∉ n ∧ p.length + 1 + n.length + suf.length ≤ 255 := by
  -- `node_name_domain` spells its class out; it is `nodeCh` unfolded, which is how `hp3` feeds `nsCh_of_nodeCh` (likewise in `facility_name_iff`)
  obtain ⟨hp1, hp2, hp3⟩ := (node_name_domain p).mp hp
  obtain ⟨hn1, hn2, hn3⟩ := (component_name_domain n).mp hn
  have hn' : (∀ c ∈ n, nsCh c = true) ↔ ' ' ∉ n :=
    ⟨fun h hm => absurd (h _ hm) (by decide), fun h c hc => nsCh_of_compCh (hn3 c hc) fun e => h (e ▸ hc)⟩
  have hp' : ∀ c ∈ p ++ ['-'], nsCh c = true :=
    List.forall_mem_append.mpr ⟨fun c hc => nsCh_of_nodeCh c (hp3 c hc), by decide⟩
  rw [service_name_domain, List.forall_mem_append, List.forall_mem_append, hn']
  simp only [List.length_append, List.length_cons, List.length_nil]
  exact ⟨fun ⟨_, h2, ⟨_, h3⟩, _⟩ => ⟨h3, by omega⟩, fun ⟨h1, h2⟩ => ⟨by omega, by omega, ⟨hp', h1⟩, hs⟩⟩

theorem derived_service_suffixes_ok : ∀ d ∈ derived, d.cls = "NetworkServiceSliver" → ∀ c ∈ d.suffix.toList, nsCh c = true := by
  decide +kernel

/-- Full statement that does NOT hold: "every name of ComponentSliver's pattern is accepted by add_component".
Counterexample (replayed on the implementation by corpus/C16/component_name.json): `a b` under node `n1`, SharedNIC. -/
theorem component_name_rejected_counterexample :
    setName "ComponentSliver" (.str ['a',' ','b']) = .ok ['a',' ','b'] ∧
    setName "NodeSliver" (.str ['n','1']) = .ok ['n','1'] ∧
    createNamed "ComponentSliver" "component" "SharedNIC_ConnectX_6" ['n','1'] (.str ['a',' ','b']) = .error "value" := by
  refine ⟨by rfl, by rfl, by rfl⟩

/-- what `add_component` derives: a service name with a suffix of at most 6 characters, interface names with one of 3 -/
theorem derived_component_shapes : ∀ d ∈ derived, d.kind = "component" →
    (d.cls = "NetworkServiceSliver" ∧ d.withParent = true ∧ d.suffix.toList.length ≤ 6) ∨
    (d.cls = "InterfaceSliver" ∧ d.withParent = false ∧ d.suffix.toList.length = 3 ∧ ∀ c ∈ d.suffix.toList, ifCh c = true) := by
  decide +kernel

/-- … and a guarded version that holds: a component name without a space that leaves room for `<node>-` and the suffix
(`+ 7`) is accepted (service name and every interface name included), for every catalogue model with interfaces. -/
theorem component_name_accepted_partial (variant : String) (p n : List Char)
    (_hv : derivedFor "component" variant ≠ [])
    (hp : nameRe_NodeSliver.L p) (hn : nameRe_ComponentSliver.L n) (hsp : ' ' ∉ n) (hlen : p.length + n.length + 7 ≤ 255) :
    createNamed "ComponentSliver" "component" variant p (.str n) = .ok n := by
  rw [createNamed_ok_iff anchors_full.2.2.2]
  refine ⟨⟨_, lookup_ComponentSliver, hn⟩, fun d hd => ?_⟩
  obtain ⟨hmem, hkv⟩ := List.mem_filter.mp hd
  have hk : d.kind = "component" := by
    simp only [Bool.and_eq_true, beq_iff_eq] at hkv; exact hkv.1
  obtain ⟨hn1, hn2, hn3⟩ := (component_name_domain n).mp hn
  rcases derived_component_shapes d hmem hk with ⟨hc, hw, hl⟩ | ⟨hc, hw, hl, hch⟩
  · refine ⟨_, hc ▸ lookup_NetworkServiceSliver, ?_⟩
    have hd' := (derived_service_name_iff p n d.suffix.toList hp hn (derived_service_suffixes_ok d hmem hc)).mpr ⟨hsp, by omega⟩
    simpa [derivedName, hw] using hd'
  · refine ⟨_, hc ▸ lookup_InterfaceSliver, ?_⟩
    simp only [derivedName, hw, Bool.false_eq_true, if_false, List.nil_append]
    exact (L_rep_chr_append 1 255 hn3 ifCh_of_compCh hch).mpr ⟨by omega, by omega⟩

example : derivedFor "component" "SharedNIC_ConnectX_6" ≠ [] := by decide +kernel

/-- A facility name: NodeSliver's pattern and at most 251 characters (room for `-int`); a switch name: at most 252 (`-ns`).
So the longest valid node names are rejected by add_facility / add_switch. -/
theorem facility_name_iff (s : List Char) (hs : nameRe_NodeSliver.L s) :
    (createNamed "NodeSliver" "facility" "" [] (.str s) = .ok s ↔ s.length ≤ 251) ∧
    (createNamed "NodeSliver" "switch" "" [] (.str s) = .ok s ↔ s.length ≤ 252) := by
  have hf : derivedFor "facility" "" = [⟨"facility", "", "NetworkServiceSliver", false, "-ns"⟩, ⟨"facility", "", "InterfaceSliver", false, "-int"⟩] := by decide +kernel
  have hw : derivedFor "switch" "" = [⟨"switch", "", "NetworkServiceSliver", false, "-ns"⟩] := by decide +kernel
  obtain ⟨h1, h2, h3⟩ := (node_name_domain s).mp hs
  have hnsL : nameRe_NetworkServiceSliver.L (s ++ ['-','n','s']) ↔ _ :=
    L_rep_chr_append 2 255 h3 nsCh_of_nodeCh (by decide)
  have hifL : nameRe_InterfaceSliver.L (s ++ ['-','i','n','t']) ↔ _ :=
    L_rep_chr_append 1 255 h3 ifCh_of_nodeCh (by decide)
  constructor
  · -- the two derived names need `len + 3 ≤ 255` and `len + 4 ≤ 255`; the second is the binding one
    rw [createNamed_ok_iff anchors_full.2.2.2, hf]
    simp [lookup_NodeSliver, lookup_NetworkServiceSliver, lookup_InterfaceSliver, hs, derivedName, hnsL, hifL]
    omega
  · rw [createNamed_ok_iff anchors_full.2.2.2, hw]
    simp [lookup_NodeSliver, lookup_NetworkServiceSliver, hs, derivedName, hnsL]

theorem facility_name_rejected_counterexample :
    nameRe_NodeSliver.L (List.replicate 253 'a') ∧
    createNamed "NodeSliver" "facility" "" [] (.str (List.replicate 253 'a')) ≠ .ok (List.replicate 253 'a') := by
  have hL : nameRe_NodeSliver.L (List.replicate 253 'a') := by
    rw [node_name_domain, List.length_replicate]
    exact ⟨by omega, by omega, fun c hc => by rw [List.eq_of_mem_replicate hc]; decide⟩
  refine ⟨hL, fun h => ?_⟩
  have := ((facility_name_iff _ hL).1).mp h
  rw [List.length_replicate] at this; omega

/-- the kept sliver holds a name of its class's pattern and no boot script or one under the limit -/
def SliverOk (s : Sliver) : Prop :=
  (∃ n r, s.name = .str n ∧ nameRe.lookup s.cls = some r ∧ r.L n) ∧
  (s.boot = .none ∨ ∃ b, s.boot = .str b ∧ b.length < bootScriptSize)

theorem setBoot_ok {v : Val} {x : List Char} (h : setBoot v = .ok (some x)) : x.length < bootScriptSize := by
  cases v with
  | str s =>
    by_cases hs : s.length < bootScriptSize <;> simp [setBoot, bootOk, hs, throw_eq, pure_eq] at h
    exact h ▸ hs
  | _ => simp [setBoot, throw_eq, pure_eq] at h

/-- The code as it is checks before it writes, and its decoder hands every member word on as it is (both lists come from
behavioural probes of the running classes, regenerated every run). Unlike the anchors, `KeptCfg` is a parameter of the model (the two
counterexamples at the end run it at other values), so the theorems below take `writeFirst = []` / `decodeAlters = []` as hypotheses. -/
theorem repo_kept_clean : repoKept.writeFirst = [] ∧ repoKept.decodeAlters = [] := by decide +kernel

theorem refused_call_changes_nothing (cfg : KeptCfg) (hw : cfg.writeFirst = []) (s : Sliver) :
    (∀ v e, setName s.cls v = .error e → stepSliver cfg s (.name v) = s) ∧
    (∀ v e, setBoot v = .error e → stepSliver cfg s (.boot v) = s) := by
  constructor
  · intro v e h; simp [stepSliver, h, hw]
  · intro v e h; simp [stepSliver, h, hw]

theorem stepSliver_ok (cfg : KeptCfg) (hw : cfg.writeFirst = []) {cls : String} (s : Sliver) (op : SetOp)
    (h : s.cls = cls ∧ SliverOk s) : (stepSliver cfg s op).cls = cls ∧ SliverOk (stepSliver cfg s op) := by
  obtain ⟨rfl, h⟩ := h
  cases op with
  | name v =>
    cases hv : setName s.cls v with
    | error e => rw [(refused_call_changes_nothing cfg hw s).1 v e hv]; exact ⟨rfl, h⟩
    | ok m =>
      obtain ⟨⟨_, r, _, hr, _⟩, hb⟩ := h
      simp only [stepSliver, hv]
      exact ⟨trivial, ⟨m, r, rfl, hr, setName_L anchors_full.2.2.2 hr hv⟩, hb⟩
  | boot v =>
    cases hv : setBoot v with
    | error e => rw [(refused_call_changes_nothing cfg hw s).2 v e hv]; exact ⟨rfl, h⟩
    | ok b =>
      simp only [stepSliver, hv]
      refine ⟨trivial, h.1, ?_⟩
      cases b with
      | none => exact Or.inl rfl
      | some x => exact Or.inr ⟨x, rfl, setBoot_ok hv⟩

/-- Whatever history of set_name / set_boot_script calls (any values, accepted or refused, through the setter, set_property or
set_properties) is applied to one kept sliver that holds members, it holds members afterwards. -/
theorem kept_sliver_invariant (cfg : KeptCfg) (hw : cfg.writeFirst = []) (ops : List SetOp) :
    ∀ s : Sliver, SliverOk s → (runSliver cfg s ops).cls = s.cls ∧ SliverOk (runSliver cfg s ops) := fun s h =>
  List.foldl_invariant (fun s' => s'.cls = s.cls ∧ SliverOk s') ⟨rfl, h⟩ fun s' h' op _ => stepSliver_ok cfg hw s' op h'

/-- A sliver that holds members is decoded from its own encoding to exactly itself - for EVERY member, including the
words a storage layer uses as placeholders ("None", "null", ...). -/
theorem kept_sliver_redecodes (cfg : KeptCfg) (hd : cfg.decodeAlters = []) (s : Sliver) (h : SliverOk s) : reDecode cfg s = .ok s := by
  obtain ⟨⟨n, r, hn, hr, hL⟩, hb⟩ := h
  have hname : setName s.cls (.str n) = .ok n := (name_accept_iff s.cls r hr n).mpr hL
  cases s with
  | mk cls name boot =>
    simp only at hn hr hb hname
    subst hn
    rcases hb with hb | ⟨b, hb, hlen⟩
    · subst hb
      simp [reDecode, decodeText, hd, hname, setBoot, optVal, pure_eq]
    · subst hb
      have hboot : setBoot (.str b) = .ok (some b) := (boot_accept_iff b).mpr hlen
      simp [reDecode, decodeText, hd, hname, hboot, optVal, pure_eq]

/-- ... and so is the object left by any history on the code as it is. -/
theorem history_then_redecode (s : Sliver) (h : SliverOk s) (ops : List SetOp) :
    reDecode repoKept (runSliver repoKept s ops) = .ok (runSliver repoKept s ops) :=
  kept_sliver_redecodes repoKept repo_kept_clean.2 _ (kept_sliver_invariant repoKept repo_kept_clean.1 ops s h).2

example : SliverOk ⟨"NodeSliver", .str ['N','o','n','e'], .str ['N','o','n','e']⟩ := by
  refine ⟨⟨_, nameRe_NodeSliver, rfl, rfl, (accepts_full_iff _ _).mp (by decide)⟩, Or.inr ⟨_, rfl, by decide⟩⟩

/-- Why `writeFirst = []` is needed: with a set_boot_script that assigns before it checks, one refused call leaves a script of
at least the limit's length in the kept object, and the object can no longer be decoded from its own encoding. -/
theorem write_first_counterexample (b : List Char) (hb : ¬ b.length < bootScriptSize) :
    (runSliver ⟨["set_boot_script"], []⟩ ⟨"NodeSliver", .str ['n','1'], .none⟩ [.boot (.str ['o','k']), .boot (.str b)]).boot = .str b ∧
    reDecode ⟨["set_boot_script"], []⟩ (runSliver ⟨["set_boot_script"], []⟩ ⟨"NodeSliver", .str ['n','1'], .none⟩
        [.boot (.str ['o','k']), .boot (.str b)]) = .error "assertion" := by
  have hs : setBoot (.str b) = .error "assertion" := by simp [setBoot, bootOk, hb, throw_eq]
  have hk : setBoot (.str ['o','k']) = .ok (some ['o','k']) := by rfl
  have hn : setName "NodeSliver" (.str ['n','1']) = .ok ['n','1'] := by rfl
  -- the history leaves `⟨"NodeSliver", .str ['n','1'], .str b⟩`
  simp [runSliver, stepSliver, hs, hk, optVal, reDecode, decodeText, hn]

example : ¬ (List.replicate bootScriptSize 'x').length < bootScriptSize := by simp

/-- Why `decodeAlters = []` is needed: when the decoder takes the word None for "no value", a sliver whose accepted name is
None cannot be decoded, and an accepted boot script None is lost. -/
theorem decode_alters_counterexample :
    reDecode ⟨[], ["None"]⟩ ⟨"NodeSliver", .str ['N','o','n','e'], .none⟩ = .error "type" ∧
    reDecode ⟨[], ["None"]⟩ ⟨"NodeSliver", .str ['n','1'], .str ['N','o','n','e']⟩ = .ok ⟨"NodeSliver", .str ['n','1'], .none⟩ := by
  refine ⟨by rfl, by rfl⟩

end FimVerif.C16
