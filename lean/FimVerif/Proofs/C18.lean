import FimVerif.Model.Catalog
import FimVerif.Proofs.Lemmas.C18Lists
import FimVerif.Proofs.Lemmas.ListAux
/-!
# C18 — instance sizing is sufficient and minimal; components match the catalogue

The sizing theorems hold for **every** catalogue and every request in ℕ³; the catalogue files and the
filter predicate `fits` are regenerated from the source on every run.  Facts about the *current*
catalogue (`decide +kernel` over the complete generated tables) are marked as such (`current_*`).  Two generated flags are
unfolded without such a mark: `unitsOnlyFromList` (`units_spec`) and `freshObjects` (`allocObjs_eq`, hence
`generated_objects_fresh`); `consumerWrites` and `typeTableM` enter as hypotheses `hW`, `hT`.
-/
namespace FimVerif.C18
open FimVerif.Catalog FimVerif.Gen.Catalog

theorem le3_iff {a b : Size} : le3 a b = true ↔ a.core ≤ b.core ∧ a.ram ≤ b.ram ∧ a.disk ≤ b.disk := by
  simp only [le3, Bool.and_eq_true, decide_eq_true_eq, and_assoc]

theorem le3_eq_false_iff {a b : Size} : le3 a b = false ↔ b.core < a.core ∨ b.ram < a.ram ∨ b.disk < a.disk := by
  rw [← Bool.not_eq_true, le3_iff]; omega

theorem le3_refl (a : Size) : le3 a a = true := le3_iff.mpr ⟨Nat.le_refl _, Nat.le_refl _, Nat.le_refl _⟩

theorem le3_trans {a b c : Size} (h1 : le3 a b = true) (h2 : le3 b c = true) : le3 a c = true := by
  rw [le3_iff] at *; omega

theorem le3_antisymm {a b : Size} (h1 : le3 a b = true) (h2 : le3 b a = true) : a = b := by
  cases a; cases b
  simp only [le3_iff] at h1 h2
  simp only [Size.mk.injEq]; omega

theorem fits_iff (e r : Size) : fits e r = le3 r e := by
  simp only [fits, le3, ge_iff_le]

/-- The running head only moves down: it ends below where it started and below every element it moved to, and an element it did
not move to was not below the head of that moment. So it is a member, and whatever in the list is below it is also above it. -/
theorem sortHead_spec (c : Size) (cs : List Size) :
    sortHead c cs ∈ c :: cs ∧ le3 (sortHead c cs) c = true ∧
      ∀ p ∈ cs, le3 p (sortHead c cs) = true → le3 (sortHead c cs) p = true := by
  induction cs generalizing c with
  | nil => exact ⟨List.mem_singleton.mpr rfl, le3_refl c, nofun⟩
  | cons q cs ih =>
    rw [sortHead, List.foldl_cons, ← sortHead]
    by_cases hq : le3 q c = true
    · obtain ⟨hm, hle, hmin⟩ := ih q
      rw [if_pos hq]
      exact ⟨List.mem_cons_of_mem _ hm, le3_trans hle hq, List.forall_mem_cons.mpr ⟨fun _ => hle, hmin⟩⟩
    · obtain ⟨hm, hle, hmin⟩ := ih c
      rw [if_neg hq]
      exact ⟨List.mem_cons.mpr ((List.mem_cons.mp hm).imp id (List.mem_cons_of_mem _)), hle,
        List.forall_mem_cons.mpr ⟨fun h => absurd (le3_trans h hle) hq, hmin⟩⟩

theorem sortHead_mem (c : Size) (cs : List Size) : sortHead c cs ∈ c :: cs := (sortHead_spec c cs).1

theorem sortHead_minimal (c : Size) (cs : List Size) :
    ∀ p ∈ c :: cs, le3 p (sortHead c cs) = true → p = sortHead c cs := by
  obtain ⟨_, hle, hmin⟩ := sortHead_spec c cs
  exact List.forall_mem_cons.mpr ⟨fun h => le3_antisymm h hle, fun p hp h => le3_antisymm h (hmin p hp h)⟩

theorem mem_candidates {cat : List (String × Size)} {req s : Size} :
    s ∈ candidates cat req ↔ (∃ e ∈ cat, e.2 = s) ∧ le3 req s = true := by
  simp [candidates, fits_iff]

theorem candidates_eq (cat : List (String × Size)) (req : Size) :
    candidates cat req = (cat.filter fun e => le3 req e.2).map (·.2) := by
  simp only [candidates, List.filter_map, fits_iff]; rfl

private theorem nameOf_some {cat : List (String × Size)} {h : Size} (hm : ∃ e ∈ cat, e.2 = h) :
    ∃ n, (n, h) ∈ cat ∧ nameOf cat h = some n := by
  obtain ⟨e, he, rfl⟩ := hm
  cases hf : cat.find? (fun x => x.2 == e.2) with
  | none =>
    have := List.find?_eq_none.mp hf e he
    simp at this
  | some x =>
    have hx : x.2 = e.2 := by simpa using List.find?_some hf
    exact ⟨x.1, hx ▸ List.mem_of_find?_eq_some hf, by simp [nameOf, hf]⟩

/-- sufficient and minimal are statements about the SAME returned entry -/
theorem sizing_sufficient_minimal (cat : List (String × Size)) (req : Size)
    (hex : ∃ e ∈ cat, le3 req e.2 = true) :
    ∃ e ∈ cat, pick cat req = some e.1 ∧ le3 req e.2 = true ∧
      ∀ y ∈ cat, le3 req y.2 = true → le3 y.2 e.2 = true → y.2 = e.2 := by
  obtain ⟨e0, he0, hfit⟩ := hex
  have hmem : e0.2 ∈ candidates cat req := mem_candidates.mpr ⟨⟨e0, he0, rfl⟩, hfit⟩
  unfold pick
  cases hc : candidates cat req with
  | nil => rw [hc] at hmem; cases hmem
  | cons c cs =>
    have hh : sortHead c cs ∈ candidates cat req := by rw [hc]; exact sortHead_mem c cs
    obtain ⟨hsrc, hle⟩ := mem_candidates.mp hh
    obtain ⟨n, he, hn⟩ := nameOf_some hsrc
    refine ⟨(n, _), he, hn, hle, ?_⟩
    intro y hy hyfit hyle
    have hyc : y.2 ∈ c :: cs := by rw [← hc]; exact mem_candidates.mpr ⟨⟨y, hy, rfl⟩, hyfit⟩
    exact sortHead_minimal c cs y.2 hyc hyle

/-- **Sufficient**: whenever some size satisfies the request, the returned name belongs to a catalogue
entry that satisfies it. -/
theorem sizing_sufficient (cat : List (String × Size)) (req : Size)
    (hex : ∃ e ∈ cat, le3 req e.2 = true) :
    ∃ e ∈ cat, pick cat req = some e.1 ∧ le3 req e.2 = true :=
  let ⟨e, he, hp, hle, _⟩ := sizing_sufficient_minimal cat req hex
  ⟨e, he, hp, hle⟩

/-- **Minimal**: no other satisfying size is smaller-or-equal in every dimension than the returned
one (unless it is the same size). -/
theorem sizing_pareto_minimal (cat : List (String × Size)) (req : Size)
    (hex : ∃ e ∈ cat, le3 req e.2 = true) :
    ∃ e ∈ cat, pick cat req = some e.1 ∧
      ∀ y ∈ cat, le3 req y.2 = true → le3 y.2 e.2 = true → y.2 = e.2 :=
  let ⟨e, he, hp, _, hmin⟩ := sizing_sufficient_minimal cat req hex
  ⟨e, he, hp, hmin⟩

/-- **Fallback**: when nothing satisfies the request the last catalogue entry is returned. -/
theorem sizing_fallback (cat : List (String × Size)) (req : Size)
    (hno : ∀ e ∈ cat, le3 req e.2 = false) : pick cat req = cat.getLast?.map (·.1) := by
  rw [pick, candidates_eq, List.filter_eq_nil_iff.mpr fun e he => by simp [hno e he]]; rfl

/-- The answer depends only on which catalogue entries the request fits into (its threshold
class) — this is what makes the exhaustive sweep over classes in the harness complete. -/
theorem class_lemma (cat : List (String × Size)) (r r' : Size)
    (h : ∀ e ∈ cat, le3 r e.2 = le3 r' e.2) : pick cat r = pick cat r' := by
  simp only [pick, candidates_eq, List.filter_congr h]

/-- Name and capacities agree, given distinct names.  Names of the current catalogue are distinct because the catalogue is a JSON
object loaded into a Python dict and the translator rejects a duplicate key: that is trusted, not proved.  For the current catalogue the
clause follows without it, from `caps_of_names_agree` and `current_names_agree`. -/
theorem name_caps_agree (cat : List (String × Size)) (hn : (cat.map (·.1)).Nodup) (e : String × Size)
    (he : e ∈ cat) : capsOf cat e.1 = some e.2 := by
  rw [capsOf, List.find?_key_of_nodup (·.1) hn he]; rfl

def LastDominates (cat : List (String × Size)) : Bool :=
  match cat.getLast? with
  | none => false
  | some l => cat.all fun e => le3 e.2 l.2

theorem lastDominates_iff {cat : List (String × Size)} {l : String × Size} (hl : cat.getLast? = some l) :
    LastDominates cat = true ↔ ∀ e ∈ cat, le3 e.2 l.2 = true := by
  simp only [LastDominates, hl, List.all_eq_true]

/-- the fallback entry is the largest size: it dominates every entry -/
theorem current_last_dominates : LastDominates instanceCatalog = true := by decide +kernel

theorem unsatisfiable_iff_exceeds (cat : List (String × Size)) (hd : LastDominates cat = true) (l : String × Size)
    (hl : cat.getLast? = some l) (req : Size) :
    (∀ e ∈ cat, le3 req e.2 = false) ↔ (l.2.core < req.core ∨ l.2.ram < req.ram ∨ l.2.disk < req.disk) := by
  rw [← le3_eq_false_iff]
  constructor
  · intro h; exact h l (List.mem_of_getLast? hl)
  · intro h e he
    have hle := le3_iff.mp ((lastDominates_iff hl).mp hd e he)
    rw [le3_eq_false_iff] at h ⊢; omega

/-- **Largest otherwise**: a request that exceeds the catalogue in any single dimension (whatever the other two are) gets the
last entry, which dominates every entry. -/
theorem sizing_fallback_any_dimension (cat : List (String × Size)) (hd : LastDominates cat = true) (l : String × Size)
    (hl : cat.getLast? = some l) (req : Size)
    (h : l.2.core < req.core ∨ l.2.ram < req.ram ∨ l.2.disk < req.disk) :
    pick cat req = some l.1 ∧ ∀ e ∈ cat, le3 e.2 l.2 = true := by
  refine ⟨?_, (lastDominates_iff hl).mp hd⟩
  rw [sizing_fallback cat req ((unsatisfiable_iff_exceeds cat hd l hl req).mpr h), hl]; rfl

theorem satisfiable_of_within (cat : List (String × Size)) (l : String × Size) (hl : cat.getLast? = some l) (req : Size)
    (h : le3 req l.2 = true) : ∃ e ∈ cat, le3 req e.2 = true := ⟨l, List.mem_of_getLast? hl, h⟩

theorem current_last : instanceCatalog.getLast? = some ("fabric.c64.m256.d1000", ⟨64, 256, 1000⟩) := by decide +kernel

theorem current_fallback (req : Size) (h : 64 < req.core ∨ 256 < req.ram ∨ 1000 < req.disk) :
    pick instanceCatalog req = some "fabric.c64.m256.d1000" :=
  (sizing_fallback_any_dimension instanceCatalog current_last_dominates _ current_last req h).1

/-- the current catalogue, every request: the answer is a catalogued size; it satisfies the request and is Pareto-minimal among
the satisfying sizes exactly when the request is within (64, 256, 1000), and it is the largest size otherwise -/
theorem current_sizing_total (req : Size) :
    (le3 req ⟨64, 256, 1000⟩ = true ∧ ∃ e ∈ instanceCatalog, pick instanceCatalog req = some e.1 ∧ le3 req e.2 = true ∧
        ∀ y ∈ instanceCatalog, le3 req y.2 = true → le3 y.2 e.2 = true → y.2 = e.2) ∨
    (le3 req ⟨64, 256, 1000⟩ = false ∧ pick instanceCatalog req = some "fabric.c64.m256.d1000") := by
  cases h : le3 req ⟨64, 256, 1000⟩ with
  | true =>
    exact Or.inl ⟨rfl, sizing_sufficient_minimal instanceCatalog req (satisfiable_of_within instanceCatalog _ current_last req h)⟩
  | false => exact Or.inr ⟨rfl, current_fallback req (le3_eq_false_iff.mp h)⟩

/-- "the size's name and its capacities agree": the name encodes the three numbers -/
def nameAgrees (e : String × Size) : Bool :=
  e.1 == "fabric.c" ++ toString e.2.core ++ ".m" ++ toString e.2.ram ++ ".d" ++ toString e.2.disk

theorem nameAgrees_eq (e : String × Size) : nameAgrees e =
    (codes e.1 == codes "fabric.c" ++ (decCore (e.2.core + 1) e.2.core [] ++ (codes ".m" ++ (decCore (e.2.ram + 1) e.2.ram [] ++
      (codes ".d" ++ decCore (e.2.disk + 1) e.2.disk []))))) := by
  simp only [nameAgrees, ← codes_toString, ← codes_append, ← String.append_assoc]
  exact Bool.eq_iff_iff.mpr (by simp [codes_inj])

theorem current_names_agree : instanceCatalog.all nameAgrees = true := by
  rw [funext nameAgrees_eq]
  decide +kernel

def sizeName (s : Size) : String :=
  "fabric.c" ++ toString s.core ++ ".m" ++ toString s.ram ++ ".d" ++ toString s.disk

theorem name_of_all_agree {cat : List (String × Size)} (h : cat.all nameAgrees = true) {e : String × Size} (he : e ∈ cat) :
    e.1 = sizeName e.2 :=
  beq_iff_eq.mp (List.all_eq_true.mp h e he)

/-- decimal digits contain no `.`, so a name splits at its dots into three numerals, and a numeral determines its number -/
theorem sizeName_inj {s t : Size} (h : sizeName s = sizeName t) : s = t := by
  have nodot : ∀ n, '.' ∉ Nat.toDigits 10 n := Nat.not_mem_toDigits (by decide)
  have dinj {a b : Nat} (h : Nat.toDigits 10 a = Nat.toDigits 10 b) : a = b := by
    rw [← Nat.ofDigitChars_ten_toDigits (n := a), h, Nat.ofDigitChars_ten_toDigits]
  have split (s : Size) : (sizeName s).toList.splitOn '.' =
      ["fabric".toList, 'c' :: Nat.toDigits 10 s.core, 'm' :: Nat.toDigits 10 s.ram, 'd' :: Nat.toDigits 10 s.disk] := by
    rw [← List.splitOn_intercalate '.' (ls := [_, _, _, _]) (by simp [nodot]) (by simp)]
    simp [sizeName, toString, Nat.repr, List.intercalate]
  have := split t
  rw [← h, split s] at this
  cases s; cases t
  simp only [List.cons.injEq, true_and, and_true] at this
  simp only [Size.mk.injEq]
  exact ⟨dinj this.1, dinj this.2.1, dinj this.2.2⟩

/-- no `Nodup` of the names is needed: entries of one name have one size (`sizeName_inj`) -/
theorem caps_of_names_agree (cat : List (String × Size)) (h : cat.all nameAgrees = true) (e : String × Size) (he : e ∈ cat) :
    capsOf cat e.1 = some e.2 := by
  cases hf : cat.find? (fun x => x.1 == e.1) with
  | none => exact absurd (List.find?_eq_none.mp hf e he) (by simp)
  | some x =>
    have hx := name_of_all_agree h (List.mem_of_find?_eq_some hf)
    have he' := name_of_all_agree h he
    have hxe : x.1 = e.1 := by simpa using List.find?_some hf
    simp [capsOf, hf, sizeName_inj (hx.symm.trans (hxe.trans he'))]

/-- no entry is shadowed by an earlier one -/
def NoShadow (cat : List CEntry) : Prop :=
  cat.Pairwise fun a b => entryMatches a b.model b.type = false ∧ ∀ m ∈ b.also, entryMatches a m b.type = false

instance (cat : List CEntry) : Decidable (NoShadow cat) := by unfold NoShadow; infer_instance

theorem lookup_own {cat : List CEntry} (hns : NoShadow cat) {e : CEntry} (he : e ∈ cat) {m : String}
    (hm : m = e.model ∨ m ∈ e.also) : lookup cat m e.type = some e := by
  induction cat with
  | nil => cases he
  | cons x xs ih =>
    simp only [NoShadow, List.pairwise_cons] at hns
    rcases List.mem_cons.mp he with rfl | he'
    · simp [lookup, entryMatches, hm]
    · have hx : entryMatches x m e.type = false := hm.elim (· ▸ (hns.1 e he').1) ((hns.1 e he').2 m)
      simp only [lookup, List.find?_cons, hx]; exact ih hns.2 he'

theorem lookup_finds_own_entry (cat : List CEntry) (hns : NoShadow cat) (e : CEntry) (he : e ∈ cat) :
    lookup cat e.model e.type = some e ∧ ∀ m ∈ e.also, lookup cat m e.type = some e :=
  ⟨lookup_own hns he (Or.inl rfl), fun _ hm => lookup_own hns he (Or.inr hm)⟩

theorem current_no_shadow : NoShadow componentCatalog := by decide +kernel

theorem genIfaces_names (e : CEntry) (name : String) ids labels :
    (genIfaces e name ids labels).map (·.name) = e.ifaces.map (fun p => name ++ ifaceSep ++ p.1) := by
  simp only [genIfaces, List.map_map, Function.comp_def]
  exact zipIdx_map_fst' e.ifaces (fun p => name ++ ifaceSep ++ p.1)

theorem genIfaces_bw (e : CEntry) (name : String) ids labels :
    (genIfaces e name ids labels).map (·.bw) = e.ifaces.map (fun p => portBw e.type p.2) := by
  simp only [genIfaces, List.map_map, Function.comp_def]
  exact zipIdx_map_fst' e.ifaces (fun p => portBw e.type p.2)

theorem genIfaces_kind (e : CEntry) (name : String) ids labels :
    ∀ i ∈ genIfaces e name ids labels, i.kind = portKind e.type := by
  intro i hi
  simp only [genIfaces, List.mem_map] at hi
  obtain ⟨x, _, rfl⟩ := hi
  rfl

theorem genIfaces_ids (e : CEntry) (name : String) (l : List String) labels (hl : l.length = e.ifaces.length) :
    (genIfaces e name (some l) labels).map (·.nodeId) = l.map some := by
  simp only [genIfaces, List.map_map, Function.comp_def]
  exact zipIdx_map_getElem? e.ifaces hl id

theorem genIfaces_labelIdx (e : CEntry) (name : String) ids (ls : List Bdf) :
    (genIfaces e name ids (some ls)).map (·.labelIdx) = (List.range e.ifaces.length).map some := by
  simp only [genIfaces, List.map_map, Function.comp_def]
  exact zipIdx_map_snd' e.ifaces some

theorem genIfaces_units (e : CEntry) (name : String) ids (ls : List Bdf) (hl : ls.length = e.ifaces.length) :
    (genIfaces e name ids (some ls)).map (·.units) = ls.map unitsOf := by
  simp only [genIfaces, List.map_map, Function.comp_def]
  simpa [List.getD_eq_getElem?_getD] using zipIdx_map_getElem? e.ifaces hl (fun o => unitsOf (o.getD .none))

/-- what the property demands of a generated component `g` for catalogue entry `e` -/
def Matches (e : CEntry) (name : String) (ids : Option (List String)) (labels : Option (List Bdf)) (g : GComp) : Prop :=
  g.model = e.model ∧ g.type = e.type ∧ g.details = e.details ∧
  g.ifaces.map (·.name) = e.ifaces.map (fun p => name ++ ifaceSep ++ p.1) ∧
  g.ifaces.map (·.bw) = e.ifaces.map (fun p => portBw e.type p.2) ∧
  (∀ i ∈ g.ifaces, i.kind = portKind e.type) ∧
  (∀ l, e.hasIfaces = true → ids = some l → g.ifaces.map (·.nodeId) = l.map some) ∧
  (∀ ls, labels = some ls → g.ifaces.map (·.labelIdx) = (List.range e.ifaces.length).map some) ∧
  (∀ l ls, e.hasIfaces = true → ids = some l → labels = some ls → g.ifaces.map (·.units) = ls.map unitsOf)

/-- the argument shapes with which `generate_component` succeeds for an entry with interfaces (one without accepts every shape) -/
def Consistent (e : CEntry) (ids : Option (List String)) (labels : Option (List Bdf)) : Prop :=
  match ids, labels with
  | some l, some ls => l.length = e.ifaces.length ∧ ls.length = e.ifaces.length
  | some _, none => e.hasIfaces = false
  | none, some ls => e.ifaces.length ≤ ls.length
  | none, none => True

theorem generate_ok_iff {cat : List CEntry} {name model type : String} {nsId : Option String}
    {ids : Option (List String)} {labels : Option (List Bdf)} {parent : Option String} {g : GComp} :
    generate cat name model type nsId ids labels parent = .ok g ↔
      ∃ e, lookup cat model type = some e ∧
        ((e.hasIfaces = false ∧ g = { model := e.model, type := e.type, details := e.details, nsName := none, nsType := none,
                                      nsId := none, ifaces := [] }) ∨
         (e.hasIfaces = true ∧ Consistent e ids labels ∧ g = generate.mk name nsId parent e ids labels)) := by
  unfold generate
  cases hl : lookup cat model type with
  | none => simp
  | some e =>
    cases hi : e.hasIfaces with
    | false => simp [hi, @eq_comm _ _ g]
    | true =>
      simp only [hi, Bool.not_true, Bool.false_eq_true, if_false, Option.some.injEq, exists_eq_left', reduceCtorEq, false_and,
        true_and, false_or]
      match ids, labels with
      | none, none => simp [Consistent, @eq_comm _ _ g]
      | none, some ls => by_cases h : ls.length < e.ifaces.length <;> simp [Consistent, h, @eq_comm _ _ g] <;> omega
      | some l, none => by_cases h : l.length = e.ifaces.length <;> simp [Consistent, h, hi]
      | some l, some ls =>
        by_cases h1 : l.length = e.ifaces.length <;> by_cases h2 : ls.length = e.ifaces.length <;>
          simp [Consistent, h1, h2, @eq_comm _ _ g]

/-- entries without an `Interfaces` key have no interfaces (a fact of the translation) -/
def WFCat (cat : List CEntry) : Prop := ∀ e ∈ cat, e.hasIfaces = false → e.ifaces = []
instance (cat : List CEntry) : Decidable (WFCat cat) := by unfold WFCat; infer_instance
theorem current_wf : WFCat componentCatalog := by decide +kernel

/-- A generated component has its entry's model, type and details; exactly the entry's interfaces in
catalogue order, named `<name>-<port>`, with the catalogued speed (none for shared NICs) and the
kind the component type dictates; caller-supplied ids and labels land positionally; unit counts are
stated only for calls that give both ids and labels. -/
theorem generated_matches_entry (cat : List CEntry) (hwf : WFCat cat) (name model type : String) (nsId : Option String)
    (ids : Option (List String)) (labels : Option (List Bdf)) (parent : Option String) (g : GComp)
    (h : generate cat name model type nsId ids labels parent = .ok g) :
    ∃ e, lookup cat model type = some e ∧ Matches e name ids labels g := by
  obtain ⟨e, hl, hs⟩ := generate_ok_iff.mp h
  refine ⟨e, hl, ?_⟩
  rcases hs with ⟨hi, rfl⟩ | ⟨hi, hc, rfl⟩
  · simp [Matches, hwf e (List.mem_of_find?_eq_some hl) hi, hi]
  · refine ⟨rfl, rfl, rfl, genIfaces_names e name ids labels, genIfaces_bw e name ids labels,
      genIfaces_kind e name ids labels, ?_, ?_, ?_⟩
    · rintro l - rfl
      cases labels with
      | none => simp [Consistent, hi] at hc
      | some ls => exact genIfaces_ids e name l (some ls) hc.1
    · rintro ls rfl; exact genIfaces_labelIdx e name ids ls
    · rintro l ls - rfl rfl; exact genIfaces_units e name (some l) ls hc.2

/-- **Unit counts**: the number of units of an interface is the number of devices behind it — the
length of the bdf label when that is a list, otherwise 1.  (`unitsOnlyFromList` is read from the source by the
translator; on a tree where a scalar label gives the length of its string the flag is false and this fails.) -/
theorem units_spec (b : Bdf) : unitsOf b = match b with | .list n => n | _ => 1 := by
  cases b <;> simp [unitsOf, unitsOnlyFromList]

theorem generate_not_found (cat : List CEntry) (name model type : String) nsId ids labels parent :
    generate cat name model type nsId ids labels parent = .error .notFound ↔ lookup cat model type = none := by
  fun_cases generate cat name model type nsId ids labels parent <;> simp [*]

theorem enum_length (cat : List CEntry) : (enumNames cat).length = cat.length := by simp [enumNames]

theorem current_enum_nodup : (enumNames componentCatalog).Nodup := by decide +kernel

theorem generate_ok_shape (cat : List CEntry) (name model type : String) (nsId : Option String)
    (ids : Option (List String)) (labels : Option (List Bdf)) (parent : Option String) (g : GComp)
    (h : generate cat name model type nsId ids labels parent = .ok g) :
    ∃ e, lookup cat model type = some e ∧
      ((e.hasIfaces = false ∧ g = { model := e.model, type := e.type, details := e.details, nsName := none, nsType := none,
                                    nsId := none, ifaces := [] }) ∨
       (e.hasIfaces = true ∧ g = generate.mk name nsId parent e ids labels)) := by
  obtain ⟨e, hl, hs⟩ := generate_ok_iff.mp h
  exact ⟨e, hl, hs.imp id fun ⟨hi, _, hg⟩ => ⟨hi, hg⟩⟩

/-- the network service of a generated component is named `[<parent><sep>]<name><suffix of the type>`; an entry without
interfaces has none -/
theorem generated_service (cat : List CEntry) (name model type : String) (nsId : Option String)
    (ids : Option (List String)) (labels : Option (List Bdf)) (parent : Option String) (g : GComp)
    (h : generate cat name model type nsId ids labels parent = .ok g) :
    ∃ e, lookup cat model type = some e ∧
      (e.hasIfaces = false → g.nsName = none ∧ g.nsType = none ∧ g.nsId = none ∧ g.ifaces = []) ∧
      (e.hasIfaces = true →
        g.nsName = some (svcName parent name (rowOf e.type).suffix) ∧
        g.nsType = some (rowOf e.type).nsType ∧ g.nsId = nsId ∧ g.ifaces.length = e.ifaces.length) := by
  obtain ⟨e, hl, hs⟩ := generate_ok_shape cat name model type nsId ids labels parent g h
  refine ⟨e, hl, ?_⟩
  rcases hs with ⟨hi, rfl⟩ | ⟨hi, rfl⟩ <;> simp [hi, generate.mk, genIfaces]

theorem generate_ok_of_consistent (cat : List CEntry) (name model type : String) (nsId : Option String)
    (ids : Option (List String)) (labels : Option (List Bdf)) (parent : Option String) (e : CEntry)
    (hl : lookup cat model type = some e) (hc : Consistent e ids labels) :
    ∃ g, generate cat name model type nsId ids labels parent = .ok g := by
  cases hi : e.hasIfaces with
  | false => exact ⟨_, generate_ok_iff.mpr ⟨e, hl, Or.inl ⟨hi, rfl⟩⟩⟩
  | true => exact ⟨_, generate_ok_iff.mpr ⟨e, hl, Or.inr ⟨hi, hc, rfl⟩⟩⟩

/-- **Every catalogued model, and every alias, generates its own entry**, for any consistent arguments. -/
theorem catalogued_model_generates (cat : List CEntry) (hns : NoShadow cat) (hwf : WFCat cat) (e : CEntry) (he : e ∈ cat)
    (m : String) (hm : m = e.model ∨ m ∈ e.also) (name : String) (nsId : Option String)
    (ids : Option (List String)) (labels : Option (List Bdf)) (parent : Option String) (hc : Consistent e ids labels) :
    ∃ g, generate cat name m e.type nsId ids labels parent = .ok g ∧ Matches e name ids labels g := by
  have hl := lookup_own hns he hm
  obtain ⟨g, hg⟩ := generate_ok_of_consistent cat name m e.type nsId ids labels parent e hl hc
  obtain ⟨e', hl', hmatch⟩ := generated_matches_entry cat hwf name m e.type nsId ids labels parent g hg
  rw [hl] at hl'
  cases hl'
  exact ⟨g, hg, hmatch⟩

theorem current_models_generate (e : CEntry) (he : e ∈ componentCatalog) (m : String) (hm : m = e.model ∨ m ∈ e.also)
    (name : String) (nsId : Option String) (ids : Option (List String)) (labels : Option (List Bdf)) (parent : Option String)
    (hc : Consistent e ids labels) :
    ∃ g, generate componentCatalog name m e.type nsId ids labels parent = .ok g ∧ Matches e name ids labels g :=
  catalogued_model_generates componentCatalog current_no_shadow current_wf e he m hm name nsId ids labels parent hc

/-- the generated per-type rules are the ones the property names: dedicated ports with the catalogued speed for SmartNIC and
FPGA components, shared ports without a speed (best effort) for SharedNIC components; every catalogued component type that
has interfaces has a port kind -/
theorem current_type_rules :
    portKind "SmartNIC" = "DedicatedPort" ∧ portKind "FPGA" = "DedicatedPort" ∧ portKind "SharedNIC" = "SharedPort" ∧
    (rowOf "SmartNIC").speed = true ∧ (rowOf "FPGA").speed = true ∧ (rowOf "SharedNIC").speed = false ∧
    componentCatalog.all (fun e => !e.hasIfaces || (portKind e.type != "" && typeTable.any (fun r => r.type == e.type))) = true := by
  decide +kernel

theorem portBw_spec (type : String) (s : Nat) : portBw type s = if (rowOf type).speed then s else 0 := rfl

theorem enum_exact (cat : List CEntry) : enumNames cat = cat.map (fun c => massage c.type ++ "_" ++ massage c.model) := rfl

theorem current_enum_members_resolve (e : CEntry) (he : e ∈ componentCatalog) :
    lookup componentCatalog e.model e.type = some e :=
  (lookup_finds_own_entry componentCatalog current_no_shadow e he).1

theorem allocObjs_eq (next n : Nat) : allocObjs next n = List.range' next n := by
  simp [allocObjs, freshObjects]

theorem sessionObjs_cons (cat : List CEntry) (next : Nat) (r : String × String × Option (List String) × Option (List Bdf))
    (rest : List (String × String × Option (List String) × Option (List Bdf))) :
    sessionObjs cat next (r :: rest) = sessionObjs cat next rest ∨
    ∃ n, sessionObjs cat next (r :: rest) = List.range' next n :: sessionObjs cat (next + n) rest := by
  obtain ⟨model, type, ids, labels⟩ := r
  simp only [sessionObjs]
  split
  · split
    · exact Or.inr ⟨_, by rw [allocObjs_eq]⟩
    · exact Or.inl rfl
  · exact Or.inl rfl

/-- **Freshness**: the components generated in one session own pairwise disjoint sets of library-made objects, each without
repetition, and none of them is an object that existed before the session (`< next`). -/
theorem generated_objects_fresh (cat : List CEntry) (reqs : List (String × String × Option (List String) × Option (List Bdf))) :
    ∀ next, (sessionObjs cat next reqs).Pairwise (fun a b => ∀ i ∈ a, i ∉ b) ∧
      (∀ l ∈ sessionObjs cat next reqs, l.Nodup) ∧ (∀ l ∈ sessionObjs cat next reqs, ∀ i ∈ l, next ≤ i) := by
  induction reqs with
  | nil => intro next; simp [sessionObjs]
  | cons r rest ih =>
    intro next
    rcases sessionObjs_cons cat next r rest with h | ⟨n, h⟩ <;> rw [h]
    · exact ih next
    · obtain ⟨hp, hn, hb⟩ := ih (next + n)
      refine ⟨List.pairwise_cons.mpr ⟨fun b hb' i hi hib => ?_, hp⟩, fun l hl => ?_, fun l hl i hi => ?_⟩
      · have := (List.mem_range'_1.mp hi).2
        have := hb b hb' i hib
        omega
      · rcases List.mem_cons.mp hl with rfl | hl
        · exact List.nodup_range'
        · exact hn l hl
      · rcases List.mem_cons.mp hl with rfl | hl
        · exact (List.mem_range'_1.mp hi).1
        · have := hb l hl i hi
          omega

theorem sessionObjs_bounds (cat : List CEntry) (reqs : List (String × String × Option (List String) × Option (List Bdf))) :
    ∀ next, ∀ l ∈ sessionObjs cat next reqs, ∀ i ∈ l, next ≤ i :=
  fun next => (generated_objects_fresh cat reqs next).2.2

example : (lookup componentCatalog "Alveo U280" "FPGA").map (·.model) = some "Xilinx-U280" := by decide +kernel
example : ∃ g, generate componentCatalog "nic1" "ConnectX-6" "SmartNIC" none (some ["a", "b"])
    (some [.scalar 12, .list 3]) (some "n") = .ok g ∧ g.ifaces.map (·.units) = [unitsOf (.scalar 12), 3] :=
  ⟨_, rfl, by decide +kernel⟩
example : Consistent ⟨"m", [], "SmartNIC", "d", true, [("p1", 100), ("p2", 100)]⟩ (some ["a", "b"]) (some [.none, .list 2]) := ⟨rfl, rfl⟩
example : sessionObjs componentCatalog 5 [("ConnectX-6", "SmartNIC", none, none), ("RTX6000", "GPU", none, none),
    ("ConnectX-6", "SharedNIC", some ["i"], some [.list 2])] = [[5,6,7,8,9,10,11,12,13,14], [15], [16,17,18,19,20,21]] := by
  decide +kernel
example : ∃ e ∈ instanceCatalog, le3 ⟨3, 5, 11⟩ e.2 = true := ⟨("fabric.c4.m8.d100", ⟨4, 8, 100⟩), by decide +kernel, by decide⟩

theorem rowOfT_typeTable (type : String) : rowOfT typeTable type = rowOf type := rfl

theorem generateT_typeTable (cat : List CEntry) (name model type : String) (nsId : Option String)
    (ids : Option (List String)) (labels : Option (List Bdf)) (parent : Option String) :
    generateT typeTable cat name model type nsId ids labels parent = generate cat name model type nsId ids labels parent := by
  rfl

/-- the per-type rules probed on the `model_type=` path are the ones probed on the `(ctype, model)` path -/
theorem current_member_path_rules : typeTableM = typeTable := by decide +kernel

theorem memberEntry_enumName (cat : List CEntry) (hn : (enumNames cat).Nodup) (e : CEntry) (he : e ∈ cat) :
    memberEntry cat (enumName e) = some e :=
  -- `enumNames cat` is `cat.map enumName` by unfolding
  List.find?_key_of_nodup enumName hn he

theorem current_member_entries :
    componentCatalog.all (fun e => memberEntry componentCatalog (enumName e) == some e) = true :=
  List.all_eq_true.mpr fun e he => by simp [memberEntry_enumName _ current_enum_nodup e he]

/-- naming a model through the enumeration is naming it by its entry's (type, model): same result, same errors, whatever the
other arguments are -/
theorem member_path_eq (cat : List CEntry) (hT : typeTableM = typeTable) (name member : String) (nsId : Option String)
    (ids : Option (List String)) (labels : Option (List Bdf)) (parent : Option String) (e : CEntry)
    (he : memberEntry cat member = some e) :
    generateM cat name member nsId ids labels parent = some (generate cat name e.model e.type nsId ids labels parent) := by
  simp only [generateM, he, Option.map_some, hT, generateT_typeTable]

/-- **Every member of the enumeration generates its own entry**, with the catalogued interfaces, speeds, kinds and unit counts,
for any consistent arguments (current catalogue). -/
theorem current_members_generate (e : CEntry) (he : e ∈ componentCatalog)
    (name : String) (nsId : Option String) (ids : Option (List String)) (labels : Option (List Bdf)) (parent : Option String)
    (hc : Consistent e ids labels) :
    ∃ g, generateM componentCatalog name (enumName e) nsId ids labels parent = some (.ok g) ∧ Matches e name ids labels g := by
  have hm := memberEntry_enumName componentCatalog current_enum_nodup e he
  obtain ⟨g, hg, hmatch⟩ := current_models_generate e he e.model (Or.inl rfl) name nsId ids labels parent hc
  exact ⟨g, by rw [member_path_eq componentCatalog current_member_path_rules name _ nsId ids labels parent e hm, hg], hmatch⟩

theorem current_consumer_ops_pure : consumerWrites = [] := by decide

theorem cstep_cat (hW : consumerWrites = []) (st : CState) (op : COp) : (cstep st op).1.cat = st.cat := by
  fun_cases cstep st op <;> simp_all [writes]

theorem cstep_out (hW : consumerWrites = []) {st : CState} {op : COp} {x : COut} (h : (cstep st op).2 = some x) :
    (∃ n, x = .caps (capsOf st.cat n)) ∨ (∃ s, x = .name (pick st.cat s)) := by
  cases op with
  | query n => exact Or.inl ⟨n, by simpa [cstep] using h.symm⟩
  | pick s => exact Or.inr ⟨s, by simpa [cstep] using h.symm⟩
  | pickh h1 => exact Or.inr ⟨st.val h1, by simpa [cstep] using h.symm⟩
  | scribble h1 => simp only [cstep] at h; split at h <;> simp at h
  | _ => simp [cstep, writes, hW] at h

theorem consumer_session (hW : consumerWrites = []) (ops : List COp) : ∀ st : CState,
    (crun st ops).1.cat = st.cat ∧
    ∀ o ∈ (crun st ops).2, (∃ n, o = .caps (capsOf st.cat n)) ∨ (∃ s, o = .name (pick st.cat s)) := by
  induction ops with
  | nil => exact fun st => ⟨rfl, nofun⟩
  | cons op rest ih =>
    intro st
    -- the rest of the session starts from a state with the same catalogue
    obtain ⟨h2, hr⟩ := ih (cstep st op).1
    rw [cstep_cat hW] at h2 hr
    refine ⟨h2, fun o ho => ?_⟩
    simp only [crun] at ho
    cases hop : (cstep st op).2 with
    | none => rw [hop] at ho; exact hr o ho
    | some x => rw [hop] at ho; exact (List.mem_cons.mp ho).elim (· ▸ cstep_out hW hop) (hr o)

/-- **Consumers leave the catalogue alone**: whatever a consumer computes with the objects the catalogue hands out, the
catalogue afterwards is the one that was loaded -/
theorem consumers_leave_catalogue (hW : consumerWrites = []) (ops : List COp) :
    ∀ st : CState, (crun st ops).1.cat = st.cat := fun st => (consumer_session hW ops st).1

/-- … so every answer given during the session is an answer of the loaded catalogue: a size's capacities by name, or the
stateless `pick` (to which the sizing theorems apply) -/
theorem consumer_answers_from_loaded_catalogue (hW : consumerWrites = []) (ops : List COp) :
    ∀ st : CState, ∀ o ∈ (crun st ops).2, (∃ n, o = .caps (capsOf st.cat n)) ∨ (∃ s, o = .name (pick st.cat s)) :=
  fun st => (consumer_session hW ops st).2

theorem current_consumer_sessions (ops : List COp) (env : List (Nat × Ref)) :
    (crun ⟨instanceCatalog, env⟩ ops).1.cat = instanceCatalog ∧
    ∀ o ∈ (crun ⟨instanceCatalog, env⟩ ops).2,
      (∃ n, o = .caps (capsOf instanceCatalog n)) ∨ (∃ s, o = .name (pick instanceCatalog s)) :=
  consumer_session current_consumer_ops_pure ops _

example : (crun ⟨instanceCatalog, []⟩ [.get 0 "fabric.c2.m8.d10", .get 1 "fabric.c8.m32.d100", .aug true 0 1, .query "fabric.c2.m8.d10", .pickh 0]).2
    = [.caps (some ⟨2, 8, 10⟩), .name (some "fabric.c10.m64.d500")] := by
  -- the two entries are found by size: comparing names is slow to evaluate
  have caps (e : String × Size) (h : instanceCatalog.find? (fun x => x.2 == e.2) = some e) :
      capsOf instanceCatalog e.1 = some e.2 :=
    caps_of_names_agree _ current_names_agree e (List.mem_of_find?_eq_some h)
  have h0 := caps ("fabric.c2.m8.d10", ⟨2, 8, 10⟩) (by decide +kernel)
  have h1 := caps ("fabric.c8.m32.d100", ⟨8, 32, 100⟩) (by decide +kernel)
  have hp : pick instanceCatalog ⟨10, 40, 110⟩ = some "fabric.c10.m64.d500" := by decide +kernel
  simp [crun, cstep, CState.val, arith, writes, consumerWrites, List.lookup, h0, h1, hp]
example : memberEntry componentCatalog "SharedNIC_ConnectX_6" = some ⟨"ConnectX-6", [], "SharedNIC", "Mellanox ConnectX-6 VPI MCX653 dual port 100Gbps", true, [("p1", 100)]⟩ := by
  decide +kernel
example : ((generateM componentCatalog "c" "SharedNIC_ConnectX_6" none none none none).map (fun r => r.toOption.map (fun g => g.ifaces.map (·.bw)))) = some (some [0]) := by
  decide +kernel

end FimVerif.C18
