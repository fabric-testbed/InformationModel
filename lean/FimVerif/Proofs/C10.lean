import FimVerif.Proofs.Lemmas.C10Dec
import FimVerif.Proofs.Lemmas.C10Perm
import FimVerif.Proofs.Lemmas.C10Hist
/-!
# C10 — slice validation accepts a topology exactly when the constraint tables allow it

`Validate.validate` (Model/Validate.lean) mirrors `Topology.validate` check by check; the declarative side (`SpecOK`, `SpecFull` and
their parts) is in `Proofs/Lemmas/C10.lean`.  The theorems with a parameter `c` or `row` hold for every constraint table; those about `genCfg`
are about the table regenerated from the source (`Gen.Constraints`), which the `_pinned` theorems compare with the copy written out
*here*, so that an edit of the table in the source that is not repeated in this file fails the build.

The property in full is `validate_iff_specFull`.  The facts about the code it rests on (the `gen_` theorems) are regenerated from the
code on every run; each `_counterexample` theorem before the histories shows that the equivalence fails without one of them (readability
of the service properties has no such witness); the two among the histories are known findings about the code as it is.
-/
namespace FimVerif.C10
open FimVerif.Validate
open FimVerif.Gen.Constraints (SvcRow NodeRow)

/-- What the code enforces, for any table; `validate_iff_specFull` compares it with what the property asks for. -/
theorem validate_iff_spec (c : Cfg) (t : Topo) : (validate c t).1 = .ok () ↔ SpecOK c t := by
  simp only [validate_ok_iff, validateNodes_eq, firstErr_ok, List.forall_mem_map, mem_visibleNodes, validateNode_ok,
    validateSvcs_ok, instances_ok, and_imp]
  exact ⟨fun ⟨a, b, d⟩ => ⟨a, b, d⟩, fun h => ⟨h.nodes, h.svcs, h.instances⟩⟩

/-- A successful validation changes nothing but the `site` of the services; the four `recordedSite_` theorems below say to what. -/
theorem site_recorded (c : Cfg) (t : Topo) (h : (validate c t).1 = .ok ()) :
    (validate c t).2 = { t with svcs := t.svcs.map (recordSite c) } :=
  validate_state c t h

/-- Failing or not, validation touches nothing but service sites. -/
theorem validate_touches_only_sites (c : Cfg) (t : Topo) :
    (validate c t).2.exp = t.exp ∧ (validate c t).2.nodes = t.nodes ∧
      (validate c t).2.svcs.map eraseSite = t.svcs.map eraseSite := by
  rw [validate_eq]
  simp only
  split
  · exact ⟨rfl, rfl, validateSvcs_frame c t.exp t.svcs⟩
  · exact ⟨rfl, rfl, rfl⟩

/-- Interfaces are counted by identity, not by name: a relabelling - also one that makes the names of two interfaces of one
service coincide, as the derived service-port names `<node>-<interface>` can - changes neither the verdict nor the recorded sites
(every check walks the list `s.ifs`; none looks an interface up by its name). -/
theorem validate_counts_by_identity (c : Cfg) (f : String → String) (t : Topo) :
    validate c (t.rename f) = ((validate c t).1, (validate c t).2.rename f) :=
  validate_reorder c (List.map (SIface.rename f)) (fun s l => by rw [List.map_map, nifOf_rename]) t

theorem recordedSite_declared (row : SvcRow) (s : Svc) (h : truthy s.site = true) :
    recordedSite row s = s.site := by
  simp [recordedSite, recordedSiteOf, h]

theorem recordedSite_unlimited (row : SvcRow) (s : Svc) (h : row.numSites = 0) :
    recordedSite row s = s.site := by
  simp [recordedSite, recordedSiteOf, h]

/-- a service of a site-limited type without declared site whose interfaces all sit in site `x` gets `x` -/
theorem recordedSite_inferred (row : SvcRow) (s : Svc) (x : String) (h0 : row.numSites ≠ 0)
    (hs : truthy s.site = false) (hne : nifs s ≠ []) (hall : ∀ i ∈ nifs s, i.owner = some x) :
    recordedSite row s = some x := by
  obtain ⟨i, hi⟩ := List.exists_mem_of_ne_nil _ hne
  have hd : dedup ((nifs s).filterMap (·.owner)) = [x] :=
    (dedup_eq_singleton _ x).mpr ⟨List.ne_nil_of_mem (List.mem_filterMap.mpr ⟨i, hi, hall i hi⟩), fun y hy => by
      obtain ⟨j, hj, hjo⟩ := List.mem_filterMap.mp hy
      exact Option.some.inj (hjo.symm.trans (hall j hj))⟩
  simp [recordedSite, recordedSiteOf, h0, hs, hd]

theorem recordedSite_multisite (row : SvcRow) (s : Svc) (i j : NIface) (x y : String)
    (hi : i ∈ nifs s) (hj : j ∈ nifs s) (hx : i.owner = some x) (hy : j.owner = some y) (hxy : x ≠ y) :
    recordedSite row s = s.site := by
  rcases recordedSiteOf_cases row s (nifs s) with h | ⟨z, hd, _⟩
  · exact h
  · have hall := ((dedup_eq_singleton _ z).mp hd).2
    exact absurd ((hall x (List.mem_filterMap.mpr ⟨i, hi, hx⟩)).trans (hall y (List.mem_filterMap.mpr ⟨j, hj, hy⟩)).symm) hxy

/-- `dedup` lists each member once: its length, which `NstypeOK.maxSites` bounds, is the number of distinct owner sites -/
theorem siteCount_spec (xs : List String) : (dedup xs).Nodup ∧ ∀ y, y ∈ dedup xs ↔ y ∈ xs :=
  ⟨nodup_dedup xs, mem_dedup xs⟩

/-- The facts about the code under which what it checks is what the property asks for. -/
structure Faithful (c : Cfg) : Prop where
  allTypes : c.nodeTypesNotValidated = []
  nodeRead : ∀ kr ∈ c.node, ∀ p ∈ kr.2.req ++ kr.2.forb, nodeReadable c p = true
  svcRead : ∀ kr ∈ c.svc, ∀ p ∈ kr.2.req ++ kr.2.forb, p ∈ c.svcGetters ∧ p ∈ c.svcShallow
  truthy : c.svcReqTruthy = true ∧ c.svcForbTruthy = true ∧ c.nodeReqTruthy = true ∧ c.nodeForbTruthy = true

theorem nodes_ok_iff_full (c : Cfg) (t : Topo) (hf : Faithful c)
    (hhn : ∀ n ∈ t.nodes, ∀ q ∈ n.hollow, q ∉ c.nodeFalsyCapable) :
    (∀ n ∈ t.nodes, n.ty ∉ c.nodeTypesNotValidated → ∃ row, c.node.lookup n.ty = some row ∧ NodeOK c row n) ↔
    (∀ n ∈ t.nodes, ∃ row, c.node.lookup n.ty = some row ∧ NodeFull row n) := by
  refine forall_congr' fun n => forall_congr' fun hn => ?_
  rw [imp_iff_right (by rw [hf.allTypes]; exact List.not_mem_nil),
    nodeOK_iff_full c n hf.nodeRead hf.truthy.2.2.1 hf.truthy.2.2.2 (hhn n hn)]

/-- `validate_iff_specFull` for every table and every set of code facts. -/
theorem validate_iff_specFull_of (c : Cfg) (t : Topo) (hf : Faithful c)
    (hhn : ∀ n ∈ t.nodes, ∀ q ∈ n.hollow, q ∉ c.nodeFalsyCapable)
    (hh : ∀ s ∈ t.svcs, ∀ q ∈ s.hollow, q ∉ c.svcFalsyCapable) :
    (validate c t).1 = .ok () ↔ SpecFull c t := by
  rw [validate_iff_spec]
  have hsv := fun s hs => svcOK_iff_full c t.exp s hf.svcRead hf.truthy.1 hf.truthy.2.1 (hh s hs)
  have hnd := nodes_ok_iff_full c t hf hhn
  exact ⟨fun h => ⟨hnd.mp h.nodes, fun s hs => (hsv s hs).mp (h.svcs s hs), h.instances⟩,
    fun h => ⟨hnd.mpr h.nodes, fun s hs => (hsv s hs).mpr (h.svcs s hs), h.instances⟩⟩

/-- No valid slice is rejected, whatever node types the code skips (`Faithful` without `allTypes`). -/
theorem valid_accepted_of (c : Cfg) (t : Topo)
    (hreq : ∀ kr ∈ c.node, ∀ p ∈ kr.2.req ++ kr.2.forb, nodeReadable c p = true)
    (hread : ∀ kr ∈ c.svc, ∀ p ∈ kr.2.req ++ kr.2.forb, p ∈ c.svcGetters ∧ p ∈ c.svcShallow)
    (hm : c.svcReqTruthy = true ∧ c.svcForbTruthy = true ∧ c.nodeReqTruthy = true ∧ c.nodeForbTruthy = true)
    (hhn : ∀ n ∈ t.nodes, ∀ q ∈ n.hollow, q ∉ c.nodeFalsyCapable)
    (hh : ∀ s ∈ t.svcs, ∀ q ∈ s.hollow, q ∉ c.svcFalsyCapable)
    (h : SpecFull c t) : (validate c t).1 = .ok () := by
  rw [validate_iff_spec]
  exact ⟨fun n hn _ => (nodeOK_iff_full c n hreq hm.2.2.1 hm.2.2.2 (hhn n hn)).mpr (h.nodes n hn),
    fun s hs => (svcOK_iff_full c t.exp s hread hm.1 hm.2.1 (hh s hs)).mpr (h.svcs s hs), h.instances⟩

/-- On a well-formed table validation does not crash: every failure is a `TopologyException`. -/
theorem validate_rejects_with_topology_of (c : Cfg) (t : Topo) (e : Err)
    (hg : ∀ kr ∈ c.svc, ∀ p ∈ kr.2.req ++ kr.2.forb, p ∈ c.svcGetters)
    (h0 : ∀ kr ∈ c.svc, kr.2.numInst = 0)
    (hn : ∀ n ∈ t.nodes, (c.node.lookup n.ty).isSome) (hs : ∀ s ∈ t.svcs, (c.svc.lookup s.ty).isSome)
    (h : (validate c t).1 = .error e) : e = .topology := by
  rw [validate_eq, validateNodes_eq, validateSvcs_fst] at h
  have := mem_of_firstErr_error _ e h
  simp only [List.mem_cons, List.not_mem_nil, or_false] at this
  rcases this with h | h | h
  · obtain ⟨n, hn', he⟩ := exists_of_firstErr_map_error _ _ e h.symm
    exact validateNode_error c n e (hn n ((mem_visibleNodes c t n).mp hn').1) he
  · obtain ⟨s, hs', he⟩ := exists_of_firstErr_map_error _ _ e h.symm
    exact validateSvc_error c t.exp s e hg (hs s hs') he
  · rw [(instances_ok c _).mpr (instOK_unlimited c _ h0)] at h; cases h

theorem guardrails_refuses_iff (c : Cfg) (ty kind : String) :
    guardrails c ty kind = .error .topology ↔ (ty, kind) ∈ c.guardPairs := by
  rw [guardrails_eq]
  split <;> simp [*]

theorem connect_iff (c : Cfg) (viaCtor : Bool) (ty kind : String) (own conn : Bool)
    (hg : ((viaCtor && c.ctorRunsGuardrails) || c.connectRunsGuardrails) = true) :
    connect c viaCtor ty kind own conn = .ok () ↔ (ty, kind) ∉ c.guardPairs ∧ own = true ∧ conn = false := by
  unfold connect
  rw [if_pos hg, guardrails_eq]
  by_cases hm : (ty, kind) ∈ c.guardPairs
  · simp [hm]
  · simp only [hm, if_false, not_false_eq_true, true_and]
    cases own <;> cases conn <;> simp

/-- `NetworkServiceSliver.ServiceConstraints`, written out. -/
def pinnedSvc : List (String × SvcRow) := [
  ("P4", { layer := "L2", minIfs := 1, numIfs := 0, numSites := 1, numInst := 0, req := [], forb := ["mirror_port", "mirror_vlan", "mirror_direction"], ifTypes := [] }),
  ("MPLS", { layer := "L2", minIfs := 1, numIfs := 0, numSites := 1, numInst := 0, req := [], forb := ["mirror_port", "mirror_vlan", "mirror_direction", "controller_url"], ifTypes := [] }),
  ("OVS", { layer := "L2", minIfs := 1, numIfs := 0, numSites := 1, numInst := 0, req := [], forb := ["mirror_port", "mirror_vlan", "mirror_direction"], ifTypes := [] }),
  ("L2Path", { layer := "L2", minIfs := 1, numIfs := 2, numSites := 2, numInst := 0, req := [], forb := ["mirror_port", "mirror_vlan", "mirror_direction", "controller_url"], ifTypes := [] }),
  ("L2STS", { layer := "L2", minIfs := 2, numIfs := 0, numSites := 2, numInst := 0, req := [], forb := ["mirror_port", "mirror_vlan", "mirror_direction", "controller_url", "ero"], ifTypes := [] }),
  ("L2PTP", { layer := "L2", minIfs := 2, numIfs := 2, numSites := 2, numInst := 0, req := [], forb := ["mirror_port", "mirror_vlan", "mirror_direction", "controller_url"], ifTypes := ["DedicatedPort", "FacilityPort", "SubInterface"] }),
  ("L2Multisite", { layer := "L2", minIfs := 1, numIfs := 0, numSites := 0, numInst := 0, req := [], forb := ["mirror_port", "mirror_vlan", "mirror_direction", "controller_url"], ifTypes := [] }),
  ("L2Bridge", { layer := "L2", minIfs := 1, numIfs := 0, numSites := 1, numInst := 0, req := [], forb := ["mirror_port", "mirror_vlan", "mirror_direction", "controller_url"], ifTypes := [] }),
  ("FABNetv4", { layer := "L3", minIfs := 1, numIfs := 0, numSites := 1, numInst := 0, req := [], forb := ["mirror_port", "mirror_vlan", "mirror_direction", "controller_url"], ifTypes := [] }),
  ("FABNetv6", { layer := "L3", minIfs := 1, numIfs := 0, numSites := 1, numInst := 0, req := [], forb := ["mirror_port", "mirror_vlan", "mirror_direction", "controller_url"], ifTypes := [] }),
  ("PortMirror", { layer := "L2", minIfs := 1, numIfs := 1, numSites := 1, numInst := 0, req := ["mirror_port", "mirror_direction", "site"], forb := ["controller_url"], ifTypes := [] }),
  ("L3VPN", { layer := "L3", minIfs := 1, numIfs := 0, numSites := 0, numInst := 0, req := [], forb := ["mirror_port", "mirror_vlan", "mirror_direction", "controller_url"], ifTypes := [] }),
  ("VLAN", { layer := "L2", minIfs := 1, numIfs := 0, numSites := 1, numInst := 0, req := [], forb := ["mirror_port", "mirror_vlan", "mirror_direction", "controller_url"], ifTypes := [] }),
  ("FABNetv4Ext", { layer := "L3", minIfs := 1, numIfs := 0, numSites := 1, numInst := 0, req := [], forb := ["mirror_port", "mirror_vlan", "mirror_direction", "controller_url"], ifTypes := [] }),
  ("FABNetv6Ext", { layer := "L3", minIfs := 1, numIfs := 0, numSites := 1, numInst := 0, req := [], forb := ["mirror_port", "mirror_vlan", "mirror_direction", "controller_url"], ifTypes := [] })]

/-- `NodeSliver.NodeConstraints`, written out. -/
def pinnedNode : List (String × NodeRow) := [
  ("Server", { req := ["site"], forb := [] }),
  ("VM", { req := ["site"], forb := [] }),
  ("Container", { req := ["site"], forb := [] }),
  ("Switch", { req := [], forb := ["attached_components_info", "image_type", "image_ref"] }),
  ("NAS", { req := [], forb := ["attached_components_info", "image_type", "image_ref"] }),
  ("Facility", { req := [], forb := ["attached_components_info", "image_type", "image_ref", "management_ip"] })]

/-- `NetworkLinkSliver.LinkConstraints`, written out (type, layer, num_interfaces). -/
def pinnedLink : List (String × String × Nat) := [("Patch", "L2", 2), ("L1Path", "L1", 2), ("L2Path", "L2", 0)]

/-- The pairs `__service_guardrails` refuses. -/
def pinnedGuard : List (String × String) := [("L2PTP", "SharedPort")]

theorem svc_table_pinned : Gen.Constraints.svcRows = pinnedSvc := rfl
theorem node_table_pinned : Gen.Constraints.nodeRows = pinnedNode := rfl
theorem link_table_pinned : Gen.Constraints.linkRows = pinnedLink := rfl
theorem guard_table_pinned : Gen.Constraints.guardPairs = pinnedGuard := rfl
theorem no_limit_pinned : Gen.Constraints.noLimit = 0 := rfl

/-- every enum member has a row, and only enum members have one -/
theorem tables_complete :
    Gen.Constraints.svcRows.map (·.1) = Gen.Constraints.serviceTypes ∧
    Gen.Constraints.nodeRows.map (·.1) = Gen.Constraints.nodeTypes ∧
    Gen.Constraints.linkRows.map (·.1) = Gen.Constraints.linkTypes := ⟨rfl, rfl, rfl⟩

/-- every property a service row names can be read from the shallow service sliver
(so `validate` never fails with `AttributeError` on the shipped table) -/
theorem gen_service_properties_readable :
    ∀ kr ∈ genCfg.svc, ∀ p ∈ kr.2.req ++ kr.2.forb, p ∈ genCfg.svcGetters ∧ p ∈ genCfg.svcShallow := by decide +kernel

/-- no constrained service property has a value class that can be falsy while set (no `__len__`/`__bool__` on ERO,
PathInfo, Gateway, ... - regenerated from the live classes): the validator's truthiness tests therefore see exactly
whether a property is set.  A class gaining `__len__` turns this theorem false and the check searches hollow values. -/
theorem gen_no_falsy_values : genCfg.svcFalsyCapable = [] := rfl

/-- every member of every enum-valued service property (mirror direction: both, receive only, transmit only) reads back from
a fresh handle as the member that was set (observed on scratch topologies on every run): "set" in `Svc.props` therefore means
set to whichever valid value, not only to the common one. -/
theorem gen_every_value_readable : Gen.Constraints.svcValuesLost = [] := rfl

theorem gen_hollow_harmless (t : Topo) : ∀ s ∈ t.svcs, ∀ q ∈ s.hollow, q ∉ genCfg.svcFalsyCapable := by
  intro s _ q _; rw [gen_no_falsy_values]; exact List.not_mem_nil

theorem gen_no_falsy_node_values : genCfg.nodeFalsyCapable = [] := rfl

theorem gen_node_hollow_harmless (t : Topo) : ∀ n ∈ t.nodes, ∀ q ∈ n.hollow, q ∉ genCfg.nodeFalsyCapable := by
  intro n _ q _; rw [gen_no_falsy_node_values]; exact List.not_mem_nil

theorem gen_node_required_readable :
    ∀ kr ∈ genCfg.node, ∀ p ∈ kr.2.req, p ∈ genCfg.nodeGetters ∧ p ∈ genCfg.nodeShallow := by decide +kernel

/-- every property a node row names - required or forbidden - is seen by `Node.validate_constraints` when it is set (observed
on the code by the translator's probes: through the shallow sliver, or through the node handle for components) -/
theorem gen_node_properties_seen :
    ∀ kr ∈ genCfg.node, ∀ p ∈ kr.2.req ++ kr.2.forb, nodeReadable genCfg p = true := by decide +kernel

/-- `Topology.validate` hands nodes of every type to `validate_constraints` (observed: also the Facility nodes that the
`nodes` view leaves out) -/
theorem gen_all_node_types_validated : genCfg.nodeTypesNotValidated = [] := rfl

/-- all four check loops decide "set" by the truthiness of the value: an empty string is not set (observed) -/
theorem gen_presence_by_truthiness :
    genCfg.svcReqTruthy = true ∧ genCfg.svcForbTruthy = true ∧ genCfg.nodeReqTruthy = true ∧ genCfg.nodeForbTruthy = true := ⟨rfl, rfl, rfl, rfl⟩

/-- the interface-count limits apply to experiment topologies only (observed) -/
theorem gen_iface_count_class : Gen.Constraints.ifaceCountTopologyClass = "ExperimentTopology" := rfl

theorem gen_faithful : Faithful genCfg :=
  ⟨gen_all_node_types_validated, gen_node_properties_seen, gen_service_properties_readable, gen_presence_by_truthiness⟩

/-- the interface types the rows name, and the guardrail pairs, are enum members -/
theorem gen_names_are_members :
    (∀ kr ∈ genCfg.svc, ∀ k ∈ kr.2.ifTypes, k ∈ Gen.Constraints.interfaceTypes) ∧
    (∀ g ∈ genCfg.guardPairs, g.1 ∈ Gen.Constraints.serviceTypes ∧ g.2 ∈ Gen.Constraints.interfaceTypes) := by decide +kernel

/-- no shipped row limits instances per site, so the third clause of `SpecOK` is void for `genCfg` -/
theorem gen_no_instance_limit : ∀ kr ∈ genCfg.svc, kr.2.numInst = 0 := by decide +kernel

theorem gen_instances_void (svcs : List Svc) : InstOK genCfg svcs :=
  instOK_unlimited genCfg svcs gen_no_instance_limit

/-- `validate_iff_spec` for the shipped table, whose instance clause is void. -/
theorem validate_iff_spec_gen (t : Topo) : (validate genCfg t).1 = .ok () ↔
    (∀ n ∈ t.nodes, n.ty ∉ genCfg.nodeTypesNotValidated → ∃ row, genCfg.node.lookup n.ty = some row ∧ NodeOK genCfg row n) ∧
    (∀ s ∈ t.svcs, ∃ row, genCfg.svc.lookup s.ty = some row ∧ SvcOK genCfg t.exp row s) := by
  rw [validate_iff_spec]
  exact ⟨fun h => ⟨h.nodes, h.svcs⟩, fun h => ⟨h.1, h.2, gen_instances_void _⟩⟩

/-- A slice over the library's node and service types is accepted or rejected with `TopologyException`; validation does not
crash.  Of the model's other two failures `.key` needs a type without a row, and `.attribute` an unreadable property or an
instance limit (`instCrash`), which the shipped table does not have (`gen_service_properties_readable`, `gen_no_instance_limit`). -/
theorem validate_rejects_with_topology (t : Topo) (e : Err)
    (hn : ∀ n ∈ t.nodes, n.ty ∈ Gen.Constraints.nodeTypes) (hs : ∀ s ∈ t.svcs, s.ty ∈ Gen.Constraints.serviceTypes)
    (h : (validate genCfg t).1 = .error e) : e = .topology := by
  exact validate_rejects_with_topology_of genCfg t e
    (fun kr hkr p hp => (gen_service_properties_readable kr hkr p hp).1) gen_no_instance_limit
    (fun n hn' => lookup_isSome _ _ (tables_complete.2.1 ▸ hn n hn'))
    (fun s hs' => lookup_isSome _ _ (tables_complete.1 ▸ hs s hs')) h

/-- **The property, in full, for the shipped tables and the code as it is**: validation succeeds exactly when every node and
every service of the slice meets its row - minimum and maximum number of interfaces, sites spanned, agreement of a declared
site with the connected nodes, required and forbidden properties (set or not set, whatever the stored value's truthiness),
permitted interface types, single-peer service ports. -/
theorem validate_iff_specFull (t : Topo) : (validate genCfg t).1 = .ok () ↔ SpecFull genCfg t :=
  validate_iff_specFull_of genCfg t gen_faithful (gen_node_hollow_harmless t) (gen_hollow_harmless t)

theorem valid_accepted (t : Topo) (h : SpecFull genCfg t) : (validate genCfg t).1 = .ok () :=
  (validate_iff_specFull t).mpr h

/-- **Nothing invalid is accepted, services**: in the property's own terms (`SvcFull`: set or not set, whatever the Python
truthiness of the stored object). -/
theorem services_full_of_valid (t : Topo) (h : (validate genCfg t).1 = .ok ()) :
    ∀ s ∈ t.svcs, ∃ row, genCfg.svc.lookup s.ty = some row ∧ SvcFull t.exp row s :=
  ((validate_iff_specFull t).mp h).svcs

/-- **Nothing invalid is accepted, nodes**: of whatever type, components included (`NodeFull`). -/
theorem nodes_full_of_valid (t : Topo) (h : (validate genCfg t).1 = .ok ()) :
    ∀ n ∈ t.nodes, ∃ row, genCfg.node.lookup n.ty = some row ∧ NodeFull row n :=
  ((validate_iff_specFull t).mp h).nodes

/-- Why `gen_all_node_types_validated` is an obligation: were `validate` to walk only the `nodes` view, which leaves Facility
nodes out, a Facility node with an image would validate. -/
theorem skipped_type_counterexample :
    ∃ t, (validate { genCfg with nodeTypesNotValidated := ["Facility"] } t).1 = .ok () ∧
      ¬ SpecFull { genCfg with nodeTypesNotValidated := ["Facility"] } t :=
  ⟨{ exp := true, nodes := [{ ty := "Facility", props := ["site", "image_ref", "image_type"] }], svcs := [] }, by decide +kernel, by decide +kernel⟩

example : (validate genCfg { exp := true, nodes := [{ ty := "Facility", props := ["site", "image_ref", "image_type"] }], svcs := [] }).1
    = .error .topology := by decide +kernel

/-- Why `gen_node_properties_seen` is an obligation: were components looked for on the shallow sliver only, which has no getter
for them, a Switch with a component would validate. -/
theorem unseen_property_counterexample :
    ∃ t, (validate { genCfg with nodeViaHandle := [] } t).1 = .ok () ∧ ¬ SpecFull { genCfg with nodeViaHandle := [] } t :=
  ⟨{ exp := true, nodes := [{ ty := "Switch", props := ["site", "attached_components_info"] }], svcs := [] }, by decide +kernel, by decide +kernel⟩

example : (validate genCfg { exp := true, nodes := [{ ty := "Switch", props := ["site", "attached_components_info"] }], svcs := [] }).1
    = .error .topology := by decide +kernel

/-- Why `gen_presence_by_truthiness` is an obligation: were the node checks to test `is not None`, a VM whose site is the
empty string would validate (and a Switch whose image_ref is the empty string would be refused). -/
theorem blank_value_counterexample :
    ∃ t, (validate { genCfg with nodeReqTruthy := false } t).1 = .ok () ∧ ¬ SpecFull { genCfg with nodeReqTruthy := false } t :=
  ⟨{ exp := true, nodes := [{ ty := "VM", props := [], blank := ["site"] }], svcs := [] }, by decide +kernel, by decide +kernel⟩

example : (validate genCfg { exp := true, nodes := [{ ty := "VM", props := [], blank := ["site"] }], svcs := [] }).1 = .error .topology := by decide +kernel
example : (validate { genCfg with nodeForbTruthy := false }
    { exp := true, nodes := [{ ty := "Switch", props := ["site"], blank := ["image_ref"] }], svcs := [] }).1 = .error .topology := by decide +kernel
example : (validate genCfg { exp := true, nodes := [{ ty := "Switch", props := ["site"], blank := ["image_ref"] }], svcs := [] }).1 = .ok () := by decide +kernel

/-- Why `gen_no_falsy_node_values` is an obligation: were the class of `management_ip` values to define `__bool__`, a Facility
carrying a hollow address would validate although `management_ip` is forbidden. -/
theorem falsy_node_value_counterexample :
    ∃ t, (validate { genCfg with nodeFalsyCapable := ["management_ip"] } t).1 = .ok () ∧
      ¬ SpecFull { genCfg with nodeFalsyCapable := ["management_ip"] } t :=
  ⟨{ exp := true, nodes := [{ ty := "Facility", props := ["site", "management_ip"], hollow := ["management_ip"] }], svcs := [] },
    by decide +kernel, by decide +kernel⟩

/-- The same for services, why `gen_no_falsy_values` is an obligation and not a remark: were the class of `ero` values to define
`__len__` (a graph-reference ERO then being falsy), an L2STS carrying such an ERO would validate although `ero` is forbidden. -/
theorem falsy_value_counterexample :
    ∃ t, (validate { genCfg with svcFalsyCapable := ["ero"] } t).1 = .ok () ∧
      ¬ SpecFull { genCfg with svcFalsyCapable := ["ero"] } t :=
  ⟨{ exp := true, nodes := [], svcs := [⟨"L2STS", none, ["ero"], none,
      [.port "n0-p0" (some [⟨"DedicatedPort", some "RENC"⟩]), .port "n1-p0" (some [⟨"SharedPort", some "UKY"⟩])], ["ero"], []⟩] },
    by decide +kernel, by decide +kernel⟩

example : (validate genCfg { exp := true, nodes := [], svcs := [⟨"L2STS", none, ["ero"], none,
      [.port "n0-p0" (some [⟨"DedicatedPort", some "RENC"⟩]), .port "n1-p0" (some [⟨"SharedPort", some "UKY"⟩])], ["ero"], []⟩] }).1
    = .error .topology := by decide +kernel

/-- The guardrails run on both ways of attaching an interface (constructor list, `connect_interface`). -/
theorem gen_guardrails_everywhere (viaCtor : Bool) :
    ((viaCtor && genCfg.ctorRunsGuardrails) || genCfg.connectRunsGuardrails) = true := by
  cases viaCtor <;> rfl

/-- Connecting an interface is refused at once exactly for the unsupported combinations of `pinnedGuard`
(and for an interface without owner node or one that is already connected). -/
theorem guardrail_iff (viaCtor : Bool) (ty kind : String) (own conn : Bool) :
    connect genCfg viaCtor ty kind own conn = .ok () ↔ (ty, kind) ∉ pinnedGuard ∧ own = true ∧ conn = false := by
  rw [connect_iff genCfg viaCtor ty kind own conn (gen_guardrails_everywhere viaCtor)]
  show (ty, kind) ∉ Gen.Constraints.guardPairs ∧ _ ↔ _
  rw [guard_table_pinned]

/-- Every guardrail pair is excluded by the table as well: the row of its service type names permitted interface types and the
pair's interface type is not among them, so `checkIfTypes` fails on such a service (`checkIfTypes_ok`).  That `validate` as a
whole refuses it is not stated. -/
theorem guardrail_sound :
    (genCfg.guardPairs.all fun g => (genCfg.svc.lookup g.1).any fun row =>
      !row.ifTypes.isEmpty && !row.ifTypes.contains g.2) = true := by decide +kernel

/-- **The order in which a service lists its interfaces - the order in which they were connected - does not matter**, to the
verdict or to the sites recorded. -/
theorem interface_order_irrelevant (c : Cfg) (f : List SIface → List SIface) (hf : ∀ l, (f l).Perm l) (t : Topo) :
    ((validate c (t.reorder f)).1 = .ok () ↔ (validate c t).1 = .ok ()) ∧
    ((validate c t).1 = .ok () → (validate c (t.reorder f)).2 = (validate c t).2.reorder f) :=
  have h := validate_reorder c f (fun _ l => (hf l).map _) t
  ⟨by rw [h], fun _ => by rw [h]⟩

theorem interface_order_irrelevant_gen (f : List SIface → List SIface) (hf : ∀ l, (f l).Perm l) (t : Topo)
    (hn : ∀ n ∈ t.nodes, n.ty ∈ Gen.Constraints.nodeTypes) (hs : ∀ s ∈ t.svcs, s.ty ∈ Gen.Constraints.serviceTypes) :
    (validate genCfg (t.reorder f)).1 = (validate genCfg t).1 := by
  rw [validate_reorder genCfg f (fun _ l => (hf l).map _) t]

/-- **Validate, then validate again**: validating a slice that has just been validated succeeds again and changes nothing
(the sites recorded the first time are the ones inferred the second time). -/
theorem validate_twice (c : Cfg) (t : Topo) (h : (validate c t).1 = .ok ()) :
    validate c (validate c t).2 = (.ok (), (validate c t).2) := by
  have hst := validate_state c t h
  have hok : (validate c (validate c t).2).1 = .ok () := by
    rw [hst]; exact (validate_iff_spec c _).mpr (specOK_recorded c t ((validate_iff_spec c t).mp h))
  refine Prod.ext hok ?_
  rw [validate_state c _ hok, hst]
  show ({ t with svcs := (t.svcs.map (recordSite c)).map (recordSite c) } : Topo) = _
  rw [List.map_map, recordSite_idem]

/-! Histories: `Hist` (Model/ValidateHist.lean) models the calls that make and change a slice; `Hist.abs σ` is what `validate` sees.
The theorems are about `validate`, `connect`, `disconnect`, `renameNode` and `renameIface`; the other six calls of `Hist.step` are
compared with the code on every history the harness runs and no theorem speaks of them. -/

section histories
open FimVerif.Validate.Hist

theorem verdict_of_eraseNames (c : Cfg) (t t' : Topo) (h : eraseNames t = eraseNames t') :
    (validate c t).1 = (validate c t').1 := by
  have := congrArg (fun u => (validate c u).1) h
  simpa only [eraseNames, validate_counts_by_identity] using this

/-- **The `validate` call of a history is `Validate.validate` on the slice as it is** (`Hist.abs`), also when it fails.  Every
theorem about `validate` above therefore speaks about every point of every history. -/
theorem history_validate (c : Cfg) (σ : Slice) :
    (step c σ .validate).1 = (validate c (abs σ)).1 ∧ abs (step c σ .validate).2 = (validate c (abs σ)).2 :=
  have ⟨he, hn, hs⟩ := validate_touches_only_sites c (abs σ)
  ⟨rfl, abs_writeSites σ _ he hn hs⟩

theorem history_validate_twice (c : Cfg) (σ : Slice) (h : (step c σ .validate).1 = .ok ()) :
    (step c (step c σ .validate).2 .validate).1 = .ok () ∧
    abs (step c (step c σ .validate).2 .validate).2 = abs (step c σ .validate).2 := by
  obtain ⟨h1, h2⟩ := history_validate c σ
  obtain ⟨h3, h4⟩ := history_validate c (step c σ .validate).2
  rw [h1] at h
  have hi := validate_twice c (abs σ) h
  rw [h3, h4, h2, hi]
  exact ⟨rfl, rfl⟩

/-- **connect, then disconnect again, leaves no trace**: whatever else is connected, the slice is as it was. -/
theorem history_connect_disconnect (c : Cfg) (σ : Slice) (svc : String) (i : Nat) (h : (connect c σ svc i).1 = .ok ()) :
    abs (disconnect (connect c σ svc i).2 i).2 = abs σ := by
  unfold Hist.connect at h ⊢
  cases hc : connectCheck c σ svc i with
  | error e => rw [hc] at h; cases h
  | ok l =>
    obtain ⟨hnc, ifc, hf⟩ := connectCheck_ok c σ svc i l hc
    unfold disconnect
    rw [show findIface (addPort σ svc l i) i = findIface σ i from rfl, hf]
    simp only
    rw [dropPeersOf_addPort, dropPeersOf_of_not_connected σ i hnc]
    rfl

/-- **Independent connects commute**: two interfaces connected to two services in either order - the same calls are
refused, the same slice results. -/
theorem history_connect_order (c : Cfg) (σ : Slice) (a b : String) (i j : Nat) (hab : a ≠ b) (hij : i ≠ j) :
    (connect c (connect c σ a i).2 b j).1 = (connect c σ b j).1 ∧
    (connect c (connect c σ b j).2 a i).1 = (connect c σ a i).1 ∧
    abs (connect c (connect c σ a i).2 b j).2 = abs (connect c (connect c σ b j).2 a i).2 := by
  unfold Hist.connect
  cases ha : connectCheck c σ a i with
  | error ea =>
    cases hb : connectCheck c σ b j with
    | error eb => simp [ha]
    | ok lb => simp [ha, connectCheck_addPort c σ b lb j a i hij.symm]
  | ok la =>
    cases hb : connectCheck c σ b j with
    | error eb => simp [ha, hb, connectCheck_addPort c σ a la i b j hij]
    | ok lb =>
      simp only [ha, hb, connectCheck_addPort c σ a la i b j hij, connectCheck_addPort c σ b lb j a i hij.symm, true_and]
      exact abs_addPort_comm σ a la i b lb j hab

/-- **Names are labels**: renaming a node changes nothing `validate` sees; renaming an interface changes names only; and a
connect made after a node was renamed - its service port gets another derived name - gives the same verdict as without. -/
theorem history_rename (c : Cfg) (σ : Slice) (n : Nat) (l svc : String) (i : Nat) :
    abs (renameNode σ n l) = abs σ ∧
    (validate c (abs (renameIface σ i l))).1 = (validate c (abs σ)).1 ∧
    (connect c (renameNode σ n l) svc i).1 = (connect c σ svc i).1 ∧
    (validate c (abs (connect c (renameNode σ n l) svc i).2)).1 = (validate c (abs (connect c σ svc i).2)).1 :=
  ⟨abs_renameNode σ n l, verdict_of_eraseNames c _ _ (abs_renameIface σ i l), (connect_renameNode c σ n l svc i).1,
    verdict_of_eraseNames c _ _ (connect_renameNode c σ n l svc i).2⟩

/-- two nodes at RENC and UKY with two ports each and an OVS service of their own on them (so that `abs` lists owned services
before the others, as `writeSites` assumes), and a free-standing service of the given type -/
def exSlice (ty : String) (extra : List HSvc := []) : Slice :=
  { exp := true,
    nodes := [{ id := 0, label := "n0", ty := "VM", site := "RENC", props := [], hollow := [], blank := [], comps := [] },
              { id := 1, label := "n1", ty := "VM", site := "UKY", props := [], hollow := [], blank := [], comps := [] }],
    ifaces := [{ id := 0, label := "p0", kind := "DedicatedPort", node := 0, comp := none },
               { id := 1, label := "p0", kind := "DedicatedPort", node := 1, comp := none },
               { id := 2, label := "p1", kind := "DedicatedPort", node := 0, comp := none },
               { id := 3, label := "p1", kind := "DedicatedPort", node := 1, comp := none }],
    owned := [{ label := "n0-g0", ty := "OVS", site := none, node := 0, comp := none, ifs := [0, 2] },
              { label := "n1-g0", ty := "OVS", site := none, node := 1, comp := none, ifs := [1, 3] }],
    svcs := { label := "svc0", ty := ty, site := none, props := [], hollow := [], blank := [], ports := [] } :: extra,
    next := 0 }

/-- Known finding `C10:history:site-pinned:multi-site-type` (the code as it is): `validate` writes the inferred site also on
a service whose type may span two sites; the same two connects validate when made in one go and are refused when a
`validate` came in between. -/
theorem validate_pins_multisite_counterexample :
    (run genCfg (exSlice "L2Path") [.connect "svc0" 0, .connect "svc0" 1, .validate]).1 = [.ok (), .ok (), .ok ()] ∧
    (run genCfg (exSlice "L2Path") [.connect "svc0" 0, .validate, .connect "svc0" 1, .validate]).1 =
      [.ok (), .ok (), .ok (), .error .topology] := by decide +kernel

/-- Known finding `C10:history:site-pinned:failed-validate` (the code as it is): a validation that fails (the bridge spans two
sites) has already written the inferred site on the service checked before it; repaired and moved, the slice is refused
although the same slice made without the failed validation is accepted. -/
theorem failed_validate_leaves_site_counterexample :
    (run genCfg (exSlice "P4" [{ label := "svc1", ty := "L2Bridge", site := none, props := [], hollow := [], blank := [], ports := [] }])
      [.connect "svc0" 0, .connect "svc1" 2, .connect "svc1" 3, .validate,
       .disconnect 3, .disconnect 0, .connect "svc0" 1, .validate]).1 =
      [.ok (), .ok (), .ok (), .error .topology, .ok (), .ok (), .ok (), .error .topology] ∧
    (run genCfg (exSlice "P4" [{ label := "svc1", ty := "L2Bridge", site := none, props := [], hollow := [], blank := [], ports := [] }])
      [.connect "svc1" 2, .connect "svc0" 1, .validate]).1 = [.ok (), .ok (), .ok ()] := by decide +kernel

/-- what the property does say a validation records - the site of a single-site service - binds afterwards: an L2Bridge
validated at RENC and moved to UKY is refused (the recorded site is part of the slice as it is) -/
example : (run genCfg (exSlice "L2Bridge") [.connect "svc0" 0, .validate, .disconnect 0, .connect "svc0" 1, .validate]).1 =
    [.ok (), .ok (), .ok (), .ok (), .error .topology] := by decide +kernel

/-- the hypothesis of `history_connect_disconnect` can be met -/
example : (connect genCfg (exSlice "L2Bridge") "svc0" 0).1 = .ok () := by decide +kernel

end histories

/-! The model on small slices, as the library judges them. -/

/-- an L2STS between RENC and UKY -/
def exSts : Topo := { exp := true, nodes := [{ ty := "VM", props := ["site"] }, { ty := "VM", props := ["site"] }], svcs := [⟨"L2STS", none, [], none, [.port "n0-p0" (some [⟨"DedicatedPort", some "RENC"⟩]), .port "n1-p0" (some [⟨"SharedPort", some "UKY"⟩])], [], []⟩] }
/-- an L2Bridge with one port at RENC: left without a site it is given RENC, declared at UKY it is refused -/
def exBridge (site : Option String) : Topo := { exp := true, nodes := [], svcs := [⟨"L2Bridge", site, [], none, [.port "n0-p0" (some [⟨"SharedPort", some "RENC"⟩])], [], []⟩] }
/-- an L2STS over three sites: one too many -/
def exThree : Topo := { exp := true, nodes := [], svcs := [⟨"L2STS", none, [], none, [.port "n1-x-p0" (some [⟨"SharedPort", some "A"⟩]), .port "n1-x-p0" (some [⟨"SharedPort", some "B"⟩]), .port "n1-x-p0" (some [⟨"SharedPort", some "C"⟩])], [], []⟩] }
example : (validate genCfg exSts).1 = .ok () := by decide +kernel
example : ((validate genCfg (exBridge none)).2.svcs.map (·.site)) = [some "RENC"] := by decide +kernel
example : (validate genCfg (exBridge (some "UKY"))).1 = .error .topology := by decide +kernel
example : (validate genCfg exThree).1 = .error .topology := by decide +kernel
/-- three interfaces, two of them with the same name (`n1` + `nic-aa-p1`, `n1-nic` + `aa-p1`): the name-keyed view has two
entries, but an L2PTP with them is over its limit of 2 and a two-interface L2STS with like-named ports is valid -/
def exPtpNames : Topo := { exp := true, nodes := [], svcs := [⟨"L2PTP", none, [], none, [.port "n1-nic-aa-p1" (some [⟨"DedicatedPort", some "RENC"⟩]), .port "n1-nic-aa-p1" (some [⟨"DedicatedPort", some "UKY"⟩]), .port "n3-nic1-p1" (some [⟨"DedicatedPort", some "UKY"⟩])], [], []⟩] }
def exStsNames : Topo := { exp := true, nodes := [], svcs := [⟨"L2STS", none, [], none, [.port "n1-nic-aa-p1" (some [⟨"DedicatedPort", some "RENC"⟩]), .port "n1-nic-aa-p1" (some [⟨"DedicatedPort", some "UKY"⟩])], [], []⟩] }
example : (exPtpNames.svcs.map (·.interfaceNames.length)) = [2] := by decide +kernel
example : (validate genCfg exPtpNames).1 = .error .topology := by decide +kernel
example : (validate genCfg exStsNames).1 = .ok () := by decide +kernel
/-- a node with hollow and blank values meets the node hypothesis of `validate_iff_specFull_of` (`Faithful genCfg` is
`gen_faithful`) -/
example : (∀ n ∈ [({ ty := "VM", props := ["site", "image_ref"], hollow := ["image_ref"], blank := ["image_type"] } : Node)],
    ∀ q ∈ n.hollow, q ∉ genCfg.nodeFalsyCapable) := by decide +kernel
example : connect genCfg false "L2PTP" "SharedPort" true false = .error .topology := by decide +kernel
example : connect genCfg false "L2PTP" "DedicatedPort" true false = .ok () := by decide +kernel

end FimVerif.C10
