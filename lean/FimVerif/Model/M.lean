/-!
# M-M: state-and-exception monad in which the state survives a raise

`M σ α := σ → Except Err α × σ`.  A Python call that mutates the model and then raises
returns `(.error e, s')` with the *mutated* `s'` — which is exactly what C09 is about.
`tryCatch` selects by error kind like `except TopologyException`.

No Mathlib.  The evaluation lemmas are `@[simp]`.  `ReadOnly`, `Total`, `Atomic` with their bind rules carry the C09 proofs of
the calls that validate before they write, `ReadOnly.step` those of the calls that write more than once, `Preserves` C07.  The last
section runs a program one bind at a time: what a returning bind, `tryCatch`, loop or comprehension was made of.
-/
namespace FimVerif

/-- Error kinds on the wire (`core.err_kind`). -/
inductive Err where
  | topology | query | assertion | catalog | runtime | value | typ | attr | key
  | named (s : String)
  deriving DecidableEq, Repr, Inhabited

namespace Err
def toWire : Err → String
  | topology => "topology" | query => "query" | assertion => "assertion" | catalog => "catalog"
  | runtime => "runtime" | value => "value" | typ => "type" | attr => "attribute" | key => "key"
  | named s => s
def ofWire (s : String) : Err :=
  if s == "topology" then topology else if s == "query" then query else if s == "assertion" then assertion
  else if s == "catalog" then catalog else if s == "runtime" then runtime else if s == "value" then value
  else if s == "type" then typ else if s == "attribute" then attr else if s == "key" then key
  else named s
end Err

def M (σ α : Type) := σ → Except Err α × σ

namespace M
variable {σ α β : Type}

@[inline] def pure (a : α) : M σ α := fun s => (.ok a, s)
@[inline] def bind (m : M σ α) (f : α → M σ β) : M σ β := fun s =>
  match m s with
  | (.ok a, s') => f a s'
  | (.error e, s') => (.error e, s')

instance : Monad (M σ) where
  pure := M.pure
  bind := M.bind

def raise (e : Err) : M σ α := fun s => (.error e, s)
def get : M σ σ := fun s => (.ok s, s)
def set (s' : σ) : M σ Unit := fun _ => (.ok (), s')
def modify (f : σ → σ) : M σ Unit := fun s => (.ok (), f s)
/-- read a value off the state -/
def read (f : σ → α) : M σ α := fun s => (.ok (f s), s)
/-- lift a pure computation that may fail -/
def ofExcept (x : Except Err α) : M σ α := fun s => (x, s)
/-- `assert c` / `if not c: raise e` -/
def guard (c : Bool) (e : Err) : M σ Unit := fun s => if c then (.ok (), s) else (.error e, s)

/-- `try m except <kinds selected by p> as e: h e`.  The handler runs in the state left behind by `m`. -/
def tryCatch (m : M σ α) (p : Err → Bool) (h : Err → M σ α) : M σ α := fun s =>
  match m s with
  | (.error e, s') => if p e then h e s' else (.error e, s')
  | r => r

/-- run a body for every element, left to right, stopping at the first raise -/
def forEach : List β → (β → M σ Unit) → M σ Unit
  | [], _ => M.pure ()
  | x :: xs, f => M.bind (f x) (fun _ => forEach xs f)

/-- `[f x for x in l]`, left to right, stopping at the first raise -/
def mapM' {γ : Type} (f : β → M σ γ) : List β → M σ (List γ)
  | [] => M.pure []
  | x :: xs => M.bind (f x) (fun y => M.bind (mapM' f xs) (fun ys => M.pure (y :: ys)))

/-- `[y for x in l if (y := f x) is not None]` -/
def filterMapM' {γ : Type} (f : β → M σ (Option γ)) : List β → M σ (List γ)
  | [] => M.pure []
  | x :: xs => M.bind (f x) (fun y => M.bind (filterMapM' f xs) (fun ys => M.pure (match y with | some v => v :: ys | none => ys)))

/-- `failed r` : the call raised -/
def failed (r : Except Err α × σ) : Prop := ∃ e, r.1 = .error e

instance (r : Except Err α × σ) : Decidable (failed r) :=
  match h : r.1 with
  | .error e => isTrue ⟨e, h⟩
  | .ok _ => isFalse (by intro ⟨e, he⟩; rw [h] at he; cases he)

@[simp] theorem pure_apply (a : α) (s : σ) : (M.pure a : M σ α) s = (.ok a, s) := rfl
@[simp] theorem pure_apply' (a : α) (s : σ) : (Pure.pure a : M σ α) s = (.ok a, s) := rfl
@[simp] theorem raise_apply (e : Err) (s : σ) : (raise e : M σ α) s = (.error e, s) := rfl
@[simp] theorem get_apply (s : σ) : (get : M σ σ) s = (.ok s, s) := rfl
@[simp] theorem set_apply (s s' : σ) : (set s' : M σ Unit) s = (.ok (), s') := rfl
@[simp] theorem modify_apply (f : σ → σ) (s : σ) : (modify f : M σ Unit) s = (.ok (), f s) := rfl
@[simp] theorem read_apply (f : σ → α) (s : σ) : (read f : M σ α) s = (.ok (f s), s) := rfl
@[simp] theorem ofExcept_apply (x : Except Err α) (s : σ) : (ofExcept x : M σ α) s = (x, s) := rfl
@[simp] theorem guard_apply (c : Bool) (e : Err) (s : σ) :
    (guard c e : M σ Unit) s = if c then (.ok (), s) else (.error e, s) := rfl
theorem bind_apply (m : M σ α) (f : α → M σ β) (s : σ) :
    (M.bind m f) s = match m s with | (.ok a, s') => f a s' | (.error e, s') => (.error e, s') := rfl
@[simp] theorem bind_apply' (m : M σ α) (f : α → M σ β) (s : σ) :
    (m >>= f) s = match m s with | (.ok a, s') => f a s' | (.error e, s') => (.error e, s') := rfl
theorem bind_ok {m : M σ α} {f : α → M σ β} {s s' : σ} {a : α} (h : m s = (.ok a, s')) :
    (m >>= f) s = f a s' := by simp [h]
theorem bind_err {m : M σ α} {f : α → M σ β} {s s' : σ} {e : Err} (h : m s = (.error e, s')) :
    (m >>= f) s = (.error e, s') := by simp [h]
theorem tryCatch_ok {m : M σ α} {p : Err → Bool} {h : Err → M σ α} {s s' : σ} {a : α} (hm : m s = (.ok a, s')) :
    tryCatch m p h s = (.ok a, s') := by simp only [tryCatch, hm]
theorem tryCatch_err {m : M σ α} {p : Err → Bool} {h : Err → M σ α} {s s' : σ} {e : Err} (hm : m s = (.error e, s'))
    (hp : p e = true) : tryCatch m p h s = h e s' := by simp only [tryCatch, hm, hp, if_true]
@[simp] theorem ite_apply (c : Prop) [Decidable c] (x y : M σ α) (s : σ) :
    (if c then x else y) s = if c then x s else y s := by split <;> rfl
@[simp] theorem failed_ok (a : α) (s : σ) : ¬ failed ((.ok a, s) : Except Err α × σ) := by
  intro ⟨e, h⟩; cases h
@[simp] theorem failed_error (e : Err) (s : σ) : failed ((.error e, s) : Except Err α × σ) := ⟨e, rfl⟩

theorem cases_run (m : M σ α) (s : σ) :
    (∃ a s', m s = (.ok a, s')) ∨ (∃ e s', m s = (.error e, s')) := by
  rcases h : m s with ⟨r, s'⟩
  cases r with
  | ok a => exact .inl ⟨a, s', rfl⟩
  | error e => exact .inr ⟨e, s', rfl⟩

/-! ### compositional predicates (structures, so that tactics never unfold them by accident) -/

/-- never changes the state (queries, validation) -/
structure ReadOnly (m : M σ α) : Prop where
  h : ∀ s, (m s).2 = s
/-- never raises -/
structure Total (m : M σ α) : Prop where
  h : ∀ s, ¬ failed (m s)
/-- C09 for one call: a raise leaves the state as it was -/
structure Atomic (m : M σ α) : Prop where
  h : ∀ s, failed (m s) → (m s).2 = s

theorem ReadOnly.atomic {m : M σ α} (h : ReadOnly m) : Atomic m := ⟨fun s _ => h.h s⟩
theorem Total.atomic {m : M σ α} (h : Total m) : Atomic m := ⟨fun s hf => absurd hf (h.h s)⟩

theorem readOnly_pure (a : α) : ReadOnly (Pure.pure a : M σ α) := ⟨fun _ => rfl⟩
theorem readOnly_pure' (a : α) : ReadOnly (M.pure a : M σ α) := ⟨fun _ => rfl⟩
theorem readOnly_raise (e : Err) : ReadOnly (raise e : M σ α) := ⟨fun _ => rfl⟩
theorem readOnly_read (f : σ → α) : ReadOnly (read f) := ⟨fun _ => rfl⟩
theorem readOnly_get : ReadOnly (get : M σ σ) := ⟨fun _ => rfl⟩
theorem readOnly_ofExcept (x : Except Err α) : ReadOnly (ofExcept x : M σ α) := ⟨fun _ => rfl⟩
theorem readOnly_guard (c : Bool) (e : Err) : ReadOnly (guard c e : M σ Unit) := by
  constructor; intro s; simp only [guard]; split <;> rfl
theorem total_pure (a : α) : Total (Pure.pure a : M σ α) := ⟨fun s => by simp⟩
theorem total_modify (f : σ → σ) : Total (modify f) := ⟨fun s => by simp⟩
theorem total_set (s' : σ) : Total (set s') := ⟨fun s => by simp⟩
theorem total_read (f : σ → α) : Total (read f) := ⟨fun s => by simp⟩

theorem ReadOnly.step {m : M σ α} {f : α → M σ β} {s : σ} {Q : Except Err β × σ → Prop} (hm : ReadOnly m)
    (herr : ∀ e, Q (.error e, s)) (hok : ∀ a, m s = (.ok a, s) → Q (f a s)) : Q ((m >>= f) s) := by
  have h1 := hm.h s
  rcases cases_run m s with ⟨a, s', h⟩ | ⟨e, s', h⟩
  · rw [h] at h1; simp at h1; subst h1; rw [bind_ok h]; exact hok a h
  · rw [h] at h1; simp at h1; subst h1; rw [bind_err h]; exact herr e

theorem ReadOnly.bind {m : M σ α} {f : α → M σ β} (hm : ReadOnly m) (hf : ∀ a, ReadOnly (f a)) :
    ReadOnly (m >>= f) :=
  ⟨fun s => hm.step (Q := fun r => r.2 = s) (fun _ => rfl) (fun a _ => (hf a).h s)⟩

theorem ReadOnly.bind' {m : M σ α} {f : α → M σ β} (hm : ReadOnly m) (hf : ∀ a, ReadOnly (f a)) :
    ReadOnly (M.bind m f) := ReadOnly.bind hm hf

theorem ReadOnly.ite {c : Prop} [Decidable c] {x y : M σ α} (hx : ReadOnly x) (hy : ReadOnly y) :
    ReadOnly (if c then x else y) := by split <;> assumption

/-- validate-before-mutate: a read-only prefix followed by an atomic tail is atomic -/
theorem Atomic.bind_readOnly {m : M σ α} {f : α → M σ β} (hm : ReadOnly m) (hf : ∀ a, Atomic (f a)) :
    Atomic (m >>= f) :=
  ⟨fun s => hm.step (Q := fun r => failed r → r.2 = s) (fun _ _ => rfl) (fun a _ => (hf a).h s)⟩

/-- an atomic call followed by calls that cannot raise is atomic -/
theorem Atomic.bind_total {m : M σ α} {f : α → M σ β} (hm : Atomic m) (hf : ∀ a, Total (f a)) :
    Atomic (m >>= f) := by
  constructor; intro s hfail
  rcases cases_run m s with ⟨a, s', h⟩ | ⟨e, s', h⟩
  · rw [bind_ok h] at hfail; exact absurd hfail ((hf a).h s')
  · rw [bind_err h]; have := hm.h s (by rw [h]; simp); rw [h] at this; simpa using this

theorem Atomic.ite {c : Prop} [Decidable c] {x y : M σ α} (hx : Atomic x) (hy : Atomic y) :
    Atomic (if c then x else y) := by split <;> assumption

theorem Total.bind {m : M σ α} {f : α → M σ β} (hm : Total m) (hf : ∀ a, Total (f a)) : Total (m >>= f) := by
  constructor; intro s
  rcases cases_run m s with ⟨a, s', h⟩ | ⟨e, s', h⟩
  · rw [bind_ok h]; exact (hf a).h s'
  · exact absurd (by rw [h]; simp) (hm.h s)

theorem readOnly_mapM' {γ : Type} {l : List β} {f : β → M σ γ} (hf : ∀ b, ReadOnly (f b)) : ReadOnly (mapM' f l) := by
  induction l with
  | nil => exact ⟨fun _ => rfl⟩
  | cons x xs ih =>
    exact ReadOnly.bind' (hf x) (fun _ => ReadOnly.bind' ih (fun _ => ⟨fun _ => rfl⟩))

theorem readOnly_filterMapM' {γ : Type} {l : List β} {f : β → M σ (Option γ)} (hf : ∀ b, ReadOnly (f b)) :
    ReadOnly (filterMapM' f l) := by
  induction l with
  | nil => exact ⟨fun _ => rfl⟩
  | cons x xs ih =>
    exact ReadOnly.bind' (hf x) (fun _ => ReadOnly.bind' ih (fun _ => ⟨fun _ => rfl⟩))

theorem readOnly_forEach {l : List β} {f : β → M σ Unit} (hf : ∀ b, ReadOnly (f b)) : ReadOnly (forEach l f) := by
  induction l with
  | nil => exact ⟨fun _ => rfl⟩
  | cons x xs ih => exact ReadOnly.bind' (hf x) (fun _ => ih)

/-- `try m except p: h` where every failure of `m` is selected and the handler, when it re-raises, has restored the start state -/
theorem Atomic.tryCatch_rollback {m : M σ α} {p : Err → Bool} {h : Err → M σ α}
    (hp : ∀ s e s', m s = (.error e, s') → p e = true)
    (hr : ∀ s e s', m s = (.error e, s') → failed (h e s') → (h e s').2 = s) :
    Atomic (tryCatch m p h) := by
  constructor; intro s hfail
  rcases cases_run m s with ⟨a, s', hm⟩ | ⟨e, s', hm⟩
  · rw [tryCatch_ok hm] at hfail; exact absurd hfail (failed_ok a s')
  · rw [tryCatch_err hm (hp s e s' hm)] at hfail ⊢
    exact hr s e s' hm hfail

/-- running `m` keeps `P`, whether it returns or raises -/
structure Preserves (P : σ → Prop) (m : M σ α) : Prop where
  h : ∀ s, P s → P (m s).2

theorem ReadOnly.preserves {P : σ → Prop} {m : M σ α} (h : ReadOnly m) : Preserves P m :=
  ⟨fun s hs => by rw [h.h s]; exact hs⟩

theorem preserves_modify {P : σ → Prop} {f : σ → σ} (hf : ∀ s, P s → P (f s)) : Preserves P (modify f) :=
  ⟨fun s hs => hf s hs⟩

theorem state_after_then {P : σ → Prop} {m : M σ α} {f : α → M σ β} {s : σ} (hm : P (m s).2)
    (hok : ∀ a s', m s = (.ok a, s') → P s' → P (f a s').2) : P ((m >>= f) s).2 := by
  rcases cases_run m s with ⟨a, s', h⟩ | ⟨e, s', h⟩ <;> rw [h] at hm
  · rw [bind_ok h]; exact hok a s' h hm
  · rw [bind_err h]; exact hm

theorem Preserves.bind {P : σ → Prop} {m : M σ α} {f : α → M σ β} (hm : Preserves P m) (hf : ∀ a, Preserves P (f a)) :
    Preserves P (m >>= f) :=
  ⟨fun s hs => state_after_then (hm.h s hs) fun a _ _ h => (hf a).h _ h⟩

theorem Preserves.ro_bind {P : σ → Prop} {m : M σ α} {f : α → M σ β} (hm : ReadOnly m) (hf : ∀ a, Preserves P (f a)) :
    Preserves P (m >>= f) := .bind hm.preserves hf

theorem Preserves.bind' {P : σ → Prop} {m : M σ α} {f : α → M σ β} (hm : Preserves P m) (hf : ∀ a, Preserves P (f a)) :
    Preserves P (M.bind m f) := Preserves.bind hm hf

theorem Preserves.ite {P : σ → Prop} {c : Prop} [Decidable c] {x y : M σ α} (hx : Preserves P x) (hy : Preserves P y) :
    Preserves P (if c then x else y) := by split <;> assumption

theorem Preserves.tryCatch {P : σ → Prop} {m : M σ α} {p : Err → Bool} {h : Err → M σ α}
    (hm : Preserves P m) (hh : ∀ e, Preserves P (h e)) : Preserves P (tryCatch m p h) := by
  constructor; intro s hs
  have h1 := hm.h s hs
  rcases cases_run m s with ⟨a, s', hr⟩ | ⟨e, s', hr⟩
  · rw [tryCatch_ok hr]; rw [hr] at h1; exact h1
  · rw [hr] at h1
    cases hp : p e
    · simp only [M.tryCatch, hr, hp]; exact h1
    · rw [tryCatch_err hr hp]; exact (hh e).h _ h1

theorem preserves_forEach {P : σ → Prop} {l : List β} {f : β → M σ Unit} (hf : ∀ b, Preserves P (f b)) :
    Preserves P (forEach l f) := by
  induction l with
  | nil => exact ⟨fun _ hs => hs⟩
  | cons x xs ih => exact Preserves.bind' (hf x) (fun _ => ih)

theorem preserves_mapM' {P : σ → Prop} {γ : Type} {l : List β} {f : β → M σ γ} (hf : ∀ b, Preserves P (f b)) :
    Preserves P (mapM' f l) := by
  induction l with
  | nil => exact ⟨fun _ hs => hs⟩
  | cons x xs ih => exact Preserves.bind' (hf x) (fun _ => Preserves.bind' ih (fun _ => ⟨fun _ hs => hs⟩))

/-! ### running a program one bind at a time -/

theorem ro_run {α : Type} {m : M σ α} (hm : ReadOnly m) {t t' : σ} {r : Except Err α} (h : m t = (r, t')) : t' = t := by
  have := hm.h t; rw [h] at this; exact this

theorem bind_ok_inv {α β : Type} {m : M σ α} {f : α → M σ β} {t t' : σ} {b : β}
    (h : (m >>= f) t = (.ok b, t')) : ∃ a t1, m t = (.ok a, t1) ∧ f a t1 = (.ok b, t') := by
  rcases cases_run m t with ⟨a, t1, h1⟩ | ⟨e, t1, h1⟩
  · rw [bind_ok h1] at h; exact ⟨a, t1, h1, h⟩
  · rw [bind_err h1] at h; simp at h

theorem ok_step {α β : Type} {m : M σ α} {f : α → M σ β} {t t' : σ} {a : α} {Q : Except Err β × σ → Prop}
    (h : m t = (.ok a, t')) (hq : Q (f a t')) : Q ((m >>= f) t) := by rw [bind_ok h]; exact hq

theorem guard_ok {c : Bool} {e : Err} {t t' : σ} {u : Unit} (h : M.guard c e t = (.ok u, t')) : c = true := by
  cases c <;> simp [M.guard] at h ⊢

theorem guard_run {c : Bool} {e : Err} {t : σ} (h : c = true) : M.guard c e t = (.ok (), t) := by simp [M.guard, h]

theorem forEach_cons_ok {β : Type} {f : β → M σ Unit} {x : β} {xs : List β} {t t1 : σ} {u : Unit}
    (h : f x t = (.ok u, t1)) : M.forEach (x :: xs) f t = M.forEach xs f t1 := by
  show (M.bind (f x) fun _ => M.forEach xs f) t = _
  rw [bind_apply, h]

theorem forEach_cons_err {β : Type} {f : β → M σ Unit} {x : β} {xs : List β} {t t1 : σ} {e : Err}
    (h : f x t = (.error e, t1)) : M.forEach (x :: xs) f t = (.error e, t1) := by
  show (M.bind (f x) fun _ => M.forEach xs f) t = _
  rw [bind_apply, h]

theorem forEach_map {β γ : Type} (g : β → γ) (f : γ → M σ Unit) (l : List β) :
    M.forEach (l.map g) f = M.forEach l (fun b => f (g b)) := by
  induction l with
  | nil => rfl
  | cons x xs ih => simp only [List.map_cons, M.forEach, ih]

theorem forEach_ro_ok {β : Type} {f : β → M σ Unit} (hf : ∀ b, ReadOnly (f b)) {l : List β} {t t' : σ} {u : Unit}
    (h : M.forEach l f t = (.ok u, t')) : ∀ b ∈ l, f b t = (.ok (), t) := by
  induction l with
  | nil => intro b hb; cases hb
  | cons x xs ih =>
    intro b hb
    have hx := (hf x).h t
    rcases cases_run (f x) t with ⟨a, s', hr⟩ | ⟨e, s', hr⟩
    · rw [hr] at hx; simp at hx; subst hx
      rw [forEach_cons_ok hr] at h
      rcases List.mem_cons.mp hb with rfl | hb'
      · exact hr
      · exact ih h b hb'
    · rw [forEach_cons_err hr] at h; simp at h

theorem forEach_ro_run {β : Type} {f : β → M σ Unit} {l : List β} {t : σ} (h : ∀ b ∈ l, f b t = (.ok (), t)) :
    M.forEach l f t = (.ok (), t) := by
  induction l with
  | nil => rfl
  | cons x xs ih =>
    rw [forEach_cons_ok (h x (List.mem_cons_self ..))]
    exact ih (fun b hb => h b (List.mem_cons_of_mem _ hb))

theorem mapM'_run {β γ : Type} {f : β → M σ γ} {P : γ → Prop} {s : σ} :
    ∀ (l : List β), (∀ b ∈ l, ∃ o, f b s = (.ok o, s) ∧ P o) →
      ∃ out, M.mapM' f l s = (.ok out, s) ∧ ∀ r ∈ out, P r := by
  intro l
  induction l with
  | nil => intro _; exact ⟨[], rfl, fun r hr => by cases hr⟩
  | cons x xs ih =>
    intro h
    obtain ⟨o, ho, hP⟩ := h x (List.mem_cons_self ..)
    obtain ⟨ys, hys, hPys⟩ := ih (fun b hb => h b (List.mem_cons_of_mem _ hb))
    refine ⟨o :: ys, ?_, ?_⟩
    · simp only [M.mapM', bind_apply, ho, hys, pure_apply]
    · intro r hr
      rcases List.mem_cons.mp hr with rfl | hr'
      · exact hP
      · exact hPys r hr'

theorem filterMapM'_run {β γ : Type} {f : β → M σ (Option γ)} {P : γ → Prop} {s : σ} :
    ∀ (l : List β), (∀ b ∈ l, ∃ o, f b s = (.ok o, s) ∧ ∀ r, o = some r → P r) →
      ∃ out, M.filterMapM' f l s = (.ok out, s) ∧ ∀ r ∈ out, P r := by
  intro l
  induction l with
  | nil => intro _; exact ⟨[], rfl, fun r hr => by cases hr⟩
  | cons x xs ih =>
    intro h
    obtain ⟨o, ho, hP⟩ := h x (List.mem_cons_self ..)
    obtain ⟨ys, hys, hPys⟩ := ih (fun b hb => h b (List.mem_cons_of_mem _ hb))
    cases o with
    | none => exact ⟨ys, by simp only [M.filterMapM', bind_apply, ho, hys, pure_apply], hPys⟩
    | some v =>
      refine ⟨v :: ys, by simp only [M.filterMapM', bind_apply, ho, hys, pure_apply], ?_⟩
      intro r hr
      rcases List.mem_cons.mp hr with rfl | hr'
      · exact hP _ rfl
      · exact hPys r hr'

theorem state_after_ro {P : σ → Prop} {α β : Type} {m : M σ α} {f : α → M σ β} {s : σ} (hm : ReadOnly m) (h : P s)
    (hok : ∀ a, m s = (.ok a, s) → P (f a s).2) : P ((m >>= f) s).2 :=
  hm.step (Q := fun r => P r.2) (fun _ => h) hok

theorem state_after_bind {α β : Type} (m : M σ α) (g : α → M σ β) (hg : ∀ a s, (g a s).2 = s) (s : σ) :
    ((m >>= g) s).2 = (m s).2 := by
  rcases cases_run m s with ⟨a, s', h⟩ | ⟨e, s', h⟩
  · rw [bind_ok h, h]; exact hg a s'
  · rw [bind_err h, h]

theorem ro_ok_inv {α β : Type} {m : M σ α} {f : α → M σ β} {s s' : σ} {b : β} (hm : ReadOnly m)
    (h : (m >>= f) s = (.ok b, s')) : ∃ a, m s = (.ok a, s) ∧ f a s = (.ok b, s') := by
  obtain ⟨a, t, h1, h2⟩ := bind_ok_inv h
  have := ro_run hm h1; subst this
  exact ⟨a, h1, h2⟩

theorem tryCatch_ok_inv {α : Type} {m : M σ α} {p : Err → Bool} {hd : Err → M σ α} {s s1 : σ} {a : α}
    (hh : ∀ e t b t', hd e t ≠ (.ok b, t')) (h : M.tryCatch m p hd s = (.ok a, s1)) : m s = (.ok a, s1) := by
  unfold M.tryCatch at h
  rcases cases_run m s with ⟨x, t, hm⟩ | ⟨e, t, hm⟩
  · rw [hm] at h ⊢; exact h
  · rw [hm] at h
    simp only at h
    split at h
    · exact absurd h (hh e t a s1)
    · simp at h

theorem bind_raise_failed {α β : Type} (m : M σ α) (e : Err) (t : σ) :
    ∃ e' t', (m >>= fun _ => (raise e : M σ β)) t = (.error e', t') := by
  rcases cases_run m t with ⟨x, u, hm⟩ | ⟨e', u, hm⟩
  · exact ⟨e, u, by rw [bind_ok hm]; rfl⟩
  · exact ⟨e', u, bind_err hm⟩

theorem bind_raise_ne_ok {α β : Type} (m : M σ α) (e : Err) (t : σ) (b : β) (t' : σ) :
    (m >>= fun _ => (raise e : M σ β)) t ≠ (.ok b, t') := by
  obtain ⟨e', u, h⟩ := bind_raise_failed (β := β) m e t
  rw [h]; simp

theorem tryCatch_state {P : σ → Prop} {α : Type} {m : M σ α} {p : Err → Bool} {hd : Err → M σ α} {s : σ}
    (hm : P (m s).2) (hh : ∀ e, Preserves P (hd e)) : P (M.tryCatch m p hd s).2 := by
  unfold M.tryCatch
  rcases cases_run m s with ⟨x, t, h⟩ | ⟨e, t, h⟩
  · rw [h] at hm ⊢; exact hm
  · rw [h] at hm ⊢
    simp only
    split
    · exact (hh e).h _ hm
    · exact hm

theorem ok_of_not_failed {α : Type} {m : M σ α} {s : σ} (h : ¬ failed (m s)) : ∃ a s', m s = (.ok a, s') := by
  rcases cases_run m s with ⟨a, s', hm⟩ | ⟨e, s', hm⟩
  · exact ⟨a, s', hm⟩
  · exact absurd (by rw [hm]; simp) h

theorem mapM'_singleton {β γ : Type} {f : β → M σ γ} {x : β} {y : γ} {s : σ} (h : f x s = (.ok y, s)) :
    M.mapM' f [x] s = (.ok [y], s) := by
  simp only [M.mapM', bind_apply, h, pure_apply]

/-- running past a `mapM'` / `filterMapM'` whose body only reads and returns on every element (the body is read off the goal) -/
theorem mapM'_step {β γ δ : Type} {f : β → M σ γ} {g : List γ → M σ δ} {P : γ → Prop} {s : σ} {Q : Except Err δ × σ → Prop}
    (l : List β) (h : ∀ b ∈ l, ∃ o, f b s = (.ok o, s) ∧ P o) (hk : ∀ out, (∀ r ∈ out, P r) → Q (g out s)) :
    Q ((M.mapM' f l >>= g) s) := by
  obtain ⟨out, h1, h2⟩ := mapM'_run l h
  rw [bind_ok h1]; exact hk out h2

theorem filterMapM'_step {β γ δ : Type} {f : β → M σ (Option γ)} {g : List γ → M σ δ} {P : γ → Prop} {s : σ}
    {Q : Except Err δ × σ → Prop} (l : List β) (h : ∀ b ∈ l, ∃ o, f b s = (.ok o, s) ∧ ∀ r, o = some r → P r)
    (hk : ∀ out, (∀ r ∈ out, P r) → Q (g out s)) : Q ((M.filterMapM' f l >>= g) s) := by
  obtain ⟨out, h1, h2⟩ := filterMapM'_run l h
  rw [bind_ok h1]; exact hk out h2

theorem read_bind {β : Type} (f : σ → α) (g : α → M σ β) (t : σ) : (read f >>= g) t = g (f t) t := rfl

end M
end FimVerif
