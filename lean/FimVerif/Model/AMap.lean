/-!
# AMap — association lists with Python `dict` behaviour (C04/C05)

A property dictionary is an insertion-ordered list of `(key, value)` pairs.  `set` overwrites the
first binding in place or appends (what `d[k] = v` does), `erase` removes every binding of the key
(`d.pop(k)`), `update` folds `set` over another dictionary (`d.update(e)`).  Core only (no Mathlib).
-/
namespace FimVerif.AMap

variable {α : Type}

def get (k : String) : List (String × α) → Option α
  | [] => none
  | p :: m => if p.1 = k then some p.2 else get k m

def set (k : String) (v : α) : List (String × α) → List (String × α)
  | [] => [(k, v)]
  | p :: m => if p.1 = k then (k, v) :: m else p :: set k v m

def erase (k : String) : List (String × α) → List (String × α)
  | [] => []
  | p :: m => if p.1 = k then erase k m else p :: erase k m

def has (k : String) (m : List (String × α)) : Bool := (get k m).isSome

/-- `m.update(upd)` -/
def update (m upd : List (String × α)) : List (String × α) :=
  upd.foldl (fun acc p => set p.1 p.2 acc) m

def keys (m : List (String × α)) : List String := m.map (·.1)

theorem get_set_eq (k : String) (v : α) (m : List (String × α)) : get k (set k v m) = some v := by
  induction m with
  | nil => simp [set, get]
  | cons p m ih => by_cases h : p.1 = k <;> simp [set, get, h, ih]

theorem get_set_ne (k k' : String) (v : α) (m : List (String × α)) (h : k' ≠ k) :
    get k' (set k v m) = get k' m := by
  induction m with
  | nil => simp [set, get, h.symm]
  | cons p m ih =>
    by_cases hp : p.1 = k
    · simp [set, get, hp, h.symm]
    · simp [set, get, hp, ih]

theorem get_erase_eq (k : String) (m : List (String × α)) : get k (erase k m) = none := by
  induction m with
  | nil => rfl
  | cons p m ih => by_cases h : p.1 = k <;> simp [erase, get, h, ih]

theorem get_erase_ne (k k' : String) (m : List (String × α)) (h : k' ≠ k) :
    get k' (erase k m) = get k' m := by
  induction m with
  | nil => rfl
  | cons p m ih =>
    by_cases hp : p.1 = k
    · simp [erase, get, hp, h.symm, ih]
    · simp [erase, get, hp, ih]

theorem update_cons (m : List (String × α)) (p : String × α) (upd : List (String × α)) :
    update m (p :: upd) = update (set p.1 p.2 m) upd := rfl

theorem erase_of_get_none (k : String) (m : List (String × α)) (h : get k m = none) : erase k m = m := by
  induction m with
  | nil => rfl
  | cons p m ih =>
    by_cases hp : p.1 = k
    · simp [get, hp] at h
    · simp only [get, hp, if_false] at h
      simp [erase, hp, ih h]

/-- erasing a key commutes with setting another key -/
theorem erase_set_ne (k k' : String) (v : α) (m : List (String × α)) (h : k' ≠ k) :
    erase k' (set k v m) = set k v (erase k' m) := by
  induction m with
  | nil => grind [set, erase]
  | cons p m ih => grind [set, erase]

/-- erasing the key just set: the binding disappears whatever it was -/
theorem erase_set_eq (k : String) (v : α) (m : List (String × α)) :
    erase k (set k v m) = erase k m := by
  induction m with
  | nil => simp [set, erase]
  | cons p m ih => by_cases hp : p.1 = k <;> simp [set, erase, hp, ih]

theorem erase_erase_comm (k k' : String) (m : List (String × α)) :
    erase k (erase k' m) = erase k' (erase k m) := by
  induction m with
  | nil => rfl
  | cons p m ih => grind [erase]

theorem get_eq_none_iff (k : String) (m : List (String × α)) : get k m = none ↔ k ∉ keys m := by
  induction m with
  | nil => simp [get, keys]
  | cons p m ih => grind [get, keys]

theorem has_eq_false_iff (k : String) (m : List (String × α)) : has k m = false ↔ k ∉ keys m := by
  rw [← get_eq_none_iff]
  simp [has]

theorem mem_keys_of_has (k : String) (m : List (String × α)) (h : has k m = true) : k ∈ keys m :=
  Decidable.byContradiction fun hn => by simp [(has_eq_false_iff k m).2 hn] at h

theorem get_update_of_not_has (k : String) (m upd : List (String × α)) (h : has k upd = false) :
    get k (update m upd) = get k m := by
  rw [has_eq_false_iff] at h
  induction upd generalizing m with
  | nil => rfl
  | cons p upd ih =>
    simp only [keys, List.map_cons, List.mem_cons, not_or] at h
    rw [update_cons, ih _ h.2, get_set_ne _ _ _ _ h.1]

theorem erase_update_of_not_has (k : String) (m upd : List (String × α)) (h : has k upd = false) :
    erase k (update m upd) = update (erase k m) upd := by
  rw [has_eq_false_iff] at h
  induction upd generalizing m with
  | nil => rfl
  | cons p upd ih =>
    simp only [keys, List.map_cons, List.mem_cons, not_or] at h
    rw [update_cons, update_cons, ih _ h.2, erase_set_ne _ _ _ _ h.1]

theorem has_set (k k' : String) (v : α) (m : List (String × α)) (h : has k' m = true) : has k' (set k v m) = true := by
  by_cases e : k' = k
  · subst e; simp [has, get_set_eq]
  · simpa [has, get_set_ne _ _ _ _ e] using h

theorem has_update_of_has (k : String) (m upd : List (String × α)) (h : has k m = true) : has k (update m upd) = true := by
  induction upd generalizing m with
  | nil => exact h
  | cons x upd ih => rw [update_cons]; exact ih _ (has_set x.1 k x.2 m h)

theorem has_update_of_mem (k : String) (m upd : List (String × α)) (h : k ∈ keys upd) : has k (update m upd) = true := by
  induction upd generalizing m with
  | nil => simp [keys] at h
  | cons x upd ih =>
    rw [update_cons]
    simp only [keys, List.map_cons, List.mem_cons] at h
    rcases h with h | h
    · apply has_update_of_has
      subst h; simp [has, get_set_eq]
    · exact ih _ (by simpa [keys] using h)

theorem get_update_of_mem (k : String) (m upd : List (String × α)) (hk : k ∈ keys upd) :
    get k (update m upd) = get k (update [] upd) := by
  induction upd generalizing m with
  | nil => simp [keys] at hk
  | cons x upd ih =>
    rw [update_cons, update_cons]
    cases hp : has k upd with
    | true => rw [ih _ (mem_keys_of_has _ _ hp), ih (set x.1 x.2 []) (mem_keys_of_has _ _ hp)]
    | false =>
      rw [get_update_of_not_has _ _ _ hp, get_update_of_not_has _ _ _ hp]
      simp only [keys, List.map_cons, List.mem_cons] at hk
      rcases hk with hk | hk
      · subst hk; rw [get_set_eq, get_set_eq]
      · exact absurd hk ((has_eq_false_iff _ _).1 hp)

theorem get_update_has (k : String) (m upd : List (String × α)) :
    get k (update m upd) = if has k upd then get k (update [] upd) else get k m := by
  cases h : has k upd with
  | true => exact get_update_of_mem _ _ _ (mem_keys_of_has _ _ h)
  | false => exact get_update_of_not_has _ _ _ h

theorem get_map_val (f : String → α → α) (k : String) (m : List (String × α)) :
    get k (m.map fun p => (p.1, f p.1 p.2)) = (get k m).map (f k) := by
  induction m with
  | nil => rfl
  | cons p m ih =>
    by_cases e : p.1 = k
    · simp [get, e]
    · simp [get, e, ih]

theorem keys_map_val (f : String → α → α) (m : List (String × α)) : keys (m.map fun p => (p.1, f p.1 p.2)) = keys m := by
  simp [keys, Function.comp_def]

end FimVerif.AMap
