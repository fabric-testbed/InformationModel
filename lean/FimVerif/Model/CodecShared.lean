/-!
The validator helper the typed-tuple classes share (one object per process, one type table per category).
`Codec.ttNew / ttOf` take the verdict on a type name as membership in the table of the tuple's OWN category; this file
models a validator that additionally remembers earlier verdicts, under a key computed from (category, name), and the
histories of lookups - in any categories, in any order - that one process makes.
-/
namespace FimVerif.CodecShared

variable {γ ν κ : Type} [DecidableEq ν] [DecidableEq κ]

/-- the pure verdict: membership in the category's own table (what `ttNew` / `ttOf` test) -/
def verdict (tbl : γ → List ν) (cat : γ) (t : ν) : Bool := decide (t ∈ tbl cat)

/-- one lookup of a validator that remembers verdicts under `key cat t`: the verdict and the memo afterwards -/
def lookup (key : γ → ν → κ) (tbl : γ → List ν) (memo : List (κ × Bool)) (cat : γ) (t : ν) : Bool × List (κ × Bool) :=
  match memo.find? (fun p => decide (p.1 = key cat t)) with
  | some p => (p.2, memo)
  | none => (verdict tbl cat t, (key cat t, verdict tbl cat t) :: memo)

/-- the verdicts of a whole history of lookups, starting from the memo `m` -/
def runLookups (key : γ → ν → κ) (tbl : γ → List ν) : List (κ × Bool) → List (γ × ν) → List Bool
  | _, [] => []
  | m, (c, t) :: qs => (lookup key tbl m c t).1 :: runLookups key tbl (lookup key tbl m c t).2 qs

/-- every remembered verdict is the pure verdict of every (category, name) filed under its key -/
def MemoOK (key : γ → ν → κ) (tbl : γ → List ν) (m : List (κ × Bool)) : Prop :=
  ∀ p ∈ m, ∀ c t, p.1 = key c t → p.2 = verdict tbl c t

theorem lookup_ok (key : γ → ν → κ) (tbl : γ → List ν)
    (hinj : ∀ c t c' t', key c t = key c' t' → c = c' ∧ t = t')
    (m : List (κ × Bool)) (hm : MemoOK key tbl m) (c : γ) (t : ν) :
    (lookup key tbl m c t).1 = verdict tbl c t ∧ MemoOK key tbl (lookup key tbl m c t).2 := by
  unfold lookup
  cases hf : m.find? (fun p => decide (p.1 = key c t)) with
  | some p =>
    have hp : p ∈ m := List.mem_of_find?_eq_some hf
    have hk : p.1 = key c t := by simpa using List.find?_some hf
    exact ⟨hm p hp c t hk, hm⟩
  | none =>
    refine ⟨rfl, ?_⟩
    intro p hp c' t' hk
    rcases List.mem_cons.mp hp with h | h
    · subst h
      obtain ⟨h1, h2⟩ := hinj c t c' t' hk
      subst h1; subst h2; rfl
    · exact hm p h c' t' hk

theorem runLookups_ok (key : γ → ν → κ) (tbl : γ → List ν)
    (hinj : ∀ c t c' t', key c t = key c' t' → c = c' ∧ t = t')
    (qs : List (γ × ν)) (m : List (κ × Bool)) (hm : MemoOK key tbl m) :
    runLookups key tbl m qs = qs.map (fun q => verdict tbl q.1 q.2) := by
  induction qs generalizing m with
  | nil => rfl
  | cons q qs ih =>
    obtain ⟨c, t⟩ := q
    have h := lookup_ok key tbl hinj m hm c t
    simp only [runLookups, List.map_cons, h.1, ih _ h.2]

end FimVerif.CodecShared
