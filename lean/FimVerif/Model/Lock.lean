/-!
# C20, model A — control-flow skeleton of a store method, its paths, and a verified
abstract interpreter over finite monitors.

`Micro` is the alphabet shared by model A (paths of one method) and model B
(`Model/Sched.lean`, interleavings of several threads): lock operations and the few kinds
of access to the shared state of the two graph stores (`start_id` / `graph_node_ids[..]`,
`graphs`).  A method body is translated (gen/lockcfg.py) into a `Stmt`; `Exec s tr o` says
that `tr` is the sequence of micro-instructions executed along one path of `s` that ends
with outcome `o` (fall through, `return`, exception).  Every primitive flagged `mayRaise`
can raise before or after taking effect, every branch can go either way, every loop runs any
number of times.

`ai δ s S` runs a monitor automaton `δ` over *all* paths of `s` at once (collecting
semantics on lists of monitor states); `ai_sound` (`Proofs/Lemmas/C20Lock.lean`) is its soundness
theorem.
-/
namespace FimVerif.Lock

/-- micro-instructions; parameters are counters / graphs / sizes (symbolic codes in the
generated skeletons, concrete numbers in the schedules replayed by the driver) -/
inductive Micro where
  | acq | rel
  | loc                         -- thread-local work, or work on objects the thread owns
  | rdg                         -- any other access to the shared graph structure
  | read (c : Nat)              -- reg := ctr c
  | bump (c k : Nat)            -- ctr c := ctr c + k           (one source line)
  | bumpReg (c k : Nat)         -- ctr c := reg + k             (`self.start_id = new_id + 1` with `new_id` read earlier)
  | add (c g k : Nat)           -- insert ids reg .. reg+k-1 into id space c, owner g
  | addFrom (c g lo k : Nat)    -- insert ids lo .. lo+k-1 into id space c, owner g
  | setCtr (c v : Nat)          -- ctr c := v
  | del (g : Nat)               -- remove every node owned by g
  | delSpace (c : Nat)          -- remove every node of id space c
  | delAll
  | ctor (weak : Bool)          -- construction of a store shell (importer / graph object); `weak` = its creation guard
                                -- is a truthiness test on a store class that can be falsy (`if not X.storage_instance`
                                -- with `__len__`/`__bool__` on the store): an existing but empty store is then replaced
  | reinit                      -- `self.__init__(...)` / `self.lock = ...` inside a method: fresh containers, fresh counters
                                -- and a NEW lock object (free, whoever held the old one)
  -- the atoms the instructions above consist of (one attribute / dictionary primitive of CPython each), see `FineM`
  | ld (c : Nat)                -- tmp := ctr c                 (first half of `bump`)
  | st (c k : Nat)              -- ctr c := tmp + k             (second half of `bump`)
  | ins (c g off : Nat)         -- insert the single id reg+off into id space c, owner g   (one step of `add`)
  | rmOne (g : Nat)             -- remove one node owned by g   (one step of `del`)
  deriving DecidableEq, Repr, Inhabited

inductive Stmt where
  | skip
  | prim (m : Micro) (mayRaise : Bool)
  | ret
  | raise
  | seq (a b : Stmt)
  | ite (a b : Stmt)
  | loop (body : Stmt)
  | tryFinally (body fin : Stmt)
  | tryExcept (body handler : Stmt)
  | call (body : Stmt)          -- call of a helper method: its `return` resumes the caller
  deriving Repr, Inhabited

abbrev Stmt.acquire : Stmt := .prim .acq false
abbrev Stmt.release : Stmt := .prim .rel false
/-- a statement that touches no shared state -/
abbrev Stmt.act (mayRaise : Bool) : Stmt := .prim .loc mayRaise

inductive Out where
  | norm | ret | exc
  deriving DecidableEq, Repr

/-- path semantics -/
inductive Exec : Stmt → List Micro → Out → Prop where
  | skip : Exec .skip [] .norm
  | primOk (m b) : Exec (.prim m b) [m] .norm
  | primRaiseBefore (m) : Exec (.prim m true) [] .exc
  | primRaiseAfter (m) : Exec (.prim m true) [m] .exc
  | ret : Exec .ret [] .ret
  | raise : Exec .raise [] .exc
  | seqNorm {a b t1 t2 o} : Exec a t1 .norm → Exec b t2 o → Exec (.seq a b) (t1 ++ t2) o
  | seqAbort {a b t1 o} : Exec a t1 o → o ≠ .norm → Exec (.seq a b) t1 o
  | iteL {a b t o} : Exec a t o → Exec (.ite a b) t o
  | iteR {a b t o} : Exec b t o → Exec (.ite a b) t o
  | loopDone {b} : Exec (.loop b) [] .norm
  | loopStep {b t1 t2 o} : Exec b t1 .norm → Exec (.loop b) t2 o → Exec (.loop b) (t1 ++ t2) o
  | loopAbort {b t1 o} : Exec b t1 o → o ≠ .norm → Exec (.loop b) t1 o
  | finNorm {b f t1 t2 o} : Exec b t1 o → Exec f t2 .norm → Exec (.tryFinally b f) (t1 ++ t2) o
  | finOver {b f t1 t2 o o2} : Exec b t1 o → Exec f t2 o2 → o2 ≠ .norm →
      Exec (.tryFinally b f) (t1 ++ t2) o2
  | excPass {b h t o} : Exec b t o → o ≠ .exc → Exec (.tryExcept b h) t o
  | excCatch {b h t1 t2 o} : Exec b t1 .exc → Exec h t2 o → Exec (.tryExcept b h) (t1 ++ t2) o
  | callNorm {b t} : Exec b t .norm → Exec (.call b) t .norm
  | callRet {b t} : Exec b t .ret → Exec (.call b) t .norm
  | callExc {b t} : Exec b t .exc → Exec (.call b) t .exc

/-! ## monitors -/

section Monitor
variable {Q : Type}

def runQ (δ : Q → Micro → Q) (q : Q) (tr : List Micro) : Q := tr.foldl δ q

@[simp] theorem runQ_nil (δ : Q → Micro → Q) (q : Q) : runQ δ q [] = q := rfl
@[simp] theorem runQ_cons (δ : Q → Micro → Q) (q : Q) (m tr) : runQ δ q (m :: tr) = runQ δ (δ q m) tr := rfl
theorem runQ_append (δ : Q → Micro → Q) (q : Q) (a b) : runQ δ q (a ++ b) = runQ δ (runQ δ q a) b := by
  simp [runQ, List.foldl_append]

variable [DecidableEq Q]

def ins (x : Q) (l : List Q) : List Q := if x ∈ l then l else x :: l
def union (a b : List Q) : List Q := a.foldr ins b

theorem mem_ins {x y : Q} {l : List Q} : y ∈ ins x l ↔ y = x ∨ y ∈ l := by
  unfold ins
  split
  · rename_i hx
    exact ⟨Or.inr, fun h => h.elim (fun e => e ▸ hx) id⟩
  · exact List.mem_cons

theorem mem_union {x : Q} {a b : List Q} : x ∈ union a b ↔ x ∈ a ∨ x ∈ b := by
  induction a with
  | nil => simp [union]
  | cons y a ih =>
    have : union (y :: a) b = ins y (union a b) := rfl
    rw [this, mem_ins, ih]; simp [or_assoc]

structure Res (Q : Type) where
  norm : List Q
  ret : List Q
  exc : List Q

def Res.get (r : Res Q) : Out → List Q
  | .norm => r.norm
  | .ret => r.ret
  | .exc => r.exc

/-- candidate loop invariant: iterate `X ↦ X ∪ step X` until the size is stable or the fuel runs out
(the result is *checked* by `ai`, so nothing has to be proved about this function) -/
def loopInv (step : List Q → Option (List Q)) : Nat → List Q → Option (List Q)
  | 0, S => some S
  | n + 1, S =>
    match step S with
    | none => none
    | some N =>
      let S' := union N S
      if S'.length = S.length then some S else loopInv step n S'

def subset (a b : List Q) : Bool := a.all (fun x => decide (x ∈ b))

theorem subset_mem {a b : List Q} (h : subset a b = true) {x : Q} (hx : x ∈ a) : x ∈ b := by
  simp only [subset, List.all_eq_true, decide_eq_true_eq] at h; exact h x hx

/-- collecting abstract interpreter: the monitor states reachable at each kind of exit of `s`
when it is entered in one of the states `S`.  `none` = no loop invariant found. -/
def ai (δ : Q → Micro → Q) : Stmt → List Q → Option (Res Q)
  | .skip, S => some ⟨S, [], []⟩
  | .prim m b, S =>
    let S' := union (S.map (δ · m)) []
    some ⟨S', [], if b then union S S' else []⟩
  | .ret, S => some ⟨[], S, []⟩
  | .raise, S => some ⟨[], [], S⟩
  | .seq a b, S =>
    match ai δ a S with
    | none => none
    | some ra =>
      match ai δ b ra.norm with
      | none => none
      | some rb => some ⟨rb.norm, ra.ret ++ rb.ret, ra.exc ++ rb.exc⟩
  | .ite a b, S =>
    match ai δ a S, ai δ b S with
    | some ra, some rb => some ⟨union ra.norm rb.norm, union ra.ret rb.ret, union ra.exc rb.exc⟩
    | _, _ => none
  | .loop b, S =>
    match loopInv (fun X => (ai δ b X).map (·.norm)) 24 S with
    | none => none
    | some I =>
      match ai δ b I with
      | none => none
      | some r => if subset S I && subset r.norm I then some ⟨I, r.ret, r.exc⟩ else none
  | .tryFinally b f, S =>
    match ai δ b S with
    | none => none
    | some rb =>
      match ai δ f rb.norm, ai δ f rb.ret, ai δ f rb.exc with
      | some fn, some fr, some fe =>
        some ⟨fn.norm, fr.norm ++ fn.ret ++ fr.ret ++ fe.ret, fe.norm ++ fn.exc ++ fr.exc ++ fe.exc⟩
      | _, _, _ => none
  | .tryExcept b h, S =>
    match ai δ b S with
    | none => none
    | some rb =>
      match ai δ h rb.exc with
      | none => none
      | some rh => some ⟨rb.norm ++ rh.norm, rb.ret ++ rh.ret, rh.exc⟩
  | .call b, S =>
    match ai δ b S with
    | none => none
    | some rb => some ⟨rb.norm ++ rb.ret, [], rb.exc⟩

/-- every exit state of every path satisfies `good` -/
def allExits (δ : Q → Micro → Q) (good : Q → Bool) (q0 : Q) (s : Stmt) : Bool :=
  match ai δ s [q0] with
  | none => false
  | some r => r.norm.all good && r.ret.all good && r.exc.all good

end Monitor

/-! ## monitor 1: the lock itself -/

/-- `none` = lock error (release of an unheld lock, or acquire of a lock the caller holds);
`some (held, n)` = currently held?, number of releases so far -/
abbrev LockSt := Option (Bool × Nat)

def lockStep (cap : Nat) : LockSt → Micro → LockSt
  | none, _ => none
  | some (h, n), .acq => if h then none else some (true, n)
  | some (h, n), .rel => if h then some (false, min (n + 1) cap) else none
  | some x, _ => some x

/-- concrete lock monitor: exact release count -/
def lockStepC : LockSt → Micro → LockSt
  | none, _ => none
  | some (h, n), .acq => if h then none else some (true, n)
  | some (h, n), .rel => if h then some (false, n + 1) else none
  | some x, _ => some x

/-- state of the lock after the trace `tr`, started released with zero releases -/
def lockRun (tr : List Micro) : LockSt := runQ lockStepC (some (false, 0)) tr

/-- the decidable per-method obligation: on every path the lock ends released, was released
exactly once, never released while not held, never re-acquired while held -/
def balanced (s : Stmt) : Bool :=
  allExits (lockStep 2) (fun q => q == some (false, 1)) (some (false, 0)) s

/-- a method that must not touch the lock at all (helpers called with the lock held) -/
def lockNeutral (s : Stmt) : Bool :=
  allExits (lockStep 2) (fun q => q == some (true, 0)) (some (true, 0)) s
  && allExits (lockStep 2) (fun q => q == some (false, 0)) (some (false, 0)) s


/-! ## executable path membership (used by the driver to check that an observed trace of the real
method is one of the paths of its generated skeleton) -/

def loopC (body : List Micro → List (List Micro × Out)) : Nat → List Micro → List (List Micro × Out)
  | 0, tr => [(tr, .norm)]
  | n + 1, tr =>
    (tr, .norm) :: (body tr).flatMap fun (r, o) =>
      if o = .norm then (if r.length < tr.length then loopC body n r else []) else [(r, o)]

/-- all ways `s` can consume a prefix of `tr`: (rest, outcome) -/
def consume : Stmt → List Micro → List (List Micro × Out)
  | .skip, tr => [(tr, .norm)]
  | .prim .loc b, tr => (tr, .norm) :: (if b then [(tr, .exc)] else [])   -- thread-local work is not observed
  | .prim .rdg b, tr =>         -- a read of the graph structure is observed when it touches a node dictionary, not otherwise
    (match tr with
      | .rdg :: rest => (rest, .norm) :: (if b then [(rest, .exc)] else [])
      | _ => []) ++ (tr, .norm) :: (if b then [(tr, .exc)] else [])
  | .prim m b, tr =>
    (match tr with
      | x :: rest => if x = m then (rest, .norm) :: (if b then [(rest, .exc)] else []) else []
      | [] => []) ++ (if b then [(tr, .exc)] else [])
  | .ret, tr => [(tr, .ret)]
  | .raise, tr => [(tr, .exc)]
  | .seq a b, tr => (consume a tr).flatMap fun (r, o) => if o = .norm then consume b r else [(r, o)]
  | .ite a b, tr => consume a tr ++ consume b tr
  | .loop b, tr => loopC (consume b) (tr.length + 1) tr
  | .tryFinally b f, tr =>
    (consume b tr).flatMap fun (r, o) => (consume f r).map fun (r2, o2) => (r2, if o2 = .norm then o else o2)
  | .tryExcept b h, tr => (consume b tr).flatMap fun (r, o) => if o = .exc then consume h r else [(r, o)]
  | .call b, tr => (consume b tr).map fun (r, o) => (r, if o = .ret then .norm else o)

def isPath (s : Stmt) (tr : List Micro) (o : Out) : Bool :=
  (consume s tr).any fun (r, o') => r.isEmpty && o' == o

/-! ## instantiating the symbolic parameters of a generated skeleton

gen/lockcfg.py writes counter 0 for `start_id` and counter 1 for `graph_node_ids[graph_id]`, graph 1 for the `graph_id`
argument, size `symK` for `len(temp_graph)` and `symK + 1` for `len(temp_graph) + 1`.  A call on graph `g` importing `k`
nodes runs the skeleton with these replaced; an insertion of zero nodes is at most a read. -/

def symK : Nat := 100

def instCtr (g c : Nat) : Nat := if c = 0 then 0 else g
def instSize (k s : Nat) : Nat := if s = symK then k else if s = symK + 1 then k + 1 else s

def instMicro (g k : Nat) : Micro → Micro
  | .read c => .read (instCtr g c)
  | .bump c n => .bump (instCtr g c) (instSize k n)
  | .bumpReg c n => .bumpReg (instCtr g c) (instSize k n)
  | .add c _ n => if instSize k n = 0 then .rdg else .add (instCtr g c) g (instSize k n)
  | .addFrom c _ lo n => if instSize k n = 0 then .rdg else .addFrom (instCtr g c) g lo (instSize k n)
  | .setCtr c v => .setCtr (instCtr g c) (instSize k v)
  | .del _ => .del g
  | .delSpace c => .delSpace (instCtr g c)
  | m => m

def instStmt (g k : Nat) : Stmt → Stmt
  | .prim m b => .prim (instMicro g k m) b
  | .seq a b => .seq (instStmt g k a) (instStmt g k b)
  | .ite a b => .ite (instStmt g k a) (instStmt g k b)
  | .loop b => .loop (instStmt g k b)
  | .tryFinally b f => .tryFinally (instStmt g k b) (instStmt g k f)
  | .tryExcept b h => .tryExcept (instStmt g k b) (instStmt g k h)
  | .call b => .call (instStmt g k b)
  | s => s

/-! ## monitor 2: allocation discipline

Shared state (`ctr`, the node set) is written only with the lock held, and each locked region
uses one of the allocation idioms that exist in the two stores:

* `read c ; bump c k ; add c _ k`  or  `read c ; add c _ k ; bump c k`  (ids from the counter; `bumpReg c k`, which
  writes `reg + k` instead of `ctr c + k`, may stand for `bump c k`: under the lock `reg = ctr c`)
* `delSpace c ; addFrom c _ lo k ; setCtr c (lo+k)`                     (id space rebuilt from scratch)

plus deletions and plain reads.  `out` = lock not held by this thread. -/
inductive DQ where
  | out | idle
  | rd (c : Nat) | rdB (c k : Nat) | rdA (c k : Nat)
  | clr (c : Nat) | fil (c n : Nat)
  | rdl (c : Nat)               -- `rd c` and the first half of a bump done
  | rdAl (c k : Nat)            -- `rdA c k` and the first half of the bump done
  | rdBp (c k i : Nat)          -- `rdB c k` and `i` of the `k` ids inserted
  | bad
  deriving DecidableEq, Repr, Inhabited

def discStep : DQ → Micro → DQ
  | .bad, _ => .bad
  | .out, .loc => .out
  | .out, .rdg => .out          -- unlocked *reads* of the graph are part of the API (get_graph)
  | .out, .acq => .idle
  | .out, .ctor w => if w then .bad else .out   -- a shell may be constructed any time outside the lock
  | .out, _ => .bad
  | _, .acq => .bad
  | q, .loc => q
  | q, .rdg => q
  | .idle, .rel => .out
  | .rd _, .rel => .out
  | .rdB _ _, .rel => .out
  | .clr _, .rel => .out
  | .idle, .read c => .rd c
  | .idle, .del _ => .idle
  | .idle, .delAll => .idle
  | .idle, .delSpace c => .clr c
  | .rd c, .read c' => if c' = c then .rd c else .bad
  | .rd c, .bump c' k => if c' = c then .rdB c k else .bad
  | .rd c, .bumpReg c' k => if c' = c then .rdB c k else .bad
  | .rd c, .add c' _ k => if c' = c then .rdA c k else .bad
  | .rdB c k, .add c' _ k' => if c' = c ∧ k' = k then .idle else .bad
  | .rdA c k, .bump c' k' => if c' = c ∧ k' = k then .idle else .bad
  | .rdA c k, .bumpReg c' k' => if c' = c ∧ k' = k then .idle else .bad
  | .clr c, .delSpace c' => if c' = c then .clr c else .bad
  | .clr c, .addFrom c' _ lo k => if c' = c then .fil c (lo + k) else .bad
  | .fil c n, .setCtr c' v => if c' = c ∧ v = n then .idle else .bad
  | .fil c n, .addFrom c' _ lo k => if c' = c ∧ n ≤ lo then .fil c (lo + k) else .bad    -- filling goes on above what is there
  -- atoms
  | .rdBp _ _ _, .rel => .out                                    -- an insertion interrupted half-way: the ids are below the counter
  | .idle, .rmOne _ => .idle
  | .rd c, .ld c' => if c' = c then .rdl c else .bad
  | .rdl c, .st c' k => if c' = c then .rdB c k else .bad
  | .rdA c k, .ld c' => if c' = c then .rdAl c k else .bad
  | .rdAl c k, .st c' k' => if c' = c ∧ k' = k then .idle else .bad
  | .rd c, .ins c' _ off => if c' = c ∧ off = 0 then .rdA c 1 else .bad
  | .rdA c j, .ins c' _ off => if c' = c ∧ off = j then .rdA c (j + 1) else .bad
  | .rdB c k, .ins c' _ off => if c' = c ∧ off = 0 ∧ 0 < k then (if k = 1 then .idle else .rdBp c k 1) else .bad
  | .rdBp c k i, .ins c' _ off =>
    if c' = c ∧ off = i ∧ i < k then (if i + 1 = k then .idle else .rdBp c k (i + 1)) else .bad
  | .clr c, .setCtr c' _ => if c' = c then .idle else .bad      -- the id space is empty: any counter value is above every id
  | _, _ => .bad

/-- a whole thread program is accepted: starts and ends outside the lock, never `bad` -/
def accepts (p : List Micro) : Bool := runQ discStep .out p == .out

/-- per-method obligation: every path of the method is an accepted program fragment -/
def disciplined (s : Stmt) : Bool := allExits discStep (fun q => q == .out) .out s

/-- helper called with the lock held (from the `idle` state) and returning there -/
def disciplinedHelper (s : Stmt) : Bool := allExits discStep (fun q => q == .idle) .idle s

end FimVerif.Lock
