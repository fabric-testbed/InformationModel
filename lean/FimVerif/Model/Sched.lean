import FimVerif.Model.Lock
/-!
# C20, model B — threads running store operations under every interleaving

The shared state of a store is its id counters (`start_id` of the shared store is counter 0;
`graph_node_ids[g]` of the per-graph store is counter `g`; both start at 1) and its nodes.
A node is recorded as `(id space, internal id, owning graph)`; the list `nodes` records every
node that was added and not deleted.  The real stores keep nodes in dictionaries keyed by the
internal id, so two live nodes with the same `(space, id)` mean that the second silently
replaced the first: `dictView` is what such a dictionary would contain.

Atomicity.  One step of `step` is one micro-instruction, executed atomically.  The instructions `acq`, `rel`, `read`,
`bumpReg`, `setCtr`, `delSpace`, `delAll`, `ctor`, `reinit` and the atoms `ld`, `st`, `ins`, `rmOne` are each one attribute
load/store or one dictionary primitive of CPython, which the GIL makes atomic; `loc` / `rdg` have no effect on the modelled state.
The composite instructions `bump` (load + store), `add` / `addFrom` with more than one node (one dictionary insertion per
node) and `del` (one dictionary deletion per node) are NOT atomic in CPython: `Proofs/Lemmas/C20Fine.lean` gives their
expansion into atoms (`FineM`) and proves that the discipline monitor accepts the expanded programs, so every theorem about
accepted programs holds with thread switches between atoms as well (`C20.store_threads_safe_atomwise`).

Each thread runs a list of micro-instructions (`Lock.Micro`), one per step; `step t` performs
the next instruction of thread `t` (`none` when `t` is finished or blocked on the lock);
`run` follows an arbitrary schedule, skipping entries whose thread is not enabled.
`threading.Lock` semantics are kept as they are: `release` by *any* thread frees the lock;
releasing a free lock is an error (`RuntimeError` in CPython) recorded in `relErr`.
-/
namespace FimVerif.Sched
open FimVerif.Lock

structure Node where
  space : Nat
  id : Nat
  owner : Nat
  deriving DecidableEq, Repr, Inhabited

structure Shared where
  ctr : Nat → Nat
  nodes : List Node
  /-- identity of the store (and of its lock): incremented when the singleton is replaced by a fresh store -/
  gen : Nat := 0

structure Thread where
  prog : List Micro
  reg : Nat
  /-- second register: the value loaded by the first half of a counter increment -/
  tmp : Nat := 0
  deriving Inhabited

structure Sys where
  lock : Option Nat
  relErr : Bool
  sh : Shared
  thr : Nat → Thread

def upd {α : Type} (f : Nat → α) (i : Nat) (v : α) : Nat → α := fun j => if j = i then v else f j

@[simp] theorem upd_same {α : Type} {f : Nat → α} {i : Nat} {v : α} : upd f i v i = v := by simp [upd]
@[simp] theorem upd_other {α : Type} {f : Nat → α} {i j : Nat} {v : α} (h : j ≠ i) : upd f i v j = f j := by
  simp [upd, h]

/-- insert ids `lo .. lo+k-1` -/
def addIds (c g : Nat) : Nat → Nat → List Node → List Node
  | _, 0, l => l
  | lo, k + 1, l => addIds c g (lo + 1) k (⟨c, lo, g⟩ :: l)

/-- effect of one micro-instruction on the shared state and on the thread's register -/
def effect (m : Micro) (reg : Nat) (sh : Shared) : Shared × Nat :=
  match m with
  | .read c => (sh, sh.ctr c)
  | .bump c k => ({ sh with ctr := upd sh.ctr c (sh.ctr c + k) }, reg)
  | .bumpReg c k => ({ sh with ctr := upd sh.ctr c (reg + k) }, reg)
  | .setCtr c v => ({ sh with ctr := upd sh.ctr c v }, reg)
  | .add c g k => ({ sh with nodes := addIds c g reg k sh.nodes }, reg)
  | .addFrom c g lo k => ({ sh with nodes := addIds c g lo k sh.nodes }, reg)
  | .del g => ({ sh with nodes := sh.nodes.filter (fun n => n.owner != g) }, reg)
  | .delSpace c => ({ sh with nodes := sh.nodes.filter (fun n => n.space != c) }, reg)
  | .delAll => ({ sh with nodes := [] }, reg)
  | .ctor weak =>
    -- the singleton exists from the start; a weak creation guard takes an empty store for "no store yet"
    if weak && sh.nodes.isEmpty then (⟨fun _ => 1, [], sh.gen + 1⟩, reg) else (sh, reg)
  | .reinit => (⟨fun _ => 1, [], sh.gen + 1⟩, reg)
  | .ins c g off => ({ sh with nodes := addIds c g (reg + off) 1 sh.nodes }, reg)
  | .rmOne g => ({ sh with nodes := sh.nodes.eraseP (fun n => n.owner == g) }, reg)
  | _ => (sh, reg)

/-- `effect` extended to the two atoms that use the second register -/
def effectT (m : Micro) (reg tmp : Nat) (sh : Shared) : Shared × Nat × Nat :=
  match m with
  | .ld c => (sh, reg, sh.ctr c)
  | .st c k => ({ sh with ctr := upd sh.ctr c (tmp + k) }, reg, tmp)
  | _ => ((effect m reg sh).1, (effect m reg sh).2, tmp)

def step (t : Nat) (s : Sys) : Option Sys :=
  match (s.thr t).prog with
  | [] => none
  | m :: rest =>
    if m = .acq then
      match s.lock with
      | none => some { s with lock := some t, thr := upd s.thr t ⟨rest, (s.thr t).reg, (s.thr t).tmp⟩ }
      | some _ => none                                   -- blocked
    else if m = .rel then
      match s.lock with
      | none => some { s with relErr := true, thr := upd s.thr t ⟨rest, (s.thr t).reg, (s.thr t).tmp⟩ }
      | some _ => some { s with lock := none, thr := upd s.thr t ⟨rest, (s.thr t).reg, (s.thr t).tmp⟩ }
    else
      let r := effectT m (s.thr t).reg (s.thr t).tmp s.sh
      -- `reinit` installs a new lock object: it is free, whoever holds the old one
      some { s with lock := if m = .reinit then none else s.lock, sh := r.1, thr := upd s.thr t ⟨rest, r.2.1, r.2.2⟩ }

def run : List Nat → Sys → Sys
  | [], s => s
  | t :: ts, s =>
    match step t s with
    | none => run ts s
    | some s' => run ts s'

def initShared : Shared := ⟨fun _ => 1, [], 0⟩

def init (progs : List (List Micro)) : Sys :=
  ⟨none, false, initShared, fun t => ⟨progs.getD t [], 0, 0⟩⟩

def finished (s : Sys) : Prop := ∀ t, (s.thr t).prog = []

/-- executable `finished` for the first `n` threads -/
def finished' (n : Nat) (s : Sys) : Bool := (List.range n).all fun t => (s.thr t).prog.isEmpty

/-- the next lock operation of the remaining program is a release: the thread is inside a locked region -/
def inside : List Micro → Bool
  | [] => false
  | .acq :: _ => false
  | .rel :: _ => true
  | _ :: p => inside p

/-- key of a node in the store's dictionary -/
def Node.key (n : Node) : Nat × Nat := (n.space, n.id)

/-- what a dictionary keyed by `(space, id)` contains after the insertions recorded in `nodes`
(newest first): a later insertion under the same key replaces the earlier node -/
def dictView : List Node → List Node
  | [] => []
  | n :: l => n :: (dictView l).filter (fun m => m.key != n.key)

/-- sum of the sizes of the insertions into graph `g` in a program -/
def addsOf (g : Nat) : List Micro → Nat
  | [] => 0
  | .add _ g' k :: p => (if g' = g then k else 0) + addsOf g p
  | .addFrom _ g' _ k :: p => (if g' = g then k else 0) + addsOf g p
  | .ins _ g' _ :: p => (if g' = g then 1 else 0) + addsOf g p
  | _ :: p => addsOf g p

def isDelete : Micro → Bool
  | .del _ => true
  | .delSpace _ => true
  | .delAll => true
  | .rmOne _ => true
  | .reinit => true
  | _ => false

end FimVerif.Sched
