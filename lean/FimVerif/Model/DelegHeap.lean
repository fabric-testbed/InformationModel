import FimVerif.Model.Deleg

/-!
# Histories on one `Pools` object with object identity (C12)

`Pools.pool_by_id` and `Pools.pools_by_delegation` hold *references* to `Pool` objects: a pool that already sits in the
container can be re-delegated (`set_delegation_id`), completed (`set_pool_details`, `set_defined_on`, `add_defined_for`) or
replaced by another object of the same name (`add_pool`) between two indexing runs, and the index built by an earlier run -
possibly a partial one, left behind by a run that raised on an unfinished pool - aliases the same objects under the keys they
had then.  `Model/Deleg.lean` stores pools by value; this file adds the heap: pools are numbered objects, the container and
the index hold numbers, `view` reads a state as the value-level `Pools` of `Model/Deleg.lean` (what the getters show).
-/

namespace FimVerif.Deleg
open FimVerif.Gen.DelegConsts

variable {D : Type}

structure HPools (D : Type) where
  ty : DType
  /-- every `Pool` object constructed so far, by reference number -/
  heap : List (Pool D)
  /-- `pool_by_id` in insertion order: reference numbers (key = the object's immutable `pool_id`) -/
  byId : List Nat
  /-- `pools_by_delegation`: delegation id (as it was when the run filed the pool) ↦ references -/
  index : Option (List (String × List Nat))

def hEmpty (ty : DType) : HPools D := { ty := ty, heap := [], byId := [], index := none }

/-- what a dangling reference reads as (never happens: references are only made by `hNew`) -/
def nullPool (ty : DType) : Pool D := { ty := ty, pid := "", deleg := none, on_ := none, for_ := [], details := none }

def HPools.deref (s : HPools D) (r : Nat) : Pool D := s.heap.getD r (nullPool s.ty)

def viewIdx (f : Nat → Pool D) (idx : List (String × List Nat)) : List (String × List (Pool D)) :=
  idx.map (fun e => (e.1, e.2.map f))

/-- the state as the getters show it: the value-level `Pools` of `Model/Deleg.lean` -/
def HPools.view (s : HPools D) : Pools D :=
  { ty := s.ty, byId := s.byId.map s.deref, index := s.index.map (viewIdx s.deref) }

/-- `Pool(...)` succeeded: a new object -/
def hNew (s : HPools D) (p : Pool D) : HPools D × Nat := ({ s with heap := s.heap ++ [p] }, s.heap.length)

/-- `pool_by_id[pool.get_pool_id()] = pool` on references -/
def hPut (f : Nat → Pool D) (r : Nat) : List Nat → List Nat
  | [] => [r]
  | q :: l => if (f q).pid = (f r).pid then r :: l else q :: hPut f r l

/-- `Pools.add_pool(pool=<object r>)` -/
def hAddPool (s : HPools D) (r : Nat) : Except Err (HPools D) :=
  if (s.deref r).ty ≠ s.ty then .error .pool
  else if (s.deref r).pid = singlePoolName then .error .pool
  else .ok { s with byId := hPut s.deref r s.byId }

/-- a setter call on object `r` (`g` is `mSetDeleg k`, `mSetOn n`, `mSetDetails x`, ...): every holder of the reference sees it -/
def hMut (s : HPools D) (r : Nat) (g : Pool D → Pool D) : HPools D :=
  if r < s.heap.length then { s with heap := s.heap.set r (g (s.deref r)) } else s

def mSetDeleg (k : String) (p : Pool D) : Pool D := { p with deleg := some k }
def mSetOn (n : String) (p : Pool D) : Pool D := { p with on_ := some n }
def mSetDetails (x : D) (p : Pool D) : Pool D := { p with details := some x }

/-- the key `build_index_by_delegation_id` files a pool under, after `validate_pool` -/
def keyOfPool (p : Pool D) : Except Err String := do
  validatePool p
  match p.deleg with
  | none => .error .pool
  | some k => pure k

def hIndexAdd (k : String) (r : Nat) : List (String × List Nat) → List (String × List Nat)
  | [] => [(k, [r])]
  | e :: l => if e.1 = k then (e.1, e.2 ++ [r]) :: l else e :: hIndexAdd k r l

/-- the loop of `build_index_by_delegation_id` on references, with what it leaves behind when `validate_pool` raises -/
def hIndexGo (f : Nat → Pool D) (idx : List (String × List Nat)) : List Nat → List (String × List Nat) × Option Err
  | [] => (idx, none)
  | r :: l =>
    match keyOfPool (f r) with
    | .error e => (idx, some e)
    | .ok k => hIndexGo f (hIndexAdd k r idx) l

/-- `Pools.build_index_by_delegation_id()` at any point of a history: `pools_by_delegation = {}` first, whatever it was -/
def hIndex (s : HPools D) : HPools D × Option Err :=
  let r := hIndexGo s.deref [] s.byId
  ({ s with index := some r.1 }, r.2)

/-- the calls of a history (a `Pool` construction that raised does not appear: it leaves nothing behind) -/
inductive HStep (D : Type) where
  | add (p : Pool D)                       -- `p = Pool(...)` and its setters, then `add_pool(pool=p)` (which may raise)
  | mut (r : Nat) (g : Pool D → Pool D)    -- a setter on the r-th object
  | index                                  -- `build_index_by_delegation_id()` (which may raise)

def hStep (s : HPools D) : HStep D → HPools D
  | .add p =>
    let (s1, r) := hNew s p
    match hAddPool s1 r with
    | .ok s2 => s2
    | .error _ => s1
  | .mut r g => hMut s r g
  | .index => (hIndex s).1

def hRun (s : HPools D) (steps : List (HStep D)) : HPools D := steps.foldl hStep s

/-! ## the reference-level run reads as the value-level run -/

theorem indexStep_keyOf (idx : List (String × List (Pool D))) (p : Pool D) :
    indexStep idx p = (keyOfPool p).map (fun k => indexAdd k p idx) := by
  unfold indexStep keyOfPool
  cases validatePool p with
  | error e => rfl
  | ok u =>
    cases p.deleg with
    | none => rfl
    | some k => rfl

theorem viewIdx_add (f : Nat → Pool D) (k : String) (r : Nat) (idx : List (String × List Nat)) :
    viewIdx f (hIndexAdd k r idx) = indexAdd k (f r) (viewIdx f idx) := by
  induction idx with
  | nil => rfl
  | cons e l ih =>
    unfold hIndexAdd
    by_cases h : e.1 = k
    · simp [h, viewIdx, indexAdd]
    · simp only [h, if_false]
      show (e.1, e.2.map f) :: viewIdx f (hIndexAdd k r l) = indexAdd k (f r) ((e.1, e.2.map f) :: viewIdx f l)
      rw [ih]
      simp [indexAdd, h]

theorem hIndexGo_view (f : Nat → Pool D) (idx : List (String × List Nat)) (l : List Nat) :
    viewIdx f (hIndexGo f idx l).1 = (indexGo (viewIdx f idx) (l.map f)).1 ∧
      (hIndexGo f idx l).2 = (indexGo (viewIdx f idx) (l.map f)).2 := by
  induction l generalizing idx with
  | nil => exact ⟨rfl, rfl⟩
  | cons r l ih =>
    simp only [List.map_cons]
    unfold hIndexGo indexGo
    rw [indexStep_keyOf]
    cases hk : keyOfPool (f r) with
    | error e => exact ⟨rfl, rfl⟩
    | ok k =>
      simp only [Except.map]
      rw [← viewIdx_add]
      exact ih _

end FimVerif.Deleg
